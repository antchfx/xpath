import XPathV.Ast
/-!
# XPath 1.0 — the full expression grammar, written from the Recommendation alone

Source: *XML Path Language (XPath) Version 1.0*, W3C Recommendation 16 November 1999, §2 (location
paths, productions [1]–[13]), §3 (expressions, [14]–[27]) and §3.7 (lexical structure, [28]–[39]).

Layout of this file

* §0  the token type `TokV` (the parse-tree type is `XPathV.Ast`);
* §1  ExprTokens [28] and the lexical disambiguation rules of §3.7 (`classify`);
* §2  the grammar: `AxisSpecifierD`, `NodeTestD`, and the family `D` over the non-terminals `NT`;
      `Derives ns nt toks ast` is `D` after `classify`;
* §3  an executable recursive-descent reference parser `refParseFull`, and (§3b) the proof that every
      tree it returns is derivable: `refParseFull_sound`;
* §4  examples;
* §5  ambiguities, choices and omissions.

Nothing here was written by looking at a parser: the productions are the Recommendation's, the tree
conventions are those stated for the tree type.
-/
namespace XPathV.Spec.Full
open XPathV

/-! ## §0  Tokens -/

/-- What the scanner hands over, with the data the grammar needs.  `name p l paren`: a name token
(`p:l`, `l`, or `p:*` with `l = "*"`), `paren` = the next non-blank character is '(' .
`axis s`: a name followed by '::' (the two are one token).  `star` is a lone `*`. -/
inductive TokV
  | name (pfx loc : String) (followedByParen : Bool)
  | axis (name : String)
  | str (s : String)
  | num (lexeme : String)
  | slash | slashslash | at | dot | dotdot | lparen | rparen | lbracket | rbracket | comma
  | star | union | plus | minus | eq | ne | lt | le | gt | ge | dollar
  deriving DecidableEq, Repr, Inhabited

/-- prefix bindings of the expression context (§1: "the set of namespace declarations in scope for
the expression").  The grammar and the parser take an `Option NsMap`: `none` = the tree is built without
resolving prefixes -/
abbrev NsMap := List (String × String)

/-! ## §1  ExprTokens [28] and the disambiguation rules of §3.7

```
[28] ExprToken ::= '(' | ')' | '[' | ']' | '.' | '..' | '@' | ',' | '::'
                 | NameTest | NodeType | Operator | FunctionName | AxisName
                 | Literal | Number | VariableReference
[32] Operator  ::= OperatorName | MultiplyOperator | '/' | '//' | '|' | '+' | '-' | '=' | '!='
                 | '<' | '<=' | '>' | '>='
[33] OperatorName ::= 'and' | 'or' | 'mod' | 'div'
[34] MultiplyOperator ::= '*'
[35] FunctionName ::= QName - NodeType
[36] VariableReference ::= '$' QName
[37] NameTest ::= '*' | NCName ':' '*' | QName
[38] NodeType ::= 'comment' | 'text' | 'processing-instruction' | 'node'
```
[29] Literal, [30] Number, [31] Digits, [39] ExprWhitespace and the NCName/QName productions of
XML-Names are character-level: they are below `TokV` (the `str`, `num`, `name` tokens carry their
result) and are not transcribed.
-/

/-- an ExprToken [28].  `axisName s` stands for the two tokens `AxisName '::'` (the scanner delivers
them fused).  The three NameTest forms [37] are `wild`, `nsWild p`, `qname p l`. -/
inductive ETok
  | lparen | rparen | lbracket | rbracket | dot | dotdot | at | comma
  | axisName (s : String)
  | wild | nsWild (pfx : String) | qname (pfx loc : String)
  | nodeType (s : String)
  | funcName (pfx loc : String)
  | opName (s : String) | mul | slash | slashslash | union | plus | minus | eq | ne | lt | le | gt | ge
  | literal (s : String) | number (lexeme : String)
  | varRef (pfx loc : String)
  /-- something that is no ExprToken (a `$` without a QName, a name token `*` with empty prefix);
  no production mentions it -/
  | invalid
  deriving DecidableEq, Repr, Inhabited

/-- [38] -/
def nodeTypes : List String := ["comment", "text", "processing-instruction", "node"]

/-- [33] -/
def operatorNames : List String := ["and", "or", "mod", "div"]

/-- [32] -/
def ETok.isOperator : ETok → Bool
  | .opName _ | .mul | .slash | .slashslash | .union | .plus | .minus
  | .eq | .ne | .lt | .le | .gt | .ge => true
  | _ => false

/-- §3.7, first rule: "If there is a preceding token and the preceding token is not one of
`@`, `::`, `(`, `[`, `,` or an Operator, then a `*` must be recognized as a MultiplyOperator and an
NCName must be recognized as an OperatorName." -/
def operatorPosition : Option ETok → Bool
  | none => false
  | some .at | some (.axisName _) | some .lparen | some .lbracket | some .comma => false
  | some t => !t.isOperator

/-- classification of one name token `p:l` given the preceding ExprToken (§3.7 rules 1, 2, 4;
rule 3 — a name followed by `::` is an AxisName — is the `axis` token). -/
def classifyName (prev : Option ETok) (p l : String) (paren : Bool) : ETok :=
  if l == "*" then (if p == "" then .invalid else .nsWild p)          -- NCName ':' '*'
  else if operatorPosition prev && p == "" then .opName l              -- rule 1 (an NCName)
  else if paren then                                                   -- rule 2
    (if p == "" && nodeTypes.contains l then .nodeType l else .funcName p l)
  else .qname p l                                                      -- rule 4: a NameTest

/-- the token list as ExprTokens, left to right, each token seeing the classification of the one
before it -/
def classify : Option ETok → List TokV → List ETok
  | _, [] => []
  | _, .dollar :: .name p l _ :: rest =>
    -- `$` QName is one token [36]; `$p:*` is none
    if l == "*" then .invalid :: .invalid :: classify (some .invalid) rest
    else .varRef p l :: classify (some (.varRef p l)) rest
  | _, .dollar :: rest => .invalid :: classify (some .invalid) rest
  | prev, .name p l b :: rest =>
    let t := classifyName prev p l b
    t :: classify (some t) rest
  | prev, .star :: rest =>
    let t := if operatorPosition prev then ETok.mul else ETok.wild
    t :: classify (some t) rest
  | _, .axis s :: rest => .axisName s :: classify (some (.axisName s)) rest
  | _, .str s :: rest => .literal s :: classify (some (.literal s)) rest
  | _, .num s :: rest => .number s :: classify (some (.number s)) rest
  | _, .slash :: rest => .slash :: classify (some .slash) rest
  | _, .slashslash :: rest => .slashslash :: classify (some .slashslash) rest
  | _, .at :: rest => .at :: classify (some .at) rest
  | _, .dot :: rest => .dot :: classify (some .dot) rest
  | _, .dotdot :: rest => .dotdot :: classify (some .dotdot) rest
  | _, .lparen :: rest => .lparen :: classify (some .lparen) rest
  | _, .rparen :: rest => .rparen :: classify (some .rparen) rest
  | _, .lbracket :: rest => .lbracket :: classify (some .lbracket) rest
  | _, .rbracket :: rest => .rbracket :: classify (some .rbracket) rest
  | _, .comma :: rest => .comma :: classify (some .comma) rest
  | _, .union :: rest => .union :: classify (some .union) rest
  | _, .plus :: rest => .plus :: classify (some .plus) rest
  | _, .minus :: rest => .minus :: classify (some .minus) rest
  | _, .eq :: rest => .eq :: classify (some .eq) rest
  | _, .ne :: rest => .ne :: classify (some .ne) rest
  | _, .lt :: rest => .lt :: classify (some .lt) rest
  | _, .le :: rest => .le :: classify (some .le) rest
  | _, .gt :: rest => .gt :: classify (some .gt) rest
  | _, .ge :: rest => .ge :: classify (some .ge) rest

/-! ## §2  The grammar

### Tree conventions (conventions of the tree type)

* a step `axis::test` over the tree `inp` of what precedes it is `.axis info inp`; what precedes the
  first step of a relative path is `.none`, of an absolute path `.root "/"`;
* `E[P]` is `.filter E P`, for steps too;
* `//` is `/descendant-or-self::node()/` (§2.5), `.` is `self::node()`, `..` is `parent::node()`,
  `@` is `attribute::`, no axis is `child::`.
-/

/-- [6] AxisName, without `namespace` (see §5: its principal node type has no `NType`) -/
def axisNames : List String :=
  ["ancestor", "ancestor-or-self", "attribute", "child", "descendant", "descendant-or-self",
   "following", "following-sibling", "parent", "preceding", "preceding-sibling", "self"]

/-- §2.3: "For the attribute axis, the principal node type is attribute. … For other axes, the
principal node type is element."  (The namespace axis is left out.) -/
def principal (axis : String) : NType := if axis == "attribute" then .attr else .elem

/-- the `typeTest` of a node-type test; `processing-instruction` has no `NType` of its own (§5) -/
def typeOfNodeType (s : String) : NType :=
  if s == "text" then .text else if s == "comment" then .comment else .all

/-- namespace resolution of the prefix of a name test: `(hasNS, nsURI)`; an unbound prefix has no
result (§2.3: "It is an error if the QName has a prefix for which there is no namespace declaration
in the expression context").  An unprefixed name test has a null namespace URI. -/
def resolve (ns : Option NsMap) (p : String) : Option (Bool × String) :=
  if p == "" then some (false, "") else
  match ns with
  | none => some (false, "")
  | some m => (m.lookup p).map (fun u => (true, u))

/-- `node()` on an axis: the step inserted by `//`, `.` and `..` -/
def nodeStep (axis : String) (inp : Ast) : Ast := .axis ⟨axis, .all, "", "", "node", false, ""⟩ inp

/-- `/descendant-or-self::node()` appended to `inp` -/
def dos (inp : Ast) : Ast := nodeStep "descendant-or-self" inp

/-- [13] AbbreviatedAxisSpecifier ::= '@'? -/
inductive AbbreviatedAxisSpecifierD : List ETok → String → Prop
  | child : AbbreviatedAxisSpecifierD [] "child"
  | attribute : AbbreviatedAxisSpecifierD [.at] "attribute"

/-- [5] AxisSpecifier ::= AxisName '::' | AbbreviatedAxisSpecifier   (with [6] AxisName) -/
inductive AxisSpecifierD : List ETok → String → Prop
  | named {s} : s ∈ axisNames → AxisSpecifierD [.axisName s] s
  | abbrev {ts s} : AbbreviatedAxisSpecifierD ts s → AxisSpecifierD ts s

/-- [7] NodeTest ::= NameTest | NodeType '(' ')' | 'processing-instruction' '(' Literal ')'
    [37] NameTest ::= '*' | NCName ':' '*' | QName
on the axis `axis`, producing the record of the step -/
inductive NodeTestD (ns : Option NsMap) (axis : String) : List ETok → AxisInfo → Prop
  | wild : NodeTestD ns axis [.wild] ⟨axis, principal axis, "", "", "", false, ""⟩
  | nsWild {p h u} : resolve ns p = some (h, u) →
      NodeTestD ns axis [.nsWild p] ⟨axis, principal axis, p, "", "", h, u⟩
  | qname {p l h u} : resolve ns p = some (h, u) →
      NodeTestD ns axis [.qname p l] ⟨axis, principal axis, p, l, "", h, u⟩
  | nodeType {s} : s ∈ nodeTypes →
      NodeTestD ns axis [.nodeType s, .lparen, .rparen] ⟨axis, typeOfNodeType s, "", "", s, false, ""⟩
  | pi {s} :
      NodeTestD ns axis [.nodeType "processing-instruction", .lparen, .literal s, .rparen]
        ⟨axis, typeOfNodeType "processing-instruction", "", s, "processing-instruction", false, ""⟩

/-- The non-terminals whose result is a tree.  Those of the location-path productions carry the tree
`inp` of what precedes them (an inherited attribute).  `Predicates inp` is `Predicate*` applied to
`inp`; `Arguments` is `Argument (',' Argument)*`; `UnaryRun n` is a UnaryExpr with exactly `n`
leading minus signs. -/
inductive NT
  | LocationPath | AbsoluteLocationPath | RelativeLocationPath (inp : Ast) | Step (inp : Ast)
  | Predicates (inp : Ast) | Predicate | PredicateExpr
  | AbbreviatedAbsoluteLocationPath | AbbreviatedRelativeLocationPath (inp : Ast)
  | AbbreviatedStep (inp : Ast)
  | Expr | PrimaryExpr | FunctionCall | Arguments | Argument
  | UnionExpr | PathExpr | FilterExpr
  | OrExpr | AndExpr | EqualityExpr | RelationalExpr | AdditiveExpr | MultiplicativeExpr
  | UnaryExpr | UnaryRun (n : Nat)
  deriving DecidableEq, Repr

/-- the left-recursive binary productions `X ::= Y | X op Y`:
```
[21] OrExpr             ::= AndExpr | OrExpr 'or' AndExpr
[22] AndExpr            ::= EqualityExpr | AndExpr 'and' EqualityExpr
[23] EqualityExpr       ::= RelationalExpr | EqualityExpr ('=' | '!=') RelationalExpr
[24] RelationalExpr     ::= AdditiveExpr | RelationalExpr ('<' | '>' | '<=' | '>=') AdditiveExpr
[25] AdditiveExpr       ::= MultiplicativeExpr | AdditiveExpr ('+' | '-') MultiplicativeExpr
[26] MultiplicativeExpr ::= UnaryExpr | MultiplicativeExpr (MultiplyOperator | 'div' | 'mod') UnaryExpr
[18] UnionExpr          ::= PathExpr | UnionExpr '|' PathExpr
```
`X.binary = some (Y, ops)`; each operator with its spelling in the tree -/
def NT.binary : NT → Option (NT × List (ETok × String))
  | .OrExpr => some (.AndExpr, [(.opName "or", "or")])
  | .AndExpr => some (.EqualityExpr, [(.opName "and", "and")])
  | .EqualityExpr => some (.RelationalExpr, [(.eq, "="), (.ne, "!=")])
  | .RelationalExpr => some (.AdditiveExpr, [(.lt, "<"), (.gt, ">"), (.le, "<="), (.ge, ">=")])
  | .AdditiveExpr => some (.MultiplicativeExpr, [(.plus, "+"), (.minus, "-")])
  | .MultiplicativeExpr =>
      some (.UnaryExpr, [(.mul, "*"), (.opName "div", "div"), (.opName "mod", "mod")])
  | .UnionExpr => some (.PathExpr, [(.union, "|")])
  | _ => none

/-- tree of `n` minus signs over `x` (the project's encoding, cf. `E.toAst` of `Spec/Grammar.lean`):
`x * -1` for odd `n`, `(x * -1) * -1` for even `n > 0` -/
def negEnc (n : Nat) (x : Ast) : Ast :=
  if n = 0 then x
  else if n % 2 = 1 then .oper "*" x (.num "-1")
  else .oper "*" (.oper "*" x (.num "-1")) (.num "-1")

/-- `D ns X ts t`: the ExprTokens `ts` derive `t` from the non-terminal `X` -/
inductive D (ns : Option NsMap) : NT → List ETok → Ast → Prop
  /- [1] LocationPath ::= RelativeLocationPath | AbsoluteLocationPath -/
  | loc_rel {ts t} : D ns (.RelativeLocationPath .none) ts t → D ns .LocationPath ts t
  | loc_abs {ts t} : D ns .AbsoluteLocationPath ts t → D ns .LocationPath ts t
  /- [2] AbsoluteLocationPath ::= '/' RelativeLocationPath? | AbbreviatedAbsoluteLocationPath -/
  | abs_root : D ns .AbsoluteLocationPath [.slash] (.root "/")
  | abs_rel {ts t} : D ns (.RelativeLocationPath (.root "/")) ts t →
      D ns .AbsoluteLocationPath (.slash :: ts) t
  | abs_abbrev {ts t} : D ns .AbbreviatedAbsoluteLocationPath ts t → D ns .AbsoluteLocationPath ts t
  /- [3] RelativeLocationPath ::= Step | RelativeLocationPath '/' Step
                                | AbbreviatedRelativeLocationPath -/
  | rel_step {inp ts t} : D ns (.Step inp) ts t → D ns (.RelativeLocationPath inp) ts t
  | rel_slash {inp ts₁ ts₂ t₁ t₂} : D ns (.RelativeLocationPath inp) ts₁ t₁ → D ns (.Step t₁) ts₂ t₂ →
      D ns (.RelativeLocationPath inp) (ts₁ ++ [.slash] ++ ts₂) t₂
  | rel_abbrev {inp ts t} : D ns (.AbbreviatedRelativeLocationPath inp) ts t →
      D ns (.RelativeLocationPath inp) ts t
  /- [4] Step ::= AxisSpecifier NodeTest Predicate* | AbbreviatedStep -/
  | step {inp ts₁ ts₂ ts₃ ax info t} : AxisSpecifierD ts₁ ax → NodeTestD ns ax ts₂ info →
      D ns (.Predicates (.axis info inp)) ts₃ t → D ns (.Step inp) (ts₁ ++ ts₂ ++ ts₃) t
  | step_abbrev {inp ts t} : D ns (.AbbreviatedStep inp) ts t → D ns (.Step inp) ts t
  /- Predicate* -/
  | preds_nil {t} : D ns (.Predicates t) [] t
  | preds_snoc {t₀ ts₁ ts₂ t c} : D ns (.Predicates t₀) ts₁ t → D ns .Predicate ts₂ c →
      D ns (.Predicates t₀) (ts₁ ++ ts₂) (.filter t c)
  /- [8] Predicate ::= '[' PredicateExpr ']' -/
  | predicate {ts c} : D ns .PredicateExpr ts c → D ns .Predicate ([.lbracket] ++ ts ++ [.rbracket]) c
  /- [9] PredicateExpr ::= Expr -/
  | predicateExpr {ts c} : D ns .Expr ts c → D ns .PredicateExpr ts c
  /- [10] AbbreviatedAbsoluteLocationPath ::= '//' RelativeLocationPath -/
  | abbrevAbs {ts t} : D ns (.RelativeLocationPath (dos (.root "/"))) ts t →
      D ns .AbbreviatedAbsoluteLocationPath (.slashslash :: ts) t
  /- [11] AbbreviatedRelativeLocationPath ::= RelativeLocationPath '//' Step -/
  | abbrevRel {inp ts₁ ts₂ t₁ t₂} : D ns (.RelativeLocationPath inp) ts₁ t₁ →
      D ns (.Step (dos t₁)) ts₂ t₂ →
      D ns (.AbbreviatedRelativeLocationPath inp) (ts₁ ++ [.slashslash] ++ ts₂) t₂
  /- [12] AbbreviatedStep ::= '.' | '..' -/
  | dot {inp} : D ns (.AbbreviatedStep inp) [.dot] (nodeStep "self" inp)
  | dotdot {inp} : D ns (.AbbreviatedStep inp) [.dotdot] (nodeStep "parent" inp)
  /- [14] Expr ::= OrExpr -/
  | expr {ts t} : D ns .OrExpr ts t → D ns .Expr ts t
  /- [15] PrimaryExpr ::= VariableReference | '(' Expr ')' | Literal | Number | FunctionCall -/
  | prim_var {p l} : D ns .PrimaryExpr [.varRef p l] (.var p l)
  | prim_group {ts t} : D ns .Expr ts t → D ns .PrimaryExpr ([.lparen] ++ ts ++ [.rparen]) (.group t)
  | prim_literal {s} : D ns .PrimaryExpr [.literal s] (.str s)
  | prim_number {s} : D ns .PrimaryExpr [.number s] (.num s)
  | prim_call {ts t} : D ns .FunctionCall ts t → D ns .PrimaryExpr ts t
  /- [16] FunctionCall ::= FunctionName '(' ( Argument ( ',' Argument )* )? ')' -/
  | call_nil {p f} : D ns .FunctionCall [.funcName p f, .lparen, .rparen] (.call f p .anil)
  | call_args {p f ts as} : D ns .Arguments ts as →
      D ns .FunctionCall ([.funcName p f, .lparen] ++ ts ++ [.rparen]) (.call f p as)
  | args_one {ts a} : D ns .Argument ts a → D ns .Arguments ts (.acons a .anil)
  | args_cons {ts₁ ts₂ a as} : D ns .Argument ts₁ a → D ns .Arguments ts₂ as →
      D ns .Arguments (ts₁ ++ [.comma] ++ ts₂) (.acons a as)
  /- [17] Argument ::= Expr -/
  | argument {ts t} : D ns .Expr ts t → D ns .Argument ts t
  /- [19] PathExpr ::= LocationPath | FilterExpr | FilterExpr '/' RelativeLocationPath
                     | FilterExpr '//' RelativeLocationPath -/
  | path_loc {ts t} : D ns .LocationPath ts t → D ns .PathExpr ts t
  | path_filter {ts t} : D ns .FilterExpr ts t → D ns .PathExpr ts t
  | path_slash {ts₁ ts₂ f t} : D ns .FilterExpr ts₁ f → D ns (.RelativeLocationPath f) ts₂ t →
      D ns .PathExpr (ts₁ ++ [.slash] ++ ts₂) t
  | path_slashslash {ts₁ ts₂ f t} : D ns .FilterExpr ts₁ f →
      D ns (.RelativeLocationPath (dos f)) ts₂ t → D ns .PathExpr (ts₁ ++ [.slashslash] ++ ts₂) t
  /- [20] FilterExpr ::= PrimaryExpr | FilterExpr Predicate -/
  | filter_prim {ts t} : D ns .PrimaryExpr ts t → D ns .FilterExpr ts t
  | filter_pred {ts₁ ts₂ f c} : D ns .FilterExpr ts₁ f → D ns .Predicate ts₂ c →
      D ns .FilterExpr (ts₁ ++ ts₂) (.filter f c)
  /- [18], [21]–[26]:  X ::= Y | X op Y -/
  | up {X Y ops ts t} : X.binary = some (Y, ops) → D ns Y ts t → D ns X ts t
  | bin {X Y ops tok op ts₁ ts₂ l r} : X.binary = some (Y, ops) → (tok, op) ∈ ops →
      D ns X ts₁ l → D ns Y ts₂ r → D ns X (ts₁ ++ [tok] ++ ts₂) (.oper op l r)
  /- [27] UnaryExpr ::= UnionExpr | '-' UnaryExpr -/
  | unary_union {ts x} : D ns .UnionExpr ts x → D ns (.UnaryRun 0) ts x
  | unary_minus {n ts x} : D ns (.UnaryRun n) ts x → D ns (.UnaryRun (n + 1)) (.minus :: ts) x
  | unary {n ts x} : D ns (.UnaryRun n) ts x → D ns .UnaryExpr ts (negEnc n x)

/-- the grammar on scanner tokens: §3.7 classification, then the productions.  Meant for whole
expressions (`nt = .Expr`); for another non-terminal the list is classified as if it stood at the
start of the text. -/
def Derives (ns : Option NsMap) (nt : NT) (toks : List TokV) (a : Ast) : Prop :=
  D ns nt (classify none toks) a

/-- `toks` is an XPath 1.0 expression with tree `a` -/
def Parses (ns : Option NsMap) (toks : List TokV) (a : Ast) : Prop := Derives ns .Expr toks a

/-! ## §3  Executable reference parser

Recursive descent over the ExprTokens, one function per production; the left-recursive productions
(`X ::= Y | X op Y`, `RelativeLocationPath`, `FilterExpr`, `Predicate*`) are loops that fold to the
left.  Every call spends one unit of fuel; `refParseFull` supplies more than any derivation needs.
Each function returns the tree and the unread tokens. -/

abbrev PR := Option (Ast × List ETok)

/-- [5], [6], [13] -/
def pAxisSpec : List ETok → Option (String × List ETok)
  | .axisName s :: rest => if axisNames.contains s then some (s, rest) else none
  | .at :: rest => some ("attribute", rest)
  | toks => some ("child", toks)

/-- [7], [37] -/
def pNodeTest (ns : Option NsMap) (ax : String) : List ETok → Option (AxisInfo × List ETok)
  | .wild :: rest => some (⟨ax, principal ax, "", "", "", false, ""⟩, rest)
  | .nsWild p :: rest => match resolve ns p with
    | some (h, u) => some (⟨ax, principal ax, p, "", "", h, u⟩, rest)
    | none => none
  | .qname p l :: rest => match resolve ns p with
    | some (h, u) => some (⟨ax, principal ax, p, l, "", h, u⟩, rest)
    | none => none
  | .nodeType s :: .lparen :: .rparen :: rest =>
    if nodeTypes.contains s then some (⟨ax, typeOfNodeType s, "", "", s, false, ""⟩, rest) else none
  | .nodeType "processing-instruction" :: .lparen :: .literal s :: .rparen :: rest =>
    some (⟨ax, typeOfNodeType "processing-instruction", "", s, "processing-instruction", false, ""⟩, rest)
  | _ => none

/-- the tokens a Step can begin with -/
def startsStep : List ETok → Bool
  | .axisName _ :: _ | .at :: _ | .wild :: _ | .nsWild _ :: _ | .qname _ _ :: _
  | .nodeType _ :: _ | .dot :: _ | .dotdot :: _ => true
  | _ => false

/-- the tokens a PrimaryExpr can begin with -/
def startsPrimary : List ETok → Bool
  | .varRef _ _ :: _ | .lparen :: _ | .literal _ :: _ | .number _ :: _ | .funcName _ _ :: _ => true
  | _ => false

/-- the binary tiers [21]–[26], loosest first (cf. `NT.binary`) -/
def upperTiers : List (List (ETok × String)) :=
  [[(.opName "or", "or")], [(.opName "and", "and")], [(.eq, "="), (.ne, "!=")],
   [(.lt, "<"), (.gt, ">"), (.le, "<="), (.ge, ">=")], [(.plus, "+"), (.minus, "-")],
   [(.mul, "*"), (.opName "div", "div"), (.opName "mod", "mod")]]

mutual
/-- [14] Expr, [21]–[26]: the tiers `tiers` (loosest first), then [27] -/
def pTier (ns : Option NsMap) : Nat → List (List (ETok × String)) → List ETok → PR
  | 0, _, _ => none
  | f+1, [], toks => pUnary ns f 0 toks
  | f+1, ops :: more, toks =>
    match pTier ns f more toks with
    | some (l, rest) => pTierLoop ns f ops more l rest
    | none => none

def pTierLoop (ns : Option NsMap) : Nat → List (ETok × String) → List (List (ETok × String)) → Ast →
    List ETok → PR
  | 0, _, _, _, _ => none
  | _+1, _, _, acc, [] => some (acc, [])
  | f+1, ops, more, acc, t :: rest =>
    match ops.lookup t with
    | some op => match pTier ns f more rest with
      | some (r, rest') => pTierLoop ns f ops more (.oper op acc r) rest'
      | none => none
    | none => some (acc, t :: rest)

/-- [27] UnaryExpr, having read `n` minus signs -/
def pUnary (ns : Option NsMap) : Nat → Nat → List ETok → PR
  | 0, _, _ => none
  | f+1, n, .minus :: rest => pUnary ns f (n + 1) rest
  | f+1, n, toks => match pUnion ns f toks with
    | some (x, rest) => some (negEnc n x, rest)
    | none => none

/-- [18] UnionExpr -/
def pUnion (ns : Option NsMap) : Nat → List ETok → PR
  | 0, _ => none
  | f+1, toks => match pPath ns f toks with
    | some (l, rest) => pUnionLoop ns f l rest
    | none => none

def pUnionLoop (ns : Option NsMap) : Nat → Ast → List ETok → PR
  | 0, _, _ => none
  | f+1, acc, .union :: rest => match pPath ns f rest with
    | some (r, rest') => pUnionLoop ns f (.oper "|" acc r) rest'
    | none => none
  | _+1, acc, toks => some (acc, toks)

/-- [19] PathExpr, with [1], [2], [10] -/
def pPath (ns : Option NsMap) : Nat → List ETok → PR
  | 0, _ => none
  | f+1, .slash :: rest =>
    -- '/' RelativeLocationPath? : nothing but a step can use a step-start token here
    if startsStep rest then pRel ns f (.root "/") rest else some (.root "/", rest)
  | f+1, .slashslash :: rest => pRel ns f (dos (.root "/")) rest
  | f+1, toks =>
    if startsPrimary toks then
      match pFilter ns f toks with
      | some (x, .slash :: rest) => pRel ns f x rest
      | some (x, .slashslash :: rest) => pRel ns f (dos x) rest
      | r => r
    else pRel ns f .none toks

/-- [3], [11] RelativeLocationPath over `inp` -/
def pRel (ns : Option NsMap) : Nat → Ast → List ETok → PR
  | 0, _, _ => none
  | f+1, inp, toks => match pStep ns f inp toks with
    | some (t, rest) => pRelLoop ns f t rest
    | none => none

def pRelLoop (ns : Option NsMap) : Nat → Ast → List ETok → PR
  | 0, _, _ => none
  | f+1, acc, .slash :: rest => match pStep ns f acc rest with
    | some (t, rest') => pRelLoop ns f t rest'
    | none => none
  | f+1, acc, .slashslash :: rest => match pStep ns f (dos acc) rest with
    | some (t, rest') => pRelLoop ns f t rest'
    | none => none
  | _+1, acc, toks => some (acc, toks)

/-- [4], [12] Step over `inp` -/
def pStep (ns : Option NsMap) : Nat → Ast → List ETok → PR
  | 0, _, _ => none
  | _+1, inp, .dot :: rest => some (nodeStep "self" inp, rest)
  | _+1, inp, .dotdot :: rest => some (nodeStep "parent" inp, rest)
  | f+1, inp, toks =>
    match pAxisSpec toks with
    | some (ax, rest) => match pNodeTest ns ax rest with
      | some (info, rest') => pPreds ns f (.axis info inp) rest'
      | none => none
    | none => none

/-- Predicate* with [8], [9] -/
def pPreds (ns : Option NsMap) : Nat → Ast → List ETok → PR
  | 0, _, _ => none
  | f+1, acc, .lbracket :: rest => match pTier ns f upperTiers rest with
    | some (c, .rbracket :: rest') => pPreds ns f (.filter acc c) rest'
    | _ => none
  | _+1, acc, toks => some (acc, toks)

/-- [20] FilterExpr -/
def pFilter (ns : Option NsMap) : Nat → List ETok → PR
  | 0, _ => none
  | f+1, toks => match pPrimary ns f toks with
    | some (x, rest) => pPreds ns f x rest
    | none => none

/-- [15] PrimaryExpr, [16] FunctionCall -/
def pPrimary (ns : Option NsMap) : Nat → List ETok → PR
  | 0, _ => none
  | _+1, .varRef p l :: rest => some (.var p l, rest)
  | _+1, .literal s :: rest => some (.str s, rest)
  | _+1, .number s :: rest => some (.num s, rest)
  | f+1, .lparen :: rest => match pTier ns f upperTiers rest with
    | some (x, .rparen :: rest') => some (.group x, rest')
    | _ => none
  | _+1, .funcName p fn :: .lparen :: .rparen :: rest => some (.call fn p .anil, rest)
  | f+1, .funcName p fn :: .lparen :: rest => match pArgs ns f rest with
    | some (as, rest') => some (.call fn p as, rest')
    | none => none
  | _+1, _ => none

/-- Argument ( ',' Argument )* ')'  ([16], [17]); reads the closing parenthesis -/
def pArgs (ns : Option NsMap) : Nat → List ETok → PR
  | 0, _ => none
  | f+1, toks => match pTier ns f upperTiers toks with
    | some (a, .rparen :: rest) => some (.acons a .anil, rest)
    | some (a, .comma :: rest) => match pArgs ns f rest with
      | some (as, rest') => some (.acons a as, rest')
      | none => none
    | _ => none
end

/-- the tree of the token list, if it is an Expr [14] (all tokens read) -/
def refParseFull (ns : Option NsMap) (toks : List TokV) : Option Ast :=
  let ets := classify none toks
  match pTier ns (32 * (ets.length + 2)) upperTiers ets with
  | some (a, []) => some a
  | _ => none

/-! ## §3b  The reference parser is sound for the grammar

`refParseFull ns toks = some a → Parses ns toks a`.  (The converse is proved in
`Lemmas/FullGrammarComplete.lean`: `refParseFull_iff`.) -/
section Soundness

/-- `tiers` is the tail of `upperTiers` that starts at the non-terminal `X` -/
inductive TierOK : List (List (ETok × String)) → NT → Prop
  | nil : TierOK [] .UnaryExpr
  | cons {X Y ops more} : X.binary = some (Y, ops) → TierOK more Y → TierOK (ops :: more) X

theorem tierOK_upper : TierOK upperTiers .OrExpr :=
  .cons rfl (.cons rfl (.cons rfl (.cons rfl (.cons rfl (.cons rfl .nil)))))

theorem mem_of_lookup {t : ETok} {op : String} :
    ∀ {ops : List (ETok × String)}, ops.lookup t = some op → (t, op) ∈ ops
  | [], h => by simp [List.lookup] at h
  | (k, v) :: ops, h => by
    by_cases hk : t = k
    · subst hk
      simp [List.lookup] at h
      subst h
      exact List.mem_cons_self
    · have : (t == k) = false := by simpa using hk
      simp [List.lookup, this] at h
      exact List.mem_cons_of_mem _ (mem_of_lookup h)

theorem pAxisSpec_sound {toks ax rest} (h : pAxisSpec toks = some (ax, rest)) :
    ∃ pre, toks = pre ++ rest ∧ AxisSpecifierD pre ax := by
  unfold pAxisSpec at h
  split at h
  · rename_i s r
    split at h
    · rename_i hs
      cases h
      exact ⟨[.axisName _], rfl, .named (by simpa using hs)⟩
    · cases h
  · cases h
    exact ⟨[.at], rfl, .abbrev .attribute⟩
  · cases h
    exact ⟨[], rfl, .abbrev .child⟩

theorem pNodeTest_sound {ns ax toks info rest} (h : pNodeTest ns ax toks = some (info, rest)) :
    ∃ pre, toks = pre ++ rest ∧ NodeTestD ns ax pre info := by
  unfold pNodeTest at h
  split at h
  · cases h
    exact ⟨[.wild], rfl, .wild⟩
  · rename_i p r
    split at h
    · rename_i hu u hr
      cases h
      exact ⟨[.nsWild p], rfl, .nsWild hr⟩
    · cases h
  · rename_i p l r
    split at h
    · rename_i hu u hr
      cases h
      exact ⟨[.qname p l], rfl, .qname hr⟩
    · cases h
  · rename_i s r
    split at h
    · rename_i hs
      cases h
      exact ⟨[.nodeType s, .lparen, .rparen], rfl, .nodeType (by simpa using hs)⟩
    · cases h
  · rename_i s r
    cases h
    exact ⟨[.nodeType "processing-instruction", .lparen, .literal s, .rparen], rfl, .pi⟩
  · cases h

/-- the soundness statement for every function of the parser at fuel `f` -/
structure Sound (ns : Option NsMap) (f : Nat) : Prop where
  tier : ∀ {tiers X toks a rest}, TierOK tiers X → pTier ns f tiers toks = some (a, rest) →
    ∃ pre, toks = pre ++ rest ∧ D ns X pre a
  tierLoop : ∀ {ops more X Y acc toks a rest}, X.binary = some (Y, ops) → TierOK more Y →
    pTierLoop ns f ops more acc toks = some (a, rest) → ∀ {pre0}, D ns X pre0 acc →
    ∃ pre, toks = pre ++ rest ∧ D ns X (pre0 ++ pre) a
  unary : ∀ {n toks a rest}, pUnary ns f n toks = some (a, rest) →
    ∃ pre m x, toks = pre ++ rest ∧ D ns (.UnaryRun m) pre x ∧ a = negEnc (n + m) x
  union : ∀ {toks a rest}, pUnion ns f toks = some (a, rest) →
    ∃ pre, toks = pre ++ rest ∧ D ns .UnionExpr pre a
  unionLoop : ∀ {acc toks a rest}, pUnionLoop ns f acc toks = some (a, rest) →
    ∀ {pre0}, D ns .UnionExpr pre0 acc → ∃ pre, toks = pre ++ rest ∧ D ns .UnionExpr (pre0 ++ pre) a
  path : ∀ {toks a rest}, pPath ns f toks = some (a, rest) →
    ∃ pre, toks = pre ++ rest ∧ D ns .PathExpr pre a
  rel : ∀ {inp toks a rest}, pRel ns f inp toks = some (a, rest) →
    ∃ pre, toks = pre ++ rest ∧ D ns (.RelativeLocationPath inp) pre a
  relLoop : ∀ {inp acc toks a rest}, pRelLoop ns f acc toks = some (a, rest) →
    ∀ {pre0}, D ns (.RelativeLocationPath inp) pre0 acc →
    ∃ pre, toks = pre ++ rest ∧ D ns (.RelativeLocationPath inp) (pre0 ++ pre) a
  step : ∀ {inp toks a rest}, pStep ns f inp toks = some (a, rest) →
    ∃ pre, toks = pre ++ rest ∧ D ns (.Step inp) pre a
  /-- `P` is any property closed under appending a predicate -/
  preds : ∀ {acc toks a rest}, pPreds ns f acc toks = some (a, rest) →
    ∀ (P : List ETok → Ast → Prop),
      (∀ ts t ts₂ c, P ts t → D ns .Predicate ts₂ c → P (ts ++ ts₂) (.filter t c)) →
      ∀ {pre0}, P pre0 acc → ∃ pre, toks = pre ++ rest ∧ P (pre0 ++ pre) a
  filter : ∀ {toks a rest}, pFilter ns f toks = some (a, rest) →
    ∃ pre, toks = pre ++ rest ∧ D ns .FilterExpr pre a
  primary : ∀ {toks a rest}, pPrimary ns f toks = some (a, rest) →
    ∃ pre, toks = pre ++ rest ∧ D ns .PrimaryExpr pre a
  args : ∀ {toks a rest}, pArgs ns f toks = some (a, rest) →
    ∃ pre, toks = pre ++ [.rparen] ++ rest ∧ D ns .Arguments pre a

theorem sound_zero (ns : Option NsMap) : Sound ns 0 where
  tier := by intro _ _ _ _ _ _ h; cases h
  tierLoop := by intro _ _ _ _ _ _ _ _ _ _ h; cases h
  unary := by intro _ _ _ _ h; cases h
  union := by intro _ _ _ h; cases h
  unionLoop := by intro _ _ _ _ h; cases h
  path := by intro _ _ _ h; cases h
  rel := by intro _ _ _ _ h; cases h
  relLoop := by intro _ _ _ _ _ h; cases h
  step := by intro _ _ _ _ h; cases h
  preds := by intro _ _ _ _ h; cases h
  filter := by intro _ _ _ h; cases h
  primary := by intro _ _ _ h; cases h
  args := by intro _ _ _ h; cases h

variable {ns : Option NsMap} {f : Nat}

theorem s_tier (ih : Sound ns f) {tiers X toks a rest} (ok : TierOK tiers X)
    (h : pTier ns (f+1) tiers toks = some (a, rest)) : ∃ pre, toks = pre ++ rest ∧ D ns X pre a := by
  cases ok with
  | nil =>
    simp only [pTier] at h
    obtain ⟨pre, m, x, rfl, hd, rfl⟩ := ih.unary h
    exact ⟨pre, rfl, by simpa using D.unary hd⟩
  | cons hb okY =>
    simp only [pTier] at h
    split at h
    · rename_i l r hl
      obtain ⟨pre1, rfl, d1⟩ := ih.tier okY hl
      obtain ⟨pre, rfl, d⟩ := ih.tierLoop hb okY h (D.up hb d1)
      exact ⟨pre1 ++ pre, by simp, d⟩
    · cases h

theorem s_tierLoop (ih : Sound ns f) {ops more X Y acc toks a rest} (hb : X.binary = some (Y, ops))
    (okY : TierOK more Y) (h : pTierLoop ns (f+1) ops more acc toks = some (a, rest))
    {pre0} (d0 : D ns X pre0 acc) : ∃ pre, toks = pre ++ rest ∧ D ns X (pre0 ++ pre) a := by
  cases toks with
  | nil =>
    simp only [pTierLoop] at h
    cases h
    exact ⟨[], rfl, by simpa using d0⟩
  | cons t r =>
    simp only [pTierLoop] at h
    split at h
    · rename_i op hop
      split at h
      · rename_i x r' hx
        obtain ⟨pre1, rfl, d1⟩ := ih.tier okY hx
        obtain ⟨pre, rfl, d⟩ := ih.tierLoop hb okY h (D.bin hb (mem_of_lookup hop) d0 d1)
        exact ⟨t :: (pre1 ++ pre), by simp, by simpa [List.append_assoc] using d⟩
      · cases h
    · cases h
      exact ⟨[], rfl, by simpa using d0⟩

theorem s_unary (ih : Sound ns f) {n toks a rest} (h : pUnary ns (f+1) n toks = some (a, rest)) :
    ∃ pre m x, toks = pre ++ rest ∧ D ns (.UnaryRun m) pre x ∧ a = negEnc (n + m) x := by
  unfold pUnary at h
  split at h
  · cases h
  · cases ‹f + 1 = Nat.succ _›
    obtain ⟨pre, m, x, rfl, d, rfl⟩ := ih.unary h
    exact ⟨.minus :: pre, m + 1, x, rfl, .unary_minus d, by simp [Nat.add_assoc, Nat.add_comm 1 m]⟩
  · cases ‹f + 1 = Nat.succ _›
    split at h
    · rename_i x r hx
      cases h
      obtain ⟨pre, rfl, d⟩ := ih.union hx
      exact ⟨pre, 0, x, rfl, .unary_union d, by simp⟩
    · cases h

theorem s_union (ih : Sound ns f) {toks a rest} (h : pUnion ns (f+1) toks = some (a, rest)) :
    ∃ pre, toks = pre ++ rest ∧ D ns .UnionExpr pre a := by
  simp only [pUnion] at h
  split at h
  · rename_i l r hl
    obtain ⟨pre1, rfl, d1⟩ := ih.path hl
    obtain ⟨pre, rfl, d⟩ := ih.unionLoop h (D.up rfl d1)
    exact ⟨pre1 ++ pre, by simp, d⟩
  · cases h

theorem s_unionLoop (ih : Sound ns f) {acc toks a rest}
    (h : pUnionLoop ns (f+1) acc toks = some (a, rest)) {pre0} (d0 : D ns .UnionExpr pre0 acc) :
    ∃ pre, toks = pre ++ rest ∧ D ns .UnionExpr (pre0 ++ pre) a := by
  unfold pUnionLoop at h
  split at h
  · cases h
  · cases ‹f + 1 = Nat.succ _›
    split at h
    · rename_i x r' hx
      obtain ⟨pre1, rfl, d1⟩ := ih.path hx
      obtain ⟨pre, rfl, d⟩ := ih.unionLoop h (D.bin (tok := .union) (op := "|") rfl (by simp) d0 d1)
      exact ⟨.union :: (pre1 ++ pre), by simp, by simpa [List.append_assoc] using d⟩
    · cases h
  · cases h
    exact ⟨[], rfl, by simpa using d0⟩

theorem s_rel (ih : Sound ns f) {inp toks a rest} (h : pRel ns (f+1) inp toks = some (a, rest)) :
    ∃ pre, toks = pre ++ rest ∧ D ns (.RelativeLocationPath inp) pre a := by
  simp only [pRel] at h
  split at h
  · rename_i t r ht
    obtain ⟨pre1, rfl, d1⟩ := ih.step ht
    obtain ⟨pre, rfl, d⟩ := ih.relLoop h (D.rel_step d1)
    exact ⟨pre1 ++ pre, by simp, d⟩
  · cases h

theorem s_relLoop (ih : Sound ns f) {inp acc toks a rest}
    (h : pRelLoop ns (f+1) acc toks = some (a, rest)) {pre0}
    (d0 : D ns (.RelativeLocationPath inp) pre0 acc) :
    ∃ pre, toks = pre ++ rest ∧ D ns (.RelativeLocationPath inp) (pre0 ++ pre) a := by
  unfold pRelLoop at h
  split at h
  · cases h
  · cases ‹f + 1 = Nat.succ _›
    split at h
    · rename_i x r' hx
      obtain ⟨pre1, rfl, d1⟩ := ih.step hx
      obtain ⟨pre, rfl, d⟩ := ih.relLoop h (D.rel_slash d0 d1)
      exact ⟨.slash :: (pre1 ++ pre), by simp, by simpa [List.append_assoc] using d⟩
    · cases h
  · cases ‹f + 1 = Nat.succ _›
    split at h
    · rename_i x r' hx
      obtain ⟨pre1, rfl, d1⟩ := ih.step hx
      obtain ⟨pre, rfl, d⟩ := ih.relLoop h (D.rel_abbrev (D.abbrevRel d0 d1))
      exact ⟨.slashslash :: (pre1 ++ pre), by simp, by simpa [List.append_assoc] using d⟩
    · cases h
  · cases h
    exact ⟨[], rfl, by simpa using d0⟩

theorem s_preds (ih : Sound ns f) {acc toks a rest} (h : pPreds ns (f+1) acc toks = some (a, rest))
    (P : List ETok → Ast → Prop)
    (hP : ∀ ts t ts₂ c, P ts t → D ns .Predicate ts₂ c → P (ts ++ ts₂) (.filter t c))
    {pre0} (p0 : P pre0 acc) : ∃ pre, toks = pre ++ rest ∧ P (pre0 ++ pre) a := by
  unfold pPreds at h
  split at h
  · cases h
  · cases ‹f + 1 = Nat.succ _›
    split at h
    · rename_i c r' hc
      obtain ⟨pre1, rfl, d1⟩ := ih.tier tierOK_upper hc
      have dp : D ns .Predicate ([.lbracket] ++ pre1 ++ [.rbracket]) c :=
        .predicate (.predicateExpr (.expr d1))
      obtain ⟨pre, rfl, d⟩ := ih.preds h P hP (hP _ _ _ _ p0 dp)
      exact ⟨.lbracket :: (pre1 ++ .rbracket :: pre), by simp, by simpa [List.append_assoc] using d⟩
    · cases h
  · cases h
    exact ⟨[], rfl, by simpa using p0⟩

theorem s_filter (ih : Sound ns f) {toks a rest} (h : pFilter ns (f+1) toks = some (a, rest)) :
    ∃ pre, toks = pre ++ rest ∧ D ns .FilterExpr pre a := by
  simp only [pFilter] at h
  split at h
  · rename_i x r hx
    obtain ⟨pre1, rfl, d1⟩ := ih.primary hx
    obtain ⟨pre, rfl, d⟩ := ih.preds h (fun ts t => D ns .FilterExpr ts t)
      (fun _ _ _ _ a b => D.filter_pred a b) (D.filter_prim d1)
    exact ⟨pre1 ++ pre, by simp, d⟩
  · cases h

theorem s_step (ih : Sound ns f) {inp toks a rest} (h : pStep ns (f+1) inp toks = some (a, rest)) :
    ∃ pre, toks = pre ++ rest ∧ D ns (.Step inp) pre a := by
  unfold pStep at h
  split at h
  · cases h
  · cases h
    exact ⟨[.dot], rfl, .step_abbrev .dot⟩
  · cases h
    exact ⟨[.dotdot], rfl, .step_abbrev .dotdot⟩
  · cases ‹f + 1 = Nat.succ _›
    split at h
    · rename_i ax r hax
      obtain ⟨pre1, rfl, d1⟩ := pAxisSpec_sound hax
      split at h
      · rename_i info r' hnt
        obtain ⟨pre2, rfl, d2⟩ := pNodeTest_sound hnt
        obtain ⟨pre, rfl, d⟩ := ih.preds h (fun ts t => D ns (.Predicates (.axis info _)) ts t)
          (fun _ _ _ _ a b => D.preds_snoc a b) (pre0 := []) D.preds_nil
        exact ⟨pre1 ++ pre2 ++ pre, by simp, D.step d1 d2 (by simpa using d)⟩
      · cases h
    · cases h

theorem s_path (ih : Sound ns f) {toks a rest} (h : pPath ns (f+1) toks = some (a, rest)) :
    ∃ pre, toks = pre ++ rest ∧ D ns .PathExpr pre a := by
  unfold pPath at h
  split at h
  · cases h
  · cases ‹f + 1 = Nat.succ _›
    split at h
    · obtain ⟨pre, rfl, d⟩ := ih.rel h
      exact ⟨.slash :: pre, rfl, .path_loc (.loc_abs (.abs_rel d))⟩
    · cases h
      exact ⟨[.slash], rfl, .path_loc (.loc_abs .abs_root)⟩
  · cases ‹f + 1 = Nat.succ _›
    obtain ⟨pre, rfl, d⟩ := ih.rel h
    exact ⟨.slashslash :: pre, rfl, .path_loc (.loc_abs (.abs_abbrev (.abbrevAbs d)))⟩
  · cases ‹f + 1 = Nat.succ _›
    split at h
    · split at h
      · rename_i x r hx
        obtain ⟨pre1, rfl, d1⟩ := ih.filter hx
        obtain ⟨pre, rfl, d⟩ := ih.rel h
        exact ⟨pre1 ++ .slash :: pre, by simp, by simpa using D.path_slash d1 d⟩
      · rename_i x r hx
        obtain ⟨pre1, rfl, d1⟩ := ih.filter hx
        obtain ⟨pre, rfl, d⟩ := ih.rel h
        exact ⟨pre1 ++ .slashslash :: pre, by simp, by simpa using D.path_slashslash d1 d⟩
      · obtain ⟨pre, rfl, d⟩ := ih.filter h
        exact ⟨pre, rfl, .path_filter d⟩
    · obtain ⟨pre, rfl, d⟩ := ih.rel h
      exact ⟨pre, rfl, .path_loc (.loc_rel d)⟩

theorem s_primary (ih : Sound ns f) {toks a rest} (h : pPrimary ns (f+1) toks = some (a, rest)) :
    ∃ pre, toks = pre ++ rest ∧ D ns .PrimaryExpr pre a := by
  unfold pPrimary at h
  split at h
  · cases h
  · cases h
    exact ⟨[.varRef _ _], rfl, .prim_var⟩
  · cases h
    exact ⟨[.literal _], rfl, .prim_literal⟩
  · cases h
    exact ⟨[.number _], rfl, .prim_number⟩
  · cases ‹f + 1 = Nat.succ _›
    split at h
    · rename_i x r hx
      cases h
      obtain ⟨pre, rfl, d⟩ := ih.tier tierOK_upper hx
      exact ⟨.lparen :: (pre ++ [.rparen]), by simp, by simpa using D.prim_group (.expr d)⟩
    · cases h
  · cases h
    exact ⟨[.funcName _ _, .lparen, .rparen], rfl, .prim_call .call_nil⟩
  · cases ‹f + 1 = Nat.succ _›
    split at h
    · rename_i p fn _ _ _ as r has
      cases h
      obtain ⟨pre, rfl, d⟩ := ih.args has
      exact ⟨.funcName p fn :: .lparen :: (pre ++ [.rparen]), by simp,
        by simpa using D.prim_call (D.call_args (p := p) (f := fn) d)⟩
    · cases h
  · cases h

theorem s_args (ih : Sound ns f) {toks a rest} (h : pArgs ns (f+1) toks = some (a, rest)) :
    ∃ pre, toks = pre ++ [.rparen] ++ rest ∧ D ns .Arguments pre a := by
  simp only [pArgs] at h
  split at h
  · rename_i x r hx
    cases h
    obtain ⟨pre, rfl, d⟩ := ih.tier tierOK_upper hx
    exact ⟨pre, by simp, .args_one (.argument (.expr d))⟩
  · rename_i x r hx
    obtain ⟨pre1, rfl, d1⟩ := ih.tier tierOK_upper hx
    split at h
    · rename_i as r' has
      cases h
      obtain ⟨pre, rfl, d⟩ := ih.args has
      exact ⟨pre1 ++ .comma :: pre, by simp, by simpa using D.args_cons (.argument (.expr d1)) d⟩
    · cases h
  · cases h

theorem sound_succ (ih : Sound ns f) : Sound ns (f + 1) where
  tier := s_tier ih
  tierLoop := s_tierLoop ih
  unary := s_unary ih
  union := s_union ih
  unionLoop := s_unionLoop ih
  path := s_path ih
  rel := s_rel ih
  relLoop := s_relLoop ih
  step := s_step ih
  preds := s_preds ih
  filter := s_filter ih
  primary := s_primary ih
  args := s_args ih

theorem sound_all (ns : Option NsMap) : ∀ f, Sound ns f
  | 0 => sound_zero ns
  | f + 1 => sound_succ (sound_all ns f)

/-- **Soundness of the reference parser**: every tree it returns is derived by the grammar. -/
theorem refParseFull_sound {ns : Option NsMap} {toks : List TokV} {a : Ast}
    (h : refParseFull ns toks = some a) : Parses ns toks a := by
  unfold refParseFull at h
  simp only at h
  split at h
  · rename_i a' hp
    simp at h
    subst h
    obtain ⟨pre, hpre, d⟩ := (sound_all ns _).tier tierOK_upper hp
    simp at hpre
    subst hpre
    exact .expr d
  · cases h

end Soundness

/-! ## §4  Examples

The expected trees are written by hand from the conventions; each `example` is checked by kernel
evaluation of `refParseFull` (`decide +kernel`: the kernel alone evaluates, the elaborator does not
evaluate first), no `native_decide`. -/
section Examples
open TokV

/-- an unprefixed name not followed by '(' -/
def nm (s : String) : TokV := .name "" s false
/-- an unprefixed name followed by '(' -/
def fn (s : String) : TokV := .name "" s true

/-- `child::l` (unprefixed QName test) over `inp` -/
def child (l : String) (inp : Ast := .none) : Ast := .axis ⟨"child", .elem, "", l, "", false, ""⟩ inp
/-- `child::*` -/
def childAny : Ast := .axis ⟨"child", .elem, "", "", "", false, ""⟩ .none
/-- `x * -1` -/
def neg1 (x : Ast) : Ast := .oper "*" x (.num "-1")

-- a/b[1]
theorem refParseFull_path_pred : refParseFull none [nm "a", slash, nm "b", lbracket, num "1", rbracket]
    = some (.filter (child "b" (child "a")) (.num "1")) := by decide +kernel
example : refParseFull none [nm "a", slash, nm "b", lbracket, num "1", rbracket]
    = some (.filter (child "b" (child "a")) (.num "1")) := refParseFull_path_pred

-- //a[@k='x'] | b
example : refParseFull none
      [slashslash, nm "a", lbracket, TokV.at, nm "k", eq, str "x", rbracket, union, nm "b"]
    = some (.oper "|"
        (.filter (child "a" (dos (.root "/")))
          (.oper "=" (.axis ⟨"attribute", .attr, "", "k", "", false, ""⟩ .none) (.str "x")))
        (child "b")) := by decide +kernel

-- ../@*
example : refParseFull none [dotdot, slash, TokV.at, star]
    = some (.axis ⟨"attribute", .attr, "", "", "", false, ""⟩
        (.axis ⟨"parent", .all, "", "", "node", false, ""⟩ .none)) := by decide +kernel

-- .//x:*   without a namespace map, with x bound, with x unbound
example : refParseFull none [dot, slashslash, name "x" "*" false]
    = some (.axis ⟨"child", .elem, "x", "", "", false, ""⟩
        (.axis ⟨"descendant-or-self", .all, "", "", "node", false, ""⟩
          (.axis ⟨"self", .all, "", "", "node", false, ""⟩ .none))) := by decide +kernel
example : refParseFull (some [("x", "urn:x")]) [dot, slashslash, name "x" "*" false]
    = some (.axis ⟨"child", .elem, "x", "", "", true, "urn:x"⟩
        (.axis ⟨"descendant-or-self", .all, "", "", "node", false, ""⟩
          (.axis ⟨"self", .all, "", "", "node", false, ""⟩ .none))) := by decide +kernel
example : refParseFull (some [("y", "urn:y")]) [dot, slashslash, name "x" "*" false] = none := by decide +kernel

-- count(//a) + 1 > 2 and not(b)
theorem refParseFull_count_and_not : refParseFull none
      [fn "count", lparen, slashslash, nm "a", rparen, plus, num "1", gt, num "2", nm "and",
       fn "not", lparen, nm "b", rparen]
    = some (.oper "and"
        (.oper ">"
          (.oper "+" (.call "count" "" (.acons (child "a" (dos (.root "/"))) .anil)) (.num "1"))
          (.num "2"))
        (.call "not" "" (.acons (child "b") .anil))) := by decide +kernel

example : refParseFull none
      [fn "count", lparen, slashslash, nm "a", rparen, plus, num "1", gt, num "2", nm "and",
       fn "not", lparen, nm "b", rparen]
    = some (.oper "and"
        (.oper ">"
          (.oper "+" (.call "count" "" (.acons (child "a" (dos (.root "/"))) .anil)) (.num "1"))
          (.num "2"))
        (.call "not" "" (.acons (child "b") .anil))) := refParseFull_count_and_not

-- a[b[c]]
example : refParseFull none [nm "a", lbracket, nm "b", lbracket, nm "c", rbracket, rbracket]
    = some (.filter (child "a") (.filter (child "b") (child "c"))) := by decide +kernel

-- (a|b)[2]/c
example : refParseFull none
      [lparen, nm "a", union, nm "b", rparen, lbracket, num "2", rbracket, slash, nm "c"]
    = some (child "c" (.filter (.group (.oper "|" (child "a") (child "b"))) (.num "2"))) := by decide +kernel

-- -a div -b
example : refParseFull none [minus, nm "a", nm "div", minus, nm "b"]
    = some (.oper "div" (neg1 (child "a")) (neg1 (child "b"))) := by decide +kernel

-- - - a   and   - - - a | b
example : refParseFull none [minus, minus, nm "a"] = some (neg1 (neg1 (child "a"))) := by decide +kernel
theorem refParseFull_minus_run : refParseFull none [minus, minus, minus, nm "a", union, nm "b"]
    = some (neg1 (.oper "|" (child "a") (child "b"))) := by decide +kernel
example : refParseFull none [minus, minus, minus, nm "a", union, nm "b"]
    = some (neg1 (.oper "|" (child "a") (child "b"))) := refParseFull_minus_run

-- a and and : the second `and` follows an Operator, so it is a NameTest
example : refParseFull none [nm "a", nm "and", nm "and"]
    = some (.oper "and" (child "a") (child "and")) := by decide +kernel

-- * * *
theorem refParseFull_stars : refParseFull none [star, star, star] = some (.oper "*" childAny childAny) := by decide +kernel
example : refParseFull none [star, star, star] = some (.oper "*" childAny childAny) := refParseFull_stars

-- text()
example : refParseFull none [fn "text", lparen, rparen]
    = some (.axis ⟨"child", .text, "", "", "text", false, ""⟩ .none) := by decide +kernel

-- processing-instruction('x')   (typeTest and lname are choices, see §5)
example : refParseFull none [fn "processing-instruction", lparen, str "x", rparen]
    = some (.axis ⟨"child", .all, "", "x", "processing-instruction", false, ""⟩ .none) := by decide +kernel

-- /      and      / | a
example : refParseFull none [slash] = some (.root "/") := by decide +kernel
example : refParseFull none [slash, union, nm "a"]
    = some (.oper "|" (.root "/") (child "a")) := by decide +kernel

-- child::div div 2
example : refParseFull none [TokV.axis "child", nm "div", nm "div", num "2"]
    = some (.oper "div" (child "div") (.num "2")) := by decide +kernel

-- $p:v, f(1, 'x'), a and(b): `and` after a name is the operator even before '('
example : refParseFull none [dollar, name "p" "v" false] = some (.var "p" "v") := by decide +kernel
example : refParseFull none [name "p" "f" true, lparen, num "1", comma, str "x", rparen]
    = some (.call "f" "p" (.acons (.num "1") (.acons (.str "x") .anil))) := by decide +kernel
example : refParseFull none [nm "a", fn "and", lparen, nm "b", rparen]
    = some (.oper "and" (child "a") (.group (child "b"))) := by decide +kernel

-- not expressions:  a b,  / and b (`/and` then a stray name),  .[1],  namespace::a,  text(1),  a/
theorem refParseFull_two_names : refParseFull none [nm "a", nm "b"] = none := by decide +kernel
example : refParseFull none [nm "a", nm "b"] = none := refParseFull_two_names
theorem refParseFull_slash_and : refParseFull none [slash, nm "and", nm "b"] = none := by decide +kernel
example : refParseFull none [slash, nm "and", nm "b"] = none := refParseFull_slash_and
theorem refParseFull_dot_pred : refParseFull none [dot, lbracket, num "1", rbracket] = none := by decide +kernel
example : refParseFull none [dot, lbracket, num "1", rbracket] = none := refParseFull_dot_pred
example : refParseFull none [TokV.axis "namespace", nm "a"] = none := by decide +kernel
theorem refParseFull_text_arg : refParseFull none [fn "text", lparen, num "1", rparen] = none := by decide +kernel
example : refParseFull none [fn "text", lparen, num "1", rparen] = none := refParseFull_text_arg
theorem refParseFull_open_path : refParseFull none [nm "a", slash] = none := by decide +kernel
example : refParseFull none [nm "a", slash] = none := refParseFull_open_path
example : refParseFull none [] = none := by decide +kernel

/-! The classification of §3.7 on its own, and two derivations in the grammar `D`. -/

example : classify none [star, star, star] = [.wild, .mul, .wild] := by decide +kernel
example : classify none [nm "div", nm "div", nm "div"] = [.qname "" "div", .opName "div", .qname "" "div"] := by
  decide +kernel
example : classify none [TokV.at, nm "and", nm "or", fn "node", lparen, rparen]
    = [.at, .qname "" "and", .opName "or", .nodeType "node", .lparen, .rparen] := by decide +kernel

/-- a single unprefixed name as a Step over `inp` -/
theorem D.name_step (ns : Option NsMap) (inp : Ast) (l : String) :
    D ns (.Step inp) [.qname "" l] (child l inp) := by
  have h : D ns (.Step inp) ([] ++ [.qname "" l] ++ []) (child l inp) :=
    .step (.abbrev .child) (.qname (p := "") (h := false) (u := "") (by simp [resolve])) .preds_nil
  simpa using h

/-- a MultiplicativeExpr derives whatever a PathExpr derives (through UnionExpr and UnaryExpr) -/
theorem D.of_path {ns ts t} (h : D ns .PathExpr ts t) :
    D ns .MultiplicativeExpr ts t :=
  .up rfl (by simpa [negEnc] using D.unary (.unary_union (.up rfl h)))

theorem D.expr_of_mul {ns ts t} (h : D ns .MultiplicativeExpr ts t) : D ns .Expr ts t :=
  .expr (.up rfl (.up rfl (.up rfl (.up rfl (.up rfl h)))))

-- a/b[1]
example : Parses none [nm "a", slash, nm "b", lbracket, num "1", rbracket]
    (.filter (child "b" (child "a")) (.num "1")) := by
  show D none .Expr [.qname "" "a", .slash, .qname "" "b", .lbracket, .number "1", .rbracket] _
  have one : D none .Predicate ([.lbracket] ++ [.number "1"] ++ [.rbracket]) (.num "1") :=
    .predicate (.predicateExpr (D.expr_of_mul (D.of_path (.path_filter (.filter_prim .prim_number)))))
  have b : D none (.Step (child "a")) ([] ++ [.qname "" "b"] ++ ([] ++ _)) _ :=
    .step (.abbrev .child) (.qname (p := "") (h := false) (u := "") (by simp [resolve]))
      (.preds_snoc .preds_nil one)
  have ab : D none (.RelativeLocationPath .none) ([.qname "" "a"] ++ [.slash] ++ _) _ :=
    .rel_slash (.rel_step (D.name_step none .none "a")) b
  exact D.expr_of_mul (D.of_path (.path_loc (.loc_rel ab)))

-- * * *
example : Parses none [star, star, star] (.oper "*" childAny childAny) := by
  show D none .Expr [.wild, .mul, .wild] _
  have w : D none (.Step .none) ([] ++ [.wild] ++ []) childAny := .step (.abbrev .child) .wild .preds_nil
  have p : D none .PathExpr [.wild] childAny := .path_loc (.loc_rel (.rel_step (by simpa using w)))
  have u : D none .UnaryExpr [.wild] childAny := by
    simpa [negEnc] using D.unary (.unary_union (.up rfl p))
  have m : D none .MultiplicativeExpr ([.wild] ++ [.mul] ++ [.wild]) (.oper "*" childAny childAny) :=
    .bin rfl (by simp) (D.of_path p) u
  exact D.expr_of_mul m

-- every tree `refParseFull` returns is a derivation of the grammar (`refParseFull_sound`), e.g.
-- count(//a) + 1 > 2 and not(b)
example : Parses none
      [fn "count", lparen, slashslash, nm "a", rparen, plus, num "1", gt, num "2", nm "and",
       fn "not", lparen, nm "b", rparen]
      (.oper "and"
        (.oper ">"
          (.oper "+" (.call "count" "" (.acons (child "a" (dos (.root "/"))) .anil)) (.num "1"))
          (.num "2"))
        (.call "not" "" (.acons (child "b") .anil))) :=
  refParseFull_sound refParseFull_count_and_not

end Examples

/-! ## §5  Ambiguities in the Recommendation, choices made here, omissions

### A. Where the Recommendation is ambiguous or silent

1. **Order of the §3.7 rules.**  Rule 1 (operator position) and rules 2/3 (name followed by `(` /
   `::`) can both apply: `a and(b)`, `a div::b`.  The fourth rule begins "Otherwise", which reads as
   an if / else-if chain, so rule 1 wins here: an unprefixed name in operator position is an
   OperatorName whatever follows it.  `a and(b)` is therefore `a and (b)`.  (With the other order it
   would not be an expression at all; `a div::b` is an expression under neither order.)  An `axis`
   token in operator position is kept as an AxisName — nothing can be derived from it there.
2. **"an NCName must be recognized as an OperatorName"** when the NCName is none of `and or mod div`
   (`a b`): `classify` yields `opName "b"`, which no production accepts; the text is not an expression.
   A *prefixed* name or `p:*` in operator position is not an NCName / not `*`; it stays a NameTest
   (and nothing derives it there either).
3. **VariableReference [36] is one ExprToken**, but the scanner delivers `$` and the name
   separately; `classify` fuses `dollar` + `name` (local part not `*`).  Consequences: white space
   between `$` and the name cannot be seen and is tolerated; the name after `$` is never subject to
   rules 1–2 (`$and`, `$f (` …); a `$` followed by anything else is `invalid`.  The token after a
   VariableReference is in operator position.
4. **`AxisName '::'`** arrives fused as one `axis` token; white space between the two is invisible.
   Its `name` carries no prefix, so `p:child::a` cannot be told apart here (it is no expression).
5. **`'/' RelativeLocationPath?` [2]**: the grammar relation simply has both alternatives.  The
   reference parser takes the path whenever the next token can start a Step; by §3.7 this is forced
   (`/ * 2` is `/*` followed by a stray `2`; `/ and b` is `/and` followed by a stray `b`).
6. **Unary minus [27]** binds tighter than every binary operator but looser than `|`:
   `-a|b` is `-(a|b)`; `- - - a | b` is one run of three.  `UnaryRun n` counts the run because the
   project's tree encoding (`negEnc`) depends on its parity, not because the Recommendation does.
7. **Namespace resolution** is not part of the grammar proper (§2.3 makes an unbound prefix "an
   error").  Here: only NameTests are resolved; the first binding of a prefix in the list is used; the
   empty prefix is never looked up (no default namespace, §2.3); `xml` is not implicitly bound;
   prefixes of function names and variables are copied unresolved (`.call`, `.var` have no URI field);
   with `ns = none` nothing is resolved and nothing is rejected.
8. **`processing-instruction`**: `NType` has no processing-instruction kind.  Chosen:
   `typeTest = .all` (`typeOfNodeType`), `prop = "processing-instruction"`, and the Literal of
   `processing-instruction('x')` goes to `lname` (`pfx = ""`).  The convention text does not fix these
   two fields; change `typeOfNodeType` / the `pi` rule if the tree type means something else.
9. **Node-type tests ignore the principal node type**: `@node()` has `typeTest = .all`,
   `@text()` has `.text`.

### B. Choices of presentation (no effect on the language or the trees)

* Non-terminals of the location-path productions carry the tree of what precedes them
  (`Step inp`, `RelativeLocationPath inp`, …): `.none` for a relative path, `.root "/"` after `/`,
  the FilterExpr's tree in `FilterExpr '/' RelativeLocationPath`, `dos t` after `//`.
* Helper non-terminals that are not in the Recommendation: `Predicates inp` (= `Predicate*`),
  `Arguments` (= `Argument (',' Argument)*`), `UnaryRun n`.
* `AxisSpecifier`, `AbbreviatedAxisSpecifier`, `AxisName`, `NodeTest`, `NameTest` yield an axis name /
  an `AxisInfo`, not a tree: they are the separate relations `AxisSpecifierD`,
  `AbbreviatedAxisSpecifierD`, `axisNames`, `NodeTestD`.
* [18], [21]–[26] are the two rules `up` / `bin` over the table `NT.binary`.
* `(E)` is always `.group E`; the Number lexeme and the Literal value are copied as the scanner
  gives them; operators appear in the tree with their source spelling (`"|"`, `"!="`, `"div"` …).
* `refParseFull` is proved sound for `Parses` (§3b) and complete (every derivable tree is the one
  returned, i.e. the grammar is unambiguous and the parser finds the derivation:
  `refParseFull_iff`, `Parses_unique` in `Lemmas/FullGrammarComplete.lean`); the hand derivations of
  §4 show the relation at work without the parser.
* `Derives ns nt toks a` classifies `toks` as if they stood at the start of the text; it is exact
  for `nt = .Expr` (`Parses`).

### C. Strict readings that a lenient parser may not share

* An AbbreviatedStep takes no predicates [4], [12]: `.[1]` and `..[1]` are not expressions
  (`self::node()[1]` is).
* FunctionName ::= QName - NodeType [35]: `text(1)`, `node(a)`, `comment('x')` are not expressions;
  only `processing-instruction` takes a Literal, and only one.  A prefixed `p:text()` is a function
  call (a prefixed QName is not a NodeType).  In non-operator position `div(1)` is a call of a
  function named `div`, and `and`, `or`, `mod`, `div` are ordinary NameTests.
* An AxisName outside [6] (`foo::a`) is not an expression.
* The empty token list and a token list with unread tokens are not expressions.

### D. Deliberately left out

* **The namespace axis** (`namespace::`): its principal node type is *namespace* (§2.3), for which
  `NType` has no value; `axisNames` omits it, so `namespace::x` is not derivable.  (Adding
  `"namespace"` to `axisNames` would give it `typeTest = .elem`, which is wrong.)
* **Character-level productions** [29] Literal, [30] Number, [31] Digits, [39] ExprWhitespace and
  NCName/QName of XML-Names: below the token type.  A `name` token whose parts are not NCNames, or a
  `name` token `*` with an empty prefix, is outside the intended domain (the latter is `invalid`).
* **Static-context checks** that are not grammar: that a function exists and has that many
  arguments, that a variable is bound, that a prefix of a function or variable name is declared,
  type checks (§3.3: a FilterExpr's operand "must evaluate to a node-set" — so `1[2]`, `'x'/a` are
  grammatical here).
* Variable references are *included* (`.var pfx name`).
-/

end XPathV.Spec.Full
