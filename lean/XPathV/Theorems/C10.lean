import XPathV.Lemmas.ParserShape
import XPathV.Model.Api
import XPathV.Spec.Grammar
import XPathV.Lemmas.Facts
import XPathV.Lemmas.ParserGrammar
import XPathV.Lemmas.ParserFull
import XPathV.Lemmas.FullGrammarComplete
import XPathV.Lemmas.Whitespace
import XPathV.Lemmas.Abbrev
/-!
# C10 — expressions parse with XPath 1.0 precedence, associativity and token rules
-/
namespace XPathV.Theorems.C10
open XPathV XPathV.Model XPathV.Facts

/-- T0 (F6): the regenerated precedence chain is the XPath 1.0 one, every tier loop accumulates
on the left and uses one operand parser.  Swapping two tiers, or building right-nested operator
nodes, changes the generated term and this stops checking. -/
theorem prec_chain_ok : Generated.precChain = [
    ⟨"parseOrExpr", "parseAndExpr", ["or"], true, true⟩,
    ⟨"parseAndExpr", "parseEqualityExpr", ["and"], true, true⟩,
    ⟨"parseEqualityExpr", "parseRelationalExpr", ["=", "!="], true, true⟩,
    ⟨"parseRelationalExpr", "parseAdditiveExpr", ["<", ">", "<=", ">="], true, true⟩,
    ⟨"parseAdditiveExpr", "parseMultiplicativeExpr", ["+", "-"], true, true⟩,
    ⟨"parseMultiplicativeExpr", "parseUnaryExpr", ["*", "div", "mod"], true, true⟩,
    ⟨"parseUnionExpr", "parsePathExpr", ["|"], true, true⟩] ∧
    Generated.exprEntry = "parseOrExpr" ∧ Generated.unaryOperand = "parseUnionExpr" ∧
    Generated.unaryIsTimesMinusOne = true ∧ Generated.unaryEvenIsDoubleNegation = true := by decide

/-- the stage list the model parser runs (computed from the regenerated chain) is the tier list of
the Recommendation's grammar: `or < and < =,!= < <,>,<=,>= < +,- < *,div,mod < unary - < |` -/
theorem stages_are_xpath_tiers :
    stages = (Spec.Grammar.upperTiers.map Stage.tier) ++ [Stage.unary] ++ (Spec.Grammar.lowerTiers.map Stage.tier) :=
  Lemmas.SourceConfig.stages_are_xpath_tiers

/-- T0 (F13): `*` is not a name character (so `a*b` multiplies), `:` and `/` never are -/
theorem star_not_name_char : Generated.starIsNameChar = false ∧ Generated.nameExcludes = [58, 47] ∧
    Generated.isNameShapeOk = true := by decide

/-- the tier loop is left-associative: having parsed `acc` and seeing an operator of the tier, the
result continues from `.oper op acc r` — the accumulator is always the *left* operand -/
theorem tier_loop_left_assoc (f : Nat) (cfg : PCfg) (ops : List String) (rest : List Stage) (acc : Ast) (st st1 st2 : PState)
    (op : String) (r : Ast)
    (hop : ops.find? (tokMatches st.s) = some op) (hnext : st.next = .ok st1)
    (hr : parseChain f cfg rest st1 = .ok (r, st2)) :
    tierLoop (f+1) cfg ops rest acc st = tierLoop f cfg ops rest (.oper op acc r) st2 := by
  simp [tierLoop, hop, hnext, hr, bind, Except.bind]

/-- when no operator of the tier follows, the loop returns the accumulator unchanged -/
theorem tier_loop_stop (f : Nat) (cfg : PCfg) (ops : List String) (rest : List Stage) (acc : Ast) (st : PState)
    (hop : ops.find? (tokMatches st.s) = none) :
    tierLoop (f+1) cfg ops rest acc st = .ok (acc, st) := by
  simp [tierLoop, hop, pure, Except.pure]

/-- unary minus: an odd number of `-` wraps the operand as `x * -1`; an even non-zero number (the
toggle is off but the run started at a `-` token) wraps it as `(x * -1) * -1` — the pair cancels
numerically but the operand is still converted to a number; no `-` leaves the operand as it is -/
theorem unary_encoding (f : Nat) (cfg : PCfg) (rest : List Stage) (st st1 st2 : PState) (minus : Bool) (x : Ast)
    (hm : skipMinus (f+1) st false = .ok (minus, st1)) (hx : parseChain f cfg rest st1 = .ok (x, st2)) :
    parseChain (f+1) cfg (.unary :: rest) st =
      .ok (if minus then .oper "*" x (.num "-1")
           else if st.s.typ == .minus then .oper "*" (.oper "*" x (.num "-1")) (.num "-1") else x, st2) := by
  simp [parseChain, hm, hx, bind, Except.bind, pure, Except.pure]

/-- the step node `mkAxis "self" .all …` that `parseStep` builds for `.` is the node of `self::node()`
(unfolding of `mkAxis`; `..` likewise with `"parent"`) -/
theorem dot_is_self_node : mkAxis "self" .all "" "" "" .none = Ast.axis ⟨"self", .all, "", "", "", false, ""⟩ .none := rfl

/-- `dosNode x`, which the parser puts in for `//`, is the step `descendant-or-self::node()` on `x`
(unfolding of `dosNode`) -/
theorem slashslash_is_dos (x : Ast) : dosNode x = Ast.axis ⟨"descendant-or-self", .all, "", "", "", false, ""⟩ x := rfl

/-! ## Chains of every length -/

open Lemmas.ParserShape in
/-- **left associativity, any chain length**: whatever `tierLoop` returns is the accumulator
extended to the LEFT by the tier's operators, each right operand coming from the tighter tiers only -/
theorem tier_loop_left_nested {cfg : PCfg} {ops : List String} {rest : List Stage} (f : Nat) (acc : Ast) (st : PState)
    {a : Ast} {st' : PState} (h : tierLoop f cfg ops rest acc st = .ok (a, st')) :
    ∃ items : List (String × Ast),
      a = items.foldl (fun l (p : String × Ast) => Ast.oper p.1 l p.2) acc ∧
      ∀ p ∈ items, p.1 ∈ ops ∧ ∃ f' s1 s2, parseChain f' cfg rest s1 = .ok (p.2, s2) :=
  tierLoop_foldl f acc st h

open Lemmas.ParserShape in
/-- **precedence, any chain length**: every tree the parser returns for an expression is stratified
by the XPath tiers (a looser operator never sits under a tighter one unless parenthesised), so
`operands_never_looser` applies to it -/
theorem parse_tree_stratified {ns : Option (List (String × String))} {f : Nat} {st st' : PState} {a : Ast}
    (h : parseExpression f (defaultCfg ns) st = .ok (a, st')) : Strat (defaultCfg ns) stages a := by
  cases f with
  | zero => simp [parseExpression] at h
  | succ f =>
    obtain ⟨st'', h1, _, _⟩ := parseExpression_chain h
    exact parseChain_strat stages h1

open Lemmas.ParserShape in
/-- the headline: in a stratified tree, for an operator node that is not itself a parenthesised /
primary sub-expression, the left operand's operator is of the same or a tighter tier and the right
operand's of a strictly tighter tier (or is the `x * -1` / `(x * -1) * -1` encoding of unary minus) -/
theorem operands_never_looser {cfg : PCfg} {op : String} {l r : Ast}
    (h : Strat cfg stages (.oper op l r)) (hnp : ¬ FromPath cfg (.oper op l r)) :
    (∀ op' x y, l = .oper op' x y → ¬ FromPath cfg l → tierRank op ≤ tierRank op') ∧
    (∀ op' x y, r = .oper op' x y → ¬ FromPath cfg r →
        tierRank op < tierRank op' ∨ (op' = "*" ∧ y = .num "-1" ∧ tierRank op ≤ 5)) :=
  operands_not_looser h hnp

open XPathV.Spec.Grammar XPathV.Lemmas.ParserGrammar in
/-- **C10 (main theorem): the parse tree is the one the XPath 1.0 grammar assigns.**  If
`parseExpression` succeeds with tree `a`, the run consumed a chain `ts` of atoms (each the result
of one `parsePathExpr` call) and operator tokens, the chain is derivable in the Recommendation's
operator grammar (`Spec.Grammar.Derives 0`: productions [21]–[27], [18], or < and < equality <
relational < additive < multiplicative < unary minus < union, every binary production
left-recursive), and `a` is the tree of **every** derivation of it — the grammar is unambiguous
(`C10_grammar_unambiguous`), so that is *the* tree. -/
theorem C10_main {ns : Option (List (String × String))} {f : Nat} {st st' : PState} {a : Ast}
    (h : parseExpression f (defaultCfg ns) st = .ok (a, st')) :
    ∃ ts st'', Consumes (defaultCfg ns) { st with d := st.d + 1 } ts st'' ∧
      st' = { st'' with d := st''.d - 1 } ∧
      (∃ e, Derives 0 ts e) ∧ ∀ e, Derives 0 ts e → a = e.toAst :=
  Lemmas.ParserGrammar.C10_main h

open XPathV.Spec.Grammar XPathV.Lemmas.ParserGrammar in
/-- the same for a whole expression text (`parse` = scanner + parser, end of input required) -/
theorem C10_whole_text {ns : Option (List (String × String))} {fuel : Nat} {text : List Char} {a : Ast}
    (h : parse fuel (defaultCfg ns) text = .ok a) :
    ∃ s ts st', Scan.init text = .ok s ∧ Consumes (defaultCfg ns) { s := s, d := 1 } ts st' ∧
      st'.s.typ = .eof ∧ (∃ e, Derives 0 ts e) ∧ ∀ e, Derives 0 ts e → a = e.toAst := by
  obtain ⟨s, st1, hs, h1, heof⟩ := Lemmas.ParserRun.parse_ok.mp h
  obtain ⟨ts, st'', hc, hst, hex, hall⟩ := Lemmas.ParserGrammar.C10_main h1
  refine ⟨s, ts, st'', hs, hc, ?_, hex, hall⟩
  rw [hst] at heof
  exact heof

open XPathV.Spec.Grammar XPathV.Lemmas.ParserGrammar in
/-- **the XPath 1.0 operator grammar is unambiguous** on chains with opaque atoms, at every tier
(so "the tree the grammar assigns" is well defined; this is a theorem about the Recommendation's
productions, independent of the code) -/
theorem C10_grammar_unambiguous {k : Nat} {ts : List T} {e₁ e₂ : E} (h1 : Derives k ts e₁) (h2 : Derives k ts e₂) :
    e₁ = e₂ :=
  derives_unique h1 h2

open XPathV.Spec.Grammar XPathV.Lemmas.ParserGrammar in
/-- every tier separately: a successful `parseChain` at tier `k` returns the tree of a derivation
at tier `k` of the chain it consumed -/
theorem C10_every_tier {cfg : PCfg} {k f : Nat} (hk : k ≤ 8) {st st' : PState} {a : Ast}
    (h : parseChain f cfg (stages.drop k) st = .ok (a, st')) :
    ∃ ts e, Consumes cfg st ts st' ∧ Derives k ts e ∧ a = e.toAst :=
  parseChain_sound_tier hk h

open XPathV.Lemmas.ParserGrammar in
/-- token rule: one scanner token is at most one of the fourteen operators, so the `.op` entries of a
consumed chain are determined by the tokens -/
theorem C10_operator_token_unique {s : Scan} {o₁ o₂ : String} (h1 : o₁ ∈ Lemmas.ParserShape.allOps) (h2 : o₂ ∈ Lemmas.ParserShape.allOps)
    (m1 : tokMatches s o₁ = true) (m2 : tokMatches s o₂ = true) : o₁ = o₂ :=
  opKey_inj o₁ h1 o₂ h2 (by rw [tokMatches_key m1, tokMatches_key m2])

open XPathV.Bridge XPathV.Spec.Full XPathV.Lemmas.ParserFull in
/-- **C10 against the whole XPath 1.0 grammar (completeness).**  `Spec/FullGrammar.lean` states the
complete expression grammar of the Recommendation (`D`, `Parses`; every non-terminal, not only the
operator tiers) with an executable reference parser `refParseFull`, sound for it.  If the scanner's
token stream of `text` is `toks`, the reference parser accepts it with the tree `b`, and `b` nests
predicates / parentheses / arguments fewer than 200 deep (the parser's depth limit), then the model
parser accepts `text` and returns `b` up to the four representation conventions of `normConv`. -/
theorem C10_full_grammar_complete {ns : Option NsMap} {text : List Char} {toks : List TokV} {b : Ast}
    (htoks : tokVsRel text toks) (href : refParseFull ns toks = some b) (hdepth : nesting b < 200) :
    ∃ a, parse (fuelFor text) (defaultCfg ns) text = .ok a ∧ normConv a = normConv b :=
  full_complete htoks href hdepth

open XPathV.Bridge XPathV.Spec.Full XPathV.Lemmas.ParserFull in
/-- the same, and the tree is one the grammar relation derives for the token stream -/
theorem C10_full_grammar_tree {ns : Option NsMap} {text : List Char} {toks : List TokV} {b : Ast}
    (htoks : tokVsRel text toks) (href : refParseFull ns toks = some b) (hdepth : nesting b < 200) :
    ∃ a, parse (fuelFor text) (defaultCfg ns) text = .ok a ∧ normConv a = normConv b ∧ Parses ns toks b := by
  obtain ⟨a, h1, h2⟩ := full_complete htoks href hdepth
  exact ⟨a, h1, h2, refParseFull_sound href⟩

open XPathV.Bridge XPathV.Spec.Full XPathV.Lemmas.ParserFull in
/-- the parser rejects an expression of the full grammar's reference parser only for its depth:
the error is `.tooComplex` and the tree nests 200 deep or more -/
theorem C10_full_grammar_reject_only_deep {ns : Option NsMap} {text : List Char} {toks : List TokV} {b : Ast}
    {e : PErr} (htoks : tokVsRel text toks) (href : refParseFull ns toks = some b)
    (herr : parse (fuelFor text) (defaultCfg ns) text = .error e) : e = .tooComplex ∧ 200 ≤ nesting b := by
  rcases full_complete_or_deep htoks href with ⟨h, hd⟩ | ⟨a, h, _⟩
  · rw [h] at herr; cases herr; exact ⟨rfl, hd⟩
  · rw [h] at herr; cases herr

open XPathV.Bridge XPathV.Spec.Full XPathV.Lemmas.ParserFull in
/-- the driver's token conversion `tokVs` (what the `full:*` column of the correspondence check is
computed from) satisfies the relation the theorems above are stated with -/
theorem C10_full_grammar_driver_tokens {text : List Char} {toks : List TokV} (h : tokVs text = some toks) :
    tokVsRel text toks :=
  tokVs_sound h

open XPathV.Spec.Full in
/-- **the full XPath 1.0 expression grammar is unambiguous** (after the token classification of §3.7 of the
Recommendation): a token stream has at most one tree — a theorem about the Recommendation's productions as
transcribed in `Spec/FullGrammar.lean`, independent of the code; with it "the tree the grammar assigns" is well
defined for whole expressions, not only for operator chains -/
theorem C10_full_grammar_unambiguous {ns : Option NsMap} {toks : List TokV} {a b : Ast}
    (ha : Parses ns toks a) (hb : Parses ns toks b) : a = b :=
  Parses_unique ha hb

open XPathV.Spec.Full in
/-- the executable reference parser decides the grammar relation (sound and complete), so the `full:*` column of
the correspondence check, computed with it, reports exactly membership in the grammar -/
theorem C10_reference_parser_decides_grammar {ns : Option NsMap} {toks : List TokV} {a : Ast} :
    refParseFull ns toks = some a ↔ Parses ns toks a :=
  refParseFull_iff

open XPathV.Bridge XPathV.Spec.Full XPathV.Lemmas.ParserFull in
/-- **C10 stated on the grammar relation alone**: if the XPath 1.0 grammar derives the tree `b` for the token
stream of `text` (then `b` is the only such tree), and `b` nests fewer than 200 deep, the parser accepts `text`
and returns `b` up to the representation conventions of `normConv` -/
theorem C10_grammar_tree_is_parsed {ns : Option NsMap} {text : List Char} {toks : List TokV} {b : Ast}
    (htoks : tokVsRel text toks) (hg : Parses ns toks b) (hdepth : nesting b < 200) :
    ∃ a, parse (fuelFor text) (defaultCfg ns) text = .ok a ∧ normConv a = normConv b :=
  full_complete htoks (refParseFull_complete hg) hdepth

/-! ## Second clause: optional whitespace (`Lemmas/Whitespace*`)

`LexPrefix u v` ("`(u, v)` is a token boundary of `u ++ v`"): `u` is blanks, then complete scanner items each
followed by blanks (`Lexeme`: every kind of token, with the scanner's look-ahead over blanks for `(` and `::`), or
ends in the blanks between an axis name and its `::`.  `scan_positions_are_boundaries`: on ASCII texts every position
the scanner stops at is such a boundary.  `Blank ws`: the characters `skipSpace` skips. -/
section WhitespaceClause
open XPathV.Whitespace XPathV.Bridge XPathV.Spec.Full XPathV.Lemmas.ParserFull

/-- **inserting (or, read right to left, removing) blanks at a token boundary leaves the scanner's token stream
unchanged** — both `some` of the same list, or both rejected -/
theorem C10_whitespace_token_stream {u v ws : List Char} (hb : LexPrefix u v) (hws : Blank ws) (ha : AsciiHead ws) :
    tokVs (u ++ ws ++ v) = tokVs (u ++ v) :=
  tokVs_insert_blanks hb hws ha

/-- **… and the parser returns the very same tree** (syntactic equality, every fuel, every configuration, whether
or not the text is in the XPath 1.0 grammar) -/
theorem C10_whitespace_same_tree {u v ws : List Char} (hb : LexPrefix u v) (hws : Blank ws) (ha : AsciiHead ws)
    (fuel : Nat) (cfg : PCfg) (a : Ast) :
    parse fuel cfg (u ++ ws ++ v) = .ok a ↔ parse fuel cfg (u ++ v) = .ok a :=
  parse_insert_blanks hb hws ha fuel cfg a

/-- the same with the fuel `Compile` uses for each of the two texts -/
theorem C10_whitespace_same_tree_compile {u v ws : List Char} (hb : LexPrefix u v) (hws : Blank ws)
    (ha : AsciiHead ws) (ns : Option NsMap) (a : Ast) :
    parse (fuelFor (u ++ ws ++ v)) (defaultCfg ns) (u ++ ws ++ v) = .ok a ↔
      parse (fuelFor (u ++ v)) (defaultCfg ns) (u ++ v) = .ok a :=
  parse_insert_blanks_fuelFor hb hws ha ns a

/-- for expressions of the grammar (nesting fewer than 200 deep): same token stream, one tree for both texts
(syntactically the same `Ast`), and it is the grammar's up to `normConv` -/
theorem C10_whitespace_grammar_tree {ns : Option NsMap} {u v ws : List Char} {toks : List TokV} {b : Ast}
    (hb : LexPrefix u v) (hws : Blank ws) (ha : AsciiHead ws)
    (ht : tokVs (u ++ v) = some toks) (hp : Parses ns toks b) (hd : nesting b < 200) :
    tokVs (u ++ ws ++ v) = some toks ∧
    ∃ a, parse (fuelFor (u ++ v)) (defaultCfg ns) (u ++ v) = .ok a ∧
      parse (fuelFor (u ++ ws ++ v)) (defaultCfg ns) (u ++ ws ++ v) = .ok a ∧ normConv a = normConv b := by
  have ht' : tokVs (u ++ ws ++ v) = some toks := by rw [tokVs_insert_blanks hb hws ha]; exact ht
  obtain ⟨a, p, n⟩ := full_complete_tokVs ht (refParseFull_iff.mpr hp) hd
  exact ⟨ht', a, p, (parse_insert_blanks_fuelFor hb hws ha ns a).mpr p, n⟩

/-- the boundaries are all the positions between tokens: on an ASCII text, wherever the scanner stands after any
number of items, the text splits there into a boundary (and so does every split inside the blanks that follow) -/
theorem C10_scanner_positions_are_boundaries {text : List Char} (hasc : Ascii text) {s : Scan}
    (h : Items (BuildRejects.start text) s) :
    ∃ u w, text = u ++ w ∧ (Lemmas.ScanTail.At w s ∨ Lemmas.ScanTail.At (w.dropWhile isSpace) s) ∧
      ∀ b v, w = b ++ v → Blank b → LexPrefix (u ++ b) v :=
  scan_positions_are_boundaries hasc h

end WhitespaceClause

/-! ## Third clause: each abbreviation means its expansion (`Lemmas/Abbrev*`)

`expandWith sel` writes out the abbreviations at the selected token positions of a `TokV` stream — `@` ↦ `attribute::`,
`.` ↦ `self::node()`, `..` ↦ `parent::node()`, `//` ↦ `/descendant-or-self::node()/`, a name test without axis ↦ `child::`
in front — following the §3.7 classification; `expandAbbrev` all of them, `Expands toks toks'` some of them. -/
section AbbreviationClause
open XPathV.Lemmas.Abbrev XPathV.Bridge XPathV.Spec.Full XPathV.Lemmas.ParserFull

/-- **grammar level: the written-out stream derives the same tree** (exactly the same, no representation
convention involved) -/
theorem C10_abbreviation_grammar {ns : Option NsMap} {toks toks' : List TokV} {a : Ast}
    (h : Parses ns toks a) (hx : Expands toks toks') : Parses ns toks' a :=
  Parses_of_Expands h hx

/-- every abbreviation written out: none of `@ . .. //` is left, and the tree is the same -/
theorem C10_abbreviation_all {ns : Option NsMap} {toks : List TokV} {a : Ast} (h : Parses ns toks a) :
    Parses ns (expandAbbrev toks) a ∧
    ∀ t ∈ expandAbbrev toks, t ≠ TokV.at ∧ t ≠ .dot ∧ t ≠ .dotdot ∧ t ≠ .slashslash :=
  ⟨Parses_expandAbbrev h, expandAbbrev_no_abbrev_tok toks⟩

/-- the four token abbreviations, one occurrence each, stated on the streams themselves -/
theorem C10_abbreviation_each {ns : Option NsMap} {pre post : List TokV} {a : Ast} :
    (Parses ns (pre ++ .at :: post) a → Parses ns (pre ++ [.axis "attribute"] ++ post) a) ∧
    (Parses ns (pre ++ .dot :: post) a → Parses ns (pre ++ nodeT "self" ++ post) a) ∧
    (Parses ns (pre ++ .dotdot :: post) a → Parses ns (pre ++ nodeT "parent" ++ post) a) ∧
    (Parses ns (pre ++ .slashslash :: post) a → Parses ns (pre ++ dosT ++ post) a) :=
  ⟨Parses_at, Parses_dot, Parses_dotdot, Parses_slashslash⟩

/-- **model parser: an expression and its written-out form are both accepted, with trees equal up to the
representation conventions** (`normConv`: the parser leaves `prop = ""` in the step it makes for `.`, `..`, `//` and
keeps the spelling `//` in the root node) -/
theorem C10_abbreviation_parser {ns : Option NsMap} {text text' : List Char} {toks toks' : List TokV} {b : Ast}
    (ht : tokVsRel text toks) (ht' : tokVsRel text' toks') (hx : Expands toks toks')
    (hp : Parses ns toks b) (hd : nesting b < 200) :
    ∃ a a', parse (fuelFor text) (defaultCfg ns) text = .ok a ∧
      parse (fuelFor text') (defaultCfg ns) text' = .ok a' ∧
      normConv a = normConv a' ∧ normConv a = normConv b :=
  model_expand ht ht' hx hp hd

end AbbreviationClause

end XPathV.Theorems.C10
