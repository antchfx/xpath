import XPathV.Lemmas.FlatOrder
import XPathV.Model.Api
import XPathV.Lemmas.Facts
import XPathV.Lemmas.PosSem
import XPathV.Lemmas.PosSem2
import XPathV.Lemmas.ApiSem3
/-!
# C03 — positional predicates on child steps use the XPath proximity position
-/
namespace XPathV.Theorems.C03
open XPathV XPathV.Model XPathV.Facts NumAlg

variable {F : Type} [NumAlg F]

/-- a child step numbers the matching children of **each** parent from 1: the position a filter
reads (`childQuery.posit`) restarts for every input node -/
theorem child_positions_restart (d : Doc) (cfg : ECfg) (a : AxisInfo) (inp : Plan) (c : Ref) (ins : List Item)
    (h : sel (F := F) d cfg inp c = .ok ins) :
    sel (F := F) d cfg (.child a inp) c =
      .ok (ins.flatMap (fun it => ((childrenM d it.r).filter (nodeTestM d cfg a)).zipIdx.map (fun (r, i) => ⟨r, i + 1, 0⟩))) := by
  simp [sel, h, bind, Except.bind, numbered, test]

/-- a numeric predicate keeps exactly the candidate whose position equals the (truncated) number -/
theorem numeric_predicate_is_position (x : F) (it : Item) (b : Bool) :
    predDecision (.num x) it b = (toInt x == some (it.pos : Int)) := rfl

/-- the merge rewrite evaluates the positional filter once per parent: the child plan is run with
each parent as context and the results are concatenated in parent order -/
theorem merge_is_per_parent (d : Doc) (cfg : ECfg) (inp child : Plan) (c : Ref) (ins : List Item)
    (h : sel (F := F) d cfg inp c = .ok ins) :
    sel (F := F) d cfg (.merge inp child) c =
      (ins.mapM (fun it => sel (F := F) d cfg child it.r)).map (fun parts => plain (parts.flatten.map (·.r))) := by
  simp only [sel, h, bind, Except.bind]
  cases ins.mapM (fun it => sel (F := F) d cfg child it.r) <;> rfl

/-- a parenthesised path numbers its nodes 1, 2, … over the whole sequence (`groupQuery.posit`) -/
theorem group_positions_global (d : Doc) (cfg : ECfg) (inp : Plan) (c : Ref) (ins : List Item)
    (h : sel (F := F) d cfg inp c = .ok ins) :
    sel (F := F) d cfg (.group inp) c = .ok ((ins.map (·.r)).zipIdx.map (fun (r, i) => ⟨r, i + 1, 0⟩)) := by
  simp [sel, h, bind, Except.bind, numbered]

/-! ## Positions are XPath proximity positions -/

/-- **proximity position**: in a child step over a flat input, the position counter a predicate
reads for a node is 1 + the number of earlier candidates *of the same parent* — the XPath proximity
position for the (forward) child axis, restarting for every parent -/
theorem child_pos_is_proximity {d : Doc} (wf : WF d) (cfg : ECfg) (a : AxisInfo) {p : Plan} (hp : FlatPlan p)
    (c : Ref) (l : List Item) (h : sel (F := F) d cfg (.child a p) c = .ok l)
    (A B : List Item) (x : Item) (hl : l = A ++ x :: B) :
    x.pos = 1 + (A.filter (fun y => Spec.parent? d y.r == Spec.parent? d x.r)).length :=
  XPathV.child_pos_is_proximity wf cfg a hp c l h A B x hl

/-- **`t[n]`**: a numeric literal predicate on a child step keeps exactly the n-th matching child
(in document order) of the context node, and this is what the specification's `filterPos` keeps -/
theorem nth_child {d : Doc} (wf : WF d) (cfg : ECfg) (a : AxisInfo) (lex : String) (c : Ref)
    (n : Nat) (hn1 : 1 ≤ n) (hn : toInt (Spec.strToNum lex : F) = some (n : Int))
    (hx : ∀ m, 1 ≤ m → (NumAlg.eq (Spec.strToNum lex : F) (ofNat m) = true ↔ m = n)) :
    ∃ keep, Spec.filterPos (F := F) (childCands d cfg a c) (Spec.eval d (.num lex)) = .ok keep ∧
      (sel (F := F) d cfg (.filter (.child a .context) (.constNum lex)) c).map (fun l => l.map (·.r)) = .ok keep ∧
      keep = ((childCands d cfg a c)[n - 1]?).toList :=
  XPathV.nth_child_agrees wf cfg a lex c n hn1 hn hx

open XPathV.PathSem XPathV.PredSem XPathV.PosSem in
/-- **C03 (main theorem, through the builder)**: for every input path `q` of the C02 fragment, the
step `child::a` and a positional first predicate `f` — `[n]`, `[position() op n]`,
`[position() = last()]`, `[last()]`, `[last() - n]` — the plan the builder makes of `q/child::a[f]`
(plain filter or merge rewrite) selects exactly the oracle's node set, and these are the candidates
`x` of an input node `p` whose 1-based position among the candidates of `p` satisfies the predicate.
`hag` is the only numeric hypothesis (the engine's and the oracle's number comparisons agree on
positions and sizes up to `d.length`); it holds unconditionally for `[position() op n]` and
`[position() = last()]` (`agree_posCmp`, `agree_posEqLast`) and follows from `NumOK` otherwise. -/
theorem C03_main {d : Doc} (wf : WF d) (cfg : ECfg) (hns : cfg.nsIface = true) (hinj : HashInj d cfg)
    (regexOk : RegexOk) (limit : Nat) (a : AxisInfo) (ha : a.axis = "child") (q : Ast) (hq : Frag true q)
    (f : PosForm) (hag : f.Agree F d.length) (st : BState) (o : BOut)
    (hb : build regexOk limit true false (.filter (.axis a q) f.ast) {} st = .ok o)
    (c : Ref) (hc : validRef d c = true) :
    ∃ out ns g origins g0, sel (F := F) d cfg o.q c = .ok out ∧
      Spec.eval (F := F) d (.filter (.axis a q) f.ast) ⟨c, 1, 1⟩ = .ok (.val (.nodes ns) g) ∧
      Spec.eval (F := F) d q ⟨c, 1, 1⟩ = .ok (.val (.nodes origins) g0) ∧
      (∀ x, x ∈ refs out ↔ x ∈ ns) ∧
      (∀ x, x ∈ ns ↔ ∃ p ∈ origins, ∃ k, (childCands d cfg a p)[k]? = some x ∧
        PosForm.specKeep F f (k + 1) (childCands d cfg a p).length = true) :=
  PosSem.C03_main wf cfg hns hinj regexOk limit a ha q hq f hag st o hb c hc

open XPathV.PathSem XPathV.PredSem XPathV.PosSem in
/-- `C03_main` without the `HashInj` hypothesis (it is a theorem: `hashInj_holds`; the side
condition left is "no element has two attributes with the same prefix, name and value") -/
theorem C03_main_unconditional {d : Doc} (wf : WF d) (cfg : ECfg) (hns : cfg.nsIface = true) (hattr : AttrTriplesDistinct d)
    (regexOk : RegexOk) (limit : Nat) (a : AxisInfo) (ha : a.axis = "child") (q : Ast) (hq : Frag true q)
    (f : PosForm) (hag : f.Agree F d.length) (st : BState) (o : BOut)
    (hb : build regexOk limit true false (.filter (.axis a q) f.ast) {} st = .ok o)
    (c : Ref) (hc : validRef d c = true) :
    ∃ out ns g origins g0, sel (F := F) d cfg o.q c = .ok out ∧
      Spec.eval (F := F) d (.filter (.axis a q) f.ast) ⟨c, 1, 1⟩ = .ok (.val (.nodes ns) g) ∧
      Spec.eval (F := F) d q ⟨c, 1, 1⟩ = .ok (.val (.nodes origins) g0) ∧
      (∀ x, x ∈ refs out ↔ x ∈ ns) ∧
      (∀ x, x ∈ ns ↔ ∃ p ∈ origins, ∃ k, (childCands d cfg a p)[k]? = some x ∧
        PosForm.specKeep F f (k + 1) (childCands d cfg a p).length = true) :=
  C03_main wf cfg hns (PathSem.hashInj_holds wf hattr cfg) regexOk limit a ha q hq f hag st o hb c
    hc

open XPathV.PathSem XPathV.PredSem XPathV.PosSem in
/-- **C03 on natural numbers**: under `NumOK` (the literal denotes `n`; naturals up to `d.length`
are embedded faithfully in the number algebra) the nodes returned are the candidates whose position
`k` satisfies `k = n` for `[n]`; `k op n` for `[position() op n]`; `k = size` for
`[position() = last()]` and `[last()]`; `k + n = size` for `[last() - n]` — `size` the number of
candidates of the same parent -/
theorem C03_on_naturals {d : Doc} (wf : WF d) (cfg : ECfg) (hns : cfg.nsIface = true) (hinj : HashInj d cfg)
    (regexOk : RegexOk) (limit : Nat) (a : AxisInfo) (ha : a.axis = "child") (q : Ast) (hq : Frag true q)
    (f : PosForm) (n : Nat) (hnum : f.NumOK F n d.length) (st : BState) (o : BOut)
    (hb : build regexOk limit true false (.filter (.axis a q) f.ast) {} st = .ok o)
    (c : Ref) (hc : validRef d c = true) :
    ∃ out ns g origins g0, sel (F := F) d cfg o.q c = .ok out ∧
      Spec.eval (F := F) d (.filter (.axis a q) f.ast) ⟨c, 1, 1⟩ = .ok (.val (.nodes ns) g) ∧
      Spec.eval (F := F) d q ⟨c, 1, 1⟩ = .ok (.val (.nodes origins) g0) ∧
      (∀ x, x ∈ refs out ↔ x ∈ ns) ∧
      (∀ x, x ∈ ns ↔ ∃ p ∈ origins, ∃ k, (childCands d cfg a p)[k]? = some x ∧
        f.natKeep n (k + 1) (childCands d cfg a p).length = true) := by
  obtain ⟨qi, _, _, hok⟩ := build_posStep_of (F := F) wf cfg hns regexOk limit a ha q
    (input_pathOK wf cfg hns hinj regexOk limit q hq) f (agree_of_numOK f n _ hnum) {} st o hb
  exact (hok ⟨c, 1, 1⟩ hc).mem_iff_nat n hnum

open XPathV.PathSem XPathV.PredSem XPathV.PosSem in
/-- `C03_on_naturals` without the `HashInj` hypothesis (it is a theorem: `hashInj_holds`; the side
condition left is "no element has two attributes with the same prefix, name and value") -/
theorem C03_on_naturals_unconditional {d : Doc} (wf : WF d) (cfg : ECfg) (hns : cfg.nsIface = true) (hattr : AttrTriplesDistinct d)
    (regexOk : RegexOk) (limit : Nat) (a : AxisInfo) (ha : a.axis = "child") (q : Ast) (hq : Frag true q)
    (f : PosForm) (n : Nat) (hnum : f.NumOK F n d.length) (st : BState) (o : BOut)
    (hb : build regexOk limit true false (.filter (.axis a q) f.ast) {} st = .ok o)
    (c : Ref) (hc : validRef d c = true) :
    ∃ out ns g origins g0, sel (F := F) d cfg o.q c = .ok out ∧
      Spec.eval (F := F) d (.filter (.axis a q) f.ast) ⟨c, 1, 1⟩ = .ok (.val (.nodes ns) g) ∧
      Spec.eval (F := F) d q ⟨c, 1, 1⟩ = .ok (.val (.nodes origins) g0) ∧
      (∀ x, x ∈ refs out ↔ x ∈ ns) ∧
      (∀ x, x ∈ ns ↔ ∃ p ∈ origins, ∃ k, (childCands d cfg a p)[k]? = some x ∧
        f.natKeep n (k + 1) (childCands d cfg a p).length = true) :=
  C03_on_naturals wf cfg hns (PathSem.hashInj_holds wf hattr cfg) regexOk limit a ha q hq f n hnum
    st o hb c hc

open XPathV.PathSem XPathV.PredSem XPathV.PosSem in
/-- **followed by boolean predicates** `q/child::a[f][b1]…[bk]` (`bs` lists the `bi` outermost
first): per input node, the candidates whose proximity position satisfies `f` and on which every
`bi` holds — the later filters do not look at positions; the oracle agrees -/
theorem C03_then_boolean_predicates {d : Doc} (wf : WF d) (cfg : ECfg) (hns : cfg.nsIface = true)
    (hinj : HashInj d cfg) (regexOk : RegexOk) (limit : Nat) (a : AxisInfo) (ha : a.axis = "child")
    (q : Ast) (hq : Frag true q) (f : PosForm) (hag : f.Agree F d.length) (bs : List Ast)
    (hbs : ∀ b ∈ bs, Frag false b) (st : BState) (o : BOut)
    (hb : build regexOk limit true false (stackAst (.filter (.axis a q) f.ast) bs) {} st = .ok o) :
    ∃ qi, ∀ c, validRef d c = true → PosChainOK F d cfg a f bs o.q qi q ⟨c, 1, 1⟩ := by
  obtain ⟨qi, hok⟩ := build_posChain (F := F) wf cfg hns regexOk limit a ha q
    (input_pathOK wf cfg hns hinj regexOk limit q hq) f hag bs
    (fun b hb => (build_frag (F := F) wf cfg hns hinj regexOk limit false b (hbs b hb)).2 rfl) {} st o hb
  exact ⟨qi, fun c hc => hok ⟨c, 1, 1⟩ hc⟩

open XPathV.PathSem XPathV.PredSem XPathV.PosSem in
/-- `C03_then_boolean_predicates` without the `HashInj` hypothesis (it is a theorem: `hashInj_holds`; the side
condition left is "no element has two attributes with the same prefix, name and value") -/
theorem C03_then_boolean_predicates_unconditional {d : Doc} (wf : WF d) (cfg : ECfg) (hns : cfg.nsIface = true)
    (hattr : AttrTriplesDistinct d) (regexOk : RegexOk) (limit : Nat) (a : AxisInfo) (ha : a.axis = "child")
    (q : Ast) (hq : Frag true q) (f : PosForm) (hag : f.Agree F d.length) (bs : List Ast)
    (hbs : ∀ b ∈ bs, Frag false b) (st : BState) (o : BOut)
    (hb : build regexOk limit true false (stackAst (.filter (.axis a q) f.ast) bs) {} st = .ok o) :
    ∃ qi, ∀ c, validRef d c = true → PosChainOK F d cfg a f bs o.q qi q ⟨c, 1, 1⟩ :=
  C03_then_boolean_predicates wf cfg hns (PathSem.hashInj_holds wf hattr cfg) regexOk limit a ha q
    hq f hag bs hbs st o hb

open XPathV.PathSem XPathV.PredSem XPathV.PosSem in
/-- with a flat input path (the context node, or child / attribute / self steps) the *sequence* of
the built plan is the oracle's document-ordered list -/
theorem C03_flat_input_exact {d : Doc} (wf : WF d) (cfg : ECfg) (hns : cfg.nsIface = true)
    (hinj : HashInj d cfg) (regexOk : RegexOk) (limit : Nat) (a : AxisInfo) (ha : a.axis = "child") (q : Ast)
    (hq : q = .none ∨ ArithSem.FlatPath q) (f : PosForm) (hag : f.Agree F d.length) (st : BState) (o : BOut)
    (hb : build regexOk limit true false (.filter (.axis a q) f.ast) {} st = .ok o)
    (c : Ref) (hc : validRef d c = true) :
    ∃ out ns g, sel (F := F) d cfg o.q c = .ok out ∧
      Spec.eval (F := F) d (.filter (.axis a q) f.ast) ⟨c, 1, 1⟩ = .ok (.val (.nodes ns) g) ∧
      refs out = ns := by
  obtain ⟨qi, hflat, hok⟩ :=
    build_posStep_flat (F := F) wf cfg hns hinj regexOk limit a ha q hq f hag {} st o hb
  exact (hok ⟨c, 1, 1⟩ hc).exact_of_flat wf hflat

open XPathV.PathSem XPathV.PredSem XPathV.PosSem in
/-- `C03_flat_input_exact` without the `HashInj` hypothesis (it is a theorem: `hashInj_holds`; the side
condition left is "no element has two attributes with the same prefix, name and value") -/
theorem C03_flat_input_exact_unconditional {d : Doc} (wf : WF d) (cfg : ECfg) (hns : cfg.nsIface = true)
    (hattr : AttrTriplesDistinct d) (regexOk : RegexOk) (limit : Nat) (a : AxisInfo) (ha : a.axis = "child") (q : Ast)
    (hq : q = .none ∨ ArithSem.FlatPath q) (f : PosForm) (hag : f.Agree F d.length) (st : BState) (o : BOut)
    (hb : build regexOk limit true false (.filter (.axis a q) f.ast) {} st = .ok o)
    (c : Ref) (hc : validRef d c = true) :
    ∃ out ns g, sel (F := F) d cfg o.q c = .ok out ∧
      Spec.eval (F := F) d (.filter (.axis a q) f.ast) ⟨c, 1, 1⟩ = .ok (.val (.nodes ns) g) ∧
      refs out = ns :=
  C03_flat_input_exact wf cfg hns (PathSem.hashInj_holds wf hattr cfg) regexOk limit a ha q hq f hag
    st o hb c hc

open XPathV.PathSem XPathV.PredSem XPathV.PosSem in
/-- **`(P)[n]` for a flat path `P`, through the builder**: exactly the `n`-th node of `P` in
document order, on both sides -/
theorem C03_parenthesised_nth {d : Doc} (wf : WF d) (cfg : ECfg) (hns : cfg.nsIface = true)
    (hinj : HashInj d cfg) (regexOk : RegexOk) (limit : Nat) (sdf : Bool) (pa : Ast)
    (hp : ArithSem.FlatPath pa) (lex : String) (n N : Nat) (hn : 1 ≤ n) (hlit : LitIsNat F lex n N)
    (st : BState) (o : BOut)
    (hb : build regexOk limit true sdf (.filter (.group pa) (.num lex)) {} st = .ok o)
    (c : Ref) (hc : validRef d c = true) :
    ∃ out ns g, sel (F := F) d cfg o.q c = .ok out ∧
      Spec.eval (F := F) d pa ⟨c, 1, 1⟩ = .ok (.val (.nodes ns) g) ∧
      (ns.length ≤ N →
        refs out = (ns[n - 1]?).toList ∧
        Spec.eval (F := F) d (.filter (.group pa) (.num lex)) ⟨c, 1, 1⟩ =
          .ok (.val (.nodes (ns[n - 1]?).toList) none)) := by
  obtain ⟨st', o1, ho1, hq⟩ := build_group_lit_inv regexOk limit true sdf pa lex {} st o hb
  obtain ⟨ins, ns, g, hsel, hev, hm⟩ :=
    C01_main (F := F) wf cfg hns hinj regexOk limit sdf pa hp.pathPF st' o1 ho1 c hc
  have hflat := ArithSem.build_flat regexOk limit true sdf hp _ _ _ ho1
  have hdo : ∃ l, ns = Spec.docOrder d l := by
    cases hp with
    | step a _ => exact ArithSem.eval_axis_inv d a _ _ ns g hev
    | cons a inp _ _ => exact ArithSem.eval_axis_inv d a _ _ ns g hev
  obtain ⟨out, hout, _⟩ := sel_group_lit (F := F) d cfg o1.q lex c ins hsel
  refine ⟨out, ns, g, by rw [hq]; exact hout, hev, fun hN => ?_⟩
  obtain ⟨_, out', hout', hrefs, hev'⟩ := group_lit_core (F := F) d cfg o1.q pa lex ⟨c, 1, 1⟩ ins ns g
    hsel (flat_sorted wf cfg c hflat ins hsel) hev hdo hm N hN
    (agree_of_numOK (.lit lex) n N hlit)
  rw [hout] at hout'; cases hout'
  rw [keepIdx_lit_nat lex n N hn hlit ns hN] at hrefs hev'
  exact ⟨hrefs, hev'⟩

open XPathV.PathSem XPathV.PredSem XPathV.PosSem in
/-- `C03_parenthesised_nth` without the `HashInj` hypothesis (it is a theorem: `hashInj_holds`; the side
condition left is "no element has two attributes with the same prefix, name and value") -/
theorem C03_parenthesised_nth_unconditional {d : Doc} (wf : WF d) (cfg : ECfg) (hns : cfg.nsIface = true)
    (hattr : AttrTriplesDistinct d) (regexOk : RegexOk) (limit : Nat) (sdf : Bool) (pa : Ast)
    (hp : ArithSem.FlatPath pa) (lex : String) (n N : Nat) (hn : 1 ≤ n) (hlit : LitIsNat F lex n N)
    (st : BState) (o : BOut)
    (hb : build regexOk limit true sdf (.filter (.group pa) (.num lex)) {} st = .ok o)
    (c : Ref) (hc : validRef d c = true) :
    ∃ out ns g, sel (F := F) d cfg o.q c = .ok out ∧
      Spec.eval (F := F) d pa ⟨c, 1, 1⟩ = .ok (.val (.nodes ns) g) ∧
      (ns.length ≤ N →
        refs out = (ns[n - 1]?).toList ∧
        Spec.eval (F := F) d (.filter (.group pa) (.num lex)) ⟨c, 1, 1⟩ =
          .ok (.val (.nodes (ns[n - 1]?).toList) none)) :=
  C03_parenthesised_nth wf cfg hns (PathSem.hashInj_holds wf hattr cfg) regexOk limit sdf pa hp lex
    n N hn hlit st o hb c hc

open XPathV.PathSem XPathV.PredSem XPathV.PosSem in
/-- **C03, `position()` / `last()` after other location steps** (the builder's `predInput`):
for every input path `q` of the C02 fragment, the step `child::a` and a first predicate `cond` of
the fragment `PosCond` — comparisons among `position()`, `last()`, number literals and paths of the
C02 fragment (`position() op n`, `position() = last()`, `. = last()`, `@k <= position()`), boolean
predicates of the C02 fragment, combined with `and` / `or` / `not(…)` in any order
(`[b and position() op n]`, `[position() op n and b]`, `[@k or position() = n]`,
`[not(c) and . = last()]`) — the plan the builder makes of `q/child::a[cond]` (plain filter or merge
rewrite) selects exactly the oracle's node set, and these are the candidates `x` of an input node
`p` on which the oracle's reading of `cond` at `x`, with the 1-based position of `x` among the
candidates of `p` and the number of those candidates as context position and size, is true.
`position()` and `last()` count in the filtered step `a` wherever they stand in `cond`
(`C03_position_fi_is_filtered_step`).
No numeric hypothesis: every condition of the fragment is boolean-valued, and both sides compute the
same comparisons. -/
theorem C03_position_after_steps {d : Doc} (wf : WF d) (cfg : ECfg) (hns : cfg.nsIface = true)
    (hinj : HashInj d cfg) (regexOk : RegexOk) (limit : Nat) (a : AxisInfo) (ha : a.axis = "child")
    (q : Ast) (hq : Frag true q) (cond : Ast) (hcond : PosCond cond) (st : BState) (o : BOut)
    (hb : build regexOk limit true false (.filter (.axis a q) cond) {} st = .ok o)
    (c : Ref) (hc : validRef d c = true) :
    ∃ out ns g origins g0, sel (F := F) d cfg o.q c = .ok out ∧
      Spec.eval (F := F) d (.filter (.axis a q) cond) ⟨c, 1, 1⟩ = .ok (.val (.nodes ns) g) ∧
      Spec.eval (F := F) d q ⟨c, 1, 1⟩ = .ok (.val (.nodes origins) g0) ∧
      (∀ x, x ∈ refs out ↔ x ∈ ns) ∧
      (∀ x, x ∈ ns ↔ ∃ p ∈ origins, ∃ k, (childCands d cfg a p)[k]? = some x ∧
        condTruth F d cond x (k + 1) (childCands d cfg a p).length = true) := by
  obtain ⟨qi, _, _, hok⟩ := PosSem3.build_condStep3 (F := F) wf cfg hns hinj regexOk limit a ha q
    (input_pathOK wf cfg hns hinj regexOk limit q hq) cond (PosSem3.posCond2_of_posCond _ hcond) {} st o hb
  exact (hok ⟨c, 1, 1⟩ hc).mem_iff

open XPathV.PathSem XPathV.PredSem XPathV.PosSem in
/-- `C03_position_after_steps` without the `HashInj` hypothesis (`hashInj_holds`) -/
theorem C03_position_after_steps_unconditional {d : Doc} (wf : WF d) (cfg : ECfg)
    (hns : cfg.nsIface = true) (hattr : AttrTriplesDistinct d) (regexOk : RegexOk) (limit : Nat)
    (a : AxisInfo) (ha : a.axis = "child") (q : Ast) (hq : Frag true q) (cond : Ast)
    (hcond : PosCond cond) (st : BState) (o : BOut)
    (hb : build regexOk limit true false (.filter (.axis a q) cond) {} st = .ok o)
    (c : Ref) (hc : validRef d c = true) :
    ∃ out ns g origins g0, sel (F := F) d cfg o.q c = .ok out ∧
      Spec.eval (F := F) d (.filter (.axis a q) cond) ⟨c, 1, 1⟩ = .ok (.val (.nodes ns) g) ∧
      Spec.eval (F := F) d q ⟨c, 1, 1⟩ = .ok (.val (.nodes origins) g0) ∧
      (∀ x, x ∈ refs out ↔ x ∈ ns) ∧
      (∀ x, x ∈ ns ↔ ∃ p ∈ origins, ∃ k, (childCands d cfg a p)[k]? = some x ∧
        condTruth F d cond x (k + 1) (childCands d cfg a p).length = true) :=
  C03_position_after_steps wf cfg hns (PathSem.hashInj_holds wf hattr cfg) regexOk limit a ha q hq
    cond hcond st o hb c hc

open XPathV.PathSem XPathV.PredSem XPathV.PosSem in
/-- **`[b and position() op n]` / `[position() op n and b]` / `[b or position() op n]` /
`[position() op n or b]`** (`s : MixShape`), `b` a boolean predicate of the C02 fragment: the built
plan selects exactly the oracle's node set — the candidates `x` of an input node `p` such that `b`
holds at `x` and (resp. or) the 1-based position of `x` among the candidates of `p` stands in the
relation `op` to the literal -/
theorem C03_bool_with_position {d : Doc} (wf : WF d) (cfg : ECfg) (hns : cfg.nsIface = true)
    (hinj : HashInj d cfg) (regexOk : RegexOk) (limit : Nat) (a : AxisInfo) (ha : a.axis = "child")
    (q : Ast) (hq : Frag true q) (s : MixShape) (b : Ast) (hbf : Frag false b) (cop : Spec.CmpOp)
    (pfx lex : String) (st : BState) (o : BOut)
    (hb : build regexOk limit true false
      (.filter (.axis a q) (s.ast b (PosForm.posCmp cop pfx lex).ast)) {} st = .ok o)
    (c : Ref) (hc : validRef d c = true) :
    ∃ out ns g origins g0, sel (F := F) d cfg o.q c = .ok out ∧
      Spec.eval (F := F) d (.filter (.axis a q) (s.ast b (PosForm.posCmp cop pfx lex).ast)) ⟨c, 1, 1⟩ =
        .ok (.val (.nodes ns) g) ∧
      Spec.eval (F := F) d q ⟨c, 1, 1⟩ = .ok (.val (.nodes origins) g0) ∧
      (∀ x, x ∈ refs out ↔ x ∈ ns) ∧
      (∀ x, x ∈ ns ↔ ∃ p ∈ origins, ∃ k, (childCands d cfg a p)[k]? = some x ∧
        s.comb (holds (F := F) d b x)
          (Spec.cmpNum cop (ofNat (k + 1) : F) (Spec.strToNum lex)) = true) :=
  PosSem.C03_bool_with_position wf cfg hns hinj regexOk limit a ha q hq s b hbf cop pfx lex st o hb c hc

open XPathV.PosSem in
/-- **builder level**: in the plan of `X[cond]`, every `position()` / `last()` call of the condition
that is not inside a nested filter's own condition (`posBound`) has as `firstInput` the step
recorded when `X` was built — at any depth, after any number of location steps; for an axis step `X`
that is the plan of `X` itself.  Covers every condition, e.g. `a[count(b) = position()]` -/
theorem C03_position_fi_is_filtered_step (regexOk : RegexOk) (limit : Nat) (snt sdf : Bool)
    (inp cond : Ast) (fl : Flags) (st : BState) (o : BOut)
    (h : build regexOk limit snt sdf (.filter inp cond) fl st = .ok o) :
    ∃ st1 io co,
      build regexOk limit snt sdf inp { fl with filter := true, smartDesc := fl.smartDesc && sdf } st1 = .ok io ∧
      build regexOk limit snt sdf cond fl ⟨io.st.depth, io.st.firstInput, io.st.firstInput⟩ = .ok co ∧
      (∀ step, io.st.firstInput = some step → posBound step co.q = true) ∧
      (∀ a q, inp = .axis a q → posBound io.q co.q = true) :=
  build_position_fi_is_filtered_step regexOk limit snt sdf inp cond fl st o h

open XPathV.PosSem in
/-- `build` hands the builder's `predInput` back unchanged, and whatever is built while it is
`some t` counts `position()` / `last()` in `t` -/
theorem C03_predInput_threaded (regexOk : RegexOk) (limit : Nat) (snt sdf : Bool) (ast : Ast)
    (fl : Flags) (st : BState) (o : BOut) (h : build regexOk limit snt sdf ast fl st = .ok o) :
    o.st.predInput = st.predInput ∧ ∀ t, st.predInput = some t → posBound t o.q = true :=
  ⟨build_predInput regexOk limit snt sdf ast fl st o h,
   fun t ht => build_posBound regexOk limit snt sdf ast fl st o t ht h⟩

open XPathV.PosSem in
/-- `position()` and `last()` as the engine computes them on a child step are the proximity
position and the context size -/
theorem C03_position_last {d : Doc} (wf : WF d) (cfg : ECfg) (a : AxisInfo) (fi : Plan)
    (hfi : planTest d cfg fi = nodeTestM d cfg a) (p x : Ref) (k : Nat)
    (h : (childCands d cfg a p)[k]? = some x) :
    positionM d cfg fi x = k + 1 ∧
    positionM d cfg fi x = 1 + (((childCands d cfg a p).take k).length) ∧
    lastM d cfg fi x = (childCands d cfg a p).length :=
  position_is_proximity wf cfg a fi hfi p x k h

open XPathV.PosSem in
/-- the numeric side conditions are satisfiable: an exact-integer number algebra meets them for
every form with the literal `2` and every bound -/
theorem C03_side_conditions_satisfiable (f : PosForm) (hf : ∀ lex, (f = .lit lex ∨ (∃ cop pfx, f = .posCmp cop pfx lex) ∨
    ∃ pfx, f = .lastMinus pfx lex) → lex = "2") (N : Nat) : @PosForm.NumOK Int toyAlg f 2 N :=
  @toy_numOK f hf N

end XPathV.Theorems.C03

/-! ## The same on the extended C02 fragment `Frag2`

Input paths and following boolean predicates of `PredSem2.Frag2`: count / contains / starts-with /
local-name predicates, `(P)[b]`, path-vs-path and path-vs-string comparisons with the six operators
(`build_posStep2` in `Lemmas/PosSem2.lean`).  `Frag k e → Frag2 k e` (`PredSem2.frag2_of_frag`), so these
statements contain the ones above. -/
namespace XPathV.Theorems.C03
open XPathV XPathV.Model XPathV.Facts NumAlg

variable {F : Type} [NumAlg F]

open XPathV.PathSem XPathV.PredSem XPathV.PredSem2 XPathV.PosSem in
/-- **C03 (main theorem, through the builder) on the whole C02 fragment `Frag2`**: `C03_main` with
the input path `q` in `Frag2 true` — e.g. `a[b < c]/x[2]`, `(r)[y = z]/x[last()]`,
`a[count(b) = 2]/x[position() < 3]`, `a[contains(b, 'k')]/x[last() - 1]` -/
theorem C03_main_full {d : Doc} (wf : WF d) (cfg : ECfg) (hns : cfg.nsIface = true) (hinj : HashInj d cfg)
    (regexOk : RegexOk) (limit : Nat) (a : AxisInfo) (ha : a.axis = "child") (q : Ast) (hq : Frag2 true q)
    (f : PosForm) (hag : f.Agree F d.length) (st : BState) (o : BOut)
    (hb : build regexOk limit true false (.filter (.axis a q) f.ast) {} st = .ok o)
    (c : Ref) (hc : validRef d c = true) :
    ∃ out ns g origins g0, sel (F := F) d cfg o.q c = .ok out ∧
      Spec.eval (F := F) d (.filter (.axis a q) f.ast) ⟨c, 1, 1⟩ = .ok (.val (.nodes ns) g) ∧
      Spec.eval (F := F) d q ⟨c, 1, 1⟩ = .ok (.val (.nodes origins) g0) ∧
      (∀ x, x ∈ refs out ↔ x ∈ ns) ∧
      (∀ x, x ∈ ns ↔ ∃ p ∈ origins, ∃ k, (childCands d cfg a p)[k]? = some x ∧
        PosForm.specKeep F f (k + 1) (childCands d cfg a p).length = true) :=
  PosSem2.C03_main2 wf cfg hns hinj regexOk limit a ha q hq f hag st o hb c hc

open XPathV.PathSem XPathV.PredSem XPathV.PredSem2 XPathV.PosSem in
/-- `C03_main_full` without the `HashInj` hypothesis (`hashInj_holds`; the side condition left is
"no element has two attributes with the same prefix, name and value") -/
theorem C03_main_full_unconditional {d : Doc} (wf : WF d) (cfg : ECfg) (hns : cfg.nsIface = true)
    (hattr : AttrTriplesDistinct d)
    (regexOk : RegexOk) (limit : Nat) (a : AxisInfo) (ha : a.axis = "child") (q : Ast) (hq : Frag2 true q)
    (f : PosForm) (hag : f.Agree F d.length) (st : BState) (o : BOut)
    (hb : build regexOk limit true false (.filter (.axis a q) f.ast) {} st = .ok o)
    (c : Ref) (hc : validRef d c = true) :
    ∃ out ns g origins g0, sel (F := F) d cfg o.q c = .ok out ∧
      Spec.eval (F := F) d (.filter (.axis a q) f.ast) ⟨c, 1, 1⟩ = .ok (.val (.nodes ns) g) ∧
      Spec.eval (F := F) d q ⟨c, 1, 1⟩ = .ok (.val (.nodes origins) g0) ∧
      (∀ x, x ∈ refs out ↔ x ∈ ns) ∧
      (∀ x, x ∈ ns ↔ ∃ p ∈ origins, ∃ k, (childCands d cfg a p)[k]? = some x ∧
        PosForm.specKeep F f (k + 1) (childCands d cfg a p).length = true) :=
  C03_main_full wf cfg hns (PathSem.hashInj_holds wf hattr cfg) regexOk limit a ha q hq f hag st o hb
    c hc

open XPathV.PathSem XPathV.PredSem XPathV.PredSem2 XPathV.PosSem in
/-- **C03 on natural numbers on `Frag2`**: `C03_on_naturals` with the input path in `Frag2 true` -/
theorem C03_on_naturals_full {d : Doc} (wf : WF d) (cfg : ECfg) (hns : cfg.nsIface = true) (hinj : HashInj d cfg)
    (regexOk : RegexOk) (limit : Nat) (a : AxisInfo) (ha : a.axis = "child") (q : Ast) (hq : Frag2 true q)
    (f : PosForm) (n : Nat) (hnum : f.NumOK F n d.length) (st : BState) (o : BOut)
    (hb : build regexOk limit true false (.filter (.axis a q) f.ast) {} st = .ok o)
    (c : Ref) (hc : validRef d c = true) :
    ∃ out ns g origins g0, sel (F := F) d cfg o.q c = .ok out ∧
      Spec.eval (F := F) d (.filter (.axis a q) f.ast) ⟨c, 1, 1⟩ = .ok (.val (.nodes ns) g) ∧
      Spec.eval (F := F) d q ⟨c, 1, 1⟩ = .ok (.val (.nodes origins) g0) ∧
      (∀ x, x ∈ refs out ↔ x ∈ ns) ∧
      (∀ x, x ∈ ns ↔ ∃ p ∈ origins, ∃ k, (childCands d cfg a p)[k]? = some x ∧
        f.natKeep n (k + 1) (childCands d cfg a p).length = true) := by
  obtain ⟨qi, _, _, hok⟩ := PosSem2.build_posStep2 (F := F) wf cfg hns hinj regexOk limit a ha q hq f
    (agree_of_numOK f n _ hnum) {} st o hb
  exact (hok ⟨c, 1, 1⟩ hc).mem_iff_nat n hnum

open XPathV.PathSem XPathV.PredSem XPathV.PredSem2 XPathV.PosSem in
/-- `C03_on_naturals_full` without the `HashInj` hypothesis (`hashInj_holds`) -/
theorem C03_on_naturals_full_unconditional {d : Doc} (wf : WF d) (cfg : ECfg) (hns : cfg.nsIface = true)
    (hattr : AttrTriplesDistinct d)
    (regexOk : RegexOk) (limit : Nat) (a : AxisInfo) (ha : a.axis = "child") (q : Ast) (hq : Frag2 true q)
    (f : PosForm) (n : Nat) (hnum : f.NumOK F n d.length) (st : BState) (o : BOut)
    (hb : build regexOk limit true false (.filter (.axis a q) f.ast) {} st = .ok o)
    (c : Ref) (hc : validRef d c = true) :
    ∃ out ns g origins g0, sel (F := F) d cfg o.q c = .ok out ∧
      Spec.eval (F := F) d (.filter (.axis a q) f.ast) ⟨c, 1, 1⟩ = .ok (.val (.nodes ns) g) ∧
      Spec.eval (F := F) d q ⟨c, 1, 1⟩ = .ok (.val (.nodes origins) g0) ∧
      (∀ x, x ∈ refs out ↔ x ∈ ns) ∧
      (∀ x, x ∈ ns ↔ ∃ p ∈ origins, ∃ k, (childCands d cfg a p)[k]? = some x ∧
        f.natKeep n (k + 1) (childCands d cfg a p).length = true) :=
  C03_on_naturals_full wf cfg hns (PathSem.hashInj_holds wf hattr cfg) regexOk limit a ha q hq f n
    hnum st o hb c hc

open XPathV.PathSem XPathV.PredSem XPathV.PredSem2 XPathV.PosSem in
/-- **followed by boolean predicates, on `Frag2`**: `q/child::a[f][b1]…[bk]` with `q` in
`Frag2 true` and every `bi` in `Frag2 false` — e.g. `a[2][b < c]`, `a[last()][count(b) = 1]`,
`a[position() < 3][contains(b, 'k')]`: per input node, the candidates whose proximity position
satisfies `f` and on which every `bi` holds; the oracle agrees -/
theorem C03_then_boolean_predicates_full {d : Doc} (wf : WF d) (cfg : ECfg) (hns : cfg.nsIface = true)
    (hinj : HashInj d cfg) (regexOk : RegexOk) (limit : Nat) (a : AxisInfo) (ha : a.axis = "child")
    (q : Ast) (hq : Frag2 true q) (f : PosForm) (hag : f.Agree F d.length) (bs : List Ast)
    (hbs : ∀ b ∈ bs, Frag2 false b) (st : BState) (o : BOut)
    (hb : build regexOk limit true false (stackAst (.filter (.axis a q) f.ast) bs) {} st = .ok o) :
    ∃ qi, ∀ c, validRef d c = true → PosChainOK F d cfg a f bs o.q qi q ⟨c, 1, 1⟩ :=
  PosSem2.C03_chain2 wf cfg hns hinj regexOk limit a ha q hq f hag bs hbs st o hb

open XPathV.PathSem XPathV.PredSem XPathV.PredSem2 XPathV.PosSem in
/-- `C03_then_boolean_predicates_full` without the `HashInj` hypothesis (`hashInj_holds`) -/
theorem C03_then_boolean_predicates_full_unconditional {d : Doc} (wf : WF d) (cfg : ECfg)
    (hns : cfg.nsIface = true) (hattr : AttrTriplesDistinct d) (regexOk : RegexOk) (limit : Nat)
    (a : AxisInfo) (ha : a.axis = "child")
    (q : Ast) (hq : Frag2 true q) (f : PosForm) (hag : f.Agree F d.length) (bs : List Ast)
    (hbs : ∀ b ∈ bs, Frag2 false b) (st : BState) (o : BOut)
    (hb : build regexOk limit true false (stackAst (.filter (.axis a q) f.ast) bs) {} st = .ok o) :
    ∃ qi, ∀ c, validRef d c = true → PosChainOK F d cfg a f bs o.q qi q ⟨c, 1, 1⟩ :=
  C03_then_boolean_predicates_full wf cfg hns (PathSem.hashInj_holds wf hattr cfg) regexOk limit a ha
    q hq f hag bs hbs st o hb

open XPathV.PathSem XPathV.PredSem XPathV.PredSem2 XPathV.PosSem in
/-- **`C03_position_after_steps` with the input path in `Frag2`** (the condition stays in `PosCond`:
its boolean parts and compared paths are those of the smaller fragment `Frag`) -/
theorem C03_position_after_steps_full {d : Doc} (wf : WF d) (cfg : ECfg) (hns : cfg.nsIface = true)
    (hinj : HashInj d cfg) (regexOk : RegexOk) (limit : Nat) (a : AxisInfo) (ha : a.axis = "child")
    (q : Ast) (hq : Frag2 true q) (cond : Ast) (hcond : PosCond cond) (st : BState) (o : BOut)
    (hb : build regexOk limit true false (.filter (.axis a q) cond) {} st = .ok o)
    (c : Ref) (hc : validRef d c = true) :
    ∃ out ns g origins g0, sel (F := F) d cfg o.q c = .ok out ∧
      Spec.eval (F := F) d (.filter (.axis a q) cond) ⟨c, 1, 1⟩ = .ok (.val (.nodes ns) g) ∧
      Spec.eval (F := F) d q ⟨c, 1, 1⟩ = .ok (.val (.nodes origins) g0) ∧
      (∀ x, x ∈ refs out ↔ x ∈ ns) ∧
      (∀ x, x ∈ ns ↔ ∃ p ∈ origins, ∃ k, (childCands d cfg a p)[k]? = some x ∧
        condTruth F d cond x (k + 1) (childCands d cfg a p).length = true) := by
  obtain ⟨qi, _, _, hok⟩ := PosSem3.build_condStep3 (F := F) wf cfg hns hinj regexOk limit a ha q
    (input_pathOK2 wf cfg hns hinj regexOk limit q hq) cond
    (PosSem3.posCond2_of_posCond _ hcond) {} st o hb
  exact (hok ⟨c, 1, 1⟩ hc).mem_iff

open XPathV.PathSem XPathV.PredSem XPathV.PredSem2 XPathV.PosSem in
/-- `C03_position_after_steps_full` without the `HashInj` hypothesis (`hashInj_holds`) -/
theorem C03_position_after_steps_full_unconditional {d : Doc} (wf : WF d) (cfg : ECfg)
    (hns : cfg.nsIface = true) (hattr : AttrTriplesDistinct d) (regexOk : RegexOk) (limit : Nat)
    (a : AxisInfo) (ha : a.axis = "child") (q : Ast) (hq : Frag2 true q) (cond : Ast)
    (hcond : PosCond cond) (st : BState) (o : BOut)
    (hb : build regexOk limit true false (.filter (.axis a q) cond) {} st = .ok o)
    (c : Ref) (hc : validRef d c = true) :
    ∃ out ns g origins g0, sel (F := F) d cfg o.q c = .ok out ∧
      Spec.eval (F := F) d (.filter (.axis a q) cond) ⟨c, 1, 1⟩ = .ok (.val (.nodes ns) g) ∧
      Spec.eval (F := F) d q ⟨c, 1, 1⟩ = .ok (.val (.nodes origins) g0) ∧
      (∀ x, x ∈ refs out ↔ x ∈ ns) ∧
      (∀ x, x ∈ ns ↔ ∃ p ∈ origins, ∃ k, (childCands d cfg a p)[k]? = some x ∧
        condTruth F d cond x (k + 1) (childCands d cfg a p).length = true) :=
  C03_position_after_steps_full wf cfg hns (PathSem.hashInj_holds wf hattr cfg) regexOk limit a ha q
    hq cond hcond st o hb c hc

end XPathV.Theorems.C03

/-! ## `position()` / `last()` anywhere in the first predicate, everything on `Frag2`

`PosSem3.PosCond2` has the constructors of `PosSem.PosCond` with the embedded boolean predicates in
`PredSem2.Frag2 false` and the paths compared with `position()` / `last()` / a literal in
`Frag2 true` (`PosSem3.posCond2_of_posCond : PosCond c → PosCond2 c`), e.g.
`[@x < @y and position() = 2]`, `[count(b) = 1 or position() = last()]`,
`[not(contains(c, 'k')) and (b)[d = e] >= position()]` (`build_condStep3` in `Lemmas/PosSem/CondBuild.lean`). -/
namespace XPathV.Theorems.C03
open XPathV XPathV.Model XPathV.Facts NumAlg

variable {F : Type} [NumAlg F]

open XPathV.PathSem XPathV.PredSem XPathV.PredSem2 XPathV.PosSem XPathV.PosSem3 in
/-- **`C03_position_after_steps` on the whole C02 fragment**: input path `q` in `Frag2 true`,
condition in `PosCond2` (boolean combinations — `and` / `or` / `not` — of predicates of
`Frag2 false` and of comparisons among `position()`, `last()`, number literals and paths of
`Frag2 true`).  The plan the builder produces for `q/child::a[cond]` selects exactly the oracle's
node set: the candidates `x` of an input node `p` on which the oracle's reading of `cond` — at `x`,
with the 1-based position of `x` among the candidates of `p` and their number — is true -/
theorem C03_position_after_steps_all_full {d : Doc} (wf : WF d) (cfg : ECfg) (hns : cfg.nsIface = true)
    (hinj : HashInj d cfg) (regexOk : RegexOk) (limit : Nat) (a : AxisInfo) (ha : a.axis = "child")
    (q : Ast) (hq : Frag2 true q) (cond : Ast) (hcond : PosCond2 cond) (st : BState) (o : BOut)
    (hb : build regexOk limit true false (.filter (.axis a q) cond) {} st = .ok o)
    (c : Ref) (hc : validRef d c = true) :
    ∃ out ns g origins g0, sel (F := F) d cfg o.q c = .ok out ∧
      Spec.eval (F := F) d (.filter (.axis a q) cond) ⟨c, 1, 1⟩ = .ok (.val (.nodes ns) g) ∧
      Spec.eval (F := F) d q ⟨c, 1, 1⟩ = .ok (.val (.nodes origins) g0) ∧
      (∀ x, x ∈ refs out ↔ x ∈ ns) ∧
      (∀ x, x ∈ ns ↔ ∃ p ∈ origins, ∃ k, (childCands d cfg a p)[k]? = some x ∧
        condTruth F d cond x (k + 1) (childCands d cfg a p).length = true) := by
  obtain ⟨qi, _, _, hok⟩ := build_condStep3 (F := F) wf cfg hns hinj regexOk limit a ha q
    (input_pathOK2 wf cfg hns hinj regexOk limit q hq) cond hcond {} st o hb
  exact (hok ⟨c, 1, 1⟩ hc).mem_iff

open XPathV.PathSem XPathV.PredSem XPathV.PredSem2 XPathV.PosSem XPathV.PosSem3 in
/-- `C03_position_after_steps_all_full` without the `HashInj` hypothesis (`hashInj_holds`) -/
theorem C03_position_after_steps_all_full_unconditional {d : Doc} (wf : WF d) (cfg : ECfg)
    (hns : cfg.nsIface = true) (hattr : AttrTriplesDistinct d) (regexOk : RegexOk) (limit : Nat)
    (a : AxisInfo) (ha : a.axis = "child") (q : Ast) (hq : Frag2 true q) (cond : Ast)
    (hcond : PosCond2 cond) (st : BState) (o : BOut)
    (hb : build regexOk limit true false (.filter (.axis a q) cond) {} st = .ok o)
    (c : Ref) (hc : validRef d c = true) :
    ∃ out ns g origins g0, sel (F := F) d cfg o.q c = .ok out ∧
      Spec.eval (F := F) d (.filter (.axis a q) cond) ⟨c, 1, 1⟩ = .ok (.val (.nodes ns) g) ∧
      Spec.eval (F := F) d q ⟨c, 1, 1⟩ = .ok (.val (.nodes origins) g0) ∧
      (∀ x, x ∈ refs out ↔ x ∈ ns) ∧
      (∀ x, x ∈ ns ↔ ∃ p ∈ origins, ∃ k, (childCands d cfg a p)[k]? = some x ∧
        condTruth F d cond x (k + 1) (childCands d cfg a p).length = true) :=
  C03_position_after_steps_all_full wf cfg hns (PathSem.hashInj_holds wf hattr cfg) regexOk limit a ha
    q hq cond hcond st o hb c hc

open XPathV.PathSem XPathV.PredSem XPathV.PredSem2 XPathV.PosSem XPathV.PosSem3 in
/-- **`C03_bool_with_position` on the whole C02 fragment**: `[b and position() op n]` /
`[position() op n and b]` / `[b or position() op n]` / `[position() op n or b]` (`s : MixShape`)
with the input path `q` in `Frag2 true` and `b` any boolean predicate of `Frag2 false` — e.g.
`/r/*[@x < @y and position() = 2]`, `a[count(b) = 1 or position() < 3]`: the built plan selects
exactly the oracle's node set — the candidates `x` of an input node `p` such that `b` holds at `x`
and (resp. or) the 1-based position of `x` among the candidates of `p` stands in the relation `op`
to the literal -/
theorem C03_bool_with_position_full {d : Doc} (wf : WF d) (cfg : ECfg) (hns : cfg.nsIface = true)
    (hinj : HashInj d cfg) (regexOk : RegexOk) (limit : Nat) (a : AxisInfo) (ha : a.axis = "child")
    (q : Ast) (hq : Frag2 true q) (s : MixShape) (b : Ast) (hbf : Frag2 false b) (cop : Spec.CmpOp)
    (pfx lex : String) (st : BState) (o : BOut)
    (hb : build regexOk limit true false
      (.filter (.axis a q) (s.ast b (PosForm.posCmp cop pfx lex).ast)) {} st = .ok o)
    (c : Ref) (hc : validRef d c = true) :
    ∃ out ns g origins g0, sel (F := F) d cfg o.q c = .ok out ∧
      Spec.eval (F := F) d (.filter (.axis a q) (s.ast b (PosForm.posCmp cop pfx lex).ast)) ⟨c, 1, 1⟩ =
        .ok (.val (.nodes ns) g) ∧
      Spec.eval (F := F) d q ⟨c, 1, 1⟩ = .ok (.val (.nodes origins) g0) ∧
      (∀ x, x ∈ refs out ↔ x ∈ ns) ∧
      (∀ x, x ∈ ns ↔ ∃ p ∈ origins, ∃ k, (childCands d cfg a p)[k]? = some x ∧
        s.comb (holds (F := F) d b x)
          (Spec.cmpNum cop (ofNat (k + 1) : F) (Spec.strToNum lex)) = true) := by
  obtain ⟨qi, _, _, hok⟩ := build_condStep3 (F := F) wf cfg hns hinj regexOk limit a ha q
    (input_pathOK2 wf cfg hns hinj regexOk limit q hq) _
    (posCond2_mix s b _ hbf (posCond2_posCmp cop pfx lex)) {} st o hb
  exact (hok ⟨c, 1, 1⟩ hc).mem_iff_mix cfg (predPlan2 b) fun x hx pos size =>
    (frag_sem2 (F := F) wf cfg hns hinj false b hbf ⟨x, pos, size⟩ hx).2 rfl

open XPathV.PathSem XPathV.PredSem XPathV.PredSem2 XPathV.PosSem XPathV.PosSem3 in
/-- `C03_bool_with_position_full` without the `HashInj` hypothesis (`hashInj_holds`) -/
theorem C03_bool_with_position_full_unconditional {d : Doc} (wf : WF d) (cfg : ECfg)
    (hns : cfg.nsIface = true) (hattr : AttrTriplesDistinct d) (regexOk : RegexOk) (limit : Nat)
    (a : AxisInfo) (ha : a.axis = "child")
    (q : Ast) (hq : Frag2 true q) (s : MixShape) (b : Ast) (hbf : Frag2 false b) (cop : Spec.CmpOp)
    (pfx lex : String) (st : BState) (o : BOut)
    (hb : build regexOk limit true false
      (.filter (.axis a q) (s.ast b (PosForm.posCmp cop pfx lex).ast)) {} st = .ok o)
    (c : Ref) (hc : validRef d c = true) :
    ∃ out ns g origins g0, sel (F := F) d cfg o.q c = .ok out ∧
      Spec.eval (F := F) d (.filter (.axis a q) (s.ast b (PosForm.posCmp cop pfx lex).ast)) ⟨c, 1, 1⟩ =
        .ok (.val (.nodes ns) g) ∧
      Spec.eval (F := F) d q ⟨c, 1, 1⟩ = .ok (.val (.nodes origins) g0) ∧
      (∀ x, x ∈ refs out ↔ x ∈ ns) ∧
      (∀ x, x ∈ ns ↔ ∃ p ∈ origins, ∃ k, (childCands d cfg a p)[k]? = some x ∧
        s.comb (holds (F := F) d b x)
          (Spec.cmpNum cop (ofNat (k + 1) : F) (Spec.strToNum lex)) = true) :=
  C03_bool_with_position_full wf cfg hns (PathSem.hashInj_holds wf hattr cfg) regexOk limit a ha q hq
    s b hbf cop pfx lex st o hb c hc

open XPathV.PosSem XPathV.PosSem3 in
/-- the conditions of `C03_position_after_steps` are among those of
`C03_position_after_steps_all_full` -/
theorem C03_posCond_subset (c : Ast) (h : PosCond c) : PosCond2 c := posCond2_of_posCond c h

end XPathV.Theorems.C03

/-! ## C03 from the expression text

`C03_main_full` / `C03_then_boolean_predicates_full` start from a parse tree and a successful
`build`.  Here the statement starts from the expression *text*: scanner, parser, builder, the nil
check of `Compile`, then `Select` / `Evaluate` (`Lemmas/ApiSem3.lean`).  The numeric side condition
`f.Agree F d.length` of the plan-level theorem stays, under the quantifiers over the number algebra
and the document it mentions; the path shape of the compiled plan — hence "`compile` does not
answer nil query" — is obtained without it. -/
namespace XPathV.Theorems.C03
open XPathV XPathV.Model XPathV.Facts NumAlg

open XPathV.PathSem XPathV.PredSem XPathV.PredSem2 XPathV.PosSem XPathV.ApiSem in
/-- **C03 from the expression text**: for a text that parses into the positional step
`q/child::a[f]` (`q` in `Frag2 true`, `f : PosForm`), `compile` at the source configuration either
reports a *builder* error (never "empty", a parse error, lack of fuel or the nil query) or returns a
path-shaped plan on which `Select` and `Evaluate` return exactly the oracle's node set at every
valid context node of every well-formed document, for every number algebra that reads the
positional form as the oracle does (`f.Agree F d.length`) -/
theorem C03_from_text (regexOk : RegexOk) (ns : Option (List (String × String)))
    (text : List Char) (a : AxisInfo) (ha : a.axis = "child") (q : Ast) (hq : Frag2 true q)
    (f : PosForm)
    (hparse : parse (fuelFor text) (defaultCfg ns) text = .ok (.filter (.axis a q) f.ast)) :
    (∃ e, compile { regexOk := regexOk } ns text = .error (.build e)) ∨
    (∃ p, compile { regexOk := regexOk } ns text = .ok p ∧ PathShape p ∧
      ∀ (F : Type) [NumAlg F] (d : Doc), WF d → ∀ cfg : ECfg, cfg.nsIface = true → HashInj d cfg →
        f.Agree F d.length → ∀ c, validRef d c = true →
          ∃ l nsl, selectAll (F := F) d cfg p c = .ok l ∧ evaluate (F := F) d cfg p c = .ok (.nodes l) ∧
            Spec.evalTop (F := F) d (.filter (.axis a q) f.ast) c = .ok (.nodes nsl) ∧
            ∀ x, x ∈ l ↔ x ∈ nsl) :=
  C03_compile_total regexOk ns text a ha q hq f hparse

open XPathV.PathSem XPathV.PredSem XPathV.PredSem2 XPathV.PosSem XPathV.ApiSem in
/-- `C03_from_text` without the `HashInj` hypothesis (`hashInj_holds`; the side condition left is
"no element has two attributes with the same prefix, name and value") -/
theorem C03_from_text_unconditional (regexOk : RegexOk) (ns : Option (List (String × String)))
    (text : List Char) (a : AxisInfo) (ha : a.axis = "child") (q : Ast) (hq : Frag2 true q)
    (f : PosForm)
    (hparse : parse (fuelFor text) (defaultCfg ns) text = .ok (.filter (.axis a q) f.ast)) :
    (∃ e, compile { regexOk := regexOk } ns text = .error (.build e)) ∨
    (∃ p, compile { regexOk := regexOk } ns text = .ok p ∧ PathShape p ∧
      ∀ (F : Type) [NumAlg F] (d : Doc), WF d → ∀ cfg : ECfg, cfg.nsIface = true →
        AttrTriplesDistinct d →
        f.Agree F d.length → ∀ c, validRef d c = true →
          ∃ l nsl, selectAll (F := F) d cfg p c = .ok l ∧ evaluate (F := F) d cfg p c = .ok (.nodes l) ∧
            Spec.evalTop (F := F) d (.filter (.axis a q) f.ast) c = .ok (.nodes nsl) ∧
            ∀ x, x ∈ l ↔ x ∈ nsl) := by
  rcases C03_from_text regexOk ns text a ha q hq f hparse with h | ⟨p, h1, h2, h3⟩
  · exact .inl h
  · exact .inr ⟨p, h1, h2, fun F _ d wf cfg hns hattr hag c hc =>
      h3 F d wf cfg hns (hashInj_holds wf hattr cfg) hag c hc⟩

open XPathV.PathSem XPathV.PredSem XPathV.PredSem2 XPathV.PosSem XPathV.ApiSem in
/-- **C03 from the expression text, followed by boolean predicates**: the text parses into
`q/child::a[f][b1]…[bk]` (`stackAst (.filter (.axis a q) f.ast) bs`, the `bi` in `Frag2 false`,
listed outermost first) -/
theorem C03_from_text_then_boolean_predicates (regexOk : RegexOk)
    (ns : Option (List (String × String)))
    (text : List Char) (a : AxisInfo) (ha : a.axis = "child") (q : Ast) (hq : Frag2 true q)
    (f : PosForm) (bs : List Ast) (hbs : ∀ b ∈ bs, Frag2 false b)
    (hparse : parse (fuelFor text) (defaultCfg ns) text =
      .ok (stackAst (.filter (.axis a q) f.ast) bs)) :
    (∃ e, compile { regexOk := regexOk } ns text = .error (.build e)) ∨
    (∃ p, compile { regexOk := regexOk } ns text = .ok p ∧ PathShape p ∧
      ∀ (F : Type) [NumAlg F] (d : Doc), WF d → ∀ cfg : ECfg, cfg.nsIface = true → HashInj d cfg →
        f.Agree F d.length → ∀ c, validRef d c = true →
          ∃ l nsl, selectAll (F := F) d cfg p c = .ok l ∧ evaluate (F := F) d cfg p c = .ok (.nodes l) ∧
            Spec.evalTop (F := F) d (stackAst (.filter (.axis a q) f.ast) bs) c = .ok (.nodes nsl) ∧
            ∀ x, x ∈ l ↔ x ∈ nsl) :=
  C03_compile_chain_total regexOk ns text a ha q hq f bs hbs hparse

open XPathV.PathSem XPathV.PredSem XPathV.PredSem2 XPathV.PosSem XPathV.ApiSem in
/-- `C03_from_text_then_boolean_predicates` without the `HashInj` hypothesis -/
theorem C03_from_text_then_boolean_predicates_unconditional (regexOk : RegexOk)
    (ns : Option (List (String × String)))
    (text : List Char) (a : AxisInfo) (ha : a.axis = "child") (q : Ast) (hq : Frag2 true q)
    (f : PosForm) (bs : List Ast) (hbs : ∀ b ∈ bs, Frag2 false b)
    (hparse : parse (fuelFor text) (defaultCfg ns) text =
      .ok (stackAst (.filter (.axis a q) f.ast) bs)) :
    (∃ e, compile { regexOk := regexOk } ns text = .error (.build e)) ∨
    (∃ p, compile { regexOk := regexOk } ns text = .ok p ∧ PathShape p ∧
      ∀ (F : Type) [NumAlg F] (d : Doc), WF d → ∀ cfg : ECfg, cfg.nsIface = true →
        AttrTriplesDistinct d →
        f.Agree F d.length → ∀ c, validRef d c = true →
          ∃ l nsl, selectAll (F := F) d cfg p c = .ok l ∧ evaluate (F := F) d cfg p c = .ok (.nodes l) ∧
            Spec.evalTop (F := F) d (stackAst (.filter (.axis a q) f.ast) bs) c = .ok (.nodes nsl) ∧
            ∀ x, x ∈ l ↔ x ∈ nsl) := by
  rcases C03_from_text_then_boolean_predicates regexOk ns text a ha q hq f bs hbs hparse with
    h | ⟨p, h1, h2, h3⟩
  · exact .inl h
  · exact .inr ⟨p, h1, h2, fun F _ d wf cfg hns hattr hag c hc =>
      h3 F d wf cfg hns (hashInj_holds wf hattr cfg) hag c hc⟩

end XPathV.Theorems.C03

