import XPathV.Lemmas.PullProofs
import XPathV.Generated.ExtraFacts
import XPathV.Model.Api
import XPathV.Lemmas.Facts
import XPathV.Lemmas.PredSem
import XPathV.Lemmas.PredSem2
import XPathV.Lemmas.ApiSem
import XPathV.Lemmas.ApiSem2
import XPathV.Lemmas.Pull2Proofs
import XPathV.Lemmas.Pull2Gen
/-!
# C02 — boolean predicates keep exactly the nodes for which the predicate is true
-/
namespace XPathV.Theorems.C02
open XPathV XPathV.Model XPathV.Facts

/-- T0 (F7) **state reset protocol**: for every query struct, every field that `Select` writes is
either assigned by `Evaluate` or re-initialised by `Select` itself when it creates a new iterator.
Removing a reset from an `Evaluate` method in Go changes `Generated.structs` and breaks this. -/
theorem reset_table_ok : Generated.structs.all resetOk = true := by decide

/-- T0 (F7): every `Evaluate` forwards the reset to its input queries -/
theorem reset_forwarded : Generated.structs.all forwardsOk = true := by decide

variable {F : Type} [NumAlg F]

/-- the model's filter: the verdict for a candidate is a function of the candidate alone
(the predicate is evaluated with that candidate as context; nothing is carried over) -/
theorem verdict_is_local (d : Doc) (cfg : ECfg) (inp pred : Plan) (c : Ref) (out : List Item)
    (h : sel (F := F) d cfg (.filter inp pred) c = .ok out) :
    ∃ ins, sel (F := F) d cfg inp c = .ok ins ∧ ∀ it ∈ out, ∃ jt ∈ ins, jt.r = it.r := by
  simp only [sel] at h
  cases hin : sel (F := F) d cfg inp c with
  | error e => simp [hin, bind, Except.bind] at h
  | ok ins =>
    refine ⟨ins, rfl, ?_⟩
    simp only [hin, bind, Except.bind] at h
    split at h
    · cases h
    · rename_i flags _
      cases h
      intro it hit
      -- `filterPositions` only renumbers; the kept items are inputs paired with a `true` flag
      have hr : it.r ∈ PathSem.refs (filterPositions ((ins.zip flags).filterMap
          (fun (p : Item × Bool) => if p.2 then some p.1 else none))) := List.mem_map_of_mem hit
      rw [PredSem.filterPositions_refs] at hr
      obtain ⟨jt, hj, hjr⟩ := List.mem_map.1 hr
      obtain ⟨⟨a, b⟩, hab, hsome⟩ := List.mem_filterMap.1 hj
      split at hsome
      · cases hsome; exact ⟨a, (List.of_mem_zip hab).1, hjr⟩
      · cases hsome

/-- T0: the builder does not let the "top-most matches only" rewrite reach a step that is then
filtered (the flags passed to a filter's input mask out SmartDesc), and the model follows the source -/
theorem smartdesc_stops_at_filters : Generated.filterInputFlagsSrc = "(flags|flagsEnum.Filter)&^flagsEnum.SmartDesc" ∧
    Model.smartDescThroughFilterFromSource = false := ⟨rfl, by decide +kernel⟩

/-- **state reset protocol, on the pull machine**: from *any* state (whatever was pulled before,
however far), `Evaluate` followed by a drain yields the whole sequence again — exactly what a fresh
clone yields.  This is why the verdict for one candidate cannot depend on earlier candidates. -/
theorem evaluate_restarts_from_any_state (d : Doc) (cfg : ECfg) (cur : Ref) (q : PQ) :
    rem d cfg cur q.evaluate = rem d cfg cur q.clone ∧
    ∃ l, sel (F := F) d cfg q.plan cur = .ok l ∧ ∃ q' f0, ∀ f, f0 ≤ f → drain d cfg cur f q.evaluate = some (l, q') :=
  ⟨evaluate_resets d cfg cur q, drain_evaluate d cfg cur q⟩


open XPathV.PathSem XPathV.PredSem in
/-- **C02 (main theorem, through the builder with every rewrite)**.  Fragment `Frag true p`: location
paths over the twelve axes in which the path start and every step may carry any number of
boolean-valued predicates — existence tests, a path compared with a string literal (`=`, `!=`) or a
number literal (all six operators, either side), `not()`, `and`, `or` — nested to any depth, with
predicates inside predicates.  For every well-formed document and valid context node, the plan
the builder makes (cachedChild, the `//name` shortcut, descendant-over-descendant, the merge
rewrite all included) selects exactly the oracle's node set.  Hypotheses: navigator exposing
namespace URIs,
`HashInj` (node keys are injective: a theorem, `PathSem.hashInj_holds` — see the `_unconditional` corollary). -/
theorem C02_main {d : Doc} (wf : WF d) (cfg : ECfg) (hns : cfg.nsIface = true)
    (hinj : HashInj d cfg) (regexOk : RegexOk) (limit : Nat) (p : Ast) (hp : Frag true p)
    (st : BState) (o : BOut) (hb : build regexOk limit true false p {} st = .ok o)
    (c : Ref) (hc : validRef d c = true) :
    ∃ out ns g, sel (F := F) d cfg o.q c = .ok out ∧
      Spec.eval (F := F) d p ⟨c, 1, 1⟩ = .ok (.val (.nodes ns) g) ∧
      ∀ x, x ∈ refs out ↔ x ∈ ns :=
  PredSem.C02_main wf cfg hns hinj regexOk limit p hp st o hb c hc

open XPathV.PathSem XPathV.PredSem in
/-- `C02_main` without the `HashInj` hypothesis (it is a theorem: `hashInj_holds`; the side
condition left is "no element has two attributes with the same prefix, name and value") -/
theorem C02_main_unconditional {d : Doc} (wf : WF d) (cfg : ECfg) (hns : cfg.nsIface = true)
    (hattr : AttrTriplesDistinct d) (regexOk : RegexOk) (limit : Nat) (p : Ast) (hp : Frag true p)
    (st : BState) (o : BOut) (hb : build regexOk limit true false p {} st = .ok o)
    (c : Ref) (hc : validRef d c = true) :
    ∃ out ns g, sel (F := F) d cfg o.q c = .ok out ∧
      Spec.eval (F := F) d p ⟨c, 1, 1⟩ = .ok (.val (.nodes ns) g) ∧
      ∀ x, x ∈ refs out ↔ x ∈ ns :=
  C02_main wf cfg hns (PathSem.hashInj_holds wf hattr cfg) regexOk limit p hp st o hb c hc

open XPathV.PathSem XPathV.PredSem in
/-- **C02, the property as stated**: the built plan of `p[b]` returns a candidate node of `p` if
and only if the predicate is true at that node (`holds` = `boolean()` of the oracle's value of `b`
there) — on the model side and on the oracle side, and the two agree -/
theorem C02_keeps_exactly_the_true_ones {d : Doc} (wf : WF d) (cfg : ECfg) (hns : cfg.nsIface = true)
    (hinj : HashInj d cfg) (regexOk : RegexOk) (limit : Nat) (p b : Ast) (hp : Frag true p)
    (hb : Frag false b) (st0 st : BState) (o0 o : BOut)
    (hb0 : build regexOk limit true false p {} st0 = .ok o0)
    (hb1 : build regexOk limit true false (.filter p b) {} st = .ok o)
    (c : Ref) (hc : validRef d c = true) :
    ∃ out0 ns0 g0 out ns g,
      sel (F := F) d cfg o0.q c = .ok out0 ∧
      Spec.eval (F := F) d p ⟨c, 1, 1⟩ = .ok (.val (.nodes ns0) g0) ∧
      (∀ x, x ∈ refs out0 ↔ x ∈ ns0) ∧
      sel (F := F) d cfg o.q c = .ok out ∧
      Spec.eval (F := F) d (.filter p b) ⟨c, 1, 1⟩ = .ok (.val (.nodes ns) g) ∧
      (∀ x, x ∈ refs out ↔ x ∈ ns) ∧
      (∀ x, x ∈ refs out ↔ x ∈ refs out0 ∧ holds (F := F) d b x = true) ∧
      (∀ x, x ∈ ns ↔ x ∈ ns0 ∧ holds (F := F) d b x = true) :=
  PredSem2.C02_keeps_true2 wf cfg hns hinj regexOk limit p b (PredSem2.frag2_of_frag true p hp)
    (PredSem2.frag2_of_frag false b hb) st0 st o0 o hb0 hb1 c hc

open XPathV.PathSem XPathV.PredSem in
/-- `C02_keeps_exactly_the_true_ones` without the `HashInj` hypothesis (it is a theorem: `hashInj_holds`; the side
condition left is "no element has two attributes with the same prefix, name and value") -/
theorem C02_keeps_exactly_the_true_ones_unconditional {d : Doc} (wf : WF d) (cfg : ECfg) (hns : cfg.nsIface = true)
    (hattr : AttrTriplesDistinct d) (regexOk : RegexOk) (limit : Nat) (p b : Ast) (hp : Frag true p)
    (hb : Frag false b) (st0 st : BState) (o0 o : BOut)
    (hb0 : build regexOk limit true false p {} st0 = .ok o0)
    (hb1 : build regexOk limit true false (.filter p b) {} st = .ok o)
    (c : Ref) (hc : validRef d c = true) :
    ∃ out0 ns0 g0 out ns g,
      sel (F := F) d cfg o0.q c = .ok out0 ∧
      Spec.eval (F := F) d p ⟨c, 1, 1⟩ = .ok (.val (.nodes ns0) g0) ∧
      (∀ x, x ∈ refs out0 ↔ x ∈ ns0) ∧
      sel (F := F) d cfg o.q c = .ok out ∧
      Spec.eval (F := F) d (.filter p b) ⟨c, 1, 1⟩ = .ok (.val (.nodes ns) g) ∧
      (∀ x, x ∈ refs out ↔ x ∈ ns) ∧
      (∀ x, x ∈ refs out ↔ x ∈ refs out0 ∧ holds (F := F) d b x = true) ∧
      (∀ x, x ∈ ns ↔ x ∈ ns0 ∧ holds (F := F) d b x = true) :=
  C02_keeps_exactly_the_true_ones wf cfg hns (PathSem.hashInj_holds wf hattr cfg) regexOk limit p b
    hp hb st0 st o0 o hb0 hb1 c hc

open XPathV.PathSem XPathV.PredSem in
/-- C02 at the builder configuration read off the current source (`shortcutCondSrc`,
`filterInputFlagsSrc`), against the top-level oracle -/
theorem C02_at_source_config {d : Doc} (wf : WF d) (cfg : ECfg) (hns : cfg.nsIface = true)
    (hinj : HashInj d cfg) (regexOk : RegexOk) (limit : Nat) (p : Ast) (hp : Frag true p) (o : BOut)
    (hb : build regexOk limit shortcutNeedsNodeTestFromSource smartDescThroughFilterFromSource p {} {} = .ok o)
    (c : Ref) (hc : validRef d c = true) :
    ∃ out ns, sel (F := F) d cfg o.q c = .ok out ∧
      Spec.evalTop (F := F) d p c = .ok (.nodes ns) ∧ ∀ x, x ∈ refs out ↔ x ∈ ns :=
  PredSem2.C02_source_config2 wf cfg hns hinj regexOk limit p (PredSem2.frag2_of_frag true p hp) o hb c hc

open XPathV.PathSem XPathV.PredSem in
/-- `C02_at_source_config` without the `HashInj` hypothesis (it is a theorem: `hashInj_holds`; the side
condition left is "no element has two attributes with the same prefix, name and value") -/
theorem C02_at_source_config_unconditional {d : Doc} (wf : WF d) (cfg : ECfg) (hns : cfg.nsIface = true)
    (hattr : AttrTriplesDistinct d) (regexOk : RegexOk) (limit : Nat) (p : Ast) (hp : Frag true p) (o : BOut)
    (hb : build regexOk limit shortcutNeedsNodeTestFromSource smartDescThroughFilterFromSource p {} {} = .ok o)
    (c : Ref) (hc : validRef d c = true) :
    ∃ out ns, sel (F := F) d cfg o.q c = .ok out ∧
      Spec.evalTop (F := F) d p c = .ok (.nodes ns) ∧ ∀ x, x ∈ refs out ↔ x ∈ ns :=
  C02_at_source_config wf cfg hns (PathSem.hashInj_holds wf hattr cfg) regexOk limit p hp o hb c hc

open XPathV.PathSem XPathV.PredSem in
/-- one filter, sequence level: the filter keeps, in order, exactly the candidates whose
predicate value (a boolean, string or node-set) is true -/
theorem C02_filter_is_list_filter (d : Doc) (cfg : ECfg) (inp pred : Plan) (c : Ref) (ins : List Item)
    (tr : Ref → Bool) (hs : sel (F := F) d cfg inp c = .ok ins)
    (hv : ∀ it ∈ ins, ∃ v, evalP (F := F) d cfg pred it.r = .ok v ∧ IsBSN v ∧ truthM v = tr it.r) :
    ∃ out, sel (F := F) d cfg (.filter inp pred) c = .ok out ∧ refs out = (refs ins).filter tr :=
  sel_filter_bool d cfg inp pred c ins tr hs hv

/-- **no state leaks between evaluations, all sixteen iterator types (`Model/Pull2`)**: from every
state reachable by any sequence of `Evaluate`, `Clone` and `Select` calls — mid-iteration, exhausted,
with whatever counters, tables, buffers and closure cursors (the dedup table of `ancestorQuery`, the
position maps of `filterQuery`, the `level`/`posit` of descendant-over-descendant, the merged-filter
buffer, the union's buffered iterators) — `Evaluate` followed by a drain reports exactly the sequence
of the plan for the new context node, and nothing else at any fuel.  This is why the verdict for one
candidate never depends on which candidates were tested before it. -/
theorem evaluate_restarts_all_iterators (d : Doc) (cfg : ECfg) (dec : Plan → Ref → Bool) (hd : 0 < d.length)
    (p0 : Plan) (hw : NeedsWF p0 → WF d) (q : PQ2)
    (hr : Reach d cfg dec p0 q) (hdec : q.DecOK (F := F) d cfg dec) (c : Ref) (hg : Good d c) :
    ∃ l, sel (F := F) d cfg p0 c = .ok l ∧
      (∃ q' c' f0, ∀ f, f0 ≤ f → drain2 d cfg dec f q.evaluate c = some (l, q', c')) ∧
      (∀ f l' q' c', drain2 d cfg dec f q.evaluate c = some (l', q', c') → l' = l) :=
  reach_evaluate_restarts_from_gen d cfg dec hd p0 hw q hr hdec c hg

open XPathV.PathSem XPathV.PredSem XPathV.PredSem2 in
/-- **C02 at the property's full list of predicate forms** (`Frag2` ⊇ `Frag`): in addition to
existence tests, path `=`/`!=` string literal, path *op* number literal, `not()`, `and`, `or` and
nesting, the predicates may be `count(P) op n` / `n op count(P)`, `contains`/`starts-with`/
`ends-with` of a string literal, `local-name()`, `local-name(P)` or a path `P` against a literal,
`local-name() =`/`!=` `'lit'`, `local-name(P) =`/`!=` `'lit'`, and the filtered path may be
parenthesised (`(P)[b]`); a predicate may also compare two paths (`P op Q`, all six operators, any two
paths of the fragment — see `C02_path_vs_path`) or a path with a string literal on either side with
any of the six operators (after the repairs of `cmpStringStringF` / `cmpNodeSetString`).  After the repairs of `notFunc` and of `containsFunc`/`startwithFunc`/
`endwithFunc` the fragment also holds `not(count(P))` (`not` of a number) and the string tests with
a flat path in *second* position: `contains(P, Q)`, `contains('lit', Q)` ….  A path used as a *function argument* must be flat (child/attribute/self
steps with any fragment predicates): the engine hands a function its result *sequence* (length,
first element), the oracle the document-ordered *set*; they coincide exactly when the sequence is
sorted and duplicate-free, which `FlatFiltered.flatAny_sorted` proves for flat paths.  Paths in
every other position range over all twelve axes. -/
theorem C02_main_full {d : Doc} (wf : WF d) (cfg : ECfg) (hns : cfg.nsIface = true)
    (hinj : HashInj d cfg) (regexOk : RegexOk) (limit : Nat) (p : Ast) (hp : Frag2 true p)
    (st : BState) (o : BOut) (hb : build regexOk limit true false p {} st = .ok o)
    (c : Ref) (hc : validRef d c = true) :
    ∃ out ns g, sel (F := F) d cfg o.q c = .ok out ∧
      Spec.eval (F := F) d p ⟨c, 1, 1⟩ = .ok (.val (.nodes ns) g) ∧
      ∀ x, x ∈ refs out ↔ x ∈ ns :=
  C02_main2 wf cfg hns hinj regexOk limit p hp st o hb c hc

open XPathV.PathSem XPathV.PredSem XPathV.PredSem2 in
/-- `C02_main_full` without the `HashInj` hypothesis (it is a theorem: `hashInj_holds`; the side
condition left is "no element has two attributes with the same prefix, name and value") -/
theorem C02_main_full_unconditional {d : Doc} (wf : WF d) (cfg : ECfg) (hns : cfg.nsIface = true)
    (hattr : AttrTriplesDistinct d) (regexOk : RegexOk) (limit : Nat) (p : Ast) (hp : Frag2 true p)
    (st : BState) (o : BOut) (hb : build regexOk limit true false p {} st = .ok o)
    (c : Ref) (hc : validRef d c = true) :
    ∃ out ns g, sel (F := F) d cfg o.q c = .ok out ∧
      Spec.eval (F := F) d p ⟨c, 1, 1⟩ = .ok (.val (.nodes ns) g) ∧
      ∀ x, x ∈ refs out ↔ x ∈ ns :=
  C02_main_full wf cfg hns (PathSem.hashInj_holds wf hattr cfg) regexOk limit p hp st o hb c hc

open XPathV.PathSem XPathV.PredSem XPathV.PredSem2 in
/-- … the property as stated, on the full list: `p[b]` (and `(p)[b]`) keeps a candidate iff
`boolean(b)` is true there -/
theorem C02_keeps_exactly_the_true_ones_full {d : Doc} (wf : WF d) (cfg : ECfg) (hns : cfg.nsIface = true)
    (hinj : HashInj d cfg) (regexOk : RegexOk) (limit : Nat) (p b : Ast) (hp : Frag2 true p)
    (hb : Frag2 false b) (st0 st : BState) (o0 o : BOut)
    (hb0 : build regexOk limit true false p {} st0 = .ok o0)
    (hb1 : build regexOk limit true false (.filter p b) {} st = .ok o)
    (c : Ref) (hc : validRef d c = true) :
    ∃ out0 ns0 g0 out ns g,
      sel (F := F) d cfg o0.q c = .ok out0 ∧
      Spec.eval (F := F) d p ⟨c, 1, 1⟩ = .ok (.val (.nodes ns0) g0) ∧
      (∀ x, x ∈ refs out0 ↔ x ∈ ns0) ∧
      sel (F := F) d cfg o.q c = .ok out ∧
      Spec.eval (F := F) d (.filter p b) ⟨c, 1, 1⟩ = .ok (.val (.nodes ns) g) ∧
      (∀ x, x ∈ refs out ↔ x ∈ ns) ∧
      (∀ x, x ∈ refs out ↔ x ∈ refs out0 ∧ holds (F := F) d b x = true) ∧
      (∀ x, x ∈ ns ↔ x ∈ ns0 ∧ holds (F := F) d b x = true) :=
  C02_keeps_true2 wf cfg hns hinj regexOk limit p b hp hb st0 st o0 o hb0 hb1 c hc

open XPathV.PathSem XPathV.PredSem XPathV.PredSem2 in
/-- `C02_keeps_exactly_the_true_ones_full` without the `HashInj` hypothesis (it is a theorem: `hashInj_holds`; the side
condition left is "no element has two attributes with the same prefix, name and value") -/
theorem C02_keeps_exactly_the_true_ones_full_unconditional {d : Doc} (wf : WF d) (cfg : ECfg) (hns : cfg.nsIface = true)
    (hattr : AttrTriplesDistinct d) (regexOk : RegexOk) (limit : Nat) (p b : Ast) (hp : Frag2 true p)
    (hb : Frag2 false b) (st0 st : BState) (o0 o : BOut)
    (hb0 : build regexOk limit true false p {} st0 = .ok o0)
    (hb1 : build regexOk limit true false (.filter p b) {} st = .ok o)
    (c : Ref) (hc : validRef d c = true) :
    ∃ out0 ns0 g0 out ns g,
      sel (F := F) d cfg o0.q c = .ok out0 ∧
      Spec.eval (F := F) d p ⟨c, 1, 1⟩ = .ok (.val (.nodes ns0) g0) ∧
      (∀ x, x ∈ refs out0 ↔ x ∈ ns0) ∧
      sel (F := F) d cfg o.q c = .ok out ∧
      Spec.eval (F := F) d (.filter p b) ⟨c, 1, 1⟩ = .ok (.val (.nodes ns) g) ∧
      (∀ x, x ∈ refs out ↔ x ∈ ns) ∧
      (∀ x, x ∈ refs out ↔ x ∈ refs out0 ∧ holds (F := F) d b x = true) ∧
      (∀ x, x ∈ ns ↔ x ∈ ns0 ∧ holds (F := F) d b x = true) :=
  C02_keeps_exactly_the_true_ones_full wf cfg hns (PathSem.hashInj_holds wf hattr cfg) regexOk limit
    p b hp hb st0 st o0 o hb0 hb1 c hc

open XPathV.PathSem XPathV.PredSem XPathV.PredSem2 in
/-- **C02 for a path compared with a path, all six operators**: `p[P op Q]` (`//a[b = c]`,
`//a[@x != ../@y]`, `//a[b < c/d]`) with `p`, `P`, `Q` arbitrary paths of `Frag2` (all twelve axes,
any fragment predicates, no flatness requirement).  The built plan of `p[P op Q]` keeps a candidate
`x` of the built plan of `p` if and only if the oracle's `boolean(P op Q)` is true at `x` (`holds`),
and what it returns is the oracle's node-set of `p[P op Q]`.  The last conjunct spells
`boolean(P op Q)` out: at every candidate both paths evaluate to node-sets, and the comparison is
true iff some node of `P` and some node of `Q` have equal (`=`) / different (`!=`) string-values, or
— for `<`, `<=`, `>`, `>=` — string-values whose numbers compare.

Derived from `C02_keeps_exactly_the_true_ones_full`.  (The relational operators are XPath's since the
repair of `cmpStringStringF`, which compared the string-values byte-wise — `<b>10</b>` against
`<c>9</c>` satisfied `b < c`; instance: `NonVacuity.C02.C02_path_lt_path_instance`.) -/
theorem C02_path_vs_path {d : Doc} (wf : WF d) (cfg : ECfg) (hns : cfg.nsIface = true)
    (hinj : HashInj d cfg) (regexOk : RegexOk) (limit : Nat) (op : String) (hop : op ∈ cmpOps)
    (p P Q : Ast) (hp : Frag2 true p) (hP : Frag2 true P) (hQ : Frag2 true Q)
    (st0 st : BState) (o0 o : BOut)
    (hb0 : build regexOk limit true false p {} st0 = .ok o0)
    (hb1 : build regexOk limit true false (.filter p (.oper op P Q)) {} st = .ok o)
    (c : Ref) (hc : validRef d c = true) :
    ∃ out0 out ns g,
      sel (F := F) d cfg o0.q c = .ok out0 ∧
      sel (F := F) d cfg o.q c = .ok out ∧
      Spec.eval (F := F) d (.filter p (.oper op P Q)) ⟨c, 1, 1⟩ = .ok (.val (.nodes ns) g) ∧
      (∀ x, x ∈ refs out ↔ x ∈ ns) ∧
      (∀ x, x ∈ refs out ↔ x ∈ refs out0 ∧ holds (F := F) d (.oper op P Q) x = true) ∧
      (∀ x, x ∈ refs out0 →
        ∃ nsP gP nsQ gQ, Spec.eval (F := F) d P ⟨x, 1, 1⟩ = .ok (.val (.nodes nsP) gP) ∧
          Spec.eval (F := F) d Q ⟨x, 1, 1⟩ = .ok (.val (.nodes nsQ) gQ) ∧
          (holds (F := F) d (.oper op P Q) x = true ↔
            ∃ u ∈ nsP, ∃ v ∈ nsQ, (op = "=" ∧ stringValue d u = stringValue d v) ∨
              (op = "!=" ∧ stringValue d u ≠ stringValue d v) ∨
              (∃ cop, Spec.CmpOp.ofString op = some cop ∧ cop.isRel = true ∧
                Spec.cmpNum cop (Spec.strToNum (F := F) (stringValue d u))
                  (Spec.strToNum (F := F) (stringValue d v)) = true))) := by
  obtain ⟨out0, ns0, g0, out, ns, g, h1, h2, h3, h4, h5, h6, h7, _⟩ :=
    C02_keeps_exactly_the_true_ones_full (F := F) wf cfg hns hinj regexOk limit p (.oper op P Q) hp
      (.cmpPath op P Q hop hP hQ) st0 st o0 o hb0 hb1 c hc
  refine ⟨out0, out, ns, g, h1, h4, h5, h6, h7, fun x hx => ?_⟩
  obtain ⟨_, ns0', _, _, he, _, hv⟩ := C02_naive2 (F := F) wf cfg hns hinj p hp c hc
  rw [h2] at he; cases he
  exact holds_cmpPath (F := F) wf cfg hns hinj op hop P Q hP hQ x (hv x ((h3 x).1 hx))

open XPathV.PathSem XPathV.PredSem XPathV.PredSem2 in
/-- `C02_path_vs_path` without the `HashInj` hypothesis (it is a theorem: `hashInj_holds`; the side
condition left is "no element has two attributes with the same prefix, name and value") -/
theorem C02_path_vs_path_unconditional {d : Doc} (wf : WF d) (cfg : ECfg) (hns : cfg.nsIface = true)
    (hattr : AttrTriplesDistinct d) (regexOk : RegexOk) (limit : Nat) (op : String) (hop : op ∈ cmpOps)
    (p P Q : Ast) (hp : Frag2 true p) (hP : Frag2 true P) (hQ : Frag2 true Q)
    (st0 st : BState) (o0 o : BOut)
    (hb0 : build regexOk limit true false p {} st0 = .ok o0)
    (hb1 : build regexOk limit true false (.filter p (.oper op P Q)) {} st = .ok o)
    (c : Ref) (hc : validRef d c = true) :
    ∃ out0 out ns g,
      sel (F := F) d cfg o0.q c = .ok out0 ∧
      sel (F := F) d cfg o.q c = .ok out ∧
      Spec.eval (F := F) d (.filter p (.oper op P Q)) ⟨c, 1, 1⟩ = .ok (.val (.nodes ns) g) ∧
      (∀ x, x ∈ refs out ↔ x ∈ ns) ∧
      (∀ x, x ∈ refs out ↔ x ∈ refs out0 ∧ holds (F := F) d (.oper op P Q) x = true) ∧
      (∀ x, x ∈ refs out0 →
        ∃ nsP gP nsQ gQ, Spec.eval (F := F) d P ⟨x, 1, 1⟩ = .ok (.val (.nodes nsP) gP) ∧
          Spec.eval (F := F) d Q ⟨x, 1, 1⟩ = .ok (.val (.nodes nsQ) gQ) ∧
          (holds (F := F) d (.oper op P Q) x = true ↔
            ∃ u ∈ nsP, ∃ v ∈ nsQ, (op = "=" ∧ stringValue d u = stringValue d v) ∨
              (op = "!=" ∧ stringValue d u ≠ stringValue d v) ∨
              (∃ cop, Spec.CmpOp.ofString op = some cop ∧ cop.isRel = true ∧
                Spec.cmpNum cop (Spec.strToNum (F := F) (stringValue d u))
                  (Spec.strToNum (F := F) (stringValue d v)) = true))) :=
  C02_path_vs_path wf cfg hns (PathSem.hashInj_holds wf hattr cfg) regexOk limit op hop p P Q hp hP hQ
    st0 st o0 o hb0 hb1 c hc

open XPathV.PathSem XPathV.PredSem XPathV.PredSem2 in
/-- the truth of a built predicate never depends on the context position/size and is never a
number: every plan the builder makes of a predicate of the fragment — whatever the flags and
builder state — evaluates, at every valid node, to a boolean or node-set whose truth is `boolean()` of the oracle's value -/
theorem C02_built_predicate_truth {d : Doc} (wf : WF d) (cfg : ECfg) (hns : cfg.nsIface = true)
    (hinj : HashInj d cfg) (regexOk : RegexOk) (limit : Nat) (b : Ast) (hb : Frag2 false b)
    (fl : Flags) (st : BState) (o : BOut) (hbuild : build regexOk limit true false b fl st = .ok o)
    (c : Ref) (hc : validRef d c = true) (pos size : Nat) :
    ∃ v sv g, evalP (F := F) d cfg o.q c = .ok v ∧
      Spec.eval (F := F) d b ⟨c, pos, size⟩ = .ok (.val sv g) ∧
      truthM v = Spec.toBool sv ∧ IsBN v ∧ NotNum sv := by
  obtain ⟨_, hr⟩ := ((build_frag2 (F := F) wf cfg hns hinj regexOk limit false b hb).2 rfl) fl st o hbuild
  obtain ⟨v, sv, g, hE, hS, hbn, hnn, htr⟩ := hr ⟨c, pos, size⟩ hc
  exact ⟨v, sv, g, hE, hS, htr, hbn, hnn⟩

open XPathV.PathSem XPathV.PredSem XPathV.PredSem2 in
/-- `C02_built_predicate_truth` without the `HashInj` hypothesis (it is a theorem: `hashInj_holds`; the side
condition left is "no element has two attributes with the same prefix, name and value") -/
theorem C02_built_predicate_truth_unconditional {d : Doc} (wf : WF d) (cfg : ECfg) (hns : cfg.nsIface = true)
    (hattr : AttrTriplesDistinct d) (regexOk : RegexOk) (limit : Nat) (b : Ast) (hb : Frag2 false b)
    (fl : Flags) (st : BState) (o : BOut) (hbuild : build regexOk limit true false b fl st = .ok o)
    (c : Ref) (hc : validRef d c = true) (pos size : Nat) :
    ∃ v sv g, evalP (F := F) d cfg o.q c = .ok v ∧
      Spec.eval (F := F) d b ⟨c, pos, size⟩ = .ok (.val sv g) ∧
      truthM v = Spec.toBool sv ∧ IsBN v ∧ NotNum sv :=
  C02_built_predicate_truth wf cfg hns (PathSem.hashInj_holds wf hattr cfg) regexOk limit b hb fl st
    o hbuild c hc pos size

open XPathV.PathSem XPathV.PredSem XPathV.ApiSem in
/-- **C02 at the public API, from the expression text**: on a text that parses into the
fragment, `compile` at the source configuration either reports a builder error (the depth limit)
or returns a plan on which `Select` and `Evaluate` agree with the oracle at every valid context
node of every well-formed document; `compile` never fails for lack of parser fuel
(`compile_never_out_of_fuel`) -/
theorem C02_from_text (regexOk : RegexOk) (ns : Option (List (String × String)))
    (text : List Char) (a : Ast) (hparse : parse (fuelFor text) (defaultCfg ns) text = .ok a)
    (hfrag : Frag true a) :
    (∃ e, compile { regexOk := regexOk } ns text = .error (.build e)) ∨
    (∃ p, compile { regexOk := regexOk } ns text = .ok p ∧ PathShape p ∧
      ∀ (F : Type) [NumAlg F] (d : Doc), WF d → ∀ cfg : ECfg, cfg.nsIface = true → HashInj d cfg →
        ∀ c, validRef d c = true →
          ∃ l nsl, selectAll (F := F) d cfg p c = .ok l ∧ evaluate (F := F) d cfg p c = .ok (.nodes l) ∧
            Spec.evalTop (F := F) d a c = .ok (.nodes nsl) ∧ ∀ x, x ∈ l ↔ x ∈ nsl) :=
  C02_compile_total regexOk ns text a hparse hfrag

open XPathV.PathSem XPathV.PredSem XPathV.ApiSem in
/-- `C02_from_text` without the `HashInj` hypothesis (it is a theorem: `hashInj_holds`; the side
condition left is "no element has two attributes with the same prefix, name and value") -/
theorem C02_from_text_unconditional (regexOk : RegexOk) (ns : Option (List (String × String)))
    (text : List Char) (a : Ast) (hparse : parse (fuelFor text) (defaultCfg ns) text = .ok a)
    (hfrag : Frag true a) :
    (∃ e, compile { regexOk := regexOk } ns text = .error (.build e)) ∨
    (∃ p, compile { regexOk := regexOk } ns text = .ok p ∧ PathShape p ∧
      ∀ (F : Type) [NumAlg F] (d : Doc), WF d → ∀ cfg : ECfg, cfg.nsIface = true →
        AttrTriplesDistinct d →
        ∀ c, validRef d c = true →
          ∃ l nsl, selectAll (F := F) d cfg p c = .ok l ∧ evaluate (F := F) d cfg p c = .ok (.nodes l) ∧
            Spec.evalTop (F := F) d a c = .ok (.nodes nsl) ∧ ∀ x, x ∈ l ↔ x ∈ nsl) := by
  rcases C02_from_text regexOk ns text a hparse hfrag with h | ⟨p, h1, h2, h3⟩
  · exact .inl h
  · exact .inr ⟨p, h1, h2, fun F _ d wf cfg hns hattr c hc =>
      h3 F d wf cfg hns (hashInj_holds wf hattr cfg) c hc⟩

open XPathV.ApiSem in
theorem compile_never_out_of_fuel (cc : CompileCfg) (ns : Option (List (String × String))) (text : List Char) :
    compile cc ns text ≠ .error (.parse .fuel) :=
  compile_ne_fuel cc ns text

/-! ## the machine-level statement for filters with predicates of any value kind (`Lemmas/Pull2Gen`)

`DecOK'`: the oracle `dec` only has to be the keep-decision the sequence model makes for the candidates the machine
can present (boolean, string and node-list valued predicates without restriction; a number-valued predicate when its
verdict is a function of the node among the candidates offered — `DecOK → DecOK'`). -/
section AnyPredicate
open XPathV.Model
/-- **no state leaks between evaluations, all sixteen iterator types (`Model/Pull2`)**, filters with
predicates of any value kind: from every state reachable by any sequence of `Evaluate`, `Clone` and
`Select` calls, `Evaluate` followed by a drain reports exactly the sequence of the plan for the new
context node, and nothing else at any fuel. -/
theorem evaluate_restarts_all_iterators_any_predicate {F : Type} [NumAlg F] (d : Doc) (cfg : ECfg) (dec : Plan → Ref → Bool) (hd : 0 < d.length)
    (p0 : Plan) (hw : NeedsWF p0 → WF d) (q : PQ2)
    (hr : Reach d cfg dec p0 q) (c : Ref) (hdec : q.DecOK' (F := F) d cfg dec c) (hg : Good d c) :
    ∃ l, sel (F := F) d cfg p0 c = .ok l ∧
      (∃ q' c' f0, ∀ f, f0 ≤ f → drain2 d cfg dec f q.evaluate c = some (l, q', c')) ∧
      (∀ f l' q' c', drain2 d cfg dec f q.evaluate c = some (l', q', c') → l' = l) :=
  reach_evaluate_restarts' d cfg dec hd p0 hw q hr c hdec hg

end AnyPredicate

end XPathV.Theorems.C02


/-! ## C02 from the expression text, extended fragment `Frag2` (`Lemmas/ApiSem2`) -/
namespace XPathV.Theorems.C02
open XPathV XPathV.Model

open XPathV.PathSem XPathV.PredSem XPathV.PredSem2 XPathV.ApiSem in
/-- **C02 at the public API, from the expression text, extended fragment**: on a text that parses
into `Frag2` (`count(P) op n`, `not(count(P))`, `contains`/`starts-with`/`ends-with` forms,
`local-name` forms, `(P)[b]`, `P op Q`, `P op 'lit'`, `'lit' op P` — no constructor excluded; the
plan of a top-level `(P)[b]` is a `.filter`, hence path-shaped), `compile` at the source
configuration either reports a builder error or returns a path-shaped plan on which `Select` and
`Evaluate` agree with the oracle at every valid context node of every well-formed document -/
theorem C02_from_text_full (regexOk : RegexOk) (ns : Option (List (String × String)))
    (text : List Char) (a : Ast) (hparse : parse (fuelFor text) (defaultCfg ns) text = .ok a)
    (hfrag : Frag2 true a) :
    (∃ e, compile { regexOk := regexOk } ns text = .error (.build e)) ∨
    (∃ p, compile { regexOk := regexOk } ns text = .ok p ∧ PathShape p ∧
      ∀ (F : Type) [NumAlg F] (d : Doc), WF d → ∀ cfg : ECfg, cfg.nsIface = true → HashInj d cfg →
        ∀ c, validRef d c = true →
          ∃ l nsl, selectAll (F := F) d cfg p c = .ok l ∧ evaluate (F := F) d cfg p c = .ok (.nodes l) ∧
            Spec.evalTop (F := F) d a c = .ok (.nodes nsl) ∧ ∀ x, x ∈ l ↔ x ∈ nsl) :=
  C02_compile_total2 regexOk ns text a hparse hfrag

open XPathV.PathSem XPathV.PredSem XPathV.PredSem2 XPathV.ApiSem in
/-- `C02_from_text_full` without the `HashInj` hypothesis (`hashInj_holds`; the side condition left
is "no element has two attributes with the same prefix, name and value") -/
theorem C02_from_text_full_unconditional (regexOk : RegexOk) (ns : Option (List (String × String)))
    (text : List Char) (a : Ast) (hparse : parse (fuelFor text) (defaultCfg ns) text = .ok a)
    (hfrag : Frag2 true a) :
    (∃ e, compile { regexOk := regexOk } ns text = .error (.build e)) ∨
    (∃ p, compile { regexOk := regexOk } ns text = .ok p ∧ PathShape p ∧
      ∀ (F : Type) [NumAlg F] (d : Doc), WF d → ∀ cfg : ECfg, cfg.nsIface = true →
        AttrTriplesDistinct d →
        ∀ c, validRef d c = true →
          ∃ l nsl, selectAll (F := F) d cfg p c = .ok l ∧ evaluate (F := F) d cfg p c = .ok (.nodes l) ∧
            Spec.evalTop (F := F) d a c = .ok (.nodes nsl) ∧ ∀ x, x ∈ l ↔ x ∈ nsl) := by
  rcases C02_from_text_full regexOk ns text a hparse hfrag with h | ⟨p, h1, h2, h3⟩
  · exact .inl h
  · exact .inr ⟨p, h1, h2, fun F _ d wf cfg hns hattr c hc =>
      h3 F d wf cfg hns (hashInj_holds wf hattr cfg) c hc⟩

end XPathV.Theorems.C02

