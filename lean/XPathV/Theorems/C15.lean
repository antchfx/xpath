import XPathV.Lemmas.NoCrashCompile
import XPathV.Lemmas.CallFn
import XPathV.Model.Api
import XPathV.Lemmas.Facts
/-!
# C15 — a compiled expression never fails with a Go runtime error (partial)

Full statement (kept visible): for every plan the builder accepts, every document and context,
`sel`/`evalP` return a value of a documented type or a deliberately raised error — never
`EErr.crash`.  Proved below: the structural halves (T0), the per-construct safety lemmas, and the main
theorem `C15_main_without_round`: the full statement for every compiled text that does not call
`round`.  The exclusion cannot be dropped (`round()` returns a Go `int`, which reaches `getXPathType` —
a known finding pinned by `Test_func_round`; `round_finding_witness`), so `C15Statement` itself is not
proved.
-/
namespace XPathV.Theorems.C15
open XPathV XPathV.Model XPathV.Facts NumAlg

/-- the full statement -/
def C15Statement (F : Type) [NumAlg F] : Prop :=
  ∀ (cc : CompileCfg) ns text p, compile cc ns text = .ok p →
    ∀ (d : Doc) (cfg : ECfg) (c : Ref),
      (∀ k, sel (F := F) d cfg p c ≠ .error (.crash k)) ∧ (∀ k, evalP (F := F) d cfg p c ≠ .error (.crash k))

/-- T0 (F1): the comparison dispatch matrix has no nil cell -/
theorem dispatch_total : Generated.cmpTable.all (fun row => row.all Option.isSome) = true := by decide

/-- T0 (F14): `asBool`/`asString` have arms for every documented dynamic type, `mod` does not go
through `int` -/
theorem conversions_total :
    (Generated.convs.find? (fun c => c.func == "asBool")).map (·.arms) = some ["nil", "*NodeIterator", "bool", "float64", "string", "query"] ∧
    (Generated.convs.find? (fun c => c.func == "asString")).map (·.arms) = some ["nil", "bool", "float64", "string", "query"] ∧
    Generated.modUsesIntConversion = false := by decide

/-- T0 (F3, F4): unknown functions and unknown axes are compile errors; `processNode` handles every
node type including variables -/
theorem unsupported_constructs_rejected : Generated.funcDefaultErrors = true ∧ Generated.axisDefaultErrors = true ∧
    Generated.processNodeCases.contains "nodeVariable" = true := by decide

/-- the known finding, as a fact: `round` returns `int` -/
theorem round_returns_int : Generated.roundReturnType = "int" := by decide

variable {F : Type} [NumAlg F]

/-- the builder never emits a nil plan for a variable reference: it is an error -/
theorem variables_rejected (rx : RegexOk) (lim : Nat) (a b : Bool) (p n : String) (fl : Flags) (st : BState) (hlim : st.depth + 1 ≤ lim) :
    build rx lim a b (.var p n) fl st = .error .undeclaredVariable :=
  Model.build_var_error hlim

/-- comparisons of documented value types never crash: every pair of operand types has a cell -/
theorem comparison_never_crashes (d : Doc) (op : Spec.CmpOp) (m n : MVal F)
    (hm : ∀ i, m ≠ .int i) (hm' : m ≠ .nilv) (hn : ∀ i, n ≠ .int i) (hn' : n ≠ .nilv) :
    ∃ b, cmpM d op m n = .ok b := by
  have ok : ∀ {v : MVal F}, (∀ i, v ≠ .int i) → v ≠ .nilv → v.ok = true := fun {v} h h' => by
    cases v <;> first | rfl | exact absurd rfl (h _) | exact absurd rfl h'
  exact cmpM_total d op (ok hm hm') (ok hn hn')

/-- `mod` by zero is a value (NaN by IEEE), not an integer division crash -/
theorem mod_never_crashes (d : Doc) (cfg : ECfg) (c : Ref) (l1 l2 : String) :
    ∃ v, evalP (F := F) d cfg (.numeric "mod" (.constNum l1) (.constNum l2)) c = .ok v := by
  simp [evalP, asNumberM, bind, Except.bind]

/-- a comparison used as a path input yields the context node at most once (before its
repair `logicalQuery.Select` yielded it forever) -/
theorem logical_select_finite (d : Doc) (cfg : ECfg) (op : String) (l r : Plan) (c : Ref) (out : List Item)
    (h : sel (F := F) d cfg (.logical op l r) c = .ok out) : out.length ≤ 1 := by
  simp only [sel, bind, Except.bind] at h
  repeat (split at h <;> try cases h)
  all_goals simp

/-! ## The safety theorem, closed up to the recorded `round()` finding -/

/-- **C15 (partial only by the `round()` exclusion)**: whatever text `compile` accepts, if the text
does not call `round`, then on every document (well-formed or not), every engine configuration and
every context node, neither `Select` nor `Evaluate` ends in a Go runtime error: the only failures
left are errors the package raises deliberately.  (Induction over all 27 plan constructors and the
function library; the builder emits no nil sub-plan; variables and `namespace::` are compile errors.) -/
theorem C15_main_without_round (cc : CompileCfg) (ns : Option (List (String × String))) (text : List Char) (p : Plan)
    (h : compile cc ns text = .ok p) (hr : noRoundIn ns text) (d : Doc) (cfg : ECfg) (c : Ref) :
    (∀ k, sel (F := F) d cfg p c ≠ .error (.crash k)) ∧ (∀ k, evalP (F := F) d cfg p c ≠ .error (.crash k)) :=
  compile_no_crash cc ns text p h hr d cfg c

/-- the exclusion is necessary — the known finding as a theorem: `round(1) = 1` ends in the
"unknown value type: int" failure.  (Stated on the plan written out by hand, not on an output of
`compile`.) -/
theorem round_finding_witness (d : Doc) (cfg : ECfg) (c : Ref) :
    evalP (F := F) d cfg (.logical "=" (.func "round" .nil (.pcons (.constNum "1") .pnil)) (.constNum "1")) c
      = .error (.crash .unknownType) := by
  rw [evalP, evalP_func1 d cfg "round" .nil _ c (by decide), callFn_round]
  -- whatever `int` `round` returns, `xtypeOf` has no arm for it
  cases h : toInt (roundGo (asNumberM d (MVal.num (Spec.strToNum "1") : MVal F))) <;>
    simp only [evalP, argAt, List.getElem?_cons_zero, Option.getD_some, bind, Except.bind, h] <;> rfl

/-- for *any* clean plan (no nil sub-plan, no `round`), not only compiled ones -/
theorem clean_plans_never_crash (d : Doc) (cfg : ECfg) (p : Plan) (c : Ref) (hp : p.clean = true) :
    (∀ k, sel (F := F) d cfg p c ≠ .error (.crash k)) ∧ (∀ k, evalP (F := F) d cfg p c ≠ .error (.crash k)) :=
  no_crash d cfg p c hp

end XPathV.Theorems.C15
