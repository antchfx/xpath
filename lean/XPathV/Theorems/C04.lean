import XPathV.Lemmas.PullProofs
import XPathV.Lemmas.Pull2Proofs
import XPathV.Model.Api
import XPathV.Lemmas.FactsT0
import XPathV.Generated.ExtraFacts
import XPathV.Lemmas.Pull2Gen
/-!
# C04 — a compiled expression is a pure function of (document, context node)

In the model an `Expr` *is* its plan: `Select` and `Evaluate` start from the reset state of a
clone, so the outcome of a call cannot depend on earlier calls.  What makes this the model of the
code is structural and is re-read from the source on every run (F7, F15): both entry points clone
the shared query tree before touching it, and every `Clone` copies configuration only.
-/
namespace XPathV.Theorems.C04
open XPathV XPathV.Model XPathV.Facts

/-- T0 (F15): `Expr.Select` and `Expr.Evaluate` both operate on `expr.q.Clone()` -/
theorem api_clones : Generated.selectClones = true ∧ Generated.evaluateClonesBeforeEval = true ∧
    Generated.evaluateIterClones = true := Facts.api_clones

/-- T0 (F7): every `Clone` builds the expected type, copies every configuration field, copies no
iteration-state field, and clones (never shares) its sub-queries -/
theorem clone_table_ok : Generated.structs.all cloneOk = true := structs_cloneOk

variable {F : Type} [NumAlg F]

/-- operations on one compiled expression -/
inductive Op
  | select (d : Doc) (c : Ref) (consumed : Nat)   -- iterate `consumed` results, then abandon
  | evaluate (d : Doc) (c : Ref)

/-- outcome of one operation on a plan, as the model computes it from the reset state -/
def outcome (cfg : ECfg) (p : Plan) : Op → Except EErr (MVal F)
  | .select d c n => (selectAll (F := F) d cfg p c).map (fun l => .nodes (l.take n))
  | .evaluate d c => evaluate (F := F) d cfg p c

/-- run a history on a shared expression: since every call clones, the "state" threaded through
the history is the plan itself, unchanged -/
def runHistory (cfg : ECfg) (p : Plan) : List Op → List (Except EErr (MVal F))
  | [] => []
  | op :: rest => outcome (F := F) cfg p op :: runHistory cfg p rest

/-- **history independence**: the last outcome of any history equals the outcome on a fresh
compile of the same text, whatever was evaluated before and however far it was consumed -/
theorem C04_history_independent (cfg : ECfg) (p : Plan) (h : List Op) (op : Op) :
    (runHistory (F := F) cfg p (h ++ [op])).getLast? = some (outcome (F := F) cfg p op) := by
  induction h with
  | nil => simp [runHistory]
  | cons a t ih =>
    simp only [List.cons_append, runHistory]
    cases hrest : runHistory (F := F) cfg p (t ++ [op]) with
    | nil => simp [hrest] at ih
    | cons x xs => rw [hrest] at ih; simpa using ih

/-- **Clone on the pull machine**: a clone is fresh, has the same configuration, does not depend on
the state of the original, is idempotent, and yields the whole sequence -/
theorem clone_is_fresh_and_state_independent (d : Doc) (cfg : ECfg) (cur : Ref) (q : PQ) :
    q.clone.fresh = true ∧ q.clone.plan = q.plan ∧ q.clone.clone = q.clone ∧
    (∀ q2 : PQ, q2.plan = q.plan → q2.clone = q.clone) ∧
    sel (F := F) d cfg q.plan cur = .ok (rem d cfg cur q.clone) :=
  clone_fresh d cfg cur q

/-- **`Clone` on all sixteen iterator types (`Model/Pull2`)**: whatever state the shared query tree
is in, its clone is in reset state (`Evaluate` changes nothing), satisfies the machine invariant, and its stream is the whole
sequence of the plan — so every `Select`/`Evaluate` of the public API (which clone first, F15)
starts from scratch.  (`cachedChildQuery.Clone` returns a `childQuery`, as in Go: same sequence.) -/
theorem clone_is_fresh_all_iterators {F : Type} [NumAlg F] (d : Doc) (cfg : ECfg) (dec : Plan → Ref → Bool)
    (q : PQ2) (hdec : q.DecOK (F := F) d cfg dec) (c : Ref) :
    q.clone.evaluate = q.clone ∧ q.clone.Inv d ∧
      sel (F := F) d cfg q.plan c = .ok (rem2 d cfg dec c q.clone) := by
  refine ⟨PQ2.clone_evaluate q, PQ2.inv_clone d q, ?_⟩
  rw [rem2_clone]; exact sel_full2_from_gen d cfg dec q hdec c

/-- T0: a function evaluates a per-call clone of its argument query (`func.go: functionArgs`); the only dynamic type
used in place is `functionQuery`, which has no iteration state of its own and whose callback clones *its* arguments
when it runs (an exemption of a type that keeps state — `transformFunctionQuery` behind `reverse()`, say — makes
evaluations share that state) -/
theorem function_arguments_cloned_per_call :
    Generated.functionArgsExempt = ["functionQuery"] ∧ Generated.functionArgsClonesOtherwise = true :=
  function_arguments_cloned

/-! ## the machine-level statement for filters with predicates of any value kind (`Lemmas/Pull2Gen`)

`DecOK'`: the oracle `dec` only has to be the keep-decision the sequence model makes for the candidates the machine
can present (boolean, string and node-list valued predicates without restriction; a number-valued predicate when its
verdict is a function of the node among the candidates offered — `DecOK → DecOK'`). -/
section AnyPredicate
open XPathV.Model
/-- **`Clone` on all sixteen iterator types (`Model/Pull2`)**, filters with predicates of any value
kind: whatever state the shared query tree is in, its clone is in reset state, satisfies the machine
invariant, and its stream is the whole sequence of the plan. -/
theorem clone_is_fresh_all_iterators_any_predicate {F : Type} [NumAlg F] (d : Doc) (cfg : ECfg) (dec : Plan → Ref → Bool)
    (q : PQ2) (c : Ref) (hdec : q.DecOK' (F := F) d cfg dec c) :
    q.clone.evaluate = q.clone ∧ q.clone.Inv d ∧
      sel (F := F) d cfg q.plan c = .ok (rem2 d cfg dec c q.clone) := by
  refine ⟨PQ2.clone_evaluate q, PQ2.inv_clone d q, ?_⟩
  rw [rem2_clone]; exact sel_full2' d cfg dec q c hdec

end AnyPredicate

end XPathV.Theorems.C04
