import XPathV.Lemmas.Facts
import XPathV.Generated.ExtraFacts
import XPathV.Lemmas.C17Base
import XPathV.Lemmas.ParserTokens
import XPathV.Lemmas.ScanTail
import XPathV.Lemmas.BuildRejects
/-!
# C17 — truncated or ill-formed expressions are rejected by Compile (property-level theorems)

`Lemmas/C17Base.lean` (same namespace) holds the local rejection lemmas (the T0 theorems over the
builder's tables are in this file, below); `Lemmas/ParserTokens.lean` the consumed-token theorem for the parser model
(mutual induction over all fifteen parser functions, every fuel, every configuration): what a
successful parser call consumes is a word of a token grammar `G`, whose words are non-empty, end in
an end token and are balanced.  The theorems below are its corollaries for `parse`.

`TextToks text ts`: the scanner turns `text` into the token stream `ts` (ending in `.eof`).
A rejection `∃ e, parse fuel cfg text = .error e` holds for **every** fuel and configuration.

Character level (`Lemmas/ScanTail.lean`): whatever precedes it, a final character
`[ ( , @ $ | + = < > ! #` is either the text's last token or sits in a literal that is then
unclosed — `truncation_rejected` is the corrected truncation statement, for *any* text (valid or
not) without U+0000 (which the scanner treats as end of input).  Not rejected in general, with the
exact exceptions proved at token level: a final `/` (`/`, `a | /`), `*` (`a/*`), `-` (a name
character: `a-`), `.`, and operator *words* (`and or div mod` are name tokens; covered at the
tier loop by `operator_then_end_rejected`).
-/
namespace XPathV.Theorems.C17
open XPathV XPathV.Model XPathV.Facts XPathV.Lemmas.ParserTokens

/-- **every accepted text** has a token stream that is non-empty, ends in an end token (name, `*`,
`)`, `]`, `.`, `..`, string, number — or a `/` that is a complete root path) and is balanced in
`()` and `[]` -/
theorem accepted_streams {fuel : Nat} {cfg : PCfg} {text : List Char} {a : Ast}
    (h : parse fuel cfg text = .ok a) :
    ∃ used, TextToks text (used ++ [.eof]) ∧ used ≠ [] ∧ EndOK used ∧ Bal used :=
  accepted_ends_in_end_token h

/-- **cut after an operator symbol, an opening bracket or parenthesis, a comma, `//`, `@`, `$`, `!`
or an axis specifier**: rejected -/
theorem cut_after_opener_rejected (fuel : Nat) (cfg : PCfg) {text : List Char} {pre : List Tok} {t : Tok}
    (ht : TextToks text (pre ++ [t, .eof]))
    (hmem : t ∈ [Tok.lbracket, .lparen, .comma, .at, .dollar, .plus, .minus, .eq, .ne, .lt, .le, .gt, .ge,
      .union, .slashslash, .bang, .axe]) :
    ∃ e, parse fuel cfg text = .error e :=
  reject_trailing fuel cfg ht hmem

/-- **cut after a slash inside a path**: the stream ends with `t /` where `t` closes a step or a
primary expression (`)`, `]`, `.`, `..`, string, number) -/
theorem cut_after_slash_rejected (fuel : Nat) (cfg : PCfg) {text : List Char} {pre : List Tok} {t : Tok}
    (ht : TextToks text (pre ++ [t, .slash, .eof]))
    (hmem : t ∈ [Tok.rparen, .rbracket, .dot, .dotdot, .string, .number]) :
    ∃ e, parse fuel cfg text = .error e :=
  reject_trailing_slash_hard fuel cfg ht hmem

/-- … and after a name or `*`, unless what precedes them is itself a complete expression (then the
name is an operator word or `*` the multiplication, and `/` its right operand: `a and /`, `a * /`
are valid XPath) -/
theorem cut_after_slash_rejected_name (fuel : Nat) (cfg : PCfg) {text : List Char} {pre : List Tok} {t : Tok}
    (ht : TextToks text (pre ++ [t, .slash, .eof])) (h1 : t ≠ .minus) (h2 : ¬ G .expr pre) :
    ∃ e, parse fuel cfg text = .error e :=
  reject_trailing_slash_operand fuel cfg ht h1 h2

/-- **unbalanced brackets**: rejected -/
theorem unbalanced_rejected (fuel : Nat) (cfg : PCfg) {text : List Char} {ts : List Tok}
    (ht : TextToks text (ts ++ [.eof])) (h : ¬ Bal ts) : ∃ e, parse fuel cfg text = .error e :=
  reject_unbalanced fuel cfg ht h

/-- `Bal` is what it should be: per bracket kind every prefix has at least as many opening as
closing tokens, and the totals are equal -/
theorem balanced_iff (u : List Tok) : Bal u ↔
    (∀ k, (u.take k).count .rparen ≤ (u.take k).count .lparen) ∧ u.count .lparen = u.count .rparen ∧
    (∀ k, (u.take k).count .rbracket ≤ (u.take k).count .lbracket) ∧ u.count .lbracket = u.count .rbracket :=
  Bal_iff u

/-- **deleting a closing (or opening) bracket or parenthesis of an accepted expression**: any text
whose token stream is the accepted one minus one bracket token is rejected -/
theorem bracket_deleted_rejected {fuel : Nat} {cfg : PCfg} {text : List Char} {a : Ast} {p q : List Tok} {t : Tok}
    (hok : parse fuel cfg text = .ok a) (hts : TextToks text (p ++ t :: q ++ [.eof])) (ht : isBr t = true)
    (fuel' : Nat) (cfg' : PCfg) {text' : List Char} (hts' : TextToks text' (p ++ q ++ [.eof])) :
    ∃ e, parse fuel' cfg' text' = .error e := by
  obtain ⟨u, hu, gu⟩ := parse_ok_grammar hok
  have := List.append_cancel_right (hts.det hu)
  subst this
  exact reject_unbalanced fuel' cfg' hts' (gu.bal.erase_bracket ht)

/-- **unclosed quote** anywhere in the text: the scanner error propagates -/
theorem unclosed_quote_rejected (fuel : Nat) (cfg : PCfg) {text : List Char} {s s1 : Scan} {u : List Tok}
    (hs : Scan.init text = .ok s) (hu : Steps s u s1) (hne : s1.typ ≠ .eof)
    (hq : s1.skipSpace.curr = '"' ∨ s1.skipSpace.curr = '\'')
    (h : scanStringAux s1.skipSpace.curr s1.skipSpace.rest = none) :
    ∃ e, parse fuel cfg text = .error e :=
  reject_scan_error fuel cfg hs hu hne (nextItem_unclosed s1 hq h)

/-- **malformed token** (invalid character, malformed qualified name, bad number) anywhere in the
part of the text the parser reads: the scanner error propagates -/
theorem scan_error_rejected (fuel : Nat) (cfg : PCfg) {text : List Char} {s s1 : Scan} {u : List Tok} {e0 : ScanErr}
    (hs : Scan.init text = .ok s) (hu : Steps s u s1) (hne : s1.typ ≠ .eof) (herr : s1.nextItem = .error e0) :
    ∃ e, parse fuel cfg text = .error e :=
  reject_scan_error fuel cfg hs hu hne herr

/-- **cut after an operator, word or symbol**: when the tier loop has matched an operator at the
current token and the text ends right after it, the loop fails -/
theorem operator_then_end_rejected (f : Nat) (cfg : PCfg) {ops : List String} (rest : List Stage) (opnd : Ast)
    {st st1 : PState} {op : String} (hfind : ops.find? (tokMatches st.s) = some op)
    (h1 : st.next = .ok st1) (he : st1.s.typ = .eof) :
    ∃ e, tierLoop f cfg ops rest opnd st = .error e := by
  cases f with
  | zero => exact ⟨.fuel, by simp [tierLoop]⟩
  | succ f =>
    -- the operand after the operator would have to start at the end of the text
    obtain ⟨e, he⟩ := parseChain_at_eof f cfg rest st1 he
    exact ⟨e, by simp [tierLoop, hfind, h1, he, bind, Except.bind]⟩

/-- the character-level truncation statement `C17TruncationStatement`, which counts `/` among the
characters, is false: `/a` cut after the slash is the accepted root path `/` -/
theorem first_truncation_statement_was_false : ¬ C17TruncationStatement := by
  intro h
  have hok : ∃ a, parse (fuelFor "/a".toList) (defaultCfg none) "/a".toList = .ok a := by
    cases hp : parse (fuelFor "/a".toList) (defaultCfg none) "/a".toList with
    | ok a => exact ⟨a, rfl⟩
    | error e =>
      have : (parse (fuelFor "/a".toList) (defaultCfg none) "/a".toList).isOk = true := by
        rw [Lemmas.ParserShape.defaultCfg_eq]; decide +kernel
      rw [hp] at this; cases this
  obtain ⟨a, hok⟩ := hok
  obtain ⟨e, he⟩ := h (defaultCfg none) "/a".toList a hok 1 (by decide) ⟨'/', by decide, by decide⟩
  have : (parse (fuelFor ("/a".toList.take 1)) (defaultCfg none) ("/a".toList.take 1)).isOk = true := by
    rw [Lemmas.ParserShape.defaultCfg_eq]; decide +kernel
  rw [he] at this; cases this

/-- non-vacuity, for every fuel and configuration: `a[`, `a/`, `f(1,`, `a[b`, `concat('a'`,
`'abc` are rejected by the theorems above -/
theorem examples_rejected (fuel : Nat) (cfg : PCfg) :
    (∃ e, parse fuel cfg "a[".toList = .error e) ∧ (∃ e, parse fuel cfg "a/".toList = .error e) ∧
    (∃ e, parse fuel cfg "f(1,".toList = .error e) ∧ (∃ e, parse fuel cfg "a[b".toList = .error e) ∧
    (∃ e, parse fuel cfg "concat('a'".toList = .error e) ∧
    parse fuel cfg "'abc".toList = .error (.scan .unclosedString) :=
  ⟨ex_cut_lbracket fuel cfg, ex_cut_slash fuel cfg, ex_cut_comma fuel cfg, ex_unclosed_bracket fuel cfg,
   ex_unclosed_paren fuel cfg, ex_unclosed_quote fuel cfg⟩

open XPathV.Lemmas.ScanTail in
/-- **C17, truncation, character level**: cut any text (without U+0000) right after one of the
characters `[ ( , @ $ | + = < > ! #` — the result is rejected, for every fuel and configuration.
No assumption on what precedes the cut: if the character falls inside a string literal, the
literal is unclosed and the scanner fails. -/
theorem truncation_rejected (cfg : PCfg) (text : List Char) (hnul : '\x00' ∉ text) (cut : Nat) (hcut : 0 < cut)
    (hc : ∃ c, text[cut - 1]? = some c ∧ c ∈ cutDelims) (fuel : Nat) :
    ∃ e, parse fuel cfg (text.take cut) = .error e :=
  Lemmas.ScanTail.truncation_rejected cfg text hnul cut hcut hc fuel

open XPathV.Lemmas.ScanTail in
/-- … after `//` -/
theorem truncation_after_slashslash_rejected (cfg : PCfg) (text : List Char) (hnul : '\x00' ∉ text) (cut : Nat)
    (h1 : text[cut]? = some '/') (h2 : text[cut + 1]? = some '/') (fuel : Nat) :
    ∃ e, parse fuel cfg (text.take (cut + 2)) = .error e := by
  rw [take_succ_of_getElem? h2, take_succ_of_getElem? h1, List.append_assoc]
  exact cut_after_slashslash_rejected (fun h => hnul (List.mem_of_mem_take h)) fuel cfg

open XPathV.Lemmas.ScanTail in
/-- … after an opening quote (a quote character that does not occur before the cut) -/
theorem truncation_after_quote_rejected (cfg : PCfg) (text : List Char) (hnul : '\x00' ∉ text) (cut : Nat) {q : Char}
    (hq : isQuote q) (hget : text[cut]? = some q) (hfresh : q ∉ text.take cut) (fuel : Nat) :
    ∃ e, parse fuel cfg (text.take (cut + 1)) = .error e := by
  rw [take_succ_of_getElem? hget]
  exact cut_after_fresh_quote_rejected (fun h => hnul (List.mem_of_mem_take h)) hq hfresh fuel cfg

open XPathV.Lemmas.ScanTail in
/-- the scanner fact behind it: the last character of a text, when it is one of the delimiter
characters, is the text's last token (one of `lastToks c`) unless scanning fails -/
theorem last_character_is_last_token {pre : List Char} {c : Char} (hpre : '\x00' ∉ pre) (hD : c ∈ delims) :
    ScanFails (pre ++ [c]) ∨ ∃ ts t, t ∈ lastToks c ∧ TextToks (pre ++ [c]) (ts ++ [t, .eof]) :=
  last_char_tokens hpre hD

/-! ## T0: what the regenerated facts say about the current source (leaf theorems: nothing builds on them, so a
change of the source that invalidates one of them stops only this module) -/

/-- T0: the parser requires the end of the input; unknown functions and axes are errors -/
theorem structural_rejections : Generated.parseRequiresEOF = true ∧ Generated.funcDefaultErrors = true ∧
    Generated.axisDefaultErrors = true := by decide

/-- T0 (F3): required arguments: the minimum arity the builder enforces per function -/
theorem min_arities : (Generated.funcTable.map (fun e => (e.names.headD "", e.minArgs))) =
    [("lower-case", 1), ("starts-with", 2), ("ends-with", 2), ("contains", 2), ("matches", 2), ("substring", 2),
     ("substring-before", 2), ("string-length", 1), ("normalize-space", 0), ("replace", 3), ("translate", 3), ("not", 1),
     ("name", 0), ("true", 0), ("last", 0), ("position", 0), ("boolean", 0), ("count", 1), ("sum", 1), ("ceiling", 1),
     ("concat", 2), ("reverse", 1), ("string-join", 2)] := by decide

/-! ## Second half of the property: unknown functions, missing arguments, unknown axes, malformed names

(`Lemmas/BuildRejects*`.  `BadNode t`: somewhere the builder recurses into, the tree has a call of an unknown
function, a call with fewer arguments than the function requires or more than it allows, or a step with an
unknown axis name.) -/
section Rejects
open XPathV.BuildRejects

/-- **tree level**: the builder model fails on every tree with a bad node — for every regexp oracle, depth limit,
builder configuration, flags and state (induction over all node kinds) -/
theorem C17_builder_rejects_bad_tree (rx : RegexOk) (lim : Nat) (sn sd : Bool) (t : Ast) (fl : Flags) (st : BState)
    (h : Bad t fl.take = true) : ∃ e, build rx lim sn sd t fl st = .error e :=
  build_fails_of_bad rx lim sn sd t fl st h

/-- **from the text**: if the parser accepts `text` with a tree that has a bad node, `Compile` is an error (never an
expression), at every configuration and namespace map -/
theorem C17_compile_rejects_bad_tree (cc : CompileCfg) (ns : Option (List (String × String))) (text : List Char)
    (t : Ast) (hp : parse (fuelFor text) (defaultCfg ns) text = .ok t) (hb : BadNode t = true) :
    ∃ e, compile cc ns text = .error (.build e) :=
  compile_fails_of_bad cc ns text t hp hb

/-- conversely an accepted expression has no bad node -/
theorem C17_compiled_has_no_bad_node (cc : CompileCfg) (ns : Option (List (String × String))) (text : List Char)
    (p : Plan) (h : compile cc ns text = .ok p) :
    ∃ t, parse (fuelFor text) (defaultCfg ns) text = .ok t ∧ BadNode t = false :=
  no_bad_node_of_compile_ok cc ns text p h

/-- **a function renamed to an unknown name** (anywhere in the expression): `text'` has the token stream of the
accepted `text` except that one function-name token `g` reads `g'`, which the builder does not know -/
theorem C17_function_renamed_rejected (cc : CompileCfg) (ns : Option (List (String × String))) {g g' : String}
    (hne : g ≠ g') (hg : g ∉ nodeTypes) (hg' : g' ∉ nodeTypes) (ho : g ∉ opWords stages) (ho' : g' ∉ opWords stages)
    (hunk : fnArity g' = none) {text text' : List Char} {s s' : Scan} {k : Nat}
    (hi : Scan.init text = .ok s) (hi' : Scan.init text' = .ok s') (hB : Before g g' k s s')
    {t : Ast} (hp : parse (fuelFor text) (defaultCfg ns) text = .ok t) (hu : NoSuperfluousArgs t = true) :
    ∃ e, compile cc ns text' = .error e :=
  compile_fails_after_rename cc ns hne hg hg' ho ho' hunk hi hi' hB hp hu

/-- … at the character level when the renamed function starts the expression: every accepted `G(…)…` with `G`
replaced by an unknown plain name is rejected -/
theorem C17_leading_function_renamed_rejected (cc : CompileCfg) (ns : Option (List (String × String)))
    (G G' post rest : List Char) (hG : plainName G = true) (hG' : plainName G' = true)
    (hstop : ∀ c cs, post = c :: cs → isName c = false ∧ c.toNat < 0x80)
    (hpost : post.dropWhile isSpace = '(' :: rest)
    (hne : String.ofList G ≠ String.ofList G')
    (hg : String.ofList G ∉ nodeTypes) (hg' : String.ofList G' ∉ nodeTypes)
    (ho : String.ofList G ∉ opWords stages) (ho' : String.ofList G' ∉ opWords stages)
    (hunk : fnArity (String.ofList G') = none) (hacc : acceptedTight ns (G ++ post) = true) :
    ∃ e, compile cc ns (G' ++ post) = .error e :=
  compile_fails_rename_first cc ns G G' post rest hG hG' hstop hpost hne hg hg' ho ho' hunk hacc

/-- **required arguments removed** -/
theorem C17_missing_arguments_rejected (cc : CompileCfg) (ns : Option (List (String × String))) (text : List Char)
    (t : Ast) (hp : parse (fuelFor text) (defaultCfg ns) text = .ok t) {g pfx : String} {args : Ast}
    {mn : Nat} {mx : Option Nat} {idx : Bool}
    (hv : Visits t 0 (.call g pfx args)) (hg : fnArity g = some (mn, mx, idx)) (hlt : args.argList.length < mn) :
    ∃ e, compile cc ns text = .error (.build e) :=
  compile_fails_missing_arguments cc ns text t hp hv hg hlt

/-- **unknown axis name**, in a tree and as a text: `name::l` with any name that is not one of the twelve axes -/
theorem C17_unknown_axis_rejected (cc : CompileCfg) (ns : Option (List (String × String))) (text : List Char)
    (t : Ast) (hp : parse (fuelFor text) (defaultCfg ns) text = .ok t) {a : AxisInfo} {inp : Ast}
    (hv : Visits t 0 (.axis a inp)) (ha : a.axis ∉ axisTable) :
    ∃ e, compile cc ns text = .error (.build e) :=
  compile_fails_unknown_axis cc ns text t hp hv ha

theorem C17_unknown_axis_text_rejected (cc : CompileCfg) (ns : Option (List (String × String))) (name l : List Char)
    (hn : plainName name = true) (hl : plainName l = true) (hbad : String.ofList name ∉ axisTable) :
    compile cc ns (name ++ ':' :: ':' :: l) = .error (.build (axisErr (String.ofList name))) :=
  compile_unknown_axis_text cc ns name l hn hl hbad

/-- **malformed qualified names**: `w:` followed by something that cannot start a local name (`a:`, `a: b`, `a:1`,
`a:(`); a text that starts with `:`; a second colon (`a:b:c`).  (`w :x`, a blank before the colon, is
`BuildRejects.compile_name_blank_colon` in `Lemmas/BuildRejects/Text.lean`; it has no `C17_` statement.) -/
theorem C17_qname_without_local_rejected (cc : CompileCfg) (ns : Option (List (String × String))) (w t1 : List Char)
    (hw : plainName w = true) (h1 : (Lemmas.ScanTail.mkCR t1).1 ≠ ':') (h2 : (Lemmas.ScanTail.mkCR t1).1 ≠ '*')
    (h3 : isNameStart (Lemmas.ScanTail.mkCR t1).1 = false) :
    compile cc ns (w ++ ':' :: t1) = .error (.parse (.scan .invalidQName)) :=
  compile_qname_without_local cc ns w t1 hw h1 h2 h3

theorem C17_leading_colon_rejected (cc : CompileCfg) (ns : Option (List (String × String))) (text rest : List Char)
    (h : text.dropWhile isSpace = ':' :: rest) : compile cc ns text = .error (.parse (.scan .invalidToken)) :=
  compile_leading_colon cc ns text rest h

theorem C17_second_colon_rejected (cc : CompileCfg) (ns : Option (List (String × String))) (w w2 rest : List Char)
    (hw : plainName w = true) (hw2 : localPart w2 = true) :
    compile cc ns (w ++ ':' :: (w2 ++ ':' :: rest)) = .error (.parse (.scan .invalidToken)) :=
  compile_second_colon cc ns w w2 rest hw hw2

end Rejects

end XPathV.Theorems.C17
