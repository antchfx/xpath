import XPathV.Lemmas.Facts
import XPathV.Generated.ExtraFacts
import XPathV.Lemmas.C08Base
import XPathV.Lemmas.ArithSem
import XPathV.Lemmas.ArithSem2
/-!
# C08 — arithmetic and numeric functions follow XPath 1.0 / IEEE 754 (property-level theorems)

`Lemmas/C08Base.lean` (same namespace) holds the operand-conversion theorems (the T0 theorems over
the regenerated sources are at the end of this file); `Lemmas/ArithSem.lean` the induction over
arithmetic expression trees.  Everything is parametric in the number algebra `F` (`NumAlg`): the theorems say that the
engine applies *the same IEEE operation to the same operand values in the same order* as the
XPath oracle, for trees of every depth.

Fragment `NumEF`: number literals, `+ - * div`, unary minus (the parser's `x * -1`), `mod` where
the oracle is defined (`ModDom`), parentheses, `floor`, `ceiling`, `number`, `number('…')`,
`string-length('…')`, `count(P)` for flat relative paths `P` (child/attribute/self steps), and
`sum(P)` for flat relative paths `P` all of whose selected nodes are numeric — stated on the oracle
side (`FlatSum`: the oracle's evaluation of `sum(P)` succeeds); `count` and `sum` may occur anywhere
inside a tree, e.g. `sum(a/@b) div count(a/@b) + 1`.
-/
namespace XPathV.Theorems.C08
open XPathV XPathV.Model XPathV.Facts XPathV.PathSem XPathV.ArithSem NumAlg

variable {F : Type} [NumAlg F]

/-- **C08, pure arithmetic trees of every depth**: for every document, context, configuration
and every plan the builder makes of an expression of the fragment without `count`/`mod`, the
engine's result is a number and it is the oracle's number -/
theorem C08_arith_trees (d : Doc) (cfg : ECfg) (regexOk : RegexOk) (limit : Nat) (snt sdf : Bool)
    {e : Ast} (he : NumE e) (ctx : Spec.Ctx) (fl : Flags) (st : BState) (o : BOut)
    (hb : build regexOk limit snt sdf e fl st = .ok o) :
    ∃ x : F, evalP (F := F) d cfg o.q ctx.node = .ok (.num x) ∧
      Spec.eval (F := F) d e ctx = .ok (.val (.num x) none) :=
  numE_sem d cfg regexOk limit snt sdf he ctx fl st o hb

/-- **C08, full fragment** (with `mod` on the oracle's domain, `count` over flat paths and `sum`
over flat paths selecting numeric nodes only); hypotheses of C01 for the `count`/`sum` arguments: well-formed document, valid context node, navigator
exposing namespace URIs,
`HashInj` (node keys are injective: a theorem, `PathSem.hashInj_holds` — see the `_unconditional` corollary) -/
theorem C08_main {d : Doc} (wf : WF d) (cfg : ECfg) (hns : cfg.nsIface = true)
    (hinj : HashInj d cfg) (regexOk : RegexOk) (limit : Nat) (sdf : Bool)
    (c : Ref) (hc : validRef d c = true) (i n : Nat) {e : Ast} (he : NumEF d ⟨c, i, n⟩ F e)
    (fl : Flags) (st : BState) (o : BOut) (hb : build regexOk limit true sdf e fl st = .ok o) :
    ∃ x : F, evalP (F := F) d cfg o.q c = .ok (.num x) ∧
      Spec.eval (F := F) d e ⟨c, i, n⟩ = .ok (.val (.num x) none) :=
  numEF_sem wf cfg hns hinj regexOk limit sdf c hc i n he fl st o hb

/-- `C08_main` without the `HashInj` hypothesis (it is a theorem: `hashInj_holds`; the side
condition left is "no element has two attributes with the same prefix, name and value") -/
theorem C08_main_unconditional {d : Doc} (wf : WF d) (cfg : ECfg) (hns : cfg.nsIface = true)
    (hattr : AttrTriplesDistinct d) (regexOk : RegexOk) (limit : Nat) (sdf : Bool)
    (c : Ref) (hc : validRef d c = true) (i n : Nat) {e : Ast} (he : NumEF d ⟨c, i, n⟩ F e)
    (fl : Flags) (st : BState) (o : BOut) (hb : build regexOk limit true sdf e fl st = .ok o) :
    ∃ x : F, evalP (F := F) d cfg o.q c = .ok (.num x) ∧
      Spec.eval (F := F) d e ⟨c, i, n⟩ = .ok (.val (.num x) none) :=
  C08_main wf cfg hns (PathSem.hashInj_holds wf hattr cfg) regexOk limit sdf c hc i n he fl st o hb

/-- … at the public API: `Expr.Evaluate` returns the `float64` that the oracle's top-level
evaluation returns -/
theorem C08_evaluate {d : Doc} (wf : WF d) (cfg : ECfg) (hns : cfg.nsIface = true)
    (hinj : HashInj d cfg) (regexOk : RegexOk) (limit : Nat) (sdf : Bool)
    (c : Ref) (hc : validRef d c = true) {e : Ast} (he : NumEF d ⟨c, 1, 1⟩ F e)
    (st : BState) (o : BOut) (hb : build regexOk limit true sdf e {} st = .ok o) :
    ∃ x : F, evaluate (F := F) d cfg o.q c = .ok (.num x) ∧
      Spec.evalTop (F := F) d e c = .ok (.num x) :=
  numEF_evaluate wf cfg hns hinj regexOk limit sdf c hc he st o hb

/-- `C08_evaluate` without the `HashInj` hypothesis (it is a theorem: `hashInj_holds`; the side
condition left is "no element has two attributes with the same prefix, name and value") -/
theorem C08_evaluate_unconditional {d : Doc} (wf : WF d) (cfg : ECfg) (hns : cfg.nsIface = true)
    (hattr : AttrTriplesDistinct d) (regexOk : RegexOk) (limit : Nat) (sdf : Bool)
    (c : Ref) (hc : validRef d c = true) {e : Ast} (he : NumEF d ⟨c, 1, 1⟩ F e)
    (st : BState) (o : BOut) (hb : build regexOk limit true sdf e {} st = .ok o) :
    ∃ x : F, evaluate (F := F) d cfg o.q c = .ok (.num x) ∧
      Spec.evalTop (F := F) d e c = .ok (.num x) :=
  C08_evaluate wf cfg hns (PathSem.hashInj_holds wf hattr cfg) regexOk limit sdf c hc he st o hb

/-- **C08, `sum()` over numeric nodes**: for a flat path `P`, if the oracle evaluates `sum(P)` to
the number `x` — which it does exactly when every node `P` selects is numeric — the plan the
builder makes of `sum(P)` evaluates to `x`: the engine adds the same numbers in the same (document)
order, starting from `0` -/
theorem C08_sum {d : Doc} (wf : WF d) (cfg : ECfg) (hns : cfg.nsIface = true)
    (hinj : HashInj d cfg) (regexOk : RegexOk) (limit : Nat) (sdf : Bool)
    (c : Ref) (hc : validRef d c = true) (i n : Nat) {p : Ast} (hp : FlatPath p) (pfx : String)
    (x : F) (g : Option (List (List Ref)))
    (hx : Spec.eval (F := F) d (.call "sum" pfx (.acons p .anil)) ⟨c, i, n⟩ = .ok (.val (.num x) g))
    (fl : Flags) (st : BState) (o : BOut)
    (hb : build regexOk limit true sdf (.call "sum" pfx (.acons p .anil)) fl st = .ok o) :
    evalP (F := F) d cfg o.q c = .ok (.num x) :=
  sum_flat_sem wf cfg hns hinj regexOk limit sdf c hc i n hp pfx x g hx fl st o hb

/-- `C08_sum` without the `HashInj` hypothesis (it is a theorem: `hashInj_holds`; the side
condition left is "no element has two attributes with the same prefix, name and value") -/
theorem C08_sum_unconditional {d : Doc} (wf : WF d) (cfg : ECfg) (hns : cfg.nsIface = true)
    (hattr : AttrTriplesDistinct d) (regexOk : RegexOk) (limit : Nat) (sdf : Bool)
    (c : Ref) (hc : validRef d c = true) (i n : Nat) {p : Ast} (hp : FlatPath p) (pfx : String)
    (x : F) (g : Option (List (List Ref)))
    (hx : Spec.eval (F := F) d (.call "sum" pfx (.acons p .anil)) ⟨c, i, n⟩ = .ok (.val (.num x) g))
    (fl : Flags) (st : BState) (o : BOut)
    (hb : build regexOk limit true sdf (.call "sum" pfx (.acons p .anil)) fl st = .ok o) :
    evalP (F := F) d cfg o.q c = .ok (.num x) :=
  C08_sum wf cfg hns (PathSem.hashInj_holds wf hattr cfg) regexOk limit sdf c hc i n hp pfx x g hx
    fl st o hb

/-- … at the public API: whenever the oracle's top-level evaluation of `sum(P)` is a number,
`Expr.Evaluate` on the built plan returns that number -/
theorem C08_sum_evaluate {d : Doc} (wf : WF d) (cfg : ECfg) (hns : cfg.nsIface = true)
    (hinj : HashInj d cfg) (regexOk : RegexOk) (limit : Nat) (sdf : Bool)
    (c : Ref) (hc : validRef d c = true) {p : Ast} (hp : FlatPath p) (pfx : String) (x : F)
    (hx : Spec.evalTop (F := F) d (.call "sum" pfx (.acons p .anil)) c = .ok (.num x))
    (st : BState) (o : BOut)
    (hb : build regexOk limit true sdf (.call "sum" pfx (.acons p .anil)) {} st = .ok o) :
    evaluate (F := F) d cfg o.q c = .ok (.num x) :=
  evaluate_of_num d cfg _ c x
    (sum_flat_sem wf cfg hns hinj regexOk limit sdf c hc 1 1 hp pfx x none
      (evalTop_num_inv_call d _ _ _ c x hx) {} st o hb)

/-- `C08_sum_evaluate` without the `HashInj` hypothesis (it is a theorem: `hashInj_holds`; the side
condition left is "no element has two attributes with the same prefix, name and value") -/
theorem C08_sum_evaluate_unconditional {d : Doc} (wf : WF d) (cfg : ECfg) (hns : cfg.nsIface = true)
    (hattr : AttrTriplesDistinct d) (regexOk : RegexOk) (limit : Nat) (sdf : Bool)
    (c : Ref) (hc : validRef d c = true) {p : Ast} (hp : FlatPath p) (pfx : String) (x : F)
    (hx : Spec.evalTop (F := F) d (.call "sum" pfx (.acons p .anil)) c = .ok (.num x))
    (st : BState) (o : BOut)
    (hb : build regexOk limit true sdf (.call "sum" pfx (.acons p .anil)) {} st = .ok o) :
    evaluate (F := F) d cfg o.q c = .ok (.num x) :=
  C08_sum_evaluate wf cfg hns (PathSem.hashInj_holds wf hattr cfg) regexOk limit sdf c hc hp pfx x
    hx st o hb

/-- what the engine computes for `sum(P)` *whatever* the nodes are: Go's callback (skip the nodes
whose text is not a number) folded over the oracle's node list.  Where some node is not numeric
the oracle is silent (`unsupported`, `ArithSem.eval_sum_of_nodes`) and the property says nothing. -/
theorem C08_sum_model {d : Doc} (wf : WF d) (cfg : ECfg) (hns : cfg.nsIface = true)
    (hinj : HashInj d cfg) (regexOk : RegexOk) (limit : Nat) (sdf : Bool)
    (c : Ref) (hc : validRef d c = true) (i n : Nat) {p : Ast} (hp : FlatPath p) (pfx : String)
    (fl : Flags) (st : BState) (o : BOut)
    (hb : build regexOk limit true sdf (.call "sum" pfx (.acons p .anil)) fl st = .ok o) :
    ∃ ns g, Spec.eval (F := F) d p ⟨c, i, n⟩ = .ok (.val (.nodes ns) g) ∧
      evalP (F := F) d cfg o.q c = .ok (.num (ns.foldl (fun acc r =>
        if isNaN (Spec.strToNum (F := F) (stringValue d r)) = true then acc
        else add acc (Spec.strToNum (stringValue d r))) (ofNat 0))) :=
  sum_flat_model wf cfg hns hinj regexOk limit sdf c hc i n hp pfx fl st o hb

/-- `C08_sum_model` without the `HashInj` hypothesis (it is a theorem: `hashInj_holds`; the side
condition left is "no element has two attributes with the same prefix, name and value") -/
theorem C08_sum_model_unconditional {d : Doc} (wf : WF d) (cfg : ECfg) (hns : cfg.nsIface = true)
    (hattr : AttrTriplesDistinct d) (regexOk : RegexOk) (limit : Nat) (sdf : Bool)
    (c : Ref) (hc : validRef d c = true) (i n : Nat) {p : Ast} (hp : FlatPath p) (pfx : String)
    (fl : Flags) (st : BState) (o : BOut)
    (hb : build regexOk limit true sdf (.call "sum" pfx (.acons p .anil)) fl st = .ok o) :
    ∃ ns g, Spec.eval (F := F) d p ⟨c, i, n⟩ = .ok (.val (.nodes ns) g) ∧
      evalP (F := F) d cfg o.q c = .ok (.num (ns.foldl (fun acc r =>
        if isNaN (Spec.strToNum (F := F) (stringValue d r)) = true then acc
        else add acc (Spec.strToNum (stringValue d r))) (ofNat 0))) :=
  C08_sum_model wf cfg hns (PathSem.hashInj_holds wf hattr cfg) regexOk limit sdf c hc i n hp pfx fl
    st o hb

/-- **same operation, same operands, same order**: the value of `a op b` is `f x y` on both
sides, for the one `NumAlg` operation `f` that `op` denotes and the values `x`, `y` of the
operands — so NaN, ±∞ and −0 propagate identically, whatever IEEE says they do -/
theorem C08_same_operation (d : Doc) (cfg : ECfg) (regexOk : RegexOk) (limit : Nat) (snt sdf : Bool)
    (ctx : Spec.Ctx) {op : String} (hop : op ∈ arithOps) {a b : Ast} (ha : NumE a) (hb : NumE b)
    (fl : Flags) (st : BState) (o : BOut)
    (hbuild : build regexOk limit snt sdf (.oper op a b) fl st = .ok o) :
    ∃ (f : F → F → F) (x y : F), opFn (F := F) op = some f ∧
      Spec.eval (F := F) d a ctx = .ok (.val (.num x) none) ∧
      Spec.eval (F := F) d b ctx = .ok (.val (.num y) none) ∧
      evalP (F := F) d cfg o.q ctx.node = .ok (.num (f x y)) ∧
      Spec.eval (F := F) d (.oper op a b) ctx = .ok (.val (.num (f x y)) none) :=
  numEG_oper_value d cfg regexOk limit snt sdf ctx (sameList_false d cfg regexOk limit snt sdf ctx)
    (sameList_false d cfg regexOk limit snt sdf ctx) (fun _ h => h.elim) (fun _ _ h => h.elim) hop ha hb fl st o hbuild

/-- **number → string**: `string(e)` of an arithmetic tree renders the same number with the same
`Spec.numToStr` on both sides -/
theorem C08_string_of_number (d : Doc) (cfg : ECfg) (regexOk : RegexOk) (limit : Nat) (snt sdf : Bool)
    (ctx : Spec.Ctx) {a : Ast} (ha : NumE a) (pfx : String) (fl : Flags) (st : BState) (o : BOut)
    (hb : build regexOk limit snt sdf (.call "string" pfx (.acons a .anil)) fl st = .ok o) :
    ∃ x : F, Spec.eval (F := F) d a ctx = .ok (.val (.num x) none) ∧
      evalP (F := F) d cfg o.q ctx.node = .ok (.str (Spec.numToStr x)) ∧
      Spec.eval (F := F) d (.call "string" pfx (.acons a .anil)) ctx =
        .ok (.val (.str (Spec.numToStr x)) none) :=
  string_of_numEG_sem d cfg regexOk limit snt sdf ctx (sameList_false d cfg regexOk limit snt sdf ctx)
    (sameList_false d cfg regexOk limit snt sdf ctx) (fun _ h => h.elim) (fun _ _ h => h.elim) ha pfx fl st o hb

/-- non-vacuity: `-(1 + 2.5) - floor(3 div 0)`, as the parser produces it, is in the fragment
and the builder accepts it -/
example : NumE (.oper "-" (.oper "*" (.group (.oper "+" (.num "1") (.num "2.5"))) (.num "-1"))
    (.call "floor" "" (.acons (.oper "div" (.num "3") (.num "0")) .anil))) :=
  .arith "-" _ _ (by decide) (NumEG.neg (.group _ (.arith "+" _ _ (by decide) (.num _) (.num _))))
    (.floor "" _ (.arith "div" _ _ (by decide) (.num _) (.num _)))

/-! ## T0: what the regenerated facts say about the current source (leaf theorems: nothing builds on them, so a
change of the source that invalidates one of them stops only this module) -/

/-- T0: `mod` does not go through `int` (not `float64(int(a) % int(b))`), and the numeric
operators are wired to the expected functions -/
theorem numeric_ops_ok : Generated.modUsesIntConversion = false ∧
    Generated.numericOpFuncs = [("+", "plusFunc"), ("-", "minusFunc"), ("*", "mulFunc"), ("div", "divFunc"), ("mod", "modFunc")] := by decide

/-- T0: `mod` is `math.Mod`, the number rendering arm of `asString` is the XPath one -/
theorem numeric_sources_ok : Generated.modCallbackSrc = "math.Mod(a,b)" ∧
    Generated.asStringFloatSrc = "switch{casemath.IsNaN(v):return\"NaN\"casemath.IsInf(v,1):return\"Infinity\"casemath.IsInf(v,-1):return\"-Infinity\"casev==0:return\"0\"};returnstrconv.FormatFloat(v,'f',-1,64)" :=
  ⟨rfl, rfl⟩

end XPathV.Theorems.C08

/-! ## `count(P)` / `sum(P)` over flat paths **with predicates** (`PredSem2.Frag2`)

`Lemmas/ArithSem2.lean`: the arithmetic fragment `NumEF2` is `NumEF` with the arguments of `count`
and `sum` ranging over `ArithSem2.FlatF2` — flat paths (child/attribute/self steps from the context
node or the root) whose steps carry any number of the boolean-valued predicates of the C02 fragment
`Frag2` (`count(a[@x < @y]) * 2 + 1`, `sum(a[b]/@x) div count(a[b])`).  The `Frag2` builder lemmas
are stated at `smartDescThroughFilter = false` (the value read off the source), so the builder
parameter `sdf` of `C08_main` is fixed to `false` here. -/
namespace XPathV.Theorems.C08
open XPathV XPathV.Model XPathV.Facts XPathV.PathSem XPathV.ArithSem XPathV.ArithSem2 NumAlg

variable {F : Type} [NumAlg F]

/-- **C08, filtered counts (and sums)**: same conclusion as `C08_main` — the built plan's number is
the oracle's number — for arithmetic trees of every depth whose `count(P)` / `sum(P)` leaves have
flat paths `P` *with `Frag2` predicates* (`NumEF2`); hypotheses of C02 -/
theorem C08_main_filtered_counts {d : Doc} (wf : WF d) (cfg : ECfg) (hns : cfg.nsIface = true)
    (hinj : HashInj d cfg) (regexOk : RegexOk) (limit : Nat)
    (c : Ref) (hc : validRef d c = true) (i n : Nat) {e : Ast} (he : NumEF2 d ⟨c, i, n⟩ F e)
    (fl : Flags) (st : BState) (o : BOut) (hb : build regexOk limit true false e fl st = .ok o) :
    ∃ x : F, evalP (F := F) d cfg o.q c = .ok (.num x) ∧
      Spec.eval (F := F) d e ⟨c, i, n⟩ = .ok (.val (.num x) none) :=
  C08_main2 wf cfg hns hinj regexOk limit c hc i n he fl st o hb

/-- `C08_main_filtered_counts` without the `HashInj` hypothesis (`hashInj_holds`) -/
theorem C08_main_filtered_counts_unconditional {d : Doc} (wf : WF d) (cfg : ECfg)
    (hns : cfg.nsIface = true) (hattr : AttrTriplesDistinct d) (regexOk : RegexOk) (limit : Nat)
    (c : Ref) (hc : validRef d c = true) (i n : Nat) {e : Ast} (he : NumEF2 d ⟨c, i, n⟩ F e)
    (fl : Flags) (st : BState) (o : BOut) (hb : build regexOk limit true false e fl st = .ok o) :
    ∃ x : F, evalP (F := F) d cfg o.q c = .ok (.num x) ∧
      Spec.eval (F := F) d e ⟨c, i, n⟩ = .ok (.val (.num x) none) :=
  C08_main_filtered_counts wf cfg hns (PathSem.hashInj_holds wf hattr cfg) regexOk limit c hc i n he
    fl st o hb

/-- … at the public API: `Expr.Evaluate` returns the number the oracle's top-level evaluation returns -/
theorem C08_evaluate_filtered_counts {d : Doc} (wf : WF d) (cfg : ECfg) (hns : cfg.nsIface = true)
    (hinj : HashInj d cfg) (regexOk : RegexOk) (limit : Nat)
    (c : Ref) (hc : validRef d c = true) {e : Ast} (he : NumEF2 d ⟨c, 1, 1⟩ F e)
    (st : BState) (o : BOut) (hb : build regexOk limit true false e {} st = .ok o) :
    ∃ x : F, evaluate (F := F) d cfg o.q c = .ok (.num x) ∧
      Spec.evalTop (F := F) d e c = .ok (.num x) := by
  obtain ⟨x, h1, h2⟩ := C08_main2 (F := F) wf cfg hns hinj regexOk limit c hc 1 1 he {} st o hb
  exact ⟨x, evaluate_of_num d cfg _ c x h1, evalTop_of_num d e c x _ h2⟩

/-- **the predicate-free fragment is contained**: every expression of `NumEF` (the fragment of `C08_main`) is in `NumEF2`,
so `C08_main_filtered_counts` contains `C08_main` at `sdf = false` -/
theorem C08_filtered_counts_embeds {d : Doc} {ctx : Spec.Ctx} {e : Ast} (h : NumEF d ctx F e) :
    NumEF2 d ctx F e :=
  NumEG.mono (fun _ hp => flatF2_of_flatPath hp) (fun _ hp => flatSum2_of_flatSum hp)
    (fun _ _ hm => hm) h

/-- `C08_main` (at `smartDescThroughFilter = false`) is the restriction of
`C08_main_filtered_counts` to `NumEF` -/
theorem C08_main_of_filtered_counts {d : Doc} (wf : WF d) (cfg : ECfg) (hns : cfg.nsIface = true)
    (hinj : HashInj d cfg) (regexOk : RegexOk) (limit : Nat)
    (c : Ref) (hc : validRef d c = true) (i n : Nat) {e : Ast} (he : NumEF d ⟨c, i, n⟩ F e)
    (fl : Flags) (st : BState) (o : BOut) (hb : build regexOk limit true false e fl st = .ok o) :
    ∃ x : F, evalP (F := F) d cfg o.q c = .ok (.num x) ∧
      Spec.eval (F := F) d e ⟨c, i, n⟩ = .ok (.val (.num x) none) :=
  C08_main_filtered_counts wf cfg hns hinj regexOk limit c hc i n (C08_filtered_counts_embeds he)
    fl st o hb

/-- **`sum(P)` over a flat filtered path**: if the oracle evaluates `sum(P)` to the number `x`
(every node `P` selects is numeric), the built plan of `sum(P)` evaluates to `x` -/
theorem C08_sum_filtered {d : Doc} (wf : WF d) (cfg : ECfg) (hns : cfg.nsIface = true)
    (hinj : HashInj d cfg) (regexOk : RegexOk) (limit : Nat)
    (c : Ref) (hc : validRef d c = true) (i n : Nat) {p : Ast} (hp : FlatF2 p) (pfx : String)
    (x : F) (g : Option (List (List Ref)))
    (hx : Spec.eval (F := F) d (.call "sum" pfx (.acons p .anil)) ⟨c, i, n⟩ = .ok (.val (.num x) g))
    (fl : Flags) (st : BState) (o : BOut)
    (hb : build regexOk limit true false (.call "sum" pfx (.acons p .anil)) fl st = .ok o) :
    evalP (F := F) d cfg o.q c = .ok (.num x) := by
  have he : NumEF2 d ⟨c, i, n⟩ F (.call "sum" pfx (.acons p .anil)) :=
    .sum pfx p ⟨hp, sumDom_of_eval d _ pfx p x g hx⟩
  obtain ⟨y, h1, h2⟩ := C08_main2 (F := F) wf cfg hns hinj regexOk limit c hc i n he fl st o hb
  rw [hx] at h2
  cases h2
  exact h1

end XPathV.Theorems.C08
