import XPathV.Theorems.C17
import XPathV.Theorems.NonVacuity.Common
/-!
# Non-vacuity of the C17 theorems

Already instantiated in the library: `examples_rejected` (`Theorems/C17.lean:111`) and
`Lemmas/ParserTokens.lean:1479–1530` (`ex_cut_*`, `ex_unclosed_*`: `cut_after_opener_rejected`,
`cut_after_slash_rejected`, `cut_after_slash_rejected_name`, `unbalanced_rejected`);
`Lemmas/BuildRejects.lean`, section "the general theorems at work" (`C17_unknown_axis_text_rejected`, the three malformed-name
theorems, and — through `compile_fails_after_rename_dec` / `compile_fails_rename_first_paren`, which
call them — `C17_function_renamed_rejected` and `C17_leading_function_renamed_rejected`).
Below: the remaining ones, and direct instances of the two renaming theorems.
-/
namespace XPathV.Theorems.NonVacuity.C17
open XPathV XPathV.Model XPathV.Theorems.NonVacuity
open XPathV.Lemmas.ParserTokens XPathV.Lemmas.ScanTail XPathV.BuildRejects

abbrev cfg0 : PCfg := defaultCfg none

/-! ## truncation, character level -/

/-- **`truncation_rejected`** (`'\x00' ∉ text`, `0 < cut`, the character before the cut is a delimiter):
`a[b and c]` cut after `[` -/
theorem truncation_rejected_instance (fuel : Nat) (cfg : PCfg) :
    ∃ e, parse fuel cfg ("a[b and c]".toList.take 2) = .error e :=
  Theorems.C17.truncation_rejected cfg "a[b and c]".toList (by rw [String.toList_ofList]; decide) 2 (by decide)
    ⟨'[', by rw [String.toList_ofList]; rfl, by decide⟩ fuel
example : "a[b and c]".toList.take 2 = "a[".toList := by rw [String.toList_ofList, String.toList_ofList]; rfl
/-- … the delimiter inside a string literal: `a['x(y']` cut after `(` -/
example (fuel : Nat) (cfg : PCfg) : ∃ e, parse fuel cfg ("a['x(y']".toList.take 5) = .error e :=
  Theorems.C17.truncation_rejected cfg "a['x(y']".toList (by rw [String.toList_ofList]; decide) 5 (by decide)
    ⟨'(', by rw [String.toList_ofList]; rfl, by decide⟩ fuel

/-- `truncation_after_slashslash_rejected`, `truncation_after_quote_rejected`, `last_character_is_last_token` -/
example (fuel : Nat) (cfg : PCfg) : ∃ e, parse fuel cfg ("a//b".toList.take 3) = .error e :=
  Theorems.C17.truncation_after_slashslash_rejected cfg "a//b".toList (by rw [String.toList_ofList]; decide) 1
    (by rw [String.toList_ofList]; rfl) (by rw [String.toList_ofList]; rfl) fuel
example (fuel : Nat) (cfg : PCfg) : ∃ e, parse fuel cfg ("a='x'".toList.take 3) = .error e :=
  Theorems.C17.truncation_after_quote_rejected cfg "a='x'".toList (by rw [String.toList_ofList]; decide) 2 (q := '\'')
    (.inr rfl) (by rw [String.toList_ofList]; rfl) (by rw [String.toList_ofList]; decide) fuel
example := Theorems.C17.last_character_is_last_token (pre := ['a', '/', 'b']) (c := '[') (by decide) (by decide)

/-! ## token level -/

/-- the tree of `a[b]/c` -/
def astBr : Ast := .axis (chE "c") (.filter (.axis (chE "a") .none) (.axis (chE "b") .none))
theorem parsedBr : parse 400 (litCfg none) "a[b]/c".toList = .ok astBr := by
  rw [String.toList_ofList]; exact ApiSem.parsesTo_eq (by decide +kernel)

/-- `accepted_streams` (`parse = .ok a`) -/
example := Theorems.C17.accepted_streams parsedBr

/-- **`bracket_deleted_rejected`**: `a[b]/c` is accepted; deleting its `]` gives `a[b/c` -/
theorem bracket_deleted_rejected_instance (fuel' : Nat) (cfg' : PCfg) :
    ∃ e, parse fuel' cfg' "a[b/c".toList = .error e :=
  Theorems.C17.bracket_deleted_rejected (p := [.name, .lbracket, .name]) (q := [.slash, .name]) (t := .rbracket) parsedBr
    (textToksFuel_sound (f := 10) (text := "a[b]/c") (by decide +kernel)) rfl fuel' cfg'
    (textToksFuel_sound (f := 10) (text := "a[b/c") (by decide +kernel))

/-- the scanner states of `a = 'abc` and `a = b:` at the `=` token -/
def sQ0 : Scan := okVal (Scan.init ['a', ' ', '=', ' ', '\'', 'a', 'b', 'c'])
def sQ1 : Scan := okVal sQ0.nextItem
def sE0 : Scan := okVal (Scan.init ['a', ' ', '=', ' ', 'b', ':'])
def sE1 : Scan := okVal sE0.nextItem

/-- **`unclosed_quote_rejected`** (`Scan.init`, `Steps`, not at the end, next character a quote, no closing quote) -/
theorem unclosed_quote_rejected_instance (fuel : Nat) (cfg : PCfg) :
    ∃ e, parse fuel cfg "a = 'abc".toList = .error e :=
  Theorems.C17.unclosed_quote_rejected fuel cfg (s := sQ0) (s1 := sQ1) (u := [sQ0.typ])
    (by rw [String.toList_ofList]; exact eq_ok_okVal (by decide +kernel))
    (.cons (by decide +kernel) (eq_ok_okVal (by decide +kernel)) (.nil _))
    (by decide +kernel) (.inr (by decide +kernel)) (by decide +kernel)

/-- **`scan_error_rejected`** (`herr : s1.nextItem = .error e0`): the malformed name `b:` after `a =` -/
theorem scan_error_rejected_instance (fuel : Nat) (cfg : PCfg) :
    ∃ e, parse fuel cfg "a = b:".toList = .error e :=
  Theorems.C17.scan_error_rejected fuel cfg (s := sE0) (s1 := sE1) (u := [sE0.typ]) (e0 := .invalidQName)
    (by rw [String.toList_ofList]; exact eq_ok_okVal (by decide +kernel))
    (.cons (by decide +kernel) (eq_ok_okVal (by decide +kernel)) (.nil _))
    (by decide +kernel) (eq_error_of (by decide +kernel))

/-- **`operator_then_end_rejected`** (`hfind`, `h1`, `he`): the text ends after the operator word `and` -/
def stAnd : PState := ⟨okVal (Scan.init "and".toList), 1⟩
example (f : Nat) (cfg : PCfg) (rest : List Stage) (opnd : Ast) :
    ∃ e, tierLoop f cfg ["and"] rest opnd stAnd = .error e :=
  Theorems.C17.operator_then_end_rejected f cfg rest opnd (st := stAnd) (st1 := okVal stAnd.next) (op := "and")
    (by decide +kernel) (eq_ok_okVal (by decide +kernel)) (by decide +kernel)

/-! ## second half: bad trees -/

def tBad : String := "a[conta(., 'x')]/b"
/-- the tree of `a[g(., 'x')]/b` -/
def astFn (g : String) : Ast :=
  .axis (chE "b") (.filter (.axis (chE "a") .none)
    (.call g "" (.acons (.axis ⟨"self", .all, "", "", "", false, ""⟩ .none) (.acons (.str "x") .anil))))
def astBad : Ast := astFn "conta"
theorem parsedBad : ParsesTo tBad astBad := parsesTo_of (by decide +kernel)

/-- **`C17_compile_rejects_bad_tree`** (`parse = .ok t`, `BadNode t`) and `C17_builder_rejects_bad_tree` -/
theorem C17_compile_rejects_bad_tree_instance (cc : CompileCfg) :
    ∃ e, compile cc none tBad.toList = .error (.build e) :=
  Theorems.C17.C17_compile_rejects_bad_tree cc none tBad.toList astBad parsedBad (by decide +kernel)
example (rx : RegexOk) (lim : Nat) (sn sd : Bool) (st : BState) : ∃ e, build rx lim sn sd astBad {} st = .error e :=
  Theorems.C17.C17_builder_rejects_bad_tree rx lim sn sd astBad {} st (by decide +kernel)

/-- `C17_compiled_has_no_bad_node` (`compile = .ok p`) -/
example :=
  (compile_ok (parsesTo_of (a := astFn "contains") (by decide +kernel) : ParsesTo "a[contains(., 'x')]/b" _)
    (by decide +kernel)).elim fun p h => Theorems.C17.C17_compiled_has_no_bad_node {} none _ p h

/-- **`C17_missing_arguments_rejected`** (`Visits`, `fnArity g = some …`, too few arguments): `a[substring('x')]` -/
def astMiss : Ast := .filter (.axis (chE "a") .none) (.call "substring" "" (.acons (.str "x") .anil))
theorem C17_missing_arguments_rejected_instance (cc : CompileCfg) :
    ∃ e, compile cc none "a[substring('x')]".toList = .error (.build e) :=
  Theorems.C17.C17_missing_arguments_rejected cc none "a[substring('x')]".toList astMiss
    (parsesTo_of (by decide +kernel)) (g := "substring") (pfx := "") (args := .acons (.str "x") .anil)
    (mn := 2) (mx := none) (idx := false) (.filter_cond (.here _ _)) (by decide +kernel) (by decide)

/-- **`C17_unknown_axis_rejected`** (`Visits`, `a.axis ∉ axisTable`): `a/foo::b[c]` -/
def astAxis : Ast :=
  .filter (.axis ⟨"foo", .elem, "", "b", "", false, ""⟩ (.axis (chE "a") .none)) (.axis (chE "c") .none)
theorem C17_unknown_axis_rejected_instance (cc : CompileCfg) :
    ∃ e, compile cc none "a/foo::b[c]".toList = .error (.build e) :=
  Theorems.C17.C17_unknown_axis_rejected cc none "a/foo::b[c]".toList astAxis
    (parsesTo_of (by decide +kernel)) (a := ⟨"foo", .elem, "", "b", "", false, ""⟩)
    (inp := .axis (chE "a") .none) (.filter_in (.here _ _)) (by decide +kernel)

/-- **`C17_function_renamed_rejected`**, directly (the `Before` relation between the two scanner runs
comes from the checker `renamedAt`): `count` ↦ `cnt` at token 4 of `1 + 2 * count(//a)` -/
theorem C17_function_renamed_rejected_instance (cc : CompileCfg) :
    ∃ e, compile cc none "1 + 2 * cnt(//a)".toList = .error e := by
  obtain ⟨s, s', hi, hi', hB⟩ := renamedAt_sound (g := "count") (g' := "cnt") (k := 4)
    (text := "1 + 2 * count(//a)".toList) (text' := "1 + 2 * cnt(//a)".toList)
    (by rw [String.toList_ofList, String.toList_ofList]; decide +kernel)
  exact Theorems.C17.C17_function_renamed_rejected cc none (g := "count") (g' := "cnt") (by decide +kernel)
    (by decide +kernel) (by decide +kernel) (by rw [opWords_stages]; decide +kernel)
    (by rw [opWords_stages]; decide +kernel) (by decide +kernel) hi hi' hB
    (t := .oper "+" (.num "1") (.oper "*" (.num "2")
      (.call "count" "" (.acons (.axis (chE "a") (.axis dosAll (.root "//"))) .anil))))
    (parsesTo_of (by decide +kernel) : ParsesTo "1 + 2 * count(//a)" _) (by decide +kernel)

/-- **`C17_leading_function_renamed_rejected`**, directly, with blanks before the parenthesis (`hstop`, `hpost`,
`acceptedTight`): `contains (a,'x') and b` ↦ `conta (a,'x') and b` -/
theorem C17_leading_function_renamed_rejected_instance (cc : CompileCfg) :
    ∃ e, compile cc none ("conta".toList ++ " (a,'x') and b".toList) = .error e :=
  Theorems.C17.C17_leading_function_renamed_rejected cc none "contains".toList "conta".toList
    " (a,'x') and b".toList "a,'x') and b".toList (by rw [String.toList_ofList]; decide +kernel)
    (by rw [String.toList_ofList]; decide +kernel)
    (by rw [String.toList_ofList]; intro c cs h; cases h; exact ⟨by decide, by decide⟩)
    (by rw [String.toList_ofList, String.toList_ofList]; decide +kernel) (by decide +kernel) (by decide +kernel)
    (by decide +kernel) (by rw [opWords_stages]; decide +kernel) (by rw [opWords_stages]; decide +kernel)
    (by decide +kernel)
    (by rw [acceptedTight, defaultCfg_lit, String.toList_ofList, String.toList_ofList]; decide +kernel)

/-! ## the local lemmas of `Lemmas/C17Base.lean` -/

def stRb : PState := ⟨okVal (Scan.init "]".toList), 1⟩
example := Theorems.C17.skipItem_mismatch stRb .lbracket (by decide +kernel)
example := Theorems.C17.operand_missing cfg0 .none "child" .elem stRb (.inr (.inr (.inl (by decide +kernel))))
example := Theorems.C17.unclosed_string '\'' "abc".toList (by decide)
example := Theorems.C17.unknown_function (fun _ => true) 100 true false "conta" "" .anil {} {} (by decide) (by decide +kernel)

/-- `unclosed_predicate` (`h1`, `h2`, `h3`): `[b` followed by the end of the text -/
def stLb : PState := ⟨okVal (Scan.init "[b".toList), 1⟩
def stLb1 : PState := okVal (stLb.skipItem .lbracket)
example : parsePredicate 51 cfg0 stLb = .error .invalidToken := by
  rw [cfg0, defaultCfg_lit]
  exact Theorems.C17.unclosed_predicate 50 _ stLb stLb1 _ _ (eq_ok_okVal (by decide +kernel))
    (eq_ok_pair (by decide +kernel)) (by decide +kernel)

/-- `trailing_text_rejected` (`hs`, `hp`, `he`): `a b` -/
example : parse 100 cfg0 "a b".toList = .error .invalidToken := by
  rw [cfg0, defaultCfg_lit, String.toList_ofList]
  exact Theorems.C17.trailing_text_rejected 100 _ _ (okVal (Scan.init ['a', ' ', 'b'])) _ _
    (eq_ok_okVal (by decide +kernel)) (eq_ok_pair (by decide +kernel)) (by decide +kernel)

end XPathV.Theorems.NonVacuity.C17

