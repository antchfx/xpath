import XPathV.Theorems.C08
import XPathV.Theorems.NonVacuity.Common
/-!
# Non-vacuity of the C08 theorems

`Lemmas/ArithSem.lean` (`SumExamples`) already shows `FlatSum`/`NumEF` satisfiable on a 4-node
document, with `HashInj` and two `isNaN … = false` facts left as hypotheses.  Here *all* hypotheses
are discharged (number algebra `toyAlg`, document `d0`), including the oracle-side domain
conditions `ModDom` and `FlatSum`.
-/
namespace XPathV.Theorems.NonVacuity.C08
open XPathV XPathV.Model XPathV.Theorems.NonVacuity XPathV.PosSem
open XPathV.PathSem XPathV.ArithSem

attribute [local instance] toyAlg

/-- `*/@x` (from `r`: the `x` attributes of `a[1]` and `b`, values `1` and `2`) -/
def pX : Ast := .axis (atA "x") (.axis (chE "") .none)
theorem pX_flat : FlatPath pX := .cons _ _ (by decide) (.step _ (by decide))

/-- `sum(*/@x) div count(*/@x) + 7 mod 2` -/
def e1 : Ast :=
  .oper "+" (.oper "div" (.call "sum" "" (.acons pX .anil)) (.call "count" "" (.acons pX .anil)))
    (.oper "mod" (.num "7") (.num "2"))

theorem e1_parsed : ParsesTo "sum(*/@x) div count(*/@x) + 7 mod 2" e1 :=
  parsesTo_of (by decide +kernel)

/-- the context used below: node `r`, position 2 of 5 -/
abbrev ctx : Spec.Ctx := ⟨.node 1, 2, 5⟩

/-- the oracle speaks for `sum(*/@x)`: both nodes are numeric; the sum is `(0 + 1) + 2` -/
theorem sum_spec : Spec.eval (F := Int) d0 (.call "sum" "" (.acons pX .anil)) ctx =
    .ok (.val (.num 3) none) := by decide +kernel

theorem pX_flatSum : FlatSum d0 ctx Int pX := ⟨pX_flat, sumDom_of_eval d0 ctx "" pX 3 none sum_spec⟩

/-- `7 mod 2` is in the oracle's domain (non-negative integral dividend, positive integral divisor) -/
theorem mod_dom (c : Spec.Ctx) : ModDom d0 c Int (.num "7") (.num "2") := by
  intro x y ga gb hx hy
  rw [PredSem.eval_num] at hx hy
  cases hx; cases hy
  decide +kernel

theorem e1_numEF : NumEF d0 ctx Int e1 :=
  .arith "+" _ _ (by decide)
    (.arith "div" _ _ (by decide) (.sum "" pX pX_flatSum) (.count "" pX pX_flat))
    (.mod _ _ (.num _) (.num _) (mod_dom _))

theorem e1_built : ∃ o, build (fun _ => true) 100 true false e1 {} {} = .ok o :=
  exists_ok_of_isOk (by decide +kernel)

theorem e1_spec : Spec.eval (F := Int) d0 e1 ctx = .ok (.val (.num 2) none) := by decide +kernel

/-- **`C08_main`**: `WF`, `nsIface`, `HashInj`, `validRef`, `NumEF` (with `FlatSum`, `FlatPath`,
`ModDom` inside), `build = .ok` all discharged; both sides give `3 div 2 + 7 mod 2 = 2` (integer
algebra) -/
theorem C08_main_instance : ∃ (o : BOut), build (fun _ => true) 100 true false e1 {} {} = .ok o ∧
    evalP (F := Int) d0 {} o.q (.node 1) = .ok (.num 2) := by
  obtain ⟨o, hb⟩ := e1_built
  obtain ⟨x, h1, h2⟩ := Theorems.C08.C08_main (F := Int) wf_d0 {} rfl hashInj_d0 (fun _ => true) 100 false
    (.node 1) (by decide) 2 5 e1_numEF {} {} o hb
  rw [e1_spec] at h2; cases h2
  exact ⟨o, hb, h1⟩

/-- the same at the context of the top-level oracle, `⟨r, 1, 1⟩` -/
theorem sum_spec1 : Spec.eval (F := Int) d0 (.call "sum" "" (.acons pX .anil)) ⟨.node 1, 1, 1⟩ =
    .ok (.val (.num 3) none) := by decide +kernel

/-- **`C08_evaluate`** (context `⟨r, 1, 1⟩`) -/
theorem C08_evaluate_instance : ∃ (o : BOut), evaluate (F := Int) d0 {} o.q (.node 1) = .ok (.num 2) := by
  obtain ⟨o, hb⟩ := e1_built
  obtain ⟨x, h1, h2⟩ := Theorems.C08.C08_evaluate (F := Int) wf_d0 {} rfl hashInj_d0 (fun _ => true) 100
    false (.node 1) (by decide) (e := e1)
    (.arith "+" _ _ (by decide)
      (.arith "div" _ _ (by decide) (.sum "" pX ⟨pX_flat, sumDom_of_eval d0 _ "" pX 3 none sum_spec1⟩)
        (.count "" pX pX_flat))
      (.mod _ _ (.num _) (.num _) (mod_dom _))) {} o hb
  have e : Spec.evalTop (F := Int) d0 e1 (.node 1) = .ok (.num 2) := by decide +kernel
  rw [e] at h2; cases h2
  exact ⟨o, h1⟩

theorem sum_built : ∃ o, build (fun _ => true) 100 true false (.call "sum" "" (.acons pX .anil)) {} {} = .ok o :=
  exists_ok_of_isOk (by decide +kernel)

/-- **`C08_sum`** (`hx`: the oracle evaluates `sum(*/@x)` to `3`) -/
theorem C08_sum_instance : ∃ (o : BOut), evalP (F := Int) d0 {} o.q (.node 1) = .ok (.num 3) := by
  obtain ⟨o, hb⟩ := sum_built
  exact ⟨o, Theorems.C08.C08_sum (F := Int) wf_d0 {} rfl hashInj_d0 (fun _ => true) 100 false (.node 1)
    (by decide) 2 5 pX_flat "" 3 none sum_spec {} {} o hb⟩

/-- **`C08_sum_evaluate`** -/
theorem C08_sum_evaluate_instance : ∃ (o : BOut), evaluate (F := Int) d0 {} o.q (.node 1) = .ok (.num 3) := by
  obtain ⟨o, hb⟩ := sum_built
  exact ⟨o, Theorems.C08.C08_sum_evaluate (F := Int) wf_d0 {} rfl hashInj_d0 (fun _ => true) 100 false
    (.node 1) (by decide) pX_flat "" 3
    (by rw [Spec.evalTop, sum_spec1]; rfl) {} o hb⟩

/-- **`C08_sum_model`** -/
example : ∃ (o : BOut) (ns : List Ref) (g : Option (List (List Ref))),
    Spec.eval (F := Int) d0 pX ctx = .ok (.val (.nodes ns) g) ∧ ns = [.attr 2 0, .attr 4 0] := by
  obtain ⟨o, hb⟩ := sum_built
  obtain ⟨ns, g, h1, _⟩ := Theorems.C08.C08_sum_model (F := Int) wf_d0 {} rfl hashInj_d0 (fun _ => true) 100
    false (.node 1) (by decide) 2 5 pX_flat "" {} {} o hb
  exact ⟨o, ns, g, h1, value_of_eval h1 (v' := .nodes [.attr 2 0, .attr 4 0]) (by decide +kernel) |>
    fun h => by cases h; rfl⟩

/-! ## the pure fragment `NumE`: `-(1 + 2) - floor(7 div 2)` -/

def e2 : Ast :=
  .oper "-" (.oper "*" (.group (.oper "+" (.num "1") (.num "2"))) (.num "-1"))
    (.call "floor" "" (.acons (.oper "div" (.num "7") (.num "2")) .anil))

theorem e2_parsed : ParsesTo "-(1 + 2) - floor(7 div 2)" e2 := parsesTo_of (by decide +kernel)

theorem e2_numE : NumE e2 :=
  .arith "-" _ _ (by decide) (NumEG.neg (.group _ (.arith "+" _ _ (by decide) (.num _) (.num _))))
    (.floor "" _ (.arith "div" _ _ (by decide) (.num _) (.num _)))

/-- **`C08_arith_trees`** (`NumE`, `build = .ok`): `-3 - 3 = -6` on both sides -/
theorem C08_arith_trees_instance : ∃ (o : BOut), evalP (F := Int) d0 {} o.q (.node 1) = .ok (.num (-6)) := by
  obtain ⟨o, hb⟩ : ∃ o, build (fun _ => true) 100 true false e2 {} {} = .ok o := exists_ok_of_isOk (by decide +kernel)
  obtain ⟨x, h1, h2⟩ := Theorems.C08.C08_arith_trees (F := Int) d0 {} (fun _ => true) 100 true false e2_numE
    ctx {} {} o hb
  have e : Spec.eval (F := Int) d0 e2 ctx = .ok (.val (.num (-6)) none) := by decide +kernel
  rw [e] at h2; cases h2
  exact ⟨o, h1⟩

/-- **`C08_same_operation`** (`op ∈ arithOps`, two `NumE` operands, `build = .ok`) -/
example : ∃ (o : BOut) (f : Int → Int → Int) (x y : Int), opFn (F := Int) "div" = some f ∧
    evalP (F := Int) d0 {} o.q (.node 1) = .ok (.num (f x y)) := by
  obtain ⟨o, hb⟩ : ∃ o, build (fun _ => true) 100 true false (.oper "div" (.num "7") (.num "2")) {} {} = .ok o :=
    exists_ok_of_isOk (by decide +kernel)
  obtain ⟨f, x, y, h1, _, _, h4, _⟩ := Theorems.C08.C08_same_operation (F := Int) d0 {} (fun _ => true) 100
    true false ctx (op := "div") (by decide) (.num "7") (.num "2") {} {} o hb
  exact ⟨o, f, x, y, h1, h4⟩

/-- **`C08_string_of_number`** on `string(-(1 + 2) - floor(7 div 2))` -/
example : ∃ (o : BOut) (x : Int), evalP (F := Int) d0 {} o.q (.node 1) = .ok (.str (Spec.numToStr x)) := by
  obtain ⟨o, hb⟩ : ∃ o, build (fun _ => true) 100 true false (.call "string" "" (.acons e2 .anil)) {} {} = .ok o :=
    exists_ok_of_isOk (by decide +kernel)
  obtain ⟨x, _, h2, _⟩ := Theorems.C08.C08_string_of_number (F := Int) d0 {} (fun _ => true) 100 true false
    ctx e2_numE "" {} {} o hb
  exact ⟨o, x, h2⟩

/-- `asNumber_spec` / `arith_operands_spec` (operands that are not booleans) -/
example := Theorems.C08.asNumber_spec (F := Int) d0 (.nodes [.attr 2 0]) (by intro b h; cases h)
example := Theorems.C08.arith_operands_spec (F := Int) d0 (.nodes [.attr 2 0]) (.str " 2 ")
  (by intro b h; cases h) (by intro b h; cases h)

end XPathV.Theorems.NonVacuity.C08


/-! ## C08 over filtered counts and sums: `C08_main_filtered_counts` -/
namespace XPathV.Theorems.NonVacuity.C08
open XPathV XPathV.Model XPathV.Theorems.NonVacuity XPathV.PosSem
open XPathV.PathSem XPathV.ArithSem XPathV.ArithSem2 XPathV.PredSem2

attribute [local instance] toyAlg

/-- `*[@x < @y]` (from `r`: only `b`, with `x="2" y="3"`) -/
def pLt : Ast :=
  .filter (.axis (chE "") .none) (.oper "<" (.axis (atA "x") .none) (.axis (atA "y") .none))

theorem pLt_flatF2 : FlatF2 pLt :=
  ⟨.filter _ _ (.axis _ _ .none (chE_axis _))
      (.cmpPath _ _ _ (by decide) (.axis _ _ .none (atA_axis _)) (.axis _ _ .none (atA_axis _))),
    .filter _ _ (.axis _ _ (by decide) .none)⟩

/-- `count(*[@x < @y]) * 2 + 1` -/
def e3 : Ast := .oper "+" (.oper "*" (.call "count" "" (.acons pLt .anil)) (.num "2")) (.num "1")

theorem e3_parsed : ParsesTo "count(*[@x < @y]) * 2 + 1" e3 := parsesTo_of (by decide +kernel)

/-- no oracle-side domain condition is needed: `e3` is in the document-independent `NumEC2` -/
theorem e3_numEC2 : NumEC2 e3 :=
  .arith "+" _ _ (by decide) (.arith "*" _ _ (by decide) (.count "" pLt pLt_flatF2) (.num _)) (.num _)

theorem e3_built : ∃ o, build (fun _ => true) 100 true false e3 {} {} = .ok o :=
  exists_ok_of_isOk (by decide +kernel)

theorem e3_spec : Spec.eval (F := Int) d0 e3 ctx = .ok (.val (.num 3) none) := by decide +kernel

/-- **`C08_main_filtered_counts`** at `count(*[@x < @y]) * 2 + 1`, context `⟨r, 2, 5⟩` of `d0`, every
hypothesis discharged (`WF`, `nsIface`, `HashInj`, `validRef`, `NumEF2` with `FlatF2` inside,
`build = .ok`): one child of `r` has `@x < @y`, both sides give `1 * 2 + 1 = 3` -/
theorem C08_main_filtered_counts_instance :
    ∃ (o : BOut), build (fun _ => true) 100 true false e3 {} {} = .ok o ∧
    evalP (F := Int) d0 {} o.q (.node 1) = .ok (.num 3) := by
  obtain ⟨o, hb⟩ := e3_built
  obtain ⟨x, h1, h2⟩ := Theorems.C08.C08_main_filtered_counts (F := Int) wf_d0 {} rfl hashInj_d0
    (fun _ => true) 100 (.node 1) (by decide) 2 5 (e3_numEC2.numEF2) {} {} o hb
  rw [e3_spec] at h2; cases h2
  exact ⟨o, hb, h1⟩

/-- `*[@x < @y]/@y` (from `r`: the `y` attribute of `b`, value `3`) -/
def pLtY : Ast := .axis (atA "y") pLt

theorem pLtY_flatF2 : FlatF2 pLtY :=
  ⟨.axis _ _ pLt_flatF2.1 (atA_axis _), .axis _ _ (by decide) pLt_flatF2.2⟩

/-- `sum(*[@x < @y]/@y) - count(*[@x < @y])` -/
def e4 : Ast :=
  .oper "-" (.call "sum" "" (.acons pLtY .anil)) (.call "count" "" (.acons pLt .anil))

theorem e4_parsed : ParsesTo "sum(*[@x < @y]/@y) - count(*[@x < @y])" e4 :=
  parsesTo_of (by decide +kernel)

/-- the oracle speaks for `sum(*[@x < @y]/@y)`: the one node is numeric -/
theorem sumLt_spec : Spec.eval (F := Int) d0 (.call "sum" "" (.acons pLtY .anil)) ctx =
    .ok (.val (.num 3) none) := by decide +kernel

theorem e4_numEF2 : NumEF2 d0 ctx Int e4 :=
  .arith "-" _ _ (by decide)
    (.sum "" pLtY ⟨pLtY_flatF2, sumDom_of_eval d0 ctx "" pLtY 3 none sumLt_spec⟩)
    (.count "" pLt pLt_flatF2)

theorem e4_spec : Spec.eval (F := Int) d0 e4 ctx = .ok (.val (.num 2) none) := by decide +kernel

/-- **`C08_main_filtered_counts`** with a filtered `sum` leaf (`FlatSum2` discharged): both sides
give `3 - 1 = 2` -/
theorem C08_main_filtered_sums_instance :
    ∃ (o : BOut), build (fun _ => true) 100 true false e4 {} {} = .ok o ∧
    evalP (F := Int) d0 {} o.q (.node 1) = .ok (.num 2) := by
  obtain ⟨o, hb⟩ : ∃ o, build (fun _ => true) 100 true false e4 {} {} = .ok o :=
    exists_ok_of_isOk (by decide +kernel)
  obtain ⟨x, h1, h2⟩ := Theorems.C08.C08_main_filtered_counts (F := Int) wf_d0 {} rfl hashInj_d0
    (fun _ => true) 100 (.node 1) (by decide) 2 5 e4_numEF2 {} {} o hb
  rw [e4_spec] at h2; cases h2
  exact ⟨o, hb, h1⟩

end XPathV.Theorems.NonVacuity.C08
