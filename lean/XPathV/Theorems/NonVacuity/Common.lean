import XPathV.Lemmas.PathSem
import XPathV.Lemmas.PosSem
import XPathV.Lemmas.ApiSem
import XPathV.Lemmas.Pull2Proofs
import XPathV.Lemmas.ParserShape
import XPathV.Lemmas.CallFn
/-!
# Non-vacuity audit — shared concrete instances

A concrete well-formed document with 8 nodes and 3 attributes, the generic bridge
`wfb d = true → WF d`, a decision procedure for `HashInj` and the exact-integer number algebra.
-/
/-! decidable equality on results, so that concrete conclusions can be checked by `decide +kernel`
(only imported by the non-vacuity files) -/
deriving instance DecidableEq for Except
deriving instance DecidableEq for XPathV.Spec.Err
deriving instance DecidableEq for XPathV.Spec.Value
deriving instance DecidableEq for XPathV.Spec.Res
deriving instance DecidableEq for XPathV.Model.Item
deriving instance DecidableEq for XPathV.Model.MVal

namespace XPathV.Theorems.NonVacuity
open XPathV XPathV.Model

/-- step abbreviations, exactly as the parser fills `AxisInfo` -/
abbrev chE (n : String) : AxisInfo := ⟨"child", .elem, "", n, "", false, ""⟩
abbrev atA (n : String) : AxisInfo := ⟨"attribute", .attr, "", n, "", false, ""⟩
abbrev chText : AxisInfo := ⟨"child", .text, "", "", "text", false, ""⟩
abbrev dosAll : AxisInfo := ⟨"descendant-or-self", .all, "", "", "", false, ""⟩
abbrev axE (axis n : String) : AxisInfo := ⟨axis, .elem, "", n, "", false, ""⟩

/-- these steps are on the twelve axes of the fragments (by name: `decide` would compare the axis
name with up to eleven others, character by character) -/
theorem chE_axis (n : String) : (chE n).axis ∈ PathSem.axes12 := List.mem_cons_self
theorem chText_axis : chText.axis ∈ PathSem.axes12 := List.mem_cons_self
theorem atA_axis (n : String) : (atA n).axis ∈ PathSem.axes12 := by simp [PathSem.axes12]
theorem dosAll_axis : dosAll.axis ∈ PathSem.axes12 := by simp [PathSem.axes12]

/-- the parser (with the fuel `compile` supplies, no namespace map) yields `a` on the text `t` -/
abbrev ParsesTo (t : String) (a : Ast) : Prop :=
  parse (fuelFor t.toList) (defaultCfg none) t.toList = .ok a

/-- `defaultCfg ns` with the stage list written out.  `stages` computes it from the regenerated
precedence chain by string comparisons, and the kernel would do that again at every use of
`cfg.chain`. -/
def litCfg (ns : Option (List (String × String))) : PCfg :=
  { depthLimit := 200, ns := ns,
    chain := [.tier ["or"], .tier ["and"], .tier ["=", "!="], .tier ["<", ">", "<=", ">="],
      .tier ["+", "-"], .tier ["*", "div", "mod"], .unary, .tier ["|"]] }

theorem defaultCfg_lit (ns : Option (List (String × String))) : defaultCfg ns = litCfg ns :=
  Lemmas.ParserShape.defaultCfg_eq ns

/-- run scanner and parser in the kernel.  The text is a literal, that is `String.ofList l`, and
unification reads `l` off it: `String.toList` itself decodes the byte array and is quadratic in the
kernel -/
theorem parsesTo_of {l : List Char} {a : Ast}
    (h : ApiSem.parsesTo (parse (fuelFor l) (litCfg none) l) a = true) :
    ParsesTo (String.ofList l) a := by
  rw [ParsesTo, defaultCfg_lit, String.toList_ofList]; exact ApiSem.parsesTo_eq h

/-- the two builder switches are read off the source text by a substring search; `SourceConfig`
has done that search -/
theorem build_src (regexOk : RegexOk) (limit : Nat) (a : Ast) (fl : Flags) (st : BState) :
    build regexOk limit shortcutNeedsNodeTestFromSource smartDescThroughFilterFromSource a fl st =
      build regexOk limit true false a fl st := by
  simp only [Lemmas.SourceConfig.shortcut_guard_from_source,
    Lemmas.SourceConfig.smartdesc_stops_at_filters_from_source]

/-- the builder as `compile {}` calls it -/
abbrev buildApi (a : Ast) : Except BErr BOut :=
  build (fun _ => true) ApiSem.apiLimit true false a {} {}

theorem compile_of_buildApi {ns : Option (List (String × String))} {text : List Char} {a : Ast}
    {o : BOut} (hp : parse (fuelFor text) (defaultCfg ns) text = .ok a) (ho : buildApi a = .ok o)
    (hq : o.q ≠ .nil) : compile {} ns text = .ok o.q :=
  ApiSem.compile_of_build {} ns text (ApiSem.text_ne_nil_of_parse ns text a hp) a o hp
    (by rw [ApiSem.srcCfg_snt, ApiSem.srcCfg_sdf]; exact ho) hq

/-- "the tree builds, as `compile {}` builds it, to a plan that is not the nil query" -/
def builtOk (a : Ast) : Bool :=
  match buildApi a with
  | .ok o => o.q != .nil
  | .error _ => false

/-- `compile {}` succeeds on a text once its tree is known and builds (so the text is scanned and
parsed once, in the lemma that supplies `hp`) -/
theorem compile_ok {ns : Option (List (String × String))} {text : List Char} {a : Ast}
    (hp : parse (fuelFor text) (defaultCfg ns) text = .ok a) (hb : builtOk a = true) :
    ∃ p, compile {} ns text = .ok p := by
  unfold builtOk at hb
  split at hb
  · exact ⟨_, compile_of_buildApi hp ‹_› (bne_iff_ne.mp hb)⟩
  · cases hb

/-- scanner, parser and builder run once on a text: `P` is checked on the tree, `Q` on the plan -/
def runOnce (ns : Option (List (String × String))) (text : List Char) (P : Ast → Bool)
    (Q : Plan → Bool) : Bool :=
  match parse (fuelFor text) (litCfg ns) text with
  | .ok a => P a && (match buildApi a with
    | .ok o => o.q != .nil && Q o.q
    | .error _ => false)
  | .error _ => false

theorem runOnce_spec {ns : Option (List (String × String))} {text : List Char} {P : Ast → Bool}
    {Q : Plan → Bool} (h : runOnce ns text P Q = true) :
    ∃ a p, parse (fuelFor text) (defaultCfg ns) text = .ok a ∧ P a = true ∧
      compile {} ns text = .ok p ∧ Q p = true := by
  unfold runOnce at h
  rw [← defaultCfg_lit] at h
  split at h
  · rename_i a ha
    rw [Bool.and_eq_true] at h
    obtain ⟨hP, h⟩ := h
    split at h
    · rw [Bool.and_eq_true, bne_iff_ne] at h
      exact ⟨a, _, ha, hP, compile_of_buildApi ha ‹_› h.1, h.2⟩
    · cases h
  · cases h

/-- `sel`/`evalP` are defined by well-founded recursion and do not reduce in the kernel: unfold
them with their equations first, then let the kernel decide the structural remainder -/
macro "sel_decide" : tactic =>
  `(tactic| (simp only [sel, evalP, argVals, bind, Except.bind, pure, Except.pure]; decide +kernel))

/-- read the value off an oracle result without spelling out the grouping -/
theorem value_of_eval {F : Type} {r : Except Spec.Err (Spec.Res F)} {v v' : Spec.Value F}
    {g : Option (List (List Ref))} (h : r = .ok (.val v g)) (hv : r.map Spec.Res.value = .ok v') :
    v = v' := by
  subst h; simpa [Except.map, Spec.Res.value] using hv

/-- the same with the top-level form of the oracle, so that one evaluation of `Spec.evalTop` serves
the theorems that speak of `Spec.eval` at the initial context and those that speak of `evalTop` -/
theorem value_of_evalTop {F : Type} [NumAlg F] {d : Doc} {e : Ast} {c : Ref} {v v' : Spec.Value F}
    {g : Option (List (List Ref))} (h : Spec.eval d e ⟨c, 1, 1⟩ = .ok (.val v g))
    (ht : Spec.evalTop d e c = .ok v') : v = v' := by
  unfold Spec.evalTop at ht
  rw [h] at ht
  exact Except.ok.inj ht

theorem evalTop_of_eval {F : Type} [NumAlg F] {d : Doc} {e : Ast} {c : Ref} {r : Spec.Res F}
    (h : Spec.eval d e ⟨c, 1, 1⟩ = .ok r) : Spec.evalTop d e c = .ok r.value := by
  rw [Spec.evalTop, h]; rfl

/-- the value of a successful computation (so that later hypotheses can mention it concretely) -/
def okVal {ε α : Type} [Inhabited α] (r : Except ε α) : α :=
  match r with
  | .ok a => a
  | .error _ => default

theorem eq_ok_okVal {ε α : Type} [Inhabited α] {r : Except ε α} (h : r.isOk = true) : r = .ok (okVal r) := by
  cases r with
  | ok o => rfl
  | error e => simp [Except.isOk, Except.toBool] at h

theorem eq_ok_pair {ε α β : Type} [Inhabited α] [Inhabited β] {r : Except ε (α × β)}
    (h : r.isOk = true) : r = .ok ((okVal r).1, (okVal r).2) := by
  cases r with
  | ok o => rfl
  | error e => simp [Except.isOk, Except.toBool] at h

theorem pair_eq {α β : Type} {x : α × β} {a : α} (h : x.1 = a) : x = (a, x.2) := by
  cases x; cases h; rfl

/-- "the run succeeds with first component `a`", as one Boolean for the kernel to evaluate (under
a name: an anonymous `match` in a hypothesis gets re-evaluated when the kernel checks the application) -/
def okFst {ε α β : Type} [DecidableEq α] (r : Except ε (α × β)) (a : α) : Bool :=
  match r with
  | .ok x => decide (x.1 = a)
  | .error _ => false

theorem eq_ok_fst {ε α β : Type} [Inhabited α] [Inhabited β] [DecidableEq α] {r : Except ε (α × β)}
    {a : α} (h : okFst r a = true) : r = .ok (a, (okVal r).2) := by
  cases r with
  | ok x => exact congrArg Except.ok (pair_eq (of_decide_eq_true h))
  | error e => cases h

instance : Inhabited BOut := ⟨⟨.nil, default, default⟩⟩

/-- a build that succeeds with the plan `p`, run once: it is `.ok` of its value, whose plan is `p` -/
theorem built_plan {r : Except BErr BOut} {p : Plan} (h : r.map (·.q) = .ok p) :
    r = .ok (okVal r) ∧ (okVal r).q = p := by
  cases r with
  | ok o => exact ⟨rfl, Except.ok.inj h⟩
  | error e => cases h

theorem triple_eq {α β γ : Type} {x : α × β × γ} {a : α} (h : x.1 = a) : x = (a, x.2.1, x.2.2) := by
  obtain ⟨_, _, _⟩ := x; cases h; rfl

/-- the error of a failed computation, for stating `r = .error e` decidably -/
def errVal {ε α : Type} : Except ε α → Option ε
  | .error e => some e
  | .ok _ => none

theorem eq_error_of {ε α : Type} {r : Except ε α} {e : ε} (h : errVal r = some e) : r = .error e := by
  cases r with
  | ok o => cases h
  | error e' => simp only [errVal, Option.some.injEq] at h; rw [h]

/-- `HashInj` is decided by a finite check over `allRefs` -/
def hashInjB (d : Doc) (cfg : ECfg) : Bool :=
  (allRefs d).all fun a => (allRefs d).all fun b =>
    !(identityHash d cfg a == identityHash d cfg b) || a == b

theorem mem_allRefs_of_valid {d : Doc} {r : Ref} (h : validRef d r = true) : r ∈ allRefs d := by
  cases r with
  | node i =>
    simp only [validRef, decide_eq_true_eq] at h
    simp only [allRefs, List.mem_flatMap, List.mem_range]
    exact ⟨i, h, List.mem_cons_self⟩
  | attr i k =>
    simp only [validRef, Bool.and_eq_true, decide_eq_true_eq] at h
    simp only [allRefs, List.mem_flatMap, List.mem_range]
    refine ⟨i, h.1, List.mem_cons_of_mem _ ?_⟩
    simp only [attrsOf, List.mem_map, List.mem_range]
    exact ⟨k, h.2, rfl⟩

theorem hashInj_of_hashInjB {d : Doc} {cfg : ECfg} (h : hashInjB d cfg = true) :
    PathSem.HashInj d cfg := by
  intro a b ha hb he
  simp only [hashInjB, List.all_eq_true, Bool.or_eq_true, Bool.not_eq_true', beq_eq_false_iff_ne,
    beq_iff_eq] at h
  rcases h a (mem_allRefs_of_valid ha) b (mem_allRefs_of_valid hb) with h | h
  · exact absurd he h
  · exact h

/-- `<r><a x="1">t</a><b x="2" y="3">u</b><a/><!--c--></r>`: 8 nodes, 3 attributes -/
def d0 : Doc :=
  [⟨0, .root, "", "", "", "", []⟩,
   ⟨1, .elem, "", "r", "", "", []⟩,
   ⟨2, .elem, "", "a", "", "", [⟨"", "x", "", "1"⟩]⟩,
   ⟨3, .text, "", "", "", "t", []⟩,
   ⟨2, .elem, "", "b", "", "", [⟨"", "x", "", "2"⟩, ⟨"", "y", "", "3"⟩]⟩,
   ⟨3, .text, "", "", "", "u", []⟩,
   ⟨2, .elem, "", "a", "", "", []⟩,
   ⟨2, .comment, "", "", "", "c", []⟩]

theorem wf_d0 : WF d0 := wf_of_wfb (by decide)

theorem hashInj_d0 : PathSem.HashInj d0 {} := hashInj_of_hashInjB (by decide +kernel)


/-! ## `DecOK` is a property of the configuration (the plan), not of the iteration state -/

/-- `DecOK`, read off the plan -/
def DecOKP {F : Type} [NumAlg F] (d : Doc) (cfg : ECfg) (dec : Plan → Ref → Bool) : Plan → Prop
  | .child _ i | .cachedChild _ i | .attr _ i | .self _ i | .parent _ i | .descendant _ _ i
  | .ancestor _ _ i | .following _ _ i | .preceding _ _ i | .group i | .descOverDesc _ _ i =>
    DecOKP (F := F) d cfg dec i
  | .filter i pred => DecOKP (F := F) d cfg dec i ∧ ∀ r, evalP (F := F) d cfg pred r = .ok (.bool (dec pred r))
  | .union l r => DecOKP (F := F) d cfg dec l ∧ DecOKP (F := F) d cfg dec r
  | .merge i c => DecOKP (F := F) d cfg dec i ∧ DecOKP (F := F) d cfg dec c
  | _ => True

theorem decOK_iff_plan {F : Type} [NumAlg F] (d : Doc) (cfg : ECfg) (dec : Plan → Ref → Bool) (q : PQ2) :
    q.DecOK (F := F) d cfg dec ↔ DecOKP (F := F) d cfg dec q.plan := by
  induction q <;> simp_all [PQ2.DecOK, PQ2.plan, DecOKP]

/-- every state reachable under the library's protocol inherits `DecOK` from its configuration -/
theorem reach_decOK {F : Type} [NumAlg F] {d : Doc} {cfg : ECfg} {dec : Plan → Ref → Bool}
    (hd : 0 < d.length) (p0 : Plan) (hw : NeedsWF p0 → WF d) (hp : DecOKP (F := F) d cfg dec p0)
    (q : PQ2) (hr : Reach d cfg dec p0 q) : q.DecOK (F := F) d cfg dec := by
  rw [decOK_iff_plan, (reach_inv d cfg dec hd p0 hw q hr).1]; exact hp

end XPathV.Theorems.NonVacuity

namespace XPathV.Theorems.NonVacuity

/-- the step abbreviations on the flat axes (`child`, `attribute`, `self`), by position in the list -/
theorem chE_flat (n : String) : (chE n).axis ∈ ArithSem.flatAxes := List.mem_cons_self
theorem atA_flat (n : String) : (atA n).axis ∈ ArithSem.flatAxes :=
  List.mem_cons_of_mem _ List.mem_cons_self

end XPathV.Theorems.NonVacuity
