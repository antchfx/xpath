import XPathV.Lemmas.Pull2Gen.NonVacuity
import XPathV.Theorems.C04
import XPathV.Theorems.NonVacuity.Common
import XPathV.Theorems.NonVacuity.C02
/-!
# Non-vacuity of the C04 theorems

`C04_history_independent` and `clone_is_fresh_and_state_independent` have no hypotheses (the first
is true by construction of `runHistory`: the state threaded through a history is the plan itself —
what ties this to the code are the T0 facts `api_clones`/`clone_table_ok`).  Below: a concrete
history with non-empty, *different* outcomes, and `clone_is_fresh_all_iterators` with its `DecOK`
hypothesis discharged on a reachable mid-iteration state of a filter machine.
-/
namespace XPathV.Theorems.NonVacuity.C04
open XPathV XPathV.Model XPathV.Theorems.NonVacuity XPathV.PosSem XPathV.Theorems.C04
open XPathV.Theorems.NonVacuity.C02

attribute [local instance] toyAlg

/-- `C04_history_independent` on the plan of `/r/*[not(@y)]`: a `Select` abandoned after one
result, an `Evaluate` from an attribute, then a full `Select` -/
example : (runHistory (F := Int) {} planD ([.select d0 (.node 0) 1, .evaluate d0 (.attr 4 1)] ++ [.select d0 (.node 6) 5])).getLast? =
    some (outcome (F := Int) {} planD (.select d0 (.node 6) 5)) :=
  C04_history_independent (F := Int) {} planD _ _
/-- the outcomes in that history are successful, non-empty and differ from one another -/
example : outcome (F := Int) {} planD (.select d0 (.node 0) 1) = .ok (.nodes [.node 2]) ∧
    outcome (F := Int) {} planD (.select d0 (.node 6) 5) = .ok (.nodes [.node 2, .node 6]) := by
  simp only [outcome, selectAll, planD_sel]
  exact ⟨rfl, rfl⟩

/-- **`clone_is_fresh_all_iterators`** (`DecOK`) at the mid-iteration state `qD1` -/
theorem clone_is_fresh_all_iterators_instance :
    qD1.clone.evaluate = qD1.clone ∧ qD1.clone.Inv d0 ∧
      sel (F := Int) d0 {} qD1.plan (.node 0) = .ok (rem2 d0 {} decD (.node 0) qD1.clone) :=
  clone_is_fresh_all_iterators (F := Int) d0 {} decD qD1
    (reach_decOK (by decide) planD (fun _ => wf_d0) planD_decOK qD1 qD1_reach) (.node 0)

/-- `clone_is_fresh_and_state_independent` on the core machine -/
example := clone_is_fresh_and_state_independent (F := Int) d0 {} (.node 0)
  (.child (chE "") (.child (chE "r") (.context 1) none 0) (some (.node 4, false)) 2)

end XPathV.Theorems.NonVacuity.C04

