import XPathV.Theorems.C09
import XPathV.Theorems.NonVacuity.Common
/-!
# Non-vacuity of the C09 theorems

`C09_nested_total` already discharges `build = .ok` for *every* member of `StrE` (given a depth limit
≥ the nesting height), so `C09_nested` is non-vacuous on the whole fragment.  Below: one concrete
nested expression parsed from text, with its value, and instances of the side conditions `hp`
(`Plain`), `h2`, `hn`/`RestOk`.
-/
namespace XPathV.Theorems.NonVacuity.C09
open XPathV XPathV.Model XPathV.Theorems.NonVacuity XPathV.PosSem XPathV.StringFns

attribute [local instance] toyAlg

def tE : String :=
  "concat(substring-before('a-b', '-'), translate(normalize-space(' X  y '), 'Xy', 'xY'), lower-case(substring('HELLO', 2, 3)), string(substring-after('k=v', '=')))"

def a1 : Ast := .call "substring-before" "" (.acons (.str "a-b") (.acons (.str "-") .anil))
def a2 : Ast := .call "translate" "" (.acons (.call "normalize-space" "" (.acons (.str " X  y ") .anil))
  (.acons (.str "Xy") (.acons (.str "xY") .anil)))
def a3 : Ast := .call "lower-case" "" (.acons
  (.call "substring" "" (.acons (.str "HELLO") (.acons (.num "2") (.acons (.num "3") .anil)))) .anil)
def a4 : Ast := .call "string" "" (.acons
  (.call "substring-after" "" (.acons (.str "k=v") (.acons (.str "=") .anil))) .anil)
def e : Ast := .call "concat" "" (Ast.ofArgList [a1, a2, a3, a4])

theorem e_parsed : ParsesTo tE e := by
  rw [ParsesTo, defaultCfg_lit, tE, String.toList_ofList]; exact ApiSem.parsesTo_eq (by decide +kernel)

theorem plain_lit : Plain " X  y " := by
  intro c hc
  have : c ∈ [' ', 'X', ' ', ' ', 'y', ' '] := hc
  simp only [List.mem_cons, List.not_mem_nil, or_false] at this
  rcases this with rfl | rfl | rfl | rfl | rfl | rfl <;> decide

theorem e_strE : StrE e :=
  .concat "" _ (by decide) (by
    intro a ha
    simp only [List.mem_cons, List.not_mem_nil, or_false] at ha
    rcases ha with rfl | rfl | rfl | rfl
    · exact .substringBefore _ _ _ (.lit _) (.lit _)
    · exact .translate _ _ _ _ (.normalizeSpace _ _ (.lit _) plain_lit) (.lit _) (.lit _)
    · exact .lowerCase _ _ (.substring3 _ _ _ _ (.lit _))
    · exact .string _ _ (.substringAfter _ _ _ (.lit _) (.lit _)))

/-- **`C09_nested`** (`StrE`, `build = .ok`) with the value on both sides -/
theorem C09_nested_instance : ∃ (o : BOut), build (fun _ => true) 100 true false e {} {} = .ok o ∧
    evalP (F := Int) d0 {} o.q (.node 0) = .ok (.str "ax Yllov") ∧
    evaluate (F := Int) d0 {} o.q (.node 0) = .ok (.str "ax Yllov") := by
  obtain ⟨o, hb⟩ : ∃ o, build (fun _ => true) 100 true false e {} {} = .ok o := exists_ok_of_isOk (by decide +kernel)
  obtain ⟨s, h1, h2, _, h4⟩ := Theorems.C09.C09_nested (F := Int) e e_strE d0 {} (.node 0) (fun _ => true)
    100 true false {} o hb
  have ev : Spec.evalTop (F := Int) d0 e (.node 0) = .ok (.str "ax Yllov") := by decide +kernel
  rw [ev] at h4; cases h4
  exact ⟨o, hb, h1, h2⟩

/-- **`C09_nested_total`** (`StrE`, `st.depth + ht e ≤ limit`): nesting height 4, limit 4 -/
example : ∃ (o : BOut) (s : String), build (fun _ => true) 4 true false e {} {} = .ok o ∧
    evaluate (F := Int) d0 {} o.q (.node 0) = .ok (.str s) ∧ Spec.evalTop (F := Int) d0 e (.node 0) = .ok (.str s) :=
  Theorems.C09.C09_nested_total (F := Int) e e_strE d0 {} (.node 0) (fun _ => true) 4 true false {} (by decide)

/-- **`C09_each_function`** (`h2 : 2 ≤ ss.length`, `hp : Plain a`) -/
example := Theorems.C09.C09_each_function (F := Int) d0 {} .nil (.node 0) none ⟨.node 0, 1, 1⟩ " X  y " "y" "s"
  2 3 ["p", "q", "r"] (by decide) [.node 2, .node 4] plain_lit (.nodes [.node 2]) (.nodes [.node 3, .node 5])
  (.nodes _) (.nodes _)

/-- **`C09_nodeset_argument`** (`name ∈ firstArgFns`, `RestOk`): `substring(//a, 1, 2)` with a
two-node list -/
example : callFn (F := Int) d0 {} "substring" .nil (.node 0)
      [.ok (.nodes [.node 2, .node 6]), .ok (.num 0), .ok (.num 1)] none
    = callFn d0 {} "substring" .nil (.node 0)
      [.ok (.str (Spec.toStr (F := Int) d0 (.nodes [.node 2, .node 6]))), .ok (.num 0), .ok (.num 1)] none :=
  (Theorems.C09.C09_nodeset_argument (F := Int) d0 {} .nil (.node 0) none "substring" (by decide)
    [.node 2, .node 6] [.ok (.num 0), .ok (.num 1)] (by
      unfold RestOk; rw [if_pos rfl]; exact .inr ⟨0, 1, rfl⟩)).1
example : Spec.toStr (F := Int) d0 (.nodes [.node 2, .node 6]) = "t" := by decide +kernel

/-- **`C09_nodeset_argument`**, second position (`name ∈ secondArgFns`): `contains('xtx', //a)` -/
example : callFn (F := Int) d0 {} "contains" .nil (.node 0)
      [.ok (.str "xtx"), .ok (.nodes [.node 2, .node 6])] none
    = callFn d0 {} "contains" .nil (.node 0)
      [.ok (.str "xtx"), .ok (.str (Spec.toStr (F := Int) d0 (.nodes [.node 2, .node 6])))] none :=
  (Theorems.C09.C09_nodeset_argument (F := Int) d0 {} .nil (.node 0) none "contains" (by decide)
    [] [] (by unfold RestOk; simp)).2 (by decide) _ _ _

/-- **`C09_string_tests_either_position`**: `contains(//b, //a)` = `contains('u', 't')` = false and
`ends-with('xt', //a)` = true, on both sides (both were errors before the repair) -/
example : callFn (F := Int) d0 {} "contains" .nil (.node 0)
      [.ok (.nodes [.node 4]), .ok (.nodes [.node 2, .node 6])] none = .ok (.bool false) ∧
    Spec.callFn (F := Int) d0 ⟨.node 0, 1, 1⟩ "contains" [.nodes [.node 4], .nodes [.node 2, .node 6]]
      = .ok (.bool false) := by
  have h := Theorems.C09.C09_string_tests_either_position (F := Int) d0 {} .nil (.node 0) none
    ⟨.node 0, 1, 1⟩ "contains" (by decide) (.nodes [.node 4]) (.nodes [.node 2, .node 6]) (.nodes _) (.nodes _)
  have e : strTestOf "contains" (Spec.toStr (F := Int) d0 (.nodes [.node 4]))
      (Spec.toStr (F := Int) d0 (.nodes [.node 2, .node 6])) = false := by decide +kernel
  rw [e] at h
  exact h
example : callFn (F := Int) d0 {} "ends-with" .nil (.node 0)
      [.ok (.str "xt"), .ok (.nodes [.node 2, .node 6])] none = .ok (.bool true) := by
  have h := (Theorems.C09.C09_string_tests_either_position (F := Int) d0 {} .nil (.node 0) none
    ⟨.node 0, 1, 1⟩ "ends-with" (by decide) (.str "xt") (.nodes [.node 2, .node 6]) (.str _) (.nodes _)).1
  have e : strTestOf "ends-with" (Spec.toStr (F := Int) d0 (.str "xt"))
      (Spec.toStr (F := Int) d0 (.nodes [.node 2, .node 6])) = true := by decide +kernel
  rw [e] at h
  exact h

/-- **`C09_string_tests_raise`** (`hw`): `contains('a', 0)` and `contains(0, 'a')` still raise -/
example := Theorems.C09.C09_string_tests_raise (F := Int) d0 {} .nil (.node 0) none "contains" (by decide)
  (.str "a") (.num 0) (.inl ⟨0, rfl⟩)

/-- **`C09_normalize_space`** -/
example : normalizeSpaceM " X  y " = Spec.fnNormalizeSpace " X  y " :=
  Theorems.C09.C09_normalize_space _ plain_lit

end XPathV.Theorems.NonVacuity.C09


/-! ## `C09_nested_with_paths`: node-set leaves (flat filtered paths) -/
namespace XPathV.Theorems.NonVacuity.C09
open XPathV XPathV.Model XPathV.Theorems.NonVacuity XPathV.PosSem XPathV.StringFns XPathV.StringFns2
open XPathV.ArithSem2 (FlatF2)

attribute [local instance] toyAlg

def tP : String := "concat(substring-before(*[@x < @y]/@y, '0'), '-', normalize-space(a))"

private def chA (n : String) : AxisInfo := ⟨"child", .elem, "", n, "", false, ""⟩
private def atA (n : String) : AxisInfo := ⟨"attribute", .attr, "", n, "", false, ""⟩

/-- `*[@x < @y]/@y` -/
def pY : Ast := .axis (atA "y") (.filter (.axis (chA "") .none) (.oper "<" (.axis (atA "x") .none) (.axis (atA "y") .none)))
/-- `a` -/
def pA : Ast := .axis (chA "a") .none

def eP : Ast := .call "concat" "" (Ast.ofArgList
  [.call "substring-before" "" (.acons pY (.acons (.str "0") .anil)), .str "-",
   .call "normalize-space" "" (.acons pA .anil)])

theorem eP_parsed : ParsesTo tP eP := parsesTo_of (by decide +kernel)

theorem pY_flatF2 : FlatF2 pY :=
  ⟨.axis _ _ (.filter _ _ (.axis _ _ .none (chE_axis _))
      (.cmpPath _ _ _ (by decide) (.axis _ _ .none (atA_axis _)) (.axis _ _ .none (atA_axis _)))) (atA_axis _),
    .axis _ _ (by decide) (.filter _ _ (.axis _ _ (by decide) .none))⟩

theorem pA_flatF2 : FlatF2 pA := ⟨.axis _ _ .none (chE_axis _), .axis _ _ (by decide) .none⟩

/-- the side condition of `normalize-space(a)` at `r`: the oracle reads `a` as `"t"` -/
theorem pA_normDom : NormDom d0 ⟨.node 1, 1, 1⟩ Int pA := by
  intro v g h
  have ev : (match Spec.eval (F := Int) d0 pA ⟨.node 1, 1, 1⟩ with
      | .ok r => Spec.toStr d0 r.value | .error _ => "?") = "t" := by decide +kernel
  rw [h] at ev
  have e2 : Spec.toStr d0 v = "t" := ev
  rw [e2]
  intro ch hch
  have : ch ∈ ['t'] := hch
  simp only [List.mem_cons, List.not_mem_nil, or_false] at this
  subst this; decide

theorem eP_strE2 : StrE2 d0 ⟨.node 1, 1, 1⟩ Int eP :=
  .concat "" _ (by decide) (by
    intro a ha
    simp only [List.mem_cons, List.not_mem_nil, or_false] at ha
    rcases ha with rfl | rfl | rfl
    · exact .arg _ (.substringBefore _ _ _ (.path _ pY_flatF2) (.arg _ (.lit _)))
    · exact .arg _ (.lit _)
    · exact .arg _ (.normalizeSpace _ _ (.path _ pA_flatF2) pA_normDom))

/-- **`C09_nested_with_paths`** at `concat(substring-before(*[@x < @y]/@y, '0'), '-', normalize-space(a))`,
context `r` of `d0`, every hypothesis discharged (`WF`, `nsIface`, `HashInj`, `validRef`, `StrE2` with
`FlatF2` and `NormDom` inside, `build = .ok`): `*[@x < @y]/@y` is `b/@y = "3"`, `a` reads as the
string-value `"t"` of the first `a`; both sides give `"-t"` -/
theorem C09_nested_with_paths_instance :
    ∃ (o : BOut), build (fun _ => true) 100 true false eP {} {} = .ok o ∧
    evalP (F := Int) d0 {} o.q (.node 1) = .ok (.str "-t") ∧
    evaluate (F := Int) d0 {} o.q (.node 1) = .ok (.str "-t") := by
  obtain ⟨o, hb⟩ : ∃ o, build (fun _ => true) 100 true false eP {} {} = .ok o := exists_ok_of_isOk (by decide +kernel)
  obtain ⟨s, h1, h2, _, h4⟩ := Theorems.C09.C09_nested_with_paths (F := Int) wf_d0 {} rfl hashInj_d0
    (fun _ => true) 100 (.node 1) (by decide) eP_strE2 {} o hb
  have ev : Spec.evalTop (F := Int) d0 eP (.node 1) = .ok (.str "-t") := by decide +kernel
  rw [ev] at h4; cases h4
  exact ⟨o, hb, h1, h2⟩

/-- the embedding `StrE → StrE2` at the literal-only example above -/
example : StrE2 d0 ⟨.node 0, 1, 1⟩ Int e := Theorems.C09.C09_strE_embeds d0 _ e_strE

end XPathV.Theorems.NonVacuity.C09
