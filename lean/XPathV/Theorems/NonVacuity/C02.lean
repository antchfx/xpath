import XPathV.Lemmas.Pull2Gen.NonVacuity
import XPathV.Theorems.C02
import XPathV.Theorems.NonVacuity.Common
/-!
# Non-vacuity of the C02 theorems

All hypotheses (`WF`, `nsIface`, `HashInj`, `Frag`/`Frag2`, `build = .ok`, `validRef`, …) discharged
at once on `d0` and on expressions that parse from text and yield non-empty results.
-/
namespace XPathV.Theorems.NonVacuity.C02
open XPathV XPathV.Model XPathV.Theorems.NonVacuity XPathV.PosSem
open XPathV.PathSem XPathV.PredSem XPathV.PredSem2

attribute [local instance] toyAlg

/-! ## `Frag2`: `/r/*[count(@*) > 0 and not(contains(local-name(), 'q'))][text() = 't' or @y]` -/

def tA : String := "/r/*[count(@*) > 0 and not(contains(local-name(), 'q'))][text() = 't' or @y]"
def pA0 : Ast := .axis (chE "") (.axis (chE "r") (.root "/"))
def bA1 : Ast :=
  .oper "and" (.oper ">" (.call "count" "" (.acons (.axis (atA "") .none) .anil)) (.num "0"))
    (.call "not" "" (.acons
      (.call "contains" "" (.acons (.call "local-name" "" .anil) (.acons (.str "q") .anil))) .anil))
def bA2 : Ast :=
  .oper "or" (.oper "=" (.axis chText .none) (.str "t")) (.axis (atA "y") .none)
def pA : Ast := .filter (.filter pA0 bA1) bA2

theorem pA_parsed : ParsesTo tA pA := parsesTo_of (by decide +kernel)

theorem pA0_frag : Frag2 true pA0 := .axis _ _ (.axis _ _ (.root _) (chE_axis _)) (chE_axis _)
theorem bA1_frag : Frag2 false bA1 :=
  .and _ _ (.countR _ _ _ _ (by decide) (.axis _ _ .none (atA_axis _)) (.axis _ _ (by decide) .none))
    (.not _ _ (.strLn _ _ _ _ (by decide)))
theorem bA2_frag : Frag2 false bA2 :=
  .or _ _ (.eqStr _ _ (.axis _ _ .none (chText_axis))) (.exist _ (.axis _ _ .none (atA_axis _)))
theorem pA_frag : Frag2 true pA := .filter _ _ (.filter _ _ pA0_frag bA1_frag) bA2_frag

theorem pA_built : ∃ o, build (fun _ => true) 100 true false pA {} {} = .ok o :=
  exists_ok_of_isOk (by decide +kernel)
theorem pA0_built : ∃ o, build (fun _ => true) 100 true false pA0 {} {} = .ok o :=
  exists_ok_of_isOk (by decide +kernel)
theorem pA01_built : ∃ o, build (fun _ => true) 100 true false (.filter pA0 bA1) {} {} = .ok o :=
  exists_ok_of_isOk (by decide +kernel)

theorem pA_spec : Spec.eval (F := Int) d0 pA ⟨.node 0, 1, 1⟩ =
    .ok (.val (.nodes [.node 2, .node 4]) (some [[.node 2, .node 4]])) := by decide +kernel

/-- **`C02_main_full` with every hypothesis discharged**; the result is `{a[1], b}` -/
theorem C02_main_full_instance : ∃ o out,
    build (fun _ => true) 100 true false pA {} {} = .ok o ∧
    sel (F := Int) d0 {} o.q (.node 0) = .ok out ∧ ∀ x, x ∈ refs out ↔ x ∈ [Ref.node 2, .node 4] := by
  obtain ⟨o, hb⟩ := pA_built
  obtain ⟨out, ns, g, h1, h2, h3⟩ := Theorems.C02.C02_main_full (F := Int) wf_d0 {} rfl hashInj_d0
    (fun _ => true) 100 pA pA_frag {} o hb (.node 0) (by decide)
  rw [pA_spec] at h2
  cases h2
  exact ⟨o, out, hb, h1, h3⟩


/-- **`C02_keeps_exactly_the_true_ones_full`** at `p = /r/*`, `b = count(@*) > 0 and not(contains(local-name(),'q'))`:
all ten hypotheses discharged; the predicate holds at `a[1]`, `b` and fails at `a[2]` -/
theorem C02_keeps_full_instance : ∃ (o0 o : BOut), ∃ out0 out,
    sel (F := Int) d0 {} o0.q (.node 0) = .ok out0 ∧ sel (F := Int) d0 {} o.q (.node 0) = .ok out ∧
    (∀ x, x ∈ refs out0 ↔ x ∈ [Ref.node 2, .node 4, .node 6]) ∧
    (∀ x, x ∈ refs out ↔ x ∈ [Ref.node 2, .node 4]) ∧
    (∀ x, x ∈ refs out ↔ x ∈ refs out0 ∧ holds (F := Int) d0 bA1 x = true) := by
  obtain ⟨o0, hb0⟩ := pA0_built
  obtain ⟨o, hb⟩ := pA01_built
  obtain ⟨out0, ns0, g0, out, ns, g, h1, h2, h3, h4, h5, h6, h7, _⟩ :=
    Theorems.C02.C02_keeps_exactly_the_true_ones_full (F := Int) wf_d0 {} rfl hashInj_d0
      (fun _ => true) 100 pA0 bA1 pA0_frag bA1_frag {} {} o0 o hb0 hb (.node 0) (by decide)
  have e0 : Spec.eval (F := Int) d0 pA0 ⟨.node 0, 1, 1⟩ =
      .ok (.val (.nodes [.node 2, .node 4, .node 6]) (some [[.node 2, .node 4, .node 6]])) := by
    decide +kernel
  have e1 : Spec.eval (F := Int) d0 (.filter pA0 bA1) ⟨.node 0, 1, 1⟩ =
      .ok (.val (.nodes [.node 2, .node 4]) (some [[.node 2, .node 4]])) := by decide +kernel
  rw [e0] at h2; cases h2
  rw [e1] at h5; cases h5
  exact ⟨o0, o, out0, out, h1, h4, h3, h6, h7⟩

/-! ## `Frag2` after the repairs of `not` and `contains`:
`/r/*[contains('x1', @x) and not(count(@y)) and ends-with(@x, @x)]` -/

def tC : String := "/r/*[contains('x1', @x) and not(count(@y)) and ends-with(@x, @x)]"
def atX : Ast := .axis (atA "x") .none
def bC : Ast :=
  .oper "and"
    (.oper "and" (.call "contains" "" (.acons (.str "x1") (.acons atX .anil)))
      (.call "not" "" (.acons (.call "count" "" (.acons (.axis (atA "y") .none) .anil)) .anil)))
    (.call "ends-with" "" (.acons atX (.acons atX .anil)))
def pC : Ast := .filter pA0 bC

theorem pC_parsed : ParsesTo tC pC := parsesTo_of (by decide +kernel)

theorem bC_frag : Frag2 false bC :=
  .and _ _
    (.and _ _ (.strLitPath _ _ _ _ (by decide) (.axis _ _ .none (atA_axis _)) (.axis _ _ (by decide) .none))
      (.notCount _ _ _ (.axis _ _ .none (atA_axis _)) (.axis _ _ (by decide) .none)))
    (.strPath2 _ _ _ _ (by decide) (.axis _ _ .none (atA_axis _)) (.axis _ _ (by decide) .none)
      (.axis _ _ .none (atA_axis _)) (.axis _ _ (by decide) .none))
theorem pC_frag : Frag2 true pC := .filter _ _ pA0_frag bC_frag

theorem pC_built : ∃ o, build (fun _ => true) 100 true false pC {} {} = .ok o :=
  exists_ok_of_isOk (by decide +kernel)

theorem pC_spec : Spec.eval (F := Int) d0 pC ⟨.node 0, 1, 1⟩ =
    .ok (.val (.nodes [.node 2, .node 6]) (some [[.node 2, .node 6]])) := by decide +kernel

/-- **`C02_main_full`** on a node-set *second* argument of `contains`/`ends-with` and on `not` of a
number: the result is `{a[1], a[2]}` (before the repairs the engine raised "argument type must be
string" on `contains('x1', @x)` and answered `false` to `not(count(@y))`) -/
theorem C02_main_full_instance_repaired : ∃ o out,
    build (fun _ => true) 100 true false pC {} {} = .ok o ∧
    sel (F := Int) d0 {} o.q (.node 0) = .ok out ∧ ∀ x, x ∈ refs out ↔ x ∈ [Ref.node 2, .node 6] := by
  obtain ⟨o, hb⟩ := pC_built
  obtain ⟨out, ns, g, h1, h2, h3⟩ := Theorems.C02.C02_main_full (F := Int) wf_d0 {} rfl hashInj_d0
    (fun _ => true) 100 pC pC_frag {} o hb (.node 0) (by decide)
  rw [pC_spec] at h2
  cases h2
  exact ⟨o, out, hb, h1, h3⟩

/-! ## a path compared with a path: `a[b = c]`, `a[b < c]` -/

/-- `<r><a><b>10</b><c>9</c></a><a><b>7</b><c>7</c></a><a><b>8</b><c>10</c></a></r>`: 17 nodes.
The first `a` has `b < c` in lexical order only ("10" < "9"), the third in numeric order only
(8 < 10, but "8" > "10") -/
def d1 : Doc :=
  [⟨0, .root, "", "", "", "", []⟩,
   ⟨1, .elem, "", "r", "", "", []⟩,
   ⟨2, .elem, "", "a", "", "", []⟩,
   ⟨3, .elem, "", "b", "", "", []⟩,
   ⟨4, .text, "", "", "", "10", []⟩,
   ⟨3, .elem, "", "c", "", "", []⟩,
   ⟨4, .text, "", "", "", "9", []⟩,
   ⟨2, .elem, "", "a", "", "", []⟩,
   ⟨3, .elem, "", "b", "", "", []⟩,
   ⟨4, .text, "", "", "", "7", []⟩,
   ⟨3, .elem, "", "c", "", "", []⟩,
   ⟨4, .text, "", "", "", "7", []⟩,
   ⟨2, .elem, "", "a", "", "", []⟩,
   ⟨3, .elem, "", "b", "", "", []⟩,
   ⟨4, .text, "", "", "", "8", []⟩,
   ⟨3, .elem, "", "c", "", "", []⟩,
   ⟨4, .text, "", "", "", "10", []⟩]

theorem wf_d1 : WF d1 := wf_of_wfb (by decide)
/-- `d1` has no attributes at all -/
theorem attrTriples_d1 : AttrTriplesDistinct d1 := by
  intro i k₁ k₂ hi h₁ _ _ _ _
  have h0 : ∀ j, j < 17 → (recAt d1 j).attrs.length = 0 := by decide
  rw [h0 i hi] at h₁
  exact absurd h₁ (Nat.not_lt_zero _)

theorem hashInj_d1 : PathSem.HashInj d1 {} := PathSem.hashInj_holds wf_d1 attrTriples_d1 {}

def pE0 : Ast := .axis (chE "a") .none
def bE : Ast := .oper "=" (.axis (chE "b") .none) (.axis (chE "c") .none)
/-- `a[b = c]` -/
def pE : Ast := .filter pE0 bE

theorem pE_parsed : ParsesTo "a[b = c]" pE := parsesTo_of (by decide +kernel)

theorem pE0_frag : Frag2 true pE0 := .axis _ _ .none (chE_axis _)
theorem pE_frag : Frag2 true pE :=
  .filter _ _ pE0_frag (.cmpPath _ _ _ (by decide) (.axis _ _ .none (chE_axis _)) (.axis _ _ .none (chE_axis _)))

theorem pE0_built : ∃ o, build (fun _ => true) 100 true false pE0 {} {} = .ok o :=
  exists_ok_of_isOk (by decide +kernel)
theorem pE_built : ∃ o, build (fun _ => true) 100 true false pE {} {} = .ok o :=
  exists_ok_of_isOk (by decide +kernel)

theorem pE0_spec : Spec.eval (F := Int) d1 pE0 ⟨.node 1, 1, 1⟩ =
    .ok (.val (.nodes [.node 2, .node 7, .node 12]) (some [[.node 2, .node 7, .node 12]])) := by
  decide +kernel
theorem pE_spec : Spec.eval (F := Int) d1 pE ⟨.node 1, 1, 1⟩ =
    .ok (.val (.nodes [.node 7]) (some [[.node 7]])) := by decide +kernel

/-- **`C02_path_vs_path`** at `a[b = c]` from the context node `r` of `d1`, every hypothesis
discharged: the candidates are the three `a`; the first (`b` = "10", `c` = "9") and the third ("8",
"10") are dropped, the second (`b` = `c` = "7") is kept — exactly the candidates at which
`boolean(b = c)` is true -/
theorem C02_path_vs_path_instance : ∃ (o0 o : BOut), ∃ out0 out,
    sel (F := Int) d1 {} o0.q (.node 1) = .ok out0 ∧ sel (F := Int) d1 {} o.q (.node 1) = .ok out ∧
    (∀ x, x ∈ refs out0 ↔ x ∈ [Ref.node 2, .node 7, .node 12]) ∧
    (∀ x, x ∈ refs out ↔ x ∈ [Ref.node 7]) ∧
    (∀ x, x ∈ refs out ↔ x ∈ refs out0 ∧ holds (F := Int) d1 bE x = true) ∧
    holds (F := Int) d1 bE (.node 2) = false ∧ holds (F := Int) d1 bE (.node 7) = true := by
  obtain ⟨o0, hb0⟩ := pE0_built
  obtain ⟨o, hb⟩ := pE_built
  obtain ⟨out0, out, ns, g, h1, h2, h3, h4, h5, _⟩ :=
    Theorems.C02.C02_path_vs_path (F := Int) wf_d1 {} rfl hashInj_d1 (fun _ => true) 100 "=" (by decide)
      pE0 _ _ pE0_frag (.axis _ _ .none (chE_axis _)) (.axis _ _ .none (chE_axis _)) {} {} o0 o hb0 hb
      (.node 1) (by decide)
  obtain ⟨out0', ns0, g0, h1', h2', h3'⟩ := Theorems.C02.C02_main_full (F := Int) wf_d1 {} rfl
    hashInj_d1 (fun _ => true) 100 pE0 pE0_frag {} o0 hb0 (.node 1) (by decide)
  rw [h1] at h1'; cases h1'
  rw [pE0_spec] at h2'; cases h2'
  have h3e : Spec.eval (F := Int) d1 (.filter pE0 (.oper "=" (.axis (chE "b") .none)
      (.axis (chE "c") .none))) ⟨.node 1, 1, 1⟩ = .ok (.val (.nodes [.node 7]) (some [[.node 7]])) :=
    pE_spec
  rw [h3e] at h3; cases h3
  exact ⟨o0, o, out0, out, h1, h2, h3', h4, h5, by decide +kernel, by decide +kernel⟩

/-! ### `a[b < c]` — a relational operator between two paths

XPath 1.0 §3.4 converts both string-values to numbers for `<`, `<=`, `>`, `>=`.  (The engine used to
compare them byte-wise: on `d1` it kept the first `a`, "10" < "9", and dropped the third, "8" > "10";
`cmpStringStringF` was repaired and the model follows.)  On `d1`, from `r`: `a[b < c]` is the third
`a` (8 < 10) — and only it (10 < 9 and 7 < 7 are false). -/

def bLt : Ast := .oper "<" (.axis (chE "b") .none) (.axis (chE "c") .none)
/-- `a[b < c]` -/
def pLt : Ast := .filter pE0 bLt

theorem pLt_parsed : ParsesTo "a[b < c]" pLt := parsesTo_of (by decide +kernel)

theorem pLt_frag : Frag2 true pLt :=
  .filter _ _ pE0_frag (.cmpPath _ _ _ (by decide) (.axis _ _ .none (chE_axis _)) (.axis _ _ .none (chE_axis _)))

theorem pLt_built : ∃ o, build (fun _ => true) 100 true false pLt {} {} = .ok o :=
  exists_ok_of_isOk (by decide +kernel)

theorem pLt_spec : Spec.eval (F := Int) d1 pLt ⟨.node 1, 1, 1⟩ =
    .ok (.val (.nodes [.node 12]) (some [[.node 12]])) := by decide +kernel

/-- **`C02_path_vs_path`** at `a[b < c]` from `r` of `d1`, every hypothesis discharged: of the three
candidates only the third (`b` = 8, `c` = 10) is kept — numeric order, not lexical order -/
theorem C02_path_lt_path_instance : ∃ (o0 o : BOut), ∃ out0 out,
    sel (F := Int) d1 {} o0.q (.node 1) = .ok out0 ∧ sel (F := Int) d1 {} o.q (.node 1) = .ok out ∧
    (∀ x, x ∈ refs out0 ↔ x ∈ [Ref.node 2, .node 7, .node 12]) ∧
    (∀ x, x ∈ refs out ↔ x ∈ [Ref.node 12]) ∧
    (∀ x, x ∈ refs out ↔ x ∈ refs out0 ∧ holds (F := Int) d1 bLt x = true) ∧
    holds (F := Int) d1 bLt (.node 2) = false ∧ holds (F := Int) d1 bLt (.node 7) = false ∧
    holds (F := Int) d1 bLt (.node 12) = true := by
  obtain ⟨o0, hb0⟩ := pE0_built
  obtain ⟨o, hb⟩ := pLt_built
  obtain ⟨out0, out, ns, g, h1, h2, h3, h4, h5, _⟩ :=
    Theorems.C02.C02_path_vs_path (F := Int) wf_d1 {} rfl hashInj_d1 (fun _ => true) 100 "<" (by decide)
      pE0 _ _ pE0_frag (.axis _ _ .none (chE_axis _)) (.axis _ _ .none (chE_axis _)) {} {} o0 o hb0 hb
      (.node 1) (by decide)
  obtain ⟨out0', ns0, g0, h1', h2', h3'⟩ := Theorems.C02.C02_main_full (F := Int) wf_d1 {} rfl
    hashInj_d1 (fun _ => true) 100 pE0 pE0_frag {} o0 hb0 (.node 1) (by decide)
  rw [h1] at h1'; cases h1'
  rw [pE0_spec] at h2'; cases h2'
  have h3e : Spec.eval (F := Int) d1 (.filter pE0 (.oper "<" (.axis (chE "b") .none)
      (.axis (chE "c") .none))) ⟨.node 1, 1, 1⟩ = .ok (.val (.nodes [.node 12]) (some [[.node 12]])) :=
    pLt_spec
  rw [h3e] at h3; cases h3
  exact ⟨o0, o, out0, out, h1, h2, h3', h4, h5, by decide +kernel, by decide +kernel, by decide +kernel⟩

/-- the plan the builder makes of `a[b < c]`, run directly: the third `a` -/
theorem pLt_plan_selects : ∃ out,
    sel (F := Int) d1 {} (.filter (.child (chE "a") .context)
      (.logical "<" (.child (chE "b") .context) (.child (chE "c") .context))) (.node 1) = .ok out ∧
    refs out = [.node 12] := by
  refine ⟨[⟨.node 12, 1, 0⟩], ?_, by decide⟩
  sel_decide

/-! ### a path compared relationally with a string literal: `a[b < '9']`, `a['9' > b]` -/

def bLtS : Ast := .oper "<" (.axis (chE "b") .none) (.str "9")
def bGtS : Ast := .oper ">" (.str "9") (.axis (chE "b") .none)

theorem pLtS_parsed : ParsesTo "a[b < '9']" (.filter pE0 bLtS) := parsesTo_of (by decide +kernel)
theorem pGtS_parsed : ParsesTo "a['9' > b]" (.filter pE0 bGtS) := parsesTo_of (by decide +kernel)

theorem bLtS_frag : Frag2 false bLtS := .cmpStrR _ _ _ (by decide) (.axis _ _ .none (chE_axis _))
theorem bGtS_frag : Frag2 false bGtS := .cmpStrL _ _ _ (by decide) (.axis _ _ .none (chE_axis _))

/-- **`C02_main_full`** at `a[b < '9']` and `a['9' > b]`: the `a` with `b` = 7 and `b` = 8 (numbers;
before the repair of `cmpNodeSetString` the engine tested `'9' < b`, and byte-wise) -/
theorem C02_path_lt_string_instance :
    (∃ o out, build (fun _ => true) 100 true false (.filter pE0 bLtS) {} {} = .ok o ∧
      sel (F := Int) d1 {} o.q (.node 1) = .ok out ∧ ∀ x, x ∈ refs out ↔ x ∈ [Ref.node 7, .node 12]) ∧
    (∃ o out, build (fun _ => true) 100 true false (.filter pE0 bGtS) {} {} = .ok o ∧
      sel (F := Int) d1 {} o.q (.node 1) = .ok out ∧ ∀ x, x ∈ refs out ↔ x ∈ [Ref.node 7, .node 12]) := by
  constructor
  · obtain ⟨o, hb⟩ : ∃ o, build (fun _ => true) 100 true false (.filter pE0 bLtS) {} {} = .ok o :=
      exists_ok_of_isOk (by decide +kernel)
    obtain ⟨out, ns, g, h1, h2, h3⟩ := Theorems.C02.C02_main_full (F := Int) wf_d1 {} rfl hashInj_d1
      (fun _ => true) 100 _ (.filter _ _ pE0_frag bLtS_frag) {} o hb (.node 1) (by decide)
    have e : Spec.eval (F := Int) d1 (.filter pE0 bLtS) ⟨.node 1, 1, 1⟩ =
        .ok (.val (.nodes [.node 7, .node 12]) (some [[.node 7, .node 12]])) := by decide +kernel
    rw [e] at h2; cases h2
    exact ⟨o, out, hb, h1, h3⟩
  · obtain ⟨o, hb⟩ : ∃ o, build (fun _ => true) 100 true false (.filter pE0 bGtS) {} {} = .ok o :=
      exists_ok_of_isOk (by decide +kernel)
    obtain ⟨out, ns, g, h1, h2, h3⟩ := Theorems.C02.C02_main_full (F := Int) wf_d1 {} rfl hashInj_d1
      (fun _ => true) 100 _ (.filter _ _ pE0_frag bGtS_frag) {} o hb (.node 1) (by decide)
    have e : Spec.eval (F := Int) d1 (.filter pE0 bGtS) ⟨.node 1, 1, 1⟩ =
        .ok (.val (.nodes [.node 7, .node 12]) (some [[.node 7, .node 12]])) := by decide +kernel
    rw [e] at h2; cases h2
    exact ⟨o, out, hb, h1, h3⟩

/-! ## `Frag` (the first fragment): `/r/*[text() = 't' or @y]`, `b = not(@y)` -/

def pB : Ast := .filter pA0 bA2
def bB : Ast := .call "not" "" (.acons (.axis (atA "y") .none) .anil)

theorem pB_parsed : ParsesTo "/r/*[text() = 't' or @y]" pB := parsesTo_of (by decide +kernel)
theorem bB_parsed : ParsesTo "/r/*[text() = 't' or @y][not(@y)]" (.filter pB bB) :=
  parsesTo_of (by decide +kernel)

theorem pB_frag : Frag true pB :=
  .filter _ _ (.axis _ _ (.axis _ _ (.root _) (chE_axis _)) (chE_axis _))
    (.or _ _ (.eqStr _ _ (.axis _ _ .none (chText_axis))) (.exist _ (.axis _ _ .none (atA_axis _))))
theorem bB_frag : Frag false bB := .not _ _ (.exist _ (.axis _ _ .none (atA_axis _)))

theorem pB_built : ∃ o, build (fun _ => true) 100 true false pB {} {} = .ok o :=
  exists_ok_of_isOk (by decide +kernel)
theorem pBb_built : ∃ o, build (fun _ => true) 100 true false (.filter pB bB) {} {} = .ok o :=
  exists_ok_of_isOk (by decide +kernel)
theorem pB_built_src : ∃ o, build (fun _ => true) 100 shortcutNeedsNodeTestFromSource
    smartDescThroughFilterFromSource pB {} {} = .ok o := exists_ok_of_isOk (by decide +kernel)

theorem pB_spec : Spec.eval (F := Int) d0 pB ⟨.node 0, 1, 1⟩ =
    .ok (.val (.nodes [.node 2, .node 4]) (some [[.node 2, .node 4]])) := by decide +kernel
theorem pBb_spec : Spec.eval (F := Int) d0 (.filter pB bB) ⟨.node 0, 1, 1⟩ =
    .ok (.val (.nodes [.node 2]) (some [[.node 2]])) := by decide +kernel

/-- `C02_main` -/
theorem C02_main_instance : ∃ o out, build (fun _ => true) 100 true false pB {} {} = .ok o ∧
    sel (F := Int) d0 {} o.q (.node 0) = .ok out ∧ ∀ x, x ∈ refs out ↔ x ∈ [Ref.node 2, .node 4] := by
  obtain ⟨o, hb⟩ := pB_built
  obtain ⟨out, ns, g, h1, h2, h3⟩ := Theorems.C02.C02_main (F := Int) wf_d0 {} rfl hashInj_d0
    (fun _ => true) 100 pB pB_frag {} o hb (.node 0) (by decide)
  rw [pB_spec] at h2; cases h2
  exact ⟨o, out, hb, h1, h3⟩

/-- `C02_at_source_config` -/
theorem C02_at_source_config_instance : ∃ (o : BOut), ∃ out,
    sel (F := Int) d0 {} o.q (.node 0) = .ok out ∧ ∀ x, x ∈ refs out ↔ x ∈ [Ref.node 2, .node 4] := by
  obtain ⟨o, hb⟩ := pB_built_src
  obtain ⟨out, ns, h1, h2, h3⟩ := Theorems.C02.C02_at_source_config (F := Int) wf_d0 {} rfl hashInj_d0
    (fun _ => true) 100 pB pB_frag o hb (.node 0) (by decide)
  have e : Spec.evalTop (F := Int) d0 pB (.node 0) = .ok (.nodes [.node 2, .node 4]) :=
    evalTop_of_eval pB_spec
  rw [e] at h2; cases h2
  exact ⟨o, out, h1, h3⟩

/-- `C02_keeps_exactly_the_true_ones` -/
theorem C02_keeps_instance : ∃ (o0 o : BOut), ∃ out0 out,
    sel (F := Int) d0 {} o0.q (.node 0) = .ok out0 ∧ sel (F := Int) d0 {} o.q (.node 0) = .ok out ∧
    (∀ x, x ∈ refs out0 ↔ x ∈ [Ref.node 2, .node 4]) ∧ (∀ x, x ∈ refs out ↔ x ∈ [Ref.node 2]) ∧
    (∀ x, x ∈ refs out ↔ x ∈ refs out0 ∧ holds (F := Int) d0 bB x = true) := by
  obtain ⟨o0, hb0⟩ := pB_built
  obtain ⟨o, hb⟩ := pBb_built
  obtain ⟨out0, ns0, g0, out, ns, g, h1, h2, h3, h4, h5, h6, h7, _⟩ :=
    Theorems.C02.C02_keeps_exactly_the_true_ones (F := Int) wf_d0 {} rfl hashInj_d0
      (fun _ => true) 100 pB bB pB_frag bB_frag {} {} o0 o hb0 hb (.node 0) (by decide)
  rw [pB_spec] at h2; cases h2
  rw [pBb_spec] at h5; cases h5
  exact ⟨o0, o, out0, out, h1, h4, h3, h6, h7⟩

/-- `C02_built_predicate_truth` at the predicate `count(@*) > 0 and not(contains(local-name(),'q'))`,
context `b` (node 4), position 2 of 3: true on both sides -/
theorem C02_built_predicate_truth_instance : ∃ o v,
    build (fun _ => true) 100 true false bA1 {} {} = .ok o ∧
    evalP (F := Int) d0 {} o.q (.node 4) = .ok v ∧ truthM v = true := by
  obtain ⟨o, hb⟩ : ∃ o, build (fun _ => true) 100 true false bA1 {} {} = .ok o :=
    exists_ok_of_isOk (by decide +kernel)
  obtain ⟨v, sv, g, h1, h2, h3, _, _⟩ := Theorems.C02.C02_built_predicate_truth (F := Int) wf_d0 {} rfl
    hashInj_d0 (fun _ => true) 100 bA1 bA1_frag {} {} o hb (.node 4) (by decide) 2 3
  have e : Spec.eval (F := Int) d0 bA1 ⟨.node 4, 2, 3⟩ = .ok (.val (.bool true) none) := by
    decide +kernel
  rw [e] at h2; cases h2
  exact ⟨o, v, hb, h1, h3⟩

/-! ## sequence-level filter lemma and `verdict_is_local` on concrete plans -/

def inpC : Plan := .child (chE "") (.child (chE "r") .absolute)
def predC : Plan := .attr (atA "y") .context

theorem inpC_sel : sel (F := Int) d0 {} inpC (.node 0) =
    .ok [⟨.node 2, 1, 0⟩, ⟨.node 4, 2, 0⟩, ⟨.node 6, 3, 0⟩] := by
  simp only [inpC]; sel_decide

/-- `C02_filter_is_list_filter`: `hs` and `hv` hold for `/r/*` filtered by `@y` (node-set valued verdicts) -/
theorem C02_filter_is_list_filter_instance : ∃ out,
    sel (F := Int) d0 {} (.filter inpC predC) (.node 0) = .ok out ∧ refs out = [.node 4] := by
  obtain ⟨out, h1, h2⟩ := Theorems.C02.C02_filter_is_list_filter (F := Int) d0 {} inpC predC (.node 0) _
    (fun r => r == .node 4) inpC_sel (by
      intro it hit
      simp only [List.mem_cons, List.not_mem_nil, or_false] at hit
      rcases hit with rfl | rfl | rfl
      · exact ⟨.nodes [], by simp only [predC]; sel_decide, trivial, by decide⟩
      · exact ⟨.nodes [.attr 4 1], by simp only [predC]; sel_decide, trivial, by decide⟩
      · exact ⟨.nodes [], by simp only [predC]; sel_decide, trivial, by decide⟩)
  exact ⟨out, h1, by rw [h2]; decide⟩

/-- `verdict_is_local`: its hypothesis (`sel` of a filter plan succeeds) holds on the same plan -/
example : ∃ ins, sel (F := Int) d0 {} inpC (.node 0) = .ok ins ∧
    ∀ it ∈ [(⟨.node 4, 1, 0⟩ : Item)], ∃ jt ∈ ins, jt.r = it.r :=
  Theorems.C02.verdict_is_local (F := Int) d0 {} inpC predC (.node 0) _
    (by simp only [inpC, predC]; sel_decide)

/-! ## `evaluate_restarts_all_iterators`: a reachable mid-iteration state of a filter machine

`DecOK` asks that every filter predicate in the machine evaluates, at *every* reference, to the
boolean `dec pred r`.  It is satisfiable only for boolean-valued predicates (`not(…)`, comparisons,
`and`/`or`): for an existence test `a[b]` the predicate plan evaluates to a node-set and for `a[1]`
to a number, so no `dec` meets it.  Here the predicate is `not(@y)`. -/

/-- **finding (restriction, not vacuity)**: no decision function satisfies `DecOK` for a filter whose
predicate is an existence test (`*[@y]`, as the builder leaves it: a path plan) — on *any* document:
the predicate plan evaluates to a node-set, never to a boolean.  The same holds for numeric
(positional) predicates.  So the `Model/Pull2` theorems that assume `DecOK`
(`evaluate_restarts_all_iterators`, `C12_all_iterators_refine_sequence`, `clone_is_fresh_all_iterators`)
cover filter machines only when every predicate is boolean-valued (`not(…)`, comparisons, `and`/`or`,
`true()`, …) -/
theorem decOK_excludes_existence_tests (d : Doc) (cfg : ECfg) (dec : Plan → Ref → Bool) (inp : PQ2) (a : AxisInfo)
    (n : Nat) (m : Option (List (Nat × Nat))) :
    ¬ (PQ2.filter inp (.attr a .context) n m).DecOK (F := Int) d cfg dec := by
  rintro ⟨_, h⟩
  have := h (.node 0)
  simp [evalP, sel, bind, Except.bind] at this

theorem decOK_excludes_numeric_predicates (d : Doc) (cfg : ECfg) (dec : Plan → Ref → Bool) (inp : PQ2) (lex : String)
    (n : Nat) (m : Option (List (Nat × Nat))) :
    ¬ (PQ2.filter inp (.constNum lex) n m).DecOK (F := Int) d cfg dec := by
  rintro ⟨_, h⟩
  have := h (.node 0)
  simp [evalP] at this

def predD : Plan := .func "not" .nil (.pcons (.attr (atA "y") .context) .pnil)
/-- the plan of `/r/*[not(@y)]` -/
def planD : Plan := .filter inpC predD
/-- the plan starts at the root, so the context node is not looked at: one evaluation serves
every context -/
theorem planD_sel (c : Ref) :
    sel (F := Int) d0 {} planD c = .ok [⟨.node 2, 1, 0⟩, ⟨.node 6, 2, 0⟩] := by
  simp only [planD, inpC, predD]; sel_decide

/-- the decision function: "no attribute `y`" -/
def decD (_ : Plan) (r : Ref) : Bool := ((attrsM d0 r).filter (test d0 {} (atA "y"))).isEmpty

theorem predD_bool (r : Ref) : evalP (F := Int) d0 {} predD r = .ok (.bool (decD predD r)) := by
  have hl : evalP (F := Int) d0 {} (.attr (atA "y") .context) r =
      .ok (.nodes ((plain ((attrsM d0 r).filter (test d0 {} (atA "y")))).map (·.r))) := by
    simp [evalP, sel, bind, Except.bind]
  rw [predD, evalP_not, hl, callFn_not_nodes]
  simp [decD, plain]

theorem planD_decOK : DecOKP (F := Int) d0 {} decD planD := ⟨trivial, predD_bool⟩

/-- the machine the builder creates for `planD` -/
def qD : PQ2 := .filter (.child (chE "") (.child (chE "r") (.absolute 0) none 0) none 0) predD 0 none

theorem qD_plan : qD.plan = planD := rfl

/-- the state after `Evaluate` and one `Select` (which reported `a[1]`) -/
def qD1 : PQ2 := (PQ2.select d0 {} decD 100 qD.evaluate (.node 0)).2.1

theorem qD1_reach : Reach d0 {} decD planD qD1 :=
  .select (f := 100) (c := .node 0) (.evaluate qD qD_plan) (by simp [Good, Ref.idx, d0]) rfl
    (show (PQ2.select d0 {} decD 100 qD.evaluate (.node 0)).1 ≠ .fuel by decide +kernel)

/-- the first `Select` did report a node: `qD1` is a mid-iteration state -/
example : (PQ2.select d0 {} decD 100 qD.evaluate (.node 0)).1 = .yield (.node 2) := by decide +kernel

/-- **`evaluate_restarts_all_iterators`** with `hd`, `hw`, `Reach`, `DecOK`, `Good` discharged; the
restarted sequence is `[a[1], a[2]]` -/
theorem evaluate_restarts_instance : ∃ l, sel (F := Int) d0 {} planD (.node 0) = .ok l ∧
    refs l = [.node 2, .node 6] ∧
    (∃ q' c' f0, ∀ f, f0 ≤ f → drain2 d0 {} decD f qD1.evaluate (.node 0) = some (l, q', c')) := by
  obtain ⟨l, h1, h2, _⟩ := Theorems.C02.evaluate_restarts_all_iterators (F := Int) d0 {} decD (by decide)
    planD (fun _ => wf_d0) qD1 qD1_reach
    (reach_decOK (by decide) planD (fun _ => wf_d0) planD_decOK qD1 qD1_reach) (.node 0)
    (by simp [Good, Ref.idx, d0])
  rw [planD_sel] at h1; cases h1
  exact ⟨_, planD_sel _, by decide, h2⟩

/-! ## `C02_from_text` -/

/-- `C02_from_text` (`hparse`, `hfrag`), then its second disjunct's inner hypotheses (`WF`,
`nsIface`, `HashInj`, `validRef`) on `d0`: `Select` on the compiled text yields `{a[1], b}` -/
theorem C02_from_text_instance : ∃ p l, compile {} none "/r/*[text() = 't' or @y]".toList = .ok p ∧
    selectAll (F := Int) d0 {} p (.node 0) = .ok l ∧ ∀ x, x ∈ l ↔ x ∈ [Ref.node 2, .node 4] := by
  rcases Theorems.C02.C02_from_text (fun _ => true) none _ pB pB_parsed pB_frag with ⟨e, he⟩ | ⟨p, hp, _, h⟩
  · obtain ⟨p, hp⟩ := compile_ok pB_parsed (by decide +kernel)
    rw [hp] at he; cases he
  · obtain ⟨l, nsl, h1, _, h3, h4⟩ := h Int d0 wf_d0 {} rfl hashInj_d0 (.node 0) (by decide)
    have e : Spec.evalTop (F := Int) d0 pB (.node 0) = .ok (.nodes [.node 2, .node 4]) :=
      evalTop_of_eval pB_spec
    rw [e] at h3; cases h3
    exact ⟨p, l, hp, h1, h4⟩

end XPathV.Theorems.NonVacuity.C02


/-! ## `C02_from_text_full`: the extended fragment from the expression text -/
namespace XPathV.Theorems.NonVacuity.C02
open XPathV XPathV.Model XPathV.Theorems.NonVacuity XPathV.PosSem
open XPathV.PathSem XPathV.PredSem XPathV.PredSem2

attribute [local instance] toyAlg

theorem pLt_compiles : ∃ p, compile {} none "a[b < c]".toList = .ok p :=
  compile_ok pLt_parsed (by decide +kernel)

/-- `C02_from_text_full` at the text `a[b < c]` (`hparse`, `hfrag` with `Frag2.cmpPath`), then its
second disjunct's inner hypotheses (`WF`, `nsIface`, `HashInj`, `validRef`) on `d1` from `r`:
`Select` and `Evaluate` on the compiled text yield the third `a` (8 < 10) and only it -/
theorem C02_from_text_full_instance : ∃ p l, compile {} none "a[b < c]".toList = .ok p ∧
    selectAll (F := Int) d1 {} p (.node 1) = .ok l ∧
    evaluate (F := Int) d1 {} p (.node 1) = .ok (.nodes l) ∧ ∀ x, x ∈ l ↔ x ∈ [Ref.node 12] := by
  rcases Theorems.C02.C02_from_text_full (fun _ => true) none _ pLt pLt_parsed pLt_frag with
    ⟨e, he⟩ | ⟨p, hp, _, h⟩
  · obtain ⟨p, hp⟩ := pLt_compiles
    rw [hp] at he; cases he
  · obtain ⟨l, nsl, h1, h2, h3, h4⟩ := h Int d1 wf_d1 {} rfl hashInj_d1 (.node 1) (by decide)
    have e : Spec.evalTop (F := Int) d1 pLt (.node 1) = .ok (.nodes [.node 12]) :=
      evalTop_of_eval pLt_spec
    rw [e] at h3; cases h3
    exact ⟨p, l, hp, h1, h2, h4⟩

/-- `(a)[b = c]`: a parenthesised path with a predicate at top level -/
def pG : Ast := .filter (.group pE0) bE

theorem pG_parsed : ParsesTo "(a)[b = c]" pG := parsesTo_of (by decide +kernel)

theorem pG_frag : Frag2 true pG :=
  .gfilter _ _ pE0_frag (.cmpPath _ _ _ (by decide) (.axis _ _ .none (chE_axis _)) (.axis _ _ .none (chE_axis _)))

/-- `C02_from_text_full` at the text `(a)[b = c]` (`Frag2.gfilter` at top level: the compiled plan
is path-shaped, `Evaluate` returns the node-set), all hypotheses discharged on `d1` from `r`: the
second `a` (`b` = `c` = "7") -/
theorem C02_from_text_full_group_instance : ∃ p l, compile {} none "(a)[b = c]".toList = .ok p ∧
    selectAll (F := Int) d1 {} p (.node 1) = .ok l ∧
    evaluate (F := Int) d1 {} p (.node 1) = .ok (.nodes l) ∧ ∀ x, x ∈ l ↔ x ∈ [Ref.node 7] := by
  rcases Theorems.C02.C02_from_text_full (fun _ => true) none _ pG pG_parsed pG_frag with
    ⟨e, he⟩ | ⟨p, hp, _, h⟩
  · obtain ⟨p, hp⟩ := compile_ok pG_parsed (by decide +kernel)
    rw [hp] at he; cases he
  · obtain ⟨l, nsl, h1, h2, h3, h4⟩ := h Int d1 wf_d1 {} rfl hashInj_d1 (.node 1) (by decide)
    have e : Spec.evalTop (F := Int) d1 pG (.node 1) = .ok (.nodes [.node 7]) := by
      decide +kernel
    rw [e] at h3; cases h3
    exact ⟨p, l, hp, h1, h2, h4⟩

/-- the `_unconditional` form at `a[b < c]`: `AttrTriplesDistinct d1` instead of `HashInj` -/
theorem C02_from_text_full_unconditional_instance :
    ∃ p l, compile {} none "a[b < c]".toList = .ok p ∧
    selectAll (F := Int) d1 {} p (.node 1) = .ok l ∧ ∀ x, x ∈ l ↔ x ∈ [Ref.node 12] := by
  rcases Theorems.C02.C02_from_text_full_unconditional (fun _ => true) none _ pLt pLt_parsed pLt_frag with
    ⟨e, he⟩ | ⟨p, hp, _, h⟩
  · obtain ⟨p, hp⟩ := pLt_compiles
    rw [hp] at he; cases he
  · obtain ⟨l, nsl, h1, _, h3, h4⟩ := h Int d1 wf_d1 {} rfl attrTriples_d1 (.node 1) (by decide)
    have e : Spec.evalTop (F := Int) d1 pLt (.node 1) = .ok (.nodes [.node 12]) :=
      evalTop_of_eval pLt_spec
    rw [e] at h3; cases h3
    exact ⟨p, l, hp, h1, h4⟩

end XPathV.Theorems.NonVacuity.C02

