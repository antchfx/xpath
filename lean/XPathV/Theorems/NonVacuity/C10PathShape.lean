import XPathV.Lemmas.ParserShape
/-!
# `parsePathExpr` never returns a binary-operator node other than the `|` of a step sequence

Needed to discharge the `¬ FromPath cfg (.oper op l r)` hypotheses of `operands_never_looser`
(`Theorems/C10`): nothing in the library proves a `¬ FromPath` fact.
-/
namespace XPathV.Theorems.NonVacuity.C10
open XPathV XPathV.Model XPathV.Lemmas.ParserShape

/-- not an operator node, except a `|` node -/
def NoBin (a : Ast) : Prop := ∀ op l r, a = .oper op l r → op = "|"

theorem noBin_axis (i : AxisInfo) (x : Ast) : NoBin (.axis i x) := by intro _ _ _ h; cases h
theorem noBin_mkAxis (ax : String) (t : NType) (a b c : String) (x : Ast) : NoBin (mkAxis ax t a b c x) :=
  noBin_axis _ _
theorem noBin_filter (x c : Ast) : NoBin (.filter x c) := by intro _ _ _ h; cases h
theorem noBin_union (x y : Ast) : NoBin (.oper "|" x y) := by intro _ _ _ h; cases h; rfl

/-- every successful outcome satisfies `P` -/
def OkP {α : Type} (r : Except PErr (Ast × α)) (P : Ast → Prop) : Prop := ∀ a s, r = .ok (a, s) → P a

theorem OkP.bind {α β : Type} {x : Except PErr β} {k : β → Except PErr (Ast × α)} {P : Ast → Prop}
    (h : ∀ b, OkP (k b) P) : OkP (x >>= k) P := by
  intro a s hr
  obtain ⟨b, _, hb⟩ := bind_ok hr
  exact h b a s hb

theorem OkP.pure {α : Type} {a : Ast} {s : α} {P : Ast → Prop} (h : P a) :
    OkP (Pure.pure (a, s) : Except PErr (Ast × α)) P := by
  intro a' s' hr; cases hr; exact h

theorem OkP.error {α : Type} {e : PErr} {P : Ast → Prop} : OkP (.error e : Except PErr (Ast × α)) P := by
  intro a' s' hr; cases hr

theorem nodeTest_noBin (cfg : PCfg) (inp : Ast) (axis : String) (mt : NType) (st : PState) :
    OkP (parseNodeTest cfg inp axis mt st) NoBin := by
  unfold parseNodeTest
  dsimp only
  split
  · split
    · refine OkP.bind fun _ => OkP.bind fun _ => ?_
      split
      · split
        · exact OkP.bind fun _ => OkP.bind fun _ => OkP.bind fun _ => OkP.pure (noBin_mkAxis _ _ _ _ _ _)
        · exact OkP.bind fun _ => OkP.bind fun _ => OkP.pure (noBin_mkAxis _ _ _ _ _ _)
      · exact OkP.bind fun _ => OkP.bind fun _ => OkP.pure (noBin_mkAxis _ _ _ _ _ _)
    · refine OkP.bind fun _ => ?_
      split
      · split
        · split
          · exact OkP.pure (noBin_axis _ _)
          · exact OkP.error
        · exact OkP.pure (noBin_mkAxis _ _ _ _ _ _)
      · exact OkP.pure (noBin_mkAxis _ _ _ _ _ _)
  · exact OkP.bind fun _ => OkP.pure (noBin_mkAxis _ _ _ _ _ _)
  · exact OkP.error

theorem OkP.bind' {α β : Type} {x : Except PErr (Ast × β)} {k : Ast × β → Except PErr (Ast × α)}
    {P Q : Ast → Prop} (hx : OkP x Q) (h : ∀ b s, Q b → OkP (k (b, s)) P) : OkP (x >>= k) P := by
  intro a s hr
  obtain ⟨⟨b, t⟩, hb1, hb⟩ := bind_ok hr
  exact h b t (hx b t hb1) a s hb

theorem OkP.pure' {α : Type} {a : Ast} {s : α} {P : Ast → Prop} (h : P a) :
    OkP (.ok (a, s) : Except PErr (Ast × α)) P := by
  intro a' s' hr; cases hr; exact h

theorem noBin_group (x : Ast) : NoBin (.group x) := by intro _ _ _ h; cases h
theorem noBin_of_const {x : Ast} (h : isConstOperand x = true) : NoBin x := by
  intro op l r e; subst e; simp [isConstOperand] at h

/-- the statement for all the mutually recursive parser functions below `parsePathExpr`, at fuel `f` -/
structure AllOk (f : Nat) : Prop where
  path : ∀ cfg st, OkP (parsePathExpr f cfg st) NoBin
  filt : ∀ cfg st, OkP (parseFilterExpr f cfg st) NoBin
  prim : ∀ cfg st, OkP (parsePrimary f cfg st) NoBin
  meth : ∀ cfg st, OkP (parseMethod f cfg st) NoBin
  loc : ∀ cfg st, OkP (parseLocationPath f cfg st) NoBin
  rel : ∀ cfg inp st, OkP (parseRelLoc f cfg inp st) NoBin
  step : ∀ cfg inp st, OkP (parseStep f cfg inp st) NoBin
  preds : ∀ cfg opnd st, NoBin opnd → OkP (stepPreds f cfg opnd st) NoBin
  seq : ∀ cfg inp st, OkP (parseSequence f cfg inp st) NoBin
  sloop : ∀ cfg inp opnd st, NoBin opnd → OkP (seqLoop f cfg inp opnd st) NoBin

theorem allOk : ∀ f, AllOk f := by
  intro f
  induction f with
  | zero =>
    refine ⟨?_, ?_, ?_, ?_, ?_, ?_, ?_, ?_, ?_, ?_⟩ <;> intros <;>
      simp only [parsePathExpr, parseFilterExpr, parsePrimary, parseMethod, parseLocationPath, parseRelLoc,
        parseStep, stepPreds, parseSequence, seqLoop] <;> exact OkP.error
  | succ f ih =>
    refine ⟨?_, ?_, ?_, ?_, ?_, ?_, ?_, ?_, ?_, ?_⟩
    · intro cfg st
      rw [parsePathExpr]
      split
      · refine OkP.bind' (ih.filt cfg st) fun b s hb => ?_
        dsimp only
        split
        · exact OkP.bind fun _ => ih.rel _ _ _
        · exact OkP.bind fun _ => ih.rel _ _ _
        · exact OkP.pure hb
      · exact ih.loc _ _
    · intro cfg st
      rw [parseFilterExpr]
      exact OkP.bind' (ih.prim cfg st) fun b s hb => ih.preds _ _ _ hb
    · intro cfg st
      rw [parsePrimary]
      split
      · exact OkP.bind fun _ => OkP.pure (by intro _ _ _ h; cases h)
      · exact OkP.bind fun _ => OkP.pure (by intro _ _ _ h; cases h)
      · refine OkP.bind fun _ => ?_
        split
        · exact OkP.bind fun _ => OkP.pure (by intro _ _ _ h; cases h)
        · exact OkP.error
      · refine OkP.bind fun _ => OkP.bind fun ⟨o, _⟩ => OkP.bind fun _ => OkP.pure ?_
        split
        · rename_i hc; exact noBin_of_const hc
        · exact noBin_group _
      · split
        · exact ih.meth _ _
        · exact OkP.pure (by intro _ _ _ h; cases h)
      · exact OkP.pure (by intro _ _ _ h; cases h)
    · intro cfg st
      rw [parseMethod]
      refine OkP.bind fun _ => OkP.bind fun _ => ?_
      dsimp only
      split
      · exact OkP.bind fun ⟨_, _⟩ => OkP.bind fun _ => OkP.pure (by intro _ _ _ h; cases h)
      · exact OkP.bind fun ⟨_, _⟩ => OkP.bind fun _ => OkP.pure (by intro _ _ _ h; cases h)
    · intro cfg st
      rw [parseLocationPath]
      split
      · refine OkP.bind fun _ => ?_
        split
        · exact ih.rel _ _ _
        · exact OkP.pure (by intro _ _ _ h; cases h)
      · exact OkP.bind fun _ => ih.rel _ _ _
      · exact ih.rel _ _ _
    · intro cfg inp st
      rw [parseRelLoc]
      refine OkP.bind' (ih.step cfg inp st) fun b s hb => ?_
      dsimp only
      split
      · exact OkP.bind fun _ => ih.rel _ _ _
      · exact OkP.bind fun _ => ih.rel _ _ _
      · exact OkP.pure hb
    · intro cfg inp st
      rw [parseStep]
      split
      · refine OkP.bind fun _ => ?_
        split
        · exact OkP.pure (by split <;> exact noBin_mkAxis _ _ _ _ _ _)
        · exact ih.preds _ _ _ (by split <;> exact noBin_mkAxis _ _ _ _ _ _)
      · split
        · exact ih.seq _ _ _
        · exact OkP.bind fun _ => OkP.bind' (nodeTest_noBin _ _ _ _ _) fun b s hb => ih.preds _ _ _ hb
        · exact OkP.bind fun _ => OkP.bind' (nodeTest_noBin _ _ _ _ _) fun b s hb => ih.preds _ _ _ hb
        · exact OkP.bind' (nodeTest_noBin _ _ _ _ _) fun b s hb => ih.preds _ _ _ hb
    · intro cfg opnd st hop
      rw [stepPreds]
      split
      · exact OkP.bind fun ⟨_, _⟩ => ih.preds _ _ _ (noBin_filter _ _)
      · exact OkP.pure hop
    · intro cfg inp st
      rw [parseSequence]
      split
      · exact OkP.error
      · refine OkP.bind fun _ => OkP.bind' (ih.step _ _ _) fun b s hb =>
          OkP.bind' (ih.sloop _ _ _ _ hb) fun b' s' hb' => OkP.bind fun _ => OkP.pure hb'
    · intro cfg inp opnd st hop
      rw [seqLoop]
      split
      · exact OkP.bind fun _ => OkP.bind fun ⟨_, _⟩ => ih.sloop _ _ _ _ (noBin_union _ _)
      · exact OkP.pure hop

/-- **the only binary-operator node `parsePathExpr` can return is the `|` of a step sequence
`(a, b)`**: every other operator node of a parse tree is *not* a primary -/
theorem not_fromPath_of_ne_union {cfg : PCfg} {op : String} {l r : Ast} (h : op ≠ "|") :
    ¬ FromPath cfg (.oper op l r) := by
  rintro ⟨f, st, st', hp⟩
  exact h ((allOk f).path cfg st _ _ hp op l r rfl)

end XPathV.Theorems.NonVacuity.C10
