import XPathV.Theorems.C01
import XPathV.Theorems.NonVacuity.Common
/-!
# Non-vacuity of the C01 theorems

Every hypothesis of `C01_main` / `C01_from_text` / `C01_single_step` / the walk theorems is
discharged at once on the 8-node, 3-attribute document `d0`, *including* `HashInj`
(`decide +kernel` compares the node keys of all 11 nodes; `hashInj_d0'` in `NonVacuity/C11.lean` gets
it from `hashInj_holds` instead), and the theorem is applied.
-/
namespace XPathV.Theorems.NonVacuity.C01
open XPathV XPathV.Model XPathV.Theorems.NonVacuity XPathV.PosSem

attribute [local instance] toyAlg

/-- `//a/@x`, as the parser produces it -/
def p1 : Ast :=
  .axis ⟨"attribute", .attr, "", "x", "", false, ""⟩
    (.axis ⟨"child", .elem, "", "a", "", false, ""⟩
      (.axis ⟨"descendant-or-self", .all, "", "", "", false, ""⟩ (.root "//")))

/-- `//@x/ancestor::*` (an ancestor step: the one that needs `HashInj`) -/
def p2 : Ast :=
  .axis ⟨"ancestor", .elem, "", "", "", false, ""⟩
    (.axis ⟨"attribute", .attr, "", "x", "", false, ""⟩
      (.axis ⟨"descendant-or-self", .all, "", "", "", false, ""⟩ (.root "//")))

theorem p1_pf : PathSem.PathPF p1 :=
  .axis _ _ (.axis _ _ (.axis _ _ (.root _) (dosAll_axis)) (chE_axis _)) (atA_axis _)
theorem p2_pf : PathSem.PathPF p2 :=
  .axis _ _ (.axis _ _ (.axis _ _ (.root _) (dosAll_axis)) (atA_axis _)) (by simp [PathSem.axes12])

/-- the parser does produce `p1` from the text, with the fuel `compile` supplies -/
theorem p1_parsed : parse (fuelFor "//a/@x".toList) (defaultCfg none) "//a/@x".toList = .ok p1 :=
  parsesTo_of (by decide +kernel)

theorem p1_built : ∃ o, build (fun _ => true) 100 shortcutNeedsNodeTestFromSource
    smartDescThroughFilterFromSource p1 {} {} = .ok o := by
  rw [build_src]; exact exists_ok_of_isOk (by decide +kernel)

theorem p2_built : ∃ o, build (fun _ => true) 100 shortcutNeedsNodeTestFromSource
    smartDescThroughFilterFromSource p2 {} {} = .ok o := by
  rw [build_src]; exact exists_ok_of_isOk (by decide +kernel)

/-- the oracle's node-set is not empty on `d0` -/
theorem p1_spec : Spec.evalTop (F := Int) d0 p1 (.node 0) = .ok (.nodes [.attr 2 0]) := by
  decide +kernel
theorem p2_spec : Spec.evalTop (F := Int) d0 p2 (.attr 4 1) = .ok (.nodes [.node 1, .node 2, .node 4]) := by
  decide +kernel

/-- **`C01_main` applied with every hypothesis discharged** (`WF`, `nsIface`, `HashInj`, `PathPF`,
`build = .ok`, `validRef`): the built plan of `//a/@x` selects exactly `{@x of the first a}` -/
theorem C01_main_instance : ∃ o out,
    build (fun _ => true) 100 shortcutNeedsNodeTestFromSource smartDescThroughFilterFromSource p1 {} {} = .ok o ∧
    sel (F := Int) d0 {} o.q (.node 0) = .ok out ∧ ∀ x, x ∈ PathSem.refs out ↔ x = .attr 2 0 := by
  obtain ⟨o, hb⟩ := p1_built
  obtain ⟨out, ns, h1, h2, h3⟩ := Theorems.C01.C01_main (F := Int) wf_d0 {} rfl hashInj_d0
    (fun _ => true) 100 p1 p1_pf o hb (.node 0) (by decide)
  rw [p1_spec] at h2
  cases h2
  exact ⟨o, out, hb, h1, fun x => by rw [h3]; simp⟩

/-- the same through an `ancestor` step (the de-duplicating iterator `HashInj` is about), from an
attribute context node -/
theorem C01_main_instance_ancestor : ∃ o out,
    build (fun _ => true) 100 shortcutNeedsNodeTestFromSource smartDescThroughFilterFromSource p2 {} {} = .ok o ∧
    sel (F := Int) d0 {} o.q (.attr 4 1) = .ok out ∧
    ∀ x, x ∈ PathSem.refs out ↔ x ∈ [Ref.node 1, .node 2, .node 4] := by
  obtain ⟨o, hb⟩ := p2_built
  obtain ⟨out, ns, h1, h2, h3⟩ := Theorems.C01.C01_main (F := Int) wf_d0 {} rfl hashInj_d0
    (fun _ => true) 100 p2 p2_pf o hb (.attr 4 1) (by decide)
  rw [p2_spec] at h2
  cases h2
  exact ⟨o, out, hb, h1, h3⟩

/-- `C01_from_text` with every hypothesis discharged: the text `//a/@x` through scanner, parser,
builder and `Select` -/
theorem C01_from_text_instance : ∃ p l,
    compile {} none "//a/@x".toList = .ok p ∧
    selectAll (F := Int) d0 {} p (.node 0) = .ok l ∧ ∀ x, x ∈ l ↔ x = .attr 2 0 := by
  obtain ⟨p, hp⟩ := compile_ok p1_parsed (by decide +kernel)
  obtain ⟨l, nsl, h1, h2, h3⟩ := Theorems.C01.C01_from_text (F := Int) wf_d0 {} rfl hashInj_d0
    (fun _ => true) none _ p1 p1_parsed p1_pf p hp (.node 0) (by decide)
  rw [p1_spec] at h2
  cases h2
  exact ⟨p, l, hp, h1, fun x => by rw [h3]; simp⟩

/-- `C01_single_step` and the walk theorems at a concrete inner node / attribute of `d0` -/
example : ∀ x, x ∈ PathSem.axisRefsM d0 "following" (.attr 2 0) ↔
    x ∈ (Spec.axisNodes d0 "following" (.attr 2 0)).getD [] :=
  Theorems.C01.C01_single_step wf_d0 (.attr 2 0) (by decide) "following" (by simp [PathSem.axes12])
example : (Spec.axisNodes d0 "following" (.attr 2 0)).getD [] =
    [.node 3, .node 4, .node 5, .node 6, .node 7] := by decide +kernel
example : childrenM d0 (.node 1) = Spec.children d0 (.node 1) :=
  Theorems.C01.child_walk wf_d0 1 (by decide)
example : Spec.children d0 (.node 1) = [.node 2, .node 4, .node 6, .node 7] := by decide +kernel
example := Theorems.C01.descendant_walk wf_d0 1 (by decide)
example := Theorems.C01.sibling_walks wf_d0 4 (by decide)
example := Theorems.C01.following_walk wf_d0 2 (by decide)
example := Theorems.C01.preceding_walk wf_d0 6 (by decide)
example : Spec.preceding d0 (.node 6) = [.node 2, .node 3, .node 4, .node 5] := by decide +kernel

end XPathV.Theorems.NonVacuity.C01

