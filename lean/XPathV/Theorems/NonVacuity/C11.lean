import XPathV.Theorems.C11
import XPathV.Theorems.NonVacuity.Common
/-!
# Non-vacuity of the C11 theorems
-/
namespace XPathV.Theorems.NonVacuity.C11
open XPathV XPathV.Model XPathV.Theorems.NonVacuity XPathV.PosSem
open XPathV.PathSem XPathV.PredSem XPathV.UnionSem

attribute [local instance] toyAlg

def dosRoot : Ast := .axis dosAll (.root "//")
/-- `//a` = `{a[1], a[2]}`, `/r/*[@x]` = `{a[1], b}`, `//b` = `{b}`: overlapping operands -/
def pA : Ast := .axis (chE "a") dosRoot
def pX : Ast := .filter (.axis (chE "") (.axis (chE "r") (.root "/"))) (.axis (atA "x") .none)
def pB : Ast := .axis (chE "b") dosRoot

theorem pA_frag : Frag true pA := .axis _ _ (.axis _ _ (.root _) (dosAll_axis)) (chE_axis _)
theorem pB_frag : Frag true pB := .axis _ _ (.axis _ _ (.root _) (dosAll_axis)) (chE_axis _)
theorem pX_frag : Frag true pX :=
  .filter _ _ (.axis _ _ (.axis _ _ (.root _) (chE_axis _)) (chE_axis _)) (.exist _ (.axis _ _ .none (atA_axis _)))

theorem union_parsed : ParsesTo "//a | /r/*[@x]" (.oper "|" pA pX) := parsesTo_of (by decide +kernel)
theorem nary_parsed : ParsesTo "//a | //b | /r/*[@x]" (unionOf pA [pB, pX]) :=
  parsesTo_of (by decide +kernel)

theorem union_built : ∃ o, build (fun _ => true) 100 true false (.oper "|" pA pX) {} {} = .ok o :=
  exists_ok_of_isOk (by decide +kernel)
theorem union_value :
    Spec.evalTop (F := Int) d0 (.oper "|" pA pX) (.node 0) = .ok (.nodes [.node 2, .node 4, .node 6]) := by
  decide +kernel

/-- **`C11_main`** on `//a | /r/*[@x]` (the operands share `a[1]`): all hypotheses discharged; the
result is `{a[1], b, a[2]}`, each once -/
theorem C11_main_instance : ∃ (o : BOut), ∃ out,
    sel (F := Int) d0 {} o.q (.node 0) = .ok out ∧ (refs out).Nodup ∧
    ∀ x, x ∈ refs out ↔ x ∈ [Ref.node 2, .node 4, .node 6] := by
  obtain ⟨o, hb⟩ := union_built
  obtain ⟨out, nsA, gA, nsB, gB, nsU, h1, h2, _, _, _, h6, _, _, h9⟩ :=
    Theorems.C11.C11_main (F := Int) wf_d0 {} rfl hashInj_d0 (fun _ => true) 100 pA pX pA_frag pX_frag {} {}
      o hb (.node 0) (by decide)
  have e := value_of_evalTop h6 union_value
  cases e
  exact ⟨o, out, h1, h2, h9⟩

/-- **`C11_nary`** on `//a | //b | /r/*[@x]` -/
theorem C11_nary_instance : ∃ (o : BOut), ∃ out,
    sel (F := Int) d0 {} o.q (.node 0) = .ok out ∧ (refs out).Nodup ∧
    ∀ x, x ∈ refs out ↔ ∃ q ∈ [pA, pB, pX], x ∈ nodesAt d0 Int q (.node 0) := by
  obtain ⟨o, hb⟩ : ∃ o, build (fun _ => true) 100 true false (unionOf pA [pB, pX]) {} {} = .ok o :=
    exists_ok_of_isOk (by decide +kernel)
  obtain ⟨out, ns, g, h1, h2, _, _, h5, _⟩ :=
    Theorems.C11.C11_nary (F := Int) wf_d0 {} rfl hashInj_d0 (fun _ => true) 100 pA [pB, pX] pA_frag
      (by
        intro q hq; simp only [List.mem_cons, List.not_mem_nil, or_false] at hq
        rcases hq with rfl | rfl
        · exact pB_frag
        · exact pX_frag) (by simp) {} o hb (.node 0) (by decide)
  exact ⟨o, out, h1, h2, h5⟩
example : Spec.evalTop (F := Int) d0 (unionOf pA [pB, pX]) (.node 0) = .ok (.nodes [.node 2, .node 4, .node 6]) := by
  decide +kernel

/-! ## the sequence form `/r/(a, b[@y])` -/

def pR : Ast := .axis (chE "r") (.root "/")
def sA : SeqStep := (chE "a", [])
def sB : SeqStep := (chE "b", [.axis (atA "y") .none])

theorem seq_parsed : ParsesTo "/r/(a, b[@y])" (seqForm pR sA [sB]) := parsesTo_of (by decide +kernel)

/-- **`C11_sequence`** (`Frag`, `StepOK`, `build = .ok`, …) -/
theorem C11_sequence_instance : ∃ (o : BOut), ∃ out,
    sel (F := Int) d0 {} o.q (.node 0) = .ok out ∧ (refs out).Nodup ∧
    ∀ x, x ∈ refs out ↔ x ∈ [Ref.node 2, .node 4, .node 6] := by
  obtain ⟨o, hb⟩ : ∃ o, build (fun _ => true) 100 true false (seqForm pR sA [sB]) {} {} = .ok o :=
    exists_ok_of_isOk (by decide +kernel)
  obtain ⟨out, ns, g, h1, h2, h3, _, h5⟩ :=
    Theorems.C11.C11_sequence (F := Int) wf_d0 {} rfl hashInj_d0 (fun _ => true) 100 pR
      (.axis _ _ (.root _) (chE_axis _)) sA [sB] ⟨by decide, by intro b hb; cases hb⟩
      (by
        intro t ht; simp only [List.mem_cons, List.not_mem_nil, or_false] at ht; subst ht
        refine ⟨by decide, ?_⟩
        intro b hb; simp only [sB, List.mem_cons, List.not_mem_nil, or_false] at hb; subst hb
        exact .exist _ (.axis _ _ .none (atA_axis _))) {} o hb (.node 0) (by decide)
  have e := value_of_eval h2 (v' := .nodes [.node 2, .node 4, .node 6]) (by decide +kernel)
  cases e
  exact ⟨o, out, h1, (h5 (by simp)).1, h3⟩

/-! ## the parser side: `seqLoop_is_seqForm` (`SeqRun`), `sequence_is_union` -/

abbrev cfg0 : PCfg := defaultCfg none
/-- the state at the comma of `, b[@y])` (as after `/r/(a`) -/
def stComma : PState := ⟨okVal (Scan.init ", b[@y])".toList), 1⟩
def stAfterComma : PState := okVal stComma.next
theorem cfg0_lit : cfg0 = litCfg none := defaultCfg_lit none
theorem next_comma : stComma.next = .ok stAfterComma :=
  eq_ok_okVal (by rw [stComma, String.toList_ofList]; decide +kernel)
theorem step_b : parseStep 50 cfg0 pR stAfterComma = .ok (stepOn pR sB, (okVal (parseStep 50 cfg0 pR stAfterComma)).2) :=
  eq_ok_fst (by rw [cfg0_lit, stAfterComma, stComma, String.toList_ofList]; decide +kernel)

theorem seqRun : SeqRun cfg0 pR 51 stComma [sB] (okVal (parseStep 50 cfg0 pR stAfterComma)).2 :=
  .more 50 stComma stAfterComma _ _ sB [] (by decide +kernel) next_comma step_b
    (.done 49 _ (by decide +kernel))

/-- **`seqLoop_is_seqForm`** -/
example : seqLoop 51 cfg0 pR (stepOn pR sA) stComma =
    .ok (seqForm pR sA [sB], (okVal (parseStep 50 cfg0 pR stAfterComma)).2) :=
  Theorems.C11.seqLoop_is_seqForm cfg0 pR 51 stComma _ sA [sB] seqRun

/-- `sequence_is_union` (`hc`, `hn`, `h2`) -/
example := Theorems.C11.sequence_is_union 50 cfg0 pR (stepOn pR sA) _ stComma stAfterComma _
  (by decide +kernel) next_comma step_b

/-! ## plan level: `C11_union` -/

def planA : Plan := .descendant (chE "a") false .absolute
def planX : Plan := .filter (.child (chE "") (.child (chE "r") .absolute)) (.attr (atA "x") .context)

/-- **`C11_union`** (`ha`, `hb`, and `hinj` — collision-freeness on the four nodes involved, from
`hashInj_d0`) -/
theorem C11_union_instance : ∃ out, sel (F := Int) d0 {} (.union planA planX) (.node 0) = .ok out ∧
    (∀ x, x ∈ out.map (·.r) ↔ x ∈ [Ref.node 2, .node 6] ∨ x ∈ [Ref.node 2, .node 4]) ∧
    (out.map (·.r)).Nodup :=
  Theorems.C11.C11_union (F := Int) d0 {} planA planX (.node 0)
    [⟨.node 2, 1, 2⟩, ⟨.node 6, 2, 2⟩] [⟨.node 2, 1, 0⟩, ⟨.node 4, 2, 0⟩]
    (by simp only [planA]; sel_decide) (by simp only [planX]; sel_decide)
    (by
      intro x hx y hy
      have vx : validRef d0 x = true := by
        simp only [List.map_append, List.map_cons, List.map_nil, List.cons_append, List.nil_append,
          List.mem_cons, List.not_mem_nil, or_false] at hx
        rcases hx with rfl | rfl | rfl | rfl <;> decide
      have vy : validRef d0 y = true := by
        simp only [List.map_append, List.map_cons, List.map_nil, List.cons_append, List.nil_append,
          List.mem_cons, List.not_mem_nil, or_false] at hy
        rcases hy with rfl | rfl | rfl | rfl <;> decide
      exact hashInj_d0 x y vx vy)

/-! ## `key_injective`: the attribute-name side conditions hold for `d0` -/

def attrNamesOKb (d : Doc) : Bool :=
  (List.range d.length).all fun i =>
    (List.range (recAt d i).attrs.length).all fun k₁ =>
      (attrAt d i k₁).name != "" &&
      (List.range (recAt d i).attrs.length).all fun k₂ =>
        !((attrAt d i k₁).pfx == (attrAt d i k₂).pfx && (attrAt d i k₁).name == (attrAt d i k₂).name) || k₁ == k₂

theorem attrNames_of_b {d : Doc} (h : attrNamesOKb d = true) : AttrNamesDistinct d ∧ AttrNamesNonEmpty d := by
  simp only [attrNamesOKb, List.all_eq_true, List.mem_range, Bool.and_eq_true, bne_iff_ne, ne_eq,
    Bool.or_eq_true, Bool.not_eq_true', Bool.and_eq_false_iff, beq_eq_false_iff_ne, beq_iff_eq] at h
  refine ⟨?_, ?_⟩
  · intro i k₁ k₂ hi h1 h2 hp hn
    rcases (h i hi k₁ h1).2 k₂ h2 with (h' | h') | h'
    · exact absurd hp h'
    · exact absurd hn h'
    · exact h'
  · intro i k hi hk
    exact (h i hi k hk).1

theorem d0_attrNames : AttrNamesDistinct d0 ∧ AttrNamesNonEmpty d0 := attrNames_of_b (by decide +kernel)

/-- **`key_injective`** (`WF`, `AttrNamesDistinct`, `AttrNamesNonEmpty`, validity): the two attributes
of `b` have different structured keys -/
example : keyStruct d0 (.attr 4 0) ≠ keyStruct d0 (.attr 4 1) := by
  intro h
  have := Theorems.C11.key_injective wf_d0 d0_attrNames.1 d0_attrNames.2 (.attr 4 0) (.attr 4 1)
    (by decide) (by decide) h
  cases this

/-! ## `hashInj_holds`: `HashInj d0` as an instance of the theorem (no evaluation of the keys) -/

/-- **`hashInj_holds`** on `d0` (`WF` by the executable check, `AttrTriplesDistinct` from the attribute
names being distinct) -/
theorem hashInj_d0' : PathSem.HashInj d0 {} := PathSem.hashInj_of_attrNames wf_d0 d0_attrNames.1 {}

/-- a document on which the side condition of `hashInj_holds` fails — `<r x="1" x="1"/>` (not XML, but a
`Doc`): well-formed as a tree, and the two attributes have the same key, so `HashInj` is false -/
def dDup : Doc :=
  [⟨0, .root, "", "", "", "", []⟩,
   ⟨1, .elem, "", "r", "", "", [⟨"", "x", "", "1"⟩, ⟨"", "x", "", "1"⟩]⟩]

theorem wf_dDup : WF dDup := wf_of_wfb (by decide)

theorem not_hashInj_dDup : ¬ PathSem.HashInj dDup {} := by
  intro h
  have := PathSem.attrTriples_of_hashInj h 1 0 1 (by decide) (by decide) (by decide) rfl rfl rfl
  cases this

/-- **`C11_main_unconditional`** on `//a | /r/*[@x]`: every hypothesis discharged, none of them about
keys or hashes -/
theorem C11_main_unconditional_instance : ∃ (o : BOut), ∃ out,
    sel (F := Int) d0 {} o.q (.node 0) = .ok out ∧ (refs out).Nodup ∧
    ∀ x, x ∈ refs out ↔ x ∈ [Ref.node 2, .node 4, .node 6] := by
  obtain ⟨o, hb⟩ := union_built
  obtain ⟨out, nsA, gA, nsB, gB, nsU, h1, h2, _, _, _, h6, _, _, h9⟩ :=
    Theorems.C11.C11_main_unconditional (F := Int) wf_d0 {} rfl d0_attrNames.1.triples (fun _ => true) 100
      pA pX pA_frag pX_frag {} {} o hb (.node 0) (by decide)
  have e := value_of_evalTop h6 union_value
  cases e
  exact ⟨o, out, h1, h2, h9⟩

end XPathV.Theorems.NonVacuity.C11


/-! ## the extended fragment: operands in `Frag2` that are not in `Frag` -/
namespace XPathV.Theorems.NonVacuity.C11
open XPathV XPathV.Model XPathV.Theorems.NonVacuity XPathV.PosSem
open XPathV.PathSem XPathV.PredSem XPathV.PredSem2 XPathV.UnionSem XPathV.UnionSem2

attribute [local instance] toyAlg

def rStar : Ast := .axis (chE "") (.axis (chE "r") (.root "/"))
/-- `[@x != @y]`: a path compared with a path -/
def bCmp : Ast := .oper "!=" (.axis (atA "x") .none) (.axis (atA "y") .none)
/-- `[count(@x) = 1]` -/
def bCount : Ast := .oper "=" (.call "count" "" (.acons (.axis (atA "x") .none) .anil)) (.num "1")
/-- `/r/*[@x != @y]` = `{b}`, `/r/*[count(@x) = 1]` = `{a[1], b}`: overlapping operands, neither in `Frag` -/
def pC : Ast := .filter rStar bCmp
def pN : Ast := .filter rStar bCount

theorem rStar_frag2 : Frag2 true rStar := .axis _ _ (.axis _ _ (.root _) (chE_axis _)) (chE_axis _)
theorem bCmp_frag2 : Frag2 false bCmp :=
  .cmpPath _ _ _ (by decide) (.axis _ _ .none (atA_axis _)) (.axis _ _ .none (atA_axis _))
theorem bCount_frag2 : Frag2 false bCount :=
  .countR _ _ _ _ (by decide) (.axis _ _ .none (atA_axis _)) (.axis _ _ (by decide) .none)
theorem pC_frag2 : Frag2 true pC := .filter _ _ rStar_frag2 bCmp_frag2
theorem pN_frag2 : Frag2 true pN := .filter _ _ rStar_frag2 bCount_frag2

/-- the predicates, hence the operands, are outside the fragment of the theorems above -/
theorem bCmp_not_frag : ¬ Frag false bCmp := by
  intro h
  generalize he : bCmp = e at h
  generalize hk : false = k at h
  cases h <;> simp [bCmp] at he hk
  rename_i hp; subst he; cases hp
theorem bCount_not_frag : ¬ Frag false bCount := by
  intro h
  generalize he : bCount = e at h
  generalize hk : false = k at h
  cases h <;> simp [bCount] at he hk
  · rename_i hp; subst he; cases hp
  · rename_i hp; obtain ⟨_, rfl, _⟩ := he; cases hp
theorem pC_not_frag : ¬ Frag true pC := by
  intro h; cases h with | filter _ _ _ hb => exact bCmp_not_frag hb
theorem pN_not_frag : ¬ Frag true pN := by
  intro h; cases h with | filter _ _ _ hb => exact bCount_not_frag hb

theorem union_full_parsed : ParsesTo "/r/*[@x != @y] | /r/*[count(@x) = 1]" (.oper "|" pC pN) :=
  parsesTo_of (by decide +kernel)
theorem nary_full_parsed : ParsesTo "//a | /r/*[@x != @y] | /r/*[count(@x) = 1]" (unionOf pA [pC, pN]) :=
  parsesTo_of (by decide +kernel)

theorem union_full_built : ∃ o, build (fun _ => true) 100 true false (.oper "|" pC pN) {} {} = .ok o :=
  exists_ok_of_isOk (by decide +kernel)
theorem union_full_value :
    Spec.evalTop (F := Int) d0 (.oper "|" pC pN) (.node 0) = .ok (.nodes [.node 2, .node 4]) := by
  decide +kernel

/-- **`C11_main_full`** on `/r/*[@x != @y] | /r/*[count(@x) = 1]` (the operands share `b`): all
hypotheses discharged; the result is `{a[1], b}`, each once -/
theorem C11_main_full_instance : ∃ (o : BOut), ∃ out,
    sel (F := Int) d0 {} o.q (.node 0) = .ok out ∧ (refs out).Nodup ∧
    ∀ x, x ∈ refs out ↔ x ∈ [Ref.node 2, .node 4] := by
  obtain ⟨o, hb⟩ := union_full_built
  obtain ⟨out, nsA, gA, nsB, gB, nsU, h1, h2, _, _, _, h6, _, _, h9⟩ :=
    Theorems.C11.C11_main_full (F := Int) wf_d0 {} rfl hashInj_d0 (fun _ => true) 100 pC pN pC_frag2 pN_frag2
      {} {} o hb (.node 0) (by decide)
  have e := value_of_evalTop h6 union_full_value
  cases e
  exact ⟨o, out, h1, h2, h9⟩

/-- **`C11_main_full_unconditional`** on the same union: no hypothesis about keys or hashes -/
theorem C11_main_full_unconditional_instance : ∃ (o : BOut), ∃ out,
    sel (F := Int) d0 {} o.q (.node 0) = .ok out ∧ (refs out).Nodup ∧
    ∀ x, x ∈ refs out ↔ x ∈ [Ref.node 2, .node 4] := by
  obtain ⟨o, hb⟩ := union_full_built
  obtain ⟨out, nsA, gA, nsB, gB, nsU, h1, h2, _, _, _, h6, _, _, h9⟩ :=
    Theorems.C11.C11_main_full_unconditional (F := Int) wf_d0 {} rfl d0_attrNames.1.triples (fun _ => true)
      100 pC pN pC_frag2 pN_frag2 {} {} o hb (.node 0) (by decide)
  have e := value_of_evalTop h6 union_full_value
  cases e
  exact ⟨o, out, h1, h2, h9⟩

/-- **`C11_nary_full`** on `//a | /r/*[@x != @y] | /r/*[count(@x) = 1]` -/
theorem C11_nary_full_instance : ∃ (o : BOut), ∃ out,
    sel (F := Int) d0 {} o.q (.node 0) = .ok out ∧ (refs out).Nodup ∧
    ∀ x, x ∈ refs out ↔ ∃ q ∈ [pA, pC, pN], x ∈ nodesAt d0 Int q (.node 0) := by
  obtain ⟨o, hb⟩ : ∃ o, build (fun _ => true) 100 true false (unionOf pA [pC, pN]) {} {} = .ok o :=
    exists_ok_of_isOk (by decide +kernel)
  obtain ⟨out, ns, g, h1, h2, _, _, h5, _⟩ :=
    Theorems.C11.C11_nary_full (F := Int) wf_d0 {} rfl hashInj_d0 (fun _ => true) 100 pA [pC, pN]
      (frag2_of_frag true pA pA_frag)
      (by
        intro q hq; simp only [List.mem_cons, List.not_mem_nil, or_false] at hq
        rcases hq with rfl | rfl
        · exact pC_frag2
        · exact pN_frag2) (by simp) {} o hb (.node 0) (by decide)
  exact ⟨o, out, h1, h2, h5⟩
example : Spec.evalTop (F := Int) d0 (unionOf pA [pC, pN]) (.node 0) = .ok (.nodes [.node 2, .node 4, .node 6]) := by
  decide +kernel

/-! the sequence form `/r/(a[count(@x) = 1], b[@x != @y])` -/

def sAN : SeqStep := (chE "a", [bCount])
def sBC : SeqStep := (chE "b", [bCmp])

theorem seq_full_parsed : ParsesTo "/r/(a[count(@x) = 1], b[@x != @y])" (seqForm pR sAN [sBC]) :=
  parsesTo_of (by decide +kernel)

/-- **`C11_sequence_full`** (`Frag2`, `StepOK2`, `build = .ok`, …): the result is `{a[1], b}` -/
theorem C11_sequence_full_instance : ∃ (o : BOut), ∃ out,
    sel (F := Int) d0 {} o.q (.node 0) = .ok out ∧ (refs out).Nodup ∧
    ∀ x, x ∈ refs out ↔ x ∈ [Ref.node 2, .node 4] := by
  obtain ⟨o, hb⟩ : ∃ o, build (fun _ => true) 100 true false (seqForm pR sAN [sBC]) {} {} = .ok o :=
    exists_ok_of_isOk (by decide +kernel)
  obtain ⟨out, ns, g, h1, h2, h3, _, h5⟩ :=
    Theorems.C11.C11_sequence_full (F := Int) wf_d0 {} rfl hashInj_d0 (fun _ => true) 100 pR
      (.axis _ _ (.root _) (chE_axis _)) sAN [sBC]
      ⟨by decide, by
        intro b hb; simp only [sAN, List.mem_cons, List.not_mem_nil, or_false] at hb; subst hb
        exact bCount_frag2⟩
      (by
        intro t ht; simp only [List.mem_cons, List.not_mem_nil, or_false] at ht; subst ht
        refine ⟨by decide, ?_⟩
        intro b hb; simp only [sBC, List.mem_cons, List.not_mem_nil, or_false] at hb; subst hb
        exact bCmp_frag2) {} o hb (.node 0) (by decide)
  have e := value_of_eval h2 (v' := .nodes [.node 2, .node 4]) (by decide +kernel)
  cases e
  exact ⟨o, out, h1, (h5 (by simp)).1, h3⟩

end XPathV.Theorems.NonVacuity.C11

/-! ## `C11_from_text`: from the expression text, through `compile` -/
namespace XPathV.Theorems.NonVacuity.C11
open XPathV XPathV.Model XPathV.Theorems.NonVacuity XPathV.PosSem
open XPathV.PathSem XPathV.PredSem XPathV.PredSem2 XPathV.UnionSem XPathV.UnionSem2

attribute [local instance] toyAlg

theorem union_full_compiles : ∃ p, compile {} none "/r/*[@x != @y] | /r/*[count(@x) = 1]".toList = .ok p :=
  compile_ok union_full_parsed (by decide +kernel)

/-- `C11_from_text` at the text `/r/*[@x != @y] | /r/*[count(@x) = 1]` (`hparse` =
`union_full_parsed`, `hA`, `hB` with operands of `Frag2` outside `Frag`), the builder-error disjunct
refuted by running the builder on that tree, then the second disjunct's inner hypotheses (`WF`, `nsIface`,
`HashInj`, `validRef`) on `d0` from the document node: `Select` on the compiled text yields
`{a[1], b}`, each once (the operands share `b`) -/
theorem C11_from_text_instance :
    ∃ p l, compile {} none "/r/*[@x != @y] | /r/*[count(@x) = 1]".toList = .ok p ∧
    selectAll (F := Int) d0 {} p (.node 0) = .ok l ∧ l.Nodup ∧
    ∀ x, x ∈ l ↔ x ∈ [Ref.node 2, .node 4] := by
  rcases Theorems.C11.C11_from_text (fun _ => true) none _ pC pN union_full_parsed pC_frag2 pN_frag2 with
    ⟨e, he⟩ | ⟨p, hp, h⟩
  · obtain ⟨p, hp⟩ := union_full_compiles
    rw [hp] at he; cases he
  · obtain ⟨l, nsl, h1, h2, h3, h4⟩ := h Int d0 wf_d0 {} rfl hashInj_d0 (.node 0) (by decide)
    rw [union_full_value] at h3; cases h3
    exact ⟨p, l, hp, h1, h2, h4⟩

/-- the `_unconditional` form at the same text: `AttrTriplesDistinct d0` instead of `HashInj` -/
theorem C11_from_text_unconditional_instance :
    ∃ p l, compile {} none "/r/*[@x != @y] | /r/*[count(@x) = 1]".toList = .ok p ∧
    selectAll (F := Int) d0 {} p (.node 0) = .ok l ∧ l.Nodup ∧
    ∀ x, x ∈ l ↔ x ∈ [Ref.node 2, .node 4] := by
  rcases Theorems.C11.C11_from_text_unconditional (fun _ => true) none _ pC pN union_full_parsed
      pC_frag2 pN_frag2 with ⟨e, he⟩ | ⟨p, hp, h⟩
  · obtain ⟨p, hp⟩ := union_full_compiles
    rw [hp] at he; cases he
  · obtain ⟨l, nsl, h1, h2, h3, h4⟩ :=
      h Int d0 wf_d0 {} rfl d0_attrNames.1.triples (.node 0) (by decide)
    rw [union_full_value] at h3; cases h3
    exact ⟨p, l, hp, h1, h2, h4⟩

/-- `C11_from_text_evaluate` at the same text: `Evaluate` returns the list `Select` yields -/
theorem C11_from_text_evaluate_instance :
    ∃ p l, compile {} none "/r/*[@x != @y] | /r/*[count(@x) = 1]".toList = .ok p ∧
    selectAll (F := Int) d0 {} p (.node 0) = .ok l ∧
    evaluate (F := Int) d0 {} p (.node 0) = .ok (.nodes l) ∧ l.Nodup ∧
    ∀ x, x ∈ l ↔ x ∈ [Ref.node 2, .node 4] := by
  rcases Theorems.C11.C11_from_text_evaluate (fun _ => true) none _ pC pN union_full_parsed
      pC_frag2 pN_frag2 with ⟨e, he⟩ | ⟨p, hp, _, h⟩
  · obtain ⟨p, hp⟩ := union_full_compiles
    rw [hp] at he; cases he
  · obtain ⟨l, nsl, h1, h2, h3, h4, _, h6, _⟩ :=
      h Int d0 wf_d0 {} rfl hashInj_d0 (.node 0) (by decide)
    rw [union_full_value] at h4; cases h4
    exact ⟨p, l, hp, h1, h2, h3, h6⟩

end XPathV.Theorems.NonVacuity.C11

