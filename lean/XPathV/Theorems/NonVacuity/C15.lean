import XPathV.Theorems.C15
import XPathV.Theorems.NonVacuity.Common
/-!
# Non-vacuity of the C15 theorems
-/
namespace XPathV.Theorems.NonVacuity.C15
open XPathV XPathV.Model XPathV.Theorems.NonVacuity XPathV.PosSem

attribute [local instance] toyAlg

def t1 : String := "count(//a[@x = 1 or contains(., 't')][last()] | /r/b/@y) + 5 mod 0 > string-length(name(/r/*[2]))"

/-- the compiled plan -/
def plan1 : Plan := okVal (compile {} none t1.toList)
/-- `noRoundIn`: the parse tree of the text does not call `round` -/
def ast1 : Ast := okVal (parse (fuelFor t1.toList) (defaultCfg none) t1.toList)

/-- scanner, parser and builder run once on `t1`; the checks on the tree and on the plan ride along -/
theorem t1_run : ParsesTo t1 ast1 ∧ ast1.noRound = true ∧
    compile {} none t1.toList = .ok plan1 ∧ plan1.clean = true := by
  obtain ⟨a, p, ha, hP, hp, hQ⟩ := runOnce_spec (ns := none) (text := t1.toList)
    (P := Ast.noRound) (Q := Plan.clean) (by rw [t1, String.toList_ofList]; decide +kernel)
  have e1 : ast1 = a := by rw [ast1, ha]; rfl
  have e2 : plan1 = p := by rw [plan1, hp]; rfl
  rw [e1, e2]
  exact ⟨ha, hP, hp, hQ⟩

theorem compiled1 : compile {} none t1.toList = .ok plan1 := t1_run.2.2.1
theorem parsed1 : parse (fuelFor t1.toList) (defaultCfg none) t1.toList = .ok ast1 := t1_run.1
theorem ast1_noRound : ast1.noRound = true := t1_run.2.1
theorem noRound1 : noRoundIn none t1.toList := by
  intro ast h
  have e : ast1 = ast := Except.ok.inj (parsed1.symm.trans h)
  rw [← e]; exact ast1_noRound

/-- **`C15_main_without_round`** (`compile = .ok p`, `noRoundIn`): on `d0`, from an attribute context -/
theorem C15_main_without_round_instance :
    (∀ k, sel (F := Int) d0 {} plan1 (.attr 4 1) ≠ .error (.crash k)) ∧
    (∀ k, evalP (F := Int) d0 {} plan1 (.attr 4 1) ≠ .error (.crash k)) :=
  Theorems.C15.C15_main_without_round (F := Int) {} none t1.toList plan1 compiled1 noRound1 d0 {} (.attr 4 1)

/-- `noRoundIn` is not trivially true: it fails for a text that calls `round` -/
def astR : Ast := okVal (parse (fuelFor "round(1) = 1".toList) (defaultCfg none) "round(1) = 1".toList)
theorem astR_round : astR.noRound = false := by
  rw [astR, defaultCfg_lit, String.toList_ofList]; decide +kernel
example : ¬ noRoundIn none "round(1) = 1".toList := by
  intro h
  have := h astR (eq_ok_okVal (by rw [defaultCfg_lit, String.toList_ofList]; decide +kernel))
  rw [astR_round] at this
  cases this

/-- `clean_plans_never_crash` (`p.clean = true`) for the compiled plan -/
example : plan1.clean = true := t1_run.2.2.2
example := Theorems.C15.clean_plans_never_crash (F := Int) d0 {} plan1 (.node 0) t1_run.2.2.2

/-- `variables_rejected` (`st.depth + 1 ≤ lim`) -/
example := Theorems.C15.variables_rejected (fun _ => true) 100 true false "" "v" {} {} (by decide)

/-- `comparison_never_crashes` (operands of documented types) -/
example := Theorems.C15.comparison_never_crashes (F := Int) d0 .lt (.nodes [.attr 2 0]) (.str "x")
  (by intro i h; cases h) (by intro h; cases h) (by intro i h; cases h) (by intro h; cases h)

/-- `logical_select_finite` (`sel (.logical …) = .ok out`): `@x = '2'` selected at `b` -/
example : ([⟨.node 4, 1, 0⟩] : List Item).length ≤ 1 :=
  Theorems.C15.logical_select_finite (F := Int) d0 {} "=" (.attr (atA "x") .context) (.constStr "2") (.node 4)
    [⟨.node 4, 1, 0⟩] (by sel_decide)

end XPathV.Theorems.NonVacuity.C15

