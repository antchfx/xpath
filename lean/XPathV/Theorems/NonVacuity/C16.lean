import XPathV.Theorems.C16
import XPathV.Theorems.NonVacuity.Common
/-!
# Non-vacuity of the C16 theorems

`cache_exact`, `cache_returns_loaded`, `cache_unbounded_when_zero`, `evict_cond_ok`,
`C16_replace_dollar_dollar` have no hypotheses.  `cache_bounded` needs `cap > 0` and
`C16_replace_template` needs `groups < 100000000`: trivially satisfiable (both already exercised by
the schedule `example` of `Theorems/C16.lean` and the template examples at the end of `Lemmas/TemplateSem.lean`).
The remaining side conditions are instantiated here.
-/
namespace XPathV.Theorems.NonVacuity.C16
open XPathV XPathV.Model.Cache XPathV.Theorems.C16
open XPathV.Model.Template XPathV.Spec.Template XPathV.Lemmas.TemplateSem

def load1 : Key → Option Val := fun k => if k == "f" then none else some ("V" ++ k)

/-- `cache_bounded` on a schedule with two threads racing on one key, a failing key and an eviction:
the cache is not empty at the end -/
example : (run 2 load1 (initSys ["a", "a", "f", "b", "c"]) [0, 1, 0, 1, 2, 3, 4, 3, 4]).c.m.length ≤ 2 :=
  cache_bounded 2 load1 _ _ (by decide)
example : (run 2 load1 (initSys ["a", "a", "f", "b", "c"]) [0, 1, 0, 1, 2, 3, 4, 3, 4]).c.m.length = 1 ∧
    (run 2 load1 (initSys ["a", "a", "f", "b", "c"]) [0, 1, 0, 1, 2, 3, 4, 3, 4]).c.resets = 1 := by decide

def c1 : Cache := { m := [("a", "Va"), ("b", "Vb")], resets := 0 }

/-- `cache_no_error_memo` (`hmiss`, `hfail`), `cache_hit` (`h`), `cache_miss_loads` (`hmiss`, `hl`) -/
example : get 2 load1 c1 "f" = (c1, none) := cache_no_error_memo 2 load1 c1 "f" (by decide) (by decide)
example : get 2 load1 c1 "b" = (c1, some "Vb") := cache_hit 2 load1 c1 "b" "Vb" (by decide)
example : (get 2 load1 c1 "z").2 = some "Vz" := cache_miss_loads 2 load1 c1 "z" "Vz" (by decide) (by decide)

/-- one match of `(b)` in `abc`: group 0 = `b`… with two groups and a name -/
def g2 : Groups := ⟨[some ['m'], some ['b'], none], [[], [], ['n']]⟩

/-- `C16_replace_template`, with the value -/
example : replaceOne g2 2 "[$1|$2|$12|$$1|${n}]".toList = replaceOneSpec g2 2 "[$1|$2|$12|$$1|${n}]".toList :=
  C16_replace_template g2 2 (by decide) _
example : replaceOne g2 2 "[$1|$2|$12|$$1|$0]".toList = "[b||b2|$1|m]".toList := by decide +kernel

/-- `C16_replace_literal` (`'$' ∉ r`) -/
example : replaceOne g2 2 "plain".toList = "plain".toList := C16_replace_literal g2 2 _ (by decide)

/-- `C16_replace_group_ref` (`h1`, `hn`, `hrest`): `$1` followed by the digit `7` with 2 groups (`17 > 2`) -/
example : replaceOne g2 2 ('$' :: digitsOf 1 ++ ['7', 'x']) =
    (g2.texts.getD 1 none).getD [] ++ replaceOne g2 2 ['7', 'x'] :=
  C16_replace_group_ref g2 2 (by decide) 1 (by decide) (by decide) ['7', 'x'] (by
    intro d rest' h _
    cases h
    decide)

/-- `C16_template_fuel` (`t.length < f`) -/
example := C16_template_fuel g2 2 "$1x".toList 10 (by decide)

/-- `C16_constant_bad_pattern_rejected` (`rx p = false`): a regexp oracle rejecting `(` -/
example (o : Model.BOut) : Model.build (fun p => p != "(") 100 true false
    (.call "matches" "" (.acons (.axis (Theorems.NonVacuity.chE "a") .none) (.acons (.str "(") .anil))) {} {} ≠ .ok o :=
  C16_constant_bad_pattern_rejected _ 100 true false "" _ "(" {} {} (by decide) o
/-- … while the same call with an accepted pattern is built -/
example : (Model.build (fun p => p != "(") 100 true false
    (.call "matches" "" (.acons (.axis (Theorems.NonVacuity.chE "a") .none) (.acons (.str "b+") .anil))) {} {}).isOk = true := by
  decide +kernel

end XPathV.Theorems.NonVacuity.C16
