import XPathV.Theorems.C13
import XPathV.Theorems.NonVacuity.Common
/-!
# Non-vacuity of the C13 theorems
-/
namespace XPathV.Theorems.NonVacuity.C13
open XPathV XPathV.Model XPathV.Theorems.NonVacuity XPathV.PosSem
open XPathV.PathSem XPathV.PredSem XPathV.Compose XPathV.Compose2

attribute [local instance] toyAlg

abbrev parentAny : AxisInfo := ⟨"parent", .all, "", "", "", false, ""⟩

/-- `/r/b` addresses exactly `b` (node 4) -/
def q1 : Ast := .axis (chE "b") (.axis (chE "r") (.root "/"))
/-- `../*/@x` -/
def p1 : Ast := .axis (atA "x") (.axis (chE "") (.axis parentAny .none))

theorem q1_abs : AbsPF q1 := .axis _ _ (.axis _ _ (.root _) (chE_axis _)) (chE_axis _)
theorem p1_rel : RelPF p1 := .axis _ _ (.axis _ _ (.axis _ _ .none (by simp [PathSem.axes12])) (chE_axis _)) (atA_axis _)
theorem p1_parsed : ParsesTo "../*/@x" p1 := parsesTo_of (by decide +kernel)
theorem qp1_parsed : ParsesTo "/r/b/../*/@x" (appendPath q1 p1) := parsesTo_of (by decide +kernel)

theorem q1_unique : nodesOf (Spec.eval (F := Int) d0 q1 ⟨.node 0, 1, 1⟩) = [.node 4] := by decide +kernel

theorem p1_built : ∃ o, build (fun _ => true) 100 true false p1 {} {} = .ok o :=
  exists_ok_of_isOk (by decide +kernel)
theorem qp1_built : ∃ o, build (fun _ => true) 100 true false (appendPath q1 p1) {} {} = .ok o :=
  exists_ok_of_isOk (by decide +kernel)
theorem qp1_abs : AbsPF (appendPath q1 p1) := appendPath_absPF q1_abs p1_rel

/-- **`C13_relative_compose`**: all hypotheses discharged (`WF`, `nsIface`, `HashInj`, `PathPF`, `RelPF`,
"`q` addresses exactly `n`", two `build = .ok`); both plans select `{a[1]/@x, b/@x}` -/
theorem C13_relative_compose_instance : ∃ (o o' : BOut), ∃ o1 o2,
    sel (F := Int) d0 {} o.q (.node 4) = .ok o1 ∧ sel (F := Int) d0 {} o'.q (.node 0) = .ok o2 ∧
    (∀ x, x ∈ refs o1 ↔ x ∈ refs o2) ∧
    nodesOf (Spec.eval (F := Int) d0 p1 ⟨.node 4, 1, 1⟩) = [.attr 2 0, .attr 4 0] := by
  obtain ⟨o, hb⟩ := p1_built
  obtain ⟨o', hb'⟩ := qp1_built
  obtain ⟨o1, o2, h1, h2, h3⟩ := Theorems.C13.C13_relative_compose (F := Int) wf_d0 {} rfl hashInj_d0
    (fun _ => true) 100 false q1_abs.pathPF p1_rel (.node 4) q1_unique {} {} o o' hb hb'
  exact ⟨o, o', o1, o2, h1, h2, h3, by decide +kernel⟩

/-- `C13_relative_compose_spec`, `C13_compose_spec` -/
example := Theorems.C13.C13_relative_compose_spec (F := Int) d0 q1_abs.pathPF p1_rel ⟨.node 0, 1, 1⟩ (.node 4) q1_unique
example := Theorems.C13.C13_compose_spec (F := Int) d0 q1_abs.pathPF p1_rel ⟨.node 6, 2, 3⟩ (.attr 2 0)

/-- **`C13_absolute_build`** (`AbsPF`, `build = .ok`) on `/r/b/../*/@x`, from `a[2]` and from an attribute -/
example : ∃ (o : BOut), sel (F := Int) d0 {} o.q (.node 6) = sel (F := Int) d0 {} o.q (.attr 4 1) := by
  obtain ⟨o, hb⟩ := qp1_built
  exact ⟨o, Theorems.C13.C13_absolute_build (F := Int) d0 {} (fun _ => true) 100 true false qp1_abs
    {} {} o hb _ _⟩
example := Theorems.C13.C13_absolute_spec (F := Int) d0 q1_abs ⟨.node 6, 2, 3⟩ ⟨.attr 4 1, 1, 1⟩
example := Theorems.C13.C13_absolute_after_anything (F := Int) d0 {} p1 q1_abs (.node 6) (.attr 4 1)

/-! ## with boolean predicates -/

/-- `/r/*[@y]` addresses exactly `b`; `../*[@x]/text()` -/
def q2 : Ast := .filter (.axis (chE "") (.axis (chE "r") (.root "/"))) (.axis (atA "y") .none)
def p2 : Ast := .axis chText (.filter (.axis (chE "") (.axis parentAny .none)) (.axis (atA "x") .none))

theorem q2_abs : AbsFrag q2 :=
  .filter _ _ (.axis _ _ (.axis _ _ (.root _) (chE_axis _)) (chE_axis _)) (.exist _ (.axis _ _ .none (atA_axis _)))
theorem p2_rel : RelFrag p2 :=
  .axis _ _ (.filter _ _ (.axis _ _ (.axis _ _ .none (by simp [PathSem.axes12])) (chE_axis _))
    (.exist _ (.axis _ _ .none (atA_axis _)))) (chText_axis)
theorem qp2_parsed : ParsesTo "/r/*[@y]/../*[@x]/text()" (appendPath2 q2 p2) :=
  parsesTo_of (by decide +kernel)
theorem q2_unique : nodesOf (Spec.eval (F := Int) d0 q2 ⟨.node 0, 1, 1⟩) = [.node 4] := by decide +kernel

/-- **`C13_relative_compose_with_predicates`** -/
theorem C13_relative_compose_with_predicates_instance : ∃ (o o' : BOut), ∃ o1 o2,
    sel (F := Int) d0 {} o.q (.node 4) = .ok o1 ∧ sel (F := Int) d0 {} o'.q (.node 0) = .ok o2 ∧
    (∀ x, x ∈ refs o1 ↔ x ∈ refs o2) ∧
    nodesOf (Spec.eval (F := Int) d0 p2 ⟨.node 4, 1, 1⟩) = [.node 3, .node 5] := by
  obtain ⟨o, hb⟩ : ∃ o, build (fun _ => true) 100 true false p2 {} {} = .ok o := exists_ok_of_isOk (by decide +kernel)
  obtain ⟨o', hb'⟩ : ∃ o, build (fun _ => true) 100 true false (appendPath2 q2 p2) {} {} = .ok o :=
    exists_ok_of_isOk (by decide +kernel)
  obtain ⟨o1, o2, h1, h2, h3⟩ := Theorems.C13.C13_relative_compose_with_predicates (F := Int) wf_d0 {} rfl
    hashInj_d0 (fun _ => true) 100 q2_abs.frag p2_rel (.node 4) q2_unique {} {} o o' hb hb'
  exact ⟨o, o', o1, o2, h1, h2, h3, by decide +kernel⟩

/-- **`C13_absolute_build_with_predicates`** (`AbsFrag`, `build = .ok`) -/
example : ∃ (o : BOut), sel (F := Int) d0 {} o.q (.node 6) = sel (F := Int) d0 {} o.q (.attr 4 1) := by
  obtain ⟨o, hb⟩ : ∃ o, build (fun _ => true) 100 true false q2 {} {} = .ok o := exists_ok_of_isOk (by decide +kernel)
  exact ⟨o, Theorems.C13.C13_absolute_build_with_predicates (F := Int) d0 {} (fun _ => true) 100 true false
    q2_abs {} {} o hb _ _⟩
example := Theorems.C13.C13_compose_spec_with_predicates (F := Int) d0 q2_abs.frag p2_rel ⟨.node 0, 1, 1⟩ (.node 3)

/-! ## plan-level statements -/

def planR : Plan := .attr (atA "x") (.descendant (chE "") false .absolute)
theorem planR_sel : sel (F := Int) d0 {} planR (.node 6) = .ok [⟨.attr 2 0, 1, 0⟩, ⟨.attr 4 0, 1, 0⟩] := by
  simp only [planR]; sel_decide

/-- `abs_start_indep` (`Rooted p = true`) -/
example : sel (F := Int) d0 {} planR (.node 6) = sel (F := Int) d0 {} planR (.attr 4 1) :=
  Theorems.C13.abs_start_indep d0 {} planR rfl _ _
/-- `group_preserves_sequence`, `rel_compose_child` (`sel = .ok ins`) -/
example := Theorems.C13.group_preserves_sequence (F := Int) d0 {} planR (.node 6) _ planR_sel
example := Theorems.C13.rel_compose_child (F := Int) d0 {} (chE "") (.child (chE "r") .absolute) (.node 6)
  [⟨.node 1, 1, 0⟩] (by sel_decide)
/-- `C13_wrap_true`, `C13_wrap_group`: the inner hypothesis `sel = .ok ins` -/
example := (Theorems.C13.C13_wrap_true (F := Int) d0 {} planR (.node 6)).1 _ planR_sel
example := (Theorems.C13.C13_wrap_group (F := Int) d0 {} planR (.node 6)).1 _ planR_sel
/-- … and the failing case (`sel = .error e`) with the failing plan `.nil` below a step -/
example := (Theorems.C13.C13_wrap_group (F := Int) d0 {} (.child (chE "a") .nil) (.node 6)).2
  (.crash .nilDeref) (by simp only [sel, bind, Except.bind])

/-- `C13_wrap_union_self` -/
example := Theorems.C13.C13_wrap_union_self (F := Int) wf_d0 {} rfl hashInj_d0 q1_abs.pathPF (.node 6) (by decide)

/-- `C13_wrap_not_not` (no hypothesis left): a node-set operand, and a *number* operand
(`not(not(0))` is `boolean(0)`, i.e. false — it was `true` before the repair of `notFunc`) -/
example := Theorems.C13.C13_wrap_not_not (F := Int) d0 {} .nil .nil .nil planR (.node 6)
example : evalP (F := Int) d0 {} (.func "not" .nil (.pcons (.func "not" .nil (.pcons (.constNum "0") .pnil)) .pnil))
    (.node 6) = .ok (.bool false) := by
  rw [Theorems.C13.C13_wrap_not_not (F := Int) d0 {} .nil .nil .nil (.constNum "0") (.node 6),
    Model.evalP_func1 _ _ _ _ _ _ rfl, Model.callFn_boolean]
  simp only [evalP]
  decide +kernel

/-! ## iterator level: the context node after a `Select` (`Model/Pull2`) -/

/-- `/r/*[. is b]`: the filter rejects `a` (node 2) and keeps `b` (node 4) -/
def qCtxF : PQ2 := .filter (.child (chE "") (.child (chE "r") (.absolute 0) none 0) none 0) .nil 0 none
def decCtx : Plan → Ref → Bool := fun _ n => n == .node 4
/-- the merge rewrite of `/r/a`: per parent `r`, the children `a` -/
def qCtxM : PQ2 := .merge (.child (chE "r") (.absolute 0) none 0) (.child (chE "a") (.context 0) none 0) none
/-- `/r/a/@x/following::*` (non-sibling; the input node is an attribute: the walk starts in the owner) -/
def qCtxFol : PQ2 :=
  .following (axE "following" "") false
    (.attr (atA "x") (.child (chE "a") (.child (chE "r") (.absolute 0) none 0) none 0) none) none 0
/-- `/r/a/preceding::*` (non-sibling), exhausted at once: `a[1]` has nothing before it but ancestors …
then `a[2]` reports `b` -/
def qCtxPrec : PQ2 := .preceding (axE "preceding" "") false (.child (chE "a") (.child (chE "r") (.absolute 0) none 0) none 0) none 0
/-- a union whose right operand is the filter -/
def qCtxU : PQ2 := .union (.child (chE "r") (.absolute 0) none 0) qCtxF none

/-- the candidates were visited (the first one rejected), the answer is `b`, and `t.Current()` is
still the comment node the evaluation started at — for each of the repaired types -/
theorem qCtxF_select : (PQ2.select d0 {} decCtx 100 qCtxF (.node 7)).1 = .yield (.node 4) ∧
    (PQ2.select d0 {} decCtx 100 qCtxF (.node 7)).2.2 = .node 7 := by decide +kernel
theorem qCtxM_select : (PQ2.select d0 {} decCtx 100 qCtxM (.node 7)).1 = .yield (.node 2) ∧
    (PQ2.select d0 {} decCtx 100 qCtxM (.node 7)).2.2 = .node 7 := by decide +kernel
theorem qCtxFol_select : (PQ2.select d0 {} decCtx 100 qCtxFol (.node 7)).1 = .yield (.node 4) ∧
    (PQ2.select d0 {} decCtx 100 qCtxFol (.node 7)).2.2 = .node 7 := by decide +kernel
theorem qCtxPrec_select : (PQ2.select d0 {} decCtx 100 qCtxPrec (.node 7)).1 = .yield (.node 4) ∧
    (PQ2.select d0 {} decCtx 100 qCtxPrec (.node 7)).2.2 = .node 7 := by decide +kernel
theorem qCtxU_select : (PQ2.select d0 {} decCtx 100 qCtxU (.node 7)).1 = .yield (.node 1) ∧
    (PQ2.select d0 {} decCtx 100 qCtxU (.node 7)).2.2 = .node 7 := by decide +kernel

example : (PQ2.select d0 {} decCtx 100 qCtxF (.node 7)).1 = .yield (.node 4) ∧
    (PQ2.select d0 {} decCtx 100 qCtxF (.node 7)).2.2 = .node 7 := qCtxF_select
example : (PQ2.select d0 {} decCtx 100 qCtxM (.node 7)).1 = .yield (.node 2) ∧
    (PQ2.select d0 {} decCtx 100 qCtxM (.node 7)).2.2 = .node 7 := qCtxM_select
example : (PQ2.select d0 {} decCtx 100 qCtxFol (.node 7)).1 = .yield (.node 4) ∧
    (PQ2.select d0 {} decCtx 100 qCtxFol (.node 7)).2.2 = .node 7 := qCtxFol_select
example : (PQ2.select d0 {} decCtx 100 qCtxPrec (.node 7)).1 = .yield (.node 4) ∧
    (PQ2.select d0 {} decCtx 100 qCtxPrec (.node 7)).2.2 = .node 7 := qCtxPrec_select
example : (PQ2.select d0 {} decCtx 100 qCtxU (.node 7)).1 = .yield (.node 1) ∧
    (PQ2.select d0 {} decCtx 100 qCtxU (.node 7)).2.2 = .node 7 := qCtxU_select

/-- **`C13_select_leaves_context_node`** (`h : PQ2.select … = (out, q', cur')`, `out ≠ .fuel`) at these
machines -/
example := Theorems.C13.C13_select_leaves_context_node d0 {} decCtx 100 qCtxF (.node 7) _ _ _
  (triple_eq (a := .yield (.node 4)) qCtxF_select.1) (by simp)
example := Theorems.C13.C13_select_leaves_context_node d0 {} decCtx 100 qCtxM (.node 7) _ _ _
  (triple_eq (a := .yield (.node 2)) qCtxM_select.1) (by simp)
example := Theorems.C13.C13_select_leaves_context_node d0 {} decCtx 100 qCtxFol (.node 7) _ _ _
  (triple_eq (a := .yield (.node 4)) qCtxFol_select.1) (by simp)
example := Theorems.C13.C13_select_leaves_context_node d0 {} decCtx 100 qCtxPrec (.node 7) _ _ _
  (triple_eq (a := .yield (.node 4)) qCtxPrec_select.1) (by simp)
example := Theorems.C13.C13_select_leaves_context_node d0 {} decCtx 100 qCtxU (.node 7) _ _ _
  (triple_eq (a := .yield (.node 1)) qCtxU_select.1) (by simp)

/-- the filter over `/r/zzz`: exhausted at once -/
def qCtxZ : PQ2 := .filter (.child (chE "zzz") (.child (chE "r") (.absolute 0) none 0) none 0) .nil 0 none

/-- **`C13_moveNext_false_leaves_context_node`** (`h : PQ2.moveNext … = some (false, q', cur')`) -/
example : ∃ q' cur', PQ2.moveNext d0 {} decCtx 100 qCtxZ (.node 7) = some (false, q', cur') ∧ cur' = .node 7 := by
  have h : (PQ2.moveNext d0 {} decCtx 100 qCtxZ (.node 7)).map (·.1) = some false := by decide +kernel
  cases hm : PQ2.moveNext d0 {} decCtx 100 qCtxZ (.node 7) with
  | none => rw [hm] at h; cases h
  | some r =>
    obtain ⟨b, q', c'⟩ := r
    rw [hm] at h
    simp only [Option.map_some, Option.some.injEq] at h
    subst h
    exact ⟨q', c', rfl, Theorems.C13.C13_moveNext_false_leaves_context_node d0 {} decCtx 100 qCtxZ (.node 7) q' c' hm⟩

end XPathV.Theorems.NonVacuity.C13

/-! ## the whole C02 fragment (`Frag2`): predicates that are not in `PredSem.Frag` -/
namespace XPathV.Theorems.NonVacuity.C13
open XPathV XPathV.Model XPathV.Theorems.NonVacuity
open XPathV.PathSem XPathV.PredSem XPathV.PredSem2 XPathV.Compose XPathV.Compose2 XPathV.Compose3 XPathV.PosSem

attribute [local instance] toyAlg

/-- `/r/*[@x < @y]` (a path compared with a path, relational operator: in `Frag2`, not in `Frag`)
addresses exactly `b` (`2 < 3`) -/
def q3 : Ast :=
  .filter (.axis (chE "") (.axis (chE "r") (.root "/")))
    (.oper "<" (.axis (atA "x") .none) (.axis (atA "y") .none))
/-- `../*[contains(@x, '1')]/text()` (a string test on a flat path: in `Frag2`, not in `Frag`) -/
def p3 : Ast :=
  .axis chText (.filter (.axis (chE "") (.axis parentAny .none))
    (.call "contains" "" (.acons (.axis (atA "x") .none) (.acons (.str "1") .anil))))

theorem q3_abs : AbsFrag2 q3 :=
  .filter _ _ (.axis _ _ (.axis _ _ (.root _) (chE_axis _)) (chE_axis _))
    (.cmpPath _ _ _ (List.mem_cons_of_mem _ (List.mem_cons_of_mem _ List.mem_cons_self))
      (.axis _ _ .none (atA_axis _)) (.axis _ _ .none (atA_axis _)))
theorem p3_rel : RelFrag2 p3 :=
  .axis _ _ (.filter _ _ (.axis _ _ (.axis _ _ .none (by simp [PathSem.axes12])) (chE_axis _))
    (.strPath _ _ _ _ List.mem_cons_self (.axis _ _ .none (atA_axis _))
      (.axis _ _ (atA_flat _) .none))) (chText_axis)
theorem q3_parsed : ParsesTo "/r/*[@x < @y]" q3 := parsesTo_of (by decide +kernel)
theorem qp3_parsed : ParsesTo "/r/*[@x < @y]/../*[contains(@x, '1')]/text()" (appendPath2 q3 p3) :=
  parsesTo_of (by decide +kernel)
theorem q3_unique : nodesOf (Spec.eval (F := Int) d0 q3 ⟨.node 0, 1, 1⟩) = [.node 4] := by decide +kernel

theorem p3_built : ∃ o, build (fun _ => true) 100 true false p3 {} {} = .ok o :=
  exists_ok_of_isOk (by decide +kernel)
theorem qp3_built : ∃ o, build (fun _ => true) 100 true false (appendPath2 q3 p3) {} {} = .ok o :=
  exists_ok_of_isOk (by decide +kernel)
theorem p3_nodes : nodesOf (Spec.eval (F := Int) d0 p3 ⟨.node 4, 1, 1⟩) = [.node 3] := by decide +kernel

/-- **`C13_relative_compose_full`**: all hypotheses discharged (`WF`, `nsIface`, `HashInj`, `Frag2`,
`RelFrag2`, "`q` addresses exactly `n`", two `build = .ok`); both plans select the text of `a[1]` -/
theorem C13_relative_compose_full_instance : ∃ (o o' : BOut), ∃ o1 o2,
    sel (F := Int) d0 {} o.q (.node 4) = .ok o1 ∧ sel (F := Int) d0 {} o'.q (.node 0) = .ok o2 ∧
    (∀ x, x ∈ refs o1 ↔ x ∈ refs o2) ∧
    nodesOf (Spec.eval (F := Int) d0 p3 ⟨.node 4, 1, 1⟩) = [.node 3] := by
  obtain ⟨o, hb⟩ := p3_built
  obtain ⟨o', hb'⟩ := qp3_built
  obtain ⟨o1, o2, h1, h2, h3⟩ := Theorems.C13.C13_relative_compose_full (F := Int) wf_d0 {} rfl
    hashInj_d0 (fun _ => true) 100 q3_abs.frag2 p3_rel (.node 4) q3_unique {} {} o o' hb hb'
  exact ⟨o, o', o1, o2, h1, h2, h3, p3_nodes⟩

/-- **`C13_absolute_build_full`** (`AbsFrag2`, `build = .ok`) on `/r/*[@x < @y]/../*[contains(@x, '1')]/text()`,
from `a[2]` and from an attribute of `b`: the same sequence -/
example : ∃ (o : BOut), sel (F := Int) d0 {} o.q (.node 6) = sel (F := Int) d0 {} o.q (.attr 4 1) := by
  obtain ⟨o, hb⟩ := qp3_built
  exact ⟨o, Theorems.C13.C13_absolute_build_full (F := Int) d0 {} (fun _ => true) 100 true false
    (appendPath2_absFrag2 q3_abs p3_rel) {} {} o hb _ _⟩
/-- `C13_compose_spec_full`, `C13_absolute_spec_full`, `C13_compose_build_full` -/
example := Theorems.C13.C13_compose_spec_full (F := Int) d0 q3_abs.frag2 p3_rel ⟨.node 6, 2, 3⟩ (.node 3)
example := Theorems.C13.C13_absolute_spec_full (F := Int) d0 q3_abs ⟨.node 6, 2, 3⟩ ⟨.attr 4 1, 1, 1⟩
/-- the right-hand side of `C13_compose_spec_full` is inhabited: `q3` selects `b` from the comment
node, `p3` selects `t` from `b`, hence `q3/p3` selects `t` -/
example : (.node 3 : Ref) ∈ nodesOf (Spec.eval (F := Int) d0 (appendPath2 q3 p3) ⟨.node 7, 1, 1⟩) :=
  (Theorems.C13.C13_compose_spec_full (F := Int) d0 q3_abs.frag2 p3_rel ⟨.node 7, 1, 1⟩ (.node 3)).2
    ⟨.node 4, by
      -- `q3` is absolute: its value at the comment node is its value at the root
      rw [Theorems.C13.C13_absolute_spec_full (F := Int) d0 q3_abs ⟨.node 7, 1, 1⟩ ⟨.node 0, 1, 1⟩,
        q3_unique]
      exact List.mem_singleton.2 rfl,
      by rw [p3_nodes]; exact List.mem_singleton.2 rfl⟩
/-- the old fragments embed -/
example : AbsFrag2 q2 := Theorems.C13.C13_absFrag_embeds q2_abs
example : RelFrag2 p2 := Theorems.C13.C13_relFrag_embeds p2_rel

end XPathV.Theorems.NonVacuity.C13
