import XPathV.Theorems.C14
import XPathV.Theorems.NonVacuity.Common
/-!
# Non-vacuity of the C14 theorems

A namespaced document `dN` (7 nodes, one namespaced attribute, two prefixes, an unprefixed element
with the same local name) and its re-prefixed copy; expressions compiled under a namespace map.
`Lemmas/NameSem.lean` (`ex_bound` … `ex_prefix_star`) shows what `compile` yields on eight texts; here
the *hypotheses of the theorems* are discharged.
-/
namespace XPathV.Theorems.NonVacuity.C14
open XPathV XPathV.Model XPathV.Theorems.NonVacuity XPathV.PosSem
open XPathV.PathSem XPathV.NameSem

attribute [local instance] toyAlg

/-- `<r xmlns:p="urn:x" xmlns:q="urn:y"><p:a p:k="1">t</p:a><q:a/><a/><p:b/></r>` -/
def dN : Doc :=
  [⟨0, .root, "", "", "", "", []⟩,
   ⟨1, .elem, "", "r", "", "", []⟩,
   ⟨2, .elem, "p", "a", "urn:x", "", [⟨"p", "k", "urn:x", "1"⟩]⟩,
   ⟨3, .text, "", "", "", "t", []⟩,
   ⟨2, .elem, "q", "a", "urn:y", "", []⟩,
   ⟨2, .elem, "", "a", "", "", []⟩,
   ⟨2, .elem, "p", "b", "urn:x", "", []⟩]

theorem wf_dN : WF dN := wf_of_wfb (by decide)
theorem hashInj_dN : HashInj dN {} := hashInj_of_hashInjB (by decide +kernel)

/-- the same document written with other prefixes (`p ↦ zz`, `q ↦ p`) -/
def reP (s : String) : String := if s == "p" then "zz" else if s == "q" then "p" else s
def dN' : Doc := rePrefix reP dN
theorem hashInj_dN' : HashInj dN' {} := hashInj_of_hashInjB (by decide +kernel)
example : prefixOf dN' (.node 2) = "zz" ∧ prefixOf dN' (.node 4) = "p" ∧ nsURL dN' (.node 2) = "urn:x" := by
  decide +kernel

/-- the expression's namespace map: the *expression* calls the namespace `n` -/
def nsMap : List (String × String) := [("n", "urn:x")]

abbrev stepN (axis : String) (mt : NType) (l : String) : AxisInfo := ⟨axis, mt, "n", l, "", true, "urn:x"⟩

/-! ## `C14_main`: `/r/n:a/@n:k` -/

def p1 : Ast := .axis (stepN "attribute" .attr "k") (.axis (stepN "child" .elem "a") (.axis (chE "r") (.root "/")))

theorem p1_parsed : parse (fuelFor "/r/n:a/@n:k".toList) (defaultCfg (some nsMap)) "/r/n:a/@n:k".toList = .ok p1 := by
  -- the literal is `String.ofList` of its characters; `String.toList` on it would decode the bytes
  rw [defaultCfg_lit,
    show "/r/n:a/@n:k" = String.ofList ['/', 'r', '/', 'n', ':', 'a', '/', '@', 'n', ':', 'k'] from rfl,
    String.toList_ofList]
  exact ApiSem.parsesTo_eq (by decide +kernel)

theorem p1_namePath : NamePath (some nsMap) p1 :=
  .axis _ _ "attribute" .attr "n" "k"
    (.axis _ _ "child" .elem "n" "a"
      (.axis _ _ "child" .elem "" "r" (.root _) List.mem_cons_self (by decide) (by decide) rfl)
      List.mem_cons_self (by decide) (by decide) rfl)
    (atA_axis "") (by decide) (by decide) rfl

/-- **`C14_main`**: every hypothesis discharged; the bound test `n:a` selects `p:a` only (not `q:a`,
not the unprefixed `a`), and `@n:k` its attribute -/
theorem C14_main_instance : ∃ (o : BOut), ∃ out, sel (F := Int) dN {} o.q (.node 0) = .ok out ∧
    (∀ x, x ∈ refs out ↔ x ∈ [Ref.attr 2 0]) ∧ (∀ x, x ∈ refs out ↔ nameDen dN p1 (.node 0) x) := by
  obtain ⟨o, hb⟩ : ∃ o, build (fun _ => true) 100 true false p1 {} {} = .ok o := exists_ok_of_isOk (by decide +kernel)
  obtain ⟨out, nodes, g, h1, h2, h3, h4⟩ := Theorems.C14.C14_main (F := Int) wf_dN {} rfl hashInj_dN
    (fun _ => true) 100 false (some nsMap) p1 p1_namePath {} o hb (.node 0) (by decide)
  have e := value_of_eval h2 (v' := .nodes [.attr 2 0]) (by decide +kernel)
  cases e
  exact ⟨o, out, h1, h3, h4⟩

/-! ## `C14_document_prefixes_irrelevant`: `descendant::n:a/@n:k` on `dN` and on `dN'` -/

def p2 : Ast := .axis (stepN "attribute" .attr "k") (.axis (stepN "descendant" .elem "a") .none)
theorem p2_namePath : NamePath (some nsMap) p2 :=
  .axis _ _ "attribute" .attr "n" "k"
    (.axis _ _ "descendant" .elem "n" "a" .none (List.mem_cons_of_mem _ List.mem_cons_self) (by decide) (by decide) rfl)
    (atA_axis "") (by decide) (by decide) rfl

/-- **`C14_document_prefixes_irrelevant`** (`WF`, `SameNames` from `rePrefix_same`, two `HashInj`, `NamePath`,
`AllBound`, `build = .ok`, `validRef`) -/
theorem C14_document_prefixes_irrelevant_instance : ∃ (o : BOut), ∃ out₁ out₂,
    sel (F := Int) dN {} o.q (.node 0) = .ok out₁ ∧ sel (F := Int) dN' {} o.q (.node 0) = .ok out₂ ∧
    ∀ x, x ∈ refs out₁ ↔ x ∈ refs out₂ := by
  obtain ⟨o, hb⟩ : ∃ o, build (fun _ => true) 100 true false p2 {} {} = .ok o := exists_ok_of_isOk (by decide +kernel)
  obtain ⟨o1, o2, h⟩ := Theorems.C14.C14_document_prefixes_irrelevant (F := Int) wf_dN (rePrefix_same reP dN) {}
    rfl hashInj_dN hashInj_dN' (fun _ => true) 100 false (some nsMap) p2 p2_namePath ⟨rfl, rfl, trivial⟩ {} o hb
    (.node 0) (by decide)
  exact ⟨o, o1, o2, h⟩
example : Spec.evalTop (F := Int) dN p2 (.node 0) = .ok (.nodes [.attr 2 0]) ∧
    Spec.evalTop (F := Int) dN' p2 (.node 0) = .ok (.nodes [.attr 2 0]) := by decide +kernel

/-! ## single steps -/

/-- `C14_step_without_map`: `child::a` from `r` matches only the *unprefixed* `a` -/
example : ∃ out, sel (F := Int) dN {} (stepPlan ⟨"child", .elem, "", "a", "", false, ""⟩ .context) (.node 1) = .ok out ∧
    ∀ x, x ∈ refs out ↔ (x ∈ (Spec.axisNodes dN "child" (.node 1)).getD [] ∧
      nodeType dN x = .elem ∧ prefixOf dN x = "" ∧ localName dN x = "a") :=
  Theorems.C14.C14_step_without_map (F := Int) wf_dN {} hashInj_dN "child" List.mem_cons_self .elem (by decide) "" "a"
    (by decide) (.node 1) (by decide)
/-- `C14_step_with_map` -/
example := Theorems.C14.C14_step_with_map (F := Int) wf_dN {} hashInj_dN rfl "child" List.mem_cons_self .elem (by decide)
  "n" "a" "urn:x" (by decide) (.node 1) (by decide)
/-- `C14_step_with_map_no_uri_interface` (`cfg.nsIface = false`; `HashInj` for that configuration) -/
example := Theorems.C14.C14_step_with_map_no_uri_interface (F := Int) wf_dN { nsIface := false }
  (hashInj_of_hashInjB (by decide +kernel)) rfl "child" List.mem_cons_self .elem (by decide)
  "p" "a" "urn:x" (by decide) (.node 1) (by decide)

/-! ## node-test lemmas -/

example := Theorems.C14.nametest_noNS dN {} ⟨"child", .elem, "p", "a", "", false, ""⟩ (.node 2) rfl (by decide)
example : prefixOf dN (.node 5) = "" :=
  Theorems.C14.unprefixed_matches_unprefixed dN {} ⟨"child", .elem, "", "a", "", false, ""⟩ (.node 5) rfl
    (by decide) rfl (by decide +kernel)
example := Theorems.C14.nametest_NS dN {} (stepN "child" .elem "a") (.node 2) rfl rfl (by decide)
example := Theorems.C14.nodeTest_spec dN {} (stepN "child" .elem "a") (.node 2) rfl (by decide)
example := Theorems.C14.nametest_prefix_wildcard dN {} "child" .elem "n" "" "urn:x" true (by decide) (by decide) (.node 6)
example := Theorems.C14.namespace_uri_first (F := Int) dN {} (.node 0) (.node 2) [] rfl []

/-! ## parser: `C14_parser_records`, `unbound_prefix_error`, `C14_unbound_prefix_from_text` -/

/-- the state at the name token of `p:a` -/
def sPA : Scan := okVal (Scan.init "p:a".toList)
def stPA : PState := ⟨sPA, 1⟩
theorem init_PA : Scan.init "p:a".toList = .ok sPA := eq_ok_okVal (by decide +kernel)
theorem next_PA : stPA.next = .ok (okVal stPA.next) := eq_ok_okVal (by decide +kernel)
theorem nextItem_PA : sPA.nextItem = .ok (okVal sPA.nextItem) := eq_ok_okVal (by decide +kernel)

/-- `C14_parser_records` (`ht`, `hnf`, `hnext`) under a map binding `p` -/
example := Theorems.C14.C14_parser_records (defaultCfg (some [("p", "urn:x")])) .none "child" .elem stPA _
  (by decide +kernel) (by decide +kernel) next_PA

/-- `unbound_prefix_error` (`cfg.ns = some m`, `ht`, `hnf`, `hp`, `hl`, `hnext`) under a map that binds only `q` -/
example : parseNodeTest (defaultCfg (some [("q", "urn:y")])) .none "child" .elem stPA = .error .prefixUndefined :=
  Theorems.C14.unbound_prefix_error (defaultCfg (some [("q", "urn:y")])) [("q", "urn:y")] .none "child" .elem stPA _
    rfl (by decide +kernel) (by decide +kernel) (by decide +kernel) (by decide +kernel) next_PA

/-- **`C14_unbound_prefix_from_text`** (seven hypotheses about the scanner states of the text `p:a`) -/
theorem C14_unbound_prefix_from_text_instance :
    compile {} (some [("q", "urn:y")]) "p:a".toList = .error (.parse .prefixUndefined) :=
  Theorems.C14.C14_unbound_prefix_from_text {} [("q", "urn:y")] "p:a".toList sPA _ init_PA (by decide +kernel)
    (by decide +kernel) nextItem_PA (by decide +kernel) (by decide +kernel) (by decide +kernel)

/-! ## name functions -/

/-- `C14_name_functions_no_argument`: `name()` at `p:a` -/
example : ∃ (o : BOut), evalP (F := Int) dN {} o.q (.node 2) = .ok (.str "p:a") := by
  obtain ⟨o, hb⟩ : ∃ o, build (fun _ => true) 100 true false (.call "name" "" .anil) {} {} = .ok o :=
    exists_ok_of_isOk (by decide +kernel)
  have h := (Theorems.C14.C14_name_functions_no_argument (F := Int) dN {} rfl (fun _ => true) 100 true false
    "name" "" List.mem_cons_self {} {} o hb (.node 2) 1 1).1
  have e : specName dN "name" (.node 2) = "p:a" := by decide +kernel
  rw [e] at h; exact ⟨o, h⟩

/-- **`C14_name_functions_nodeset_argument`**: `name(*/@*)` from `r` is the name of the first attribute -/
theorem C14_name_functions_nodeset_argument_instance :
    ∃ (o : BOut), evalP (F := Int) dN {} o.q (.node 1) = .ok (.str "p:k") := by
  obtain ⟨o, hb⟩ : ∃ o, build (fun _ => true) 100 true false
      (.call "name" "" (.acons (.axis (atA "") (.axis (chE "") .none)) .anil)) {} {} = .ok o :=
    exists_ok_of_isOk (by decide +kernel)
  obtain ⟨ns, g, h1, _, h3, _⟩ := Theorems.C14.C14_name_functions_nodeset_argument (F := Int) wf_dN {} rfl
    hashInj_dN (fun _ => true) 100 false "name" "" List.mem_cons_self (.axis (atA "") (.axis (chE "") .none))
    (.cons _ _ (atA_flat _) (.step _ (chE_flat _))) {} {} o hb (.node 1) (by decide) 1 1
  have e := value_of_eval h1 (v' := .nodes [.attr 2 0]) (by decide +kernel)
  cases e
  have e2 : firstOr (specName dN "name") [.attr 2 0] = "p:k" := by decide +kernel
  rw [e2] at h3
  exact ⟨o, h3⟩

end XPathV.Theorems.NonVacuity.C14
