import XPathV.Theorems.C10
import XPathV.Theorems.NonVacuity.Common
import XPathV.Theorems.NonVacuity.C10PathShape
/-!
# Non-vacuity of the C10 theorems

The parser theorems take a successful run (`parseExpression … = .ok (a, st')`, `parseChain …`,
`parse … = .ok a`) as hypothesis; the full-grammar theorems take `tokVsRel text toks`,
`refParseFull ns toks = some b` / `Parses ns toks b` and `nesting b < 200`.  `Lemmas/ParserGrammar.lean`
and `Spec/FullGrammar.lean` hold examples on *token lists*; here the hypotheses are discharged
starting from expression *texts* through the real scanner.
-/
namespace XPathV.Theorems.NonVacuity.C10
open XPathV XPathV.Model XPathV.Theorems.NonVacuity
open XPathV.Spec.Grammar XPathV.Lemmas.ParserGrammar XPathV.Lemmas.ParserShape
open XPathV.Bridge XPathV.Spec.Full XPathV.Lemmas.ParserFull

/-- the parser state at the first token of a text -/
def stOf (t : String) : PState := ⟨okVal (Scan.init t.toList), 0⟩

abbrev cfg0 : PCfg := defaultCfg none

/-- the forms in which the kernel runs the parser: stage list written out, text as a character
list (see `litCfg`, `parsesTo_of`) -/
theorem cfg0_lit : cfg0 = litCfg none := defaultCfg_lit none
theorem stOf_lit (l : List Char) : stOf (String.ofList l) = ⟨okVal (Scan.init l), 0⟩ := by
  rw [stOf, String.toList_ofList]

/-! ## `parseExpression` / `parse` succeed: `C10_main`, `C10_whole_text`, `parse_tree_stratified` -/

def t1 : String := "1 + 2 * -3 - 4 < 5 or a | b and c"
/-- `((1 + (2 * -3)) - 4 < 5) or ((a | b) and c)` -/
def l1 : Ast :=
  .oper "<" (.oper "-" (.oper "+" (.num "1") (.oper "*" (.num "2") (.oper "*" (.num "3") (.num "-1")))) (.num "4"))
    (.num "5")
def r1 : Ast := .oper "and" (.oper "|" (.axis (chE "a") .none) (.axis (chE "b") .none)) (.axis (chE "c") .none)
def a1 : Ast := .oper "or" l1 r1

/-- one run of `parseExpression` on `t1`: it succeeds, with the tree `a1` -/
theorem run1_fst : parseExpression 400 cfg0 (stOf t1) =
    .ok (a1, (okVal (parseExpression 400 cfg0 (stOf t1))).2) :=
  eq_ok_fst (by rw [cfg0_lit, t1, stOf_lit]; decide +kernel)

theorem run1_tree : (okVal (parseExpression 400 cfg0 (stOf t1))).1 = a1 :=
  congrArg (fun r => (okVal r).1) run1_fst

theorem run1 : parseExpression 400 cfg0 (stOf t1) =
    .ok ((okVal (parseExpression 400 cfg0 (stOf t1))).1, (okVal (parseExpression 400 cfg0 (stOf t1))).2) := by
  rw [run1_tree]; exact run1_fst

theorem t1_parsed : ParsesTo t1 a1 := parsesTo_of (by decide +kernel)

/-- **`C10_main`**: the hypothesis holds for `1 + 2 * -3 - 4 < 5 or a | b and c`; the tree is the one
of every derivation of the consumed chain -/
theorem C10_main_instance : ∃ ts, (∃ e, Derives 0 ts e) ∧ ∀ e, Derives 0 ts e → a1 = e.toAst := by
  obtain ⟨ts, st'', _, _, h3, h4⟩ := Theorems.C10.C10_main run1
  rw [run1_tree] at h4
  exact ⟨ts, h3, h4⟩

/-- **`C10_whole_text`** -/
theorem C10_whole_text_instance : ∃ ts, (∃ e, Derives 0 ts e) ∧ ∀ e, Derives 0 ts e → a1 = e.toAst := by
  obtain ⟨s, ts, st', _, _, _, h3, h4⟩ := Theorems.C10.C10_whole_text t1_parsed
  exact ⟨ts, h3, h4⟩

/-- **`parse_tree_stratified`** -/
theorem strat1 : Strat cfg0 stages a1 := by
  have := Theorems.C10.parse_tree_stratified run1
  rwa [run1_tree] at this

/-- **`operands_never_looser`** at the root `or` node.  Its hypothesis `¬ FromPath cfg (.oper op l r)`
("the node is not itself a primary") is discharged with `not_fromPath_of_ne_union`
(`C10PathShape.lean`: `parsePathExpr` returns no operator node except the `|` of a step sequence) —
no `¬ FromPath` fact was proved anywhere before.  Conclusion: `<` on the left is not looser than
`or`, `and` on the right is strictly tighter -/
theorem operands_never_looser_instance :
    tierRank "or" ≤ tierRank "<" ∧ (tierRank "or" < tierRank "and" ∨
      ("and" = "*" ∧ Ast.axis (chE "c") .none = .num "-1" ∧ tierRank "or" ≤ 5)) := by
  have h := Theorems.C10.operands_never_looser (cfg := cfg0) (op := "or") (l := l1) (r := r1) strat1
    (not_fromPath_of_ne_union (by decide))
  exact ⟨h.1 "<" _ _ rfl (not_fromPath_of_ne_union (by decide)),
    h.2 "and" _ _ rfl (not_fromPath_of_ne_union (by decide))⟩
example : tierRank "or" = 0 ∧ tierRank "<" = 3 ∧ tierRank "and" = 1 := by decide +kernel

/-! ## tier loop and unary minus: `tier_loop_left_assoc`, `tier_loop_stop`, `unary_encoding`,
`tier_loop_left_nested`, `C10_every_tier` -/

/-- the state at `+` in `+ 2 * 3 - 4` -/
def stPlus : PState := stOf "+ 2 * 3 - 4"
def stAfterPlus : PState := okVal stPlus.next
def mulRest : List Stage := stages.drop 5
theorem next_plus : stPlus.next = .ok stAfterPlus :=
  eq_ok_okVal (by rw [stPlus, stOf_lit]; decide +kernel)
theorem chain_after_plus : parseChain 100 cfg0 mulRest stAfterPlus =
    .ok ((okVal (parseChain 100 cfg0 mulRest stAfterPlus)).1, (okVal (parseChain 100 cfg0 mulRest stAfterPlus)).2) :=
  eq_ok_pair (by rw [cfg0_lit, mulRest, stages_eq, stAfterPlus, stPlus, stOf_lit]; decide +kernel)
example : (okVal (parseChain 100 cfg0 mulRest stAfterPlus)).1 = .oper "*" (.num "2") (.num "3") := by
  rw [cfg0_lit, mulRest, stages_eq, stAfterPlus, stPlus, stOf_lit]; decide +kernel

/-- `tier_loop_left_assoc` (`hop`, `hnext`, `hr`): with accumulator `1` at `+ 2 * 3 - 4` -/
example : tierLoop 101 cfg0 ["+", "-"] mulRest (.num "1") stPlus =
    tierLoop 100 cfg0 ["+", "-"] mulRest
      (.oper "+" (.num "1") (okVal (parseChain 100 cfg0 mulRest stAfterPlus)).1)
      (okVal (parseChain 100 cfg0 mulRest stAfterPlus)).2 :=
  Theorems.C10.tier_loop_left_assoc 100 cfg0 ["+", "-"] mulRest (.num "1") stPlus stAfterPlus _ "+" _
    (by decide +kernel) next_plus chain_after_plus

/-- `tier_loop_stop` (`hop`): at `]` no additive operator follows -/
example : tierLoop 1 cfg0 ["+", "-"] mulRest (.num "1") (stOf "] x") = .ok (.num "1", stOf "] x") :=
  Theorems.C10.tier_loop_stop 0 cfg0 ["+", "-"] mulRest (.num "1") (stOf "] x") (by decide +kernel)

/-- `unary_encoding` (`hm`, `hx`) at `- - - a | b`: three minus signs -/
def stNeg : PState := stOf "- - - a | b"
def unaryRest : List Stage := stages.drop 7
theorem skip_neg : skipMinus 11 stNeg false = .ok ((okVal (skipMinus 11 stNeg false)).1, (okVal (skipMinus 11 stNeg false)).2) :=
  eq_ok_pair (by rw [stNeg, stOf_lit]; decide +kernel)
theorem chain_neg : parseChain 10 cfg0 unaryRest (okVal (skipMinus 11 stNeg false)).2 =
    .ok ((okVal (parseChain 10 cfg0 unaryRest (okVal (skipMinus 11 stNeg false)).2)).1,
         (okVal (parseChain 10 cfg0 unaryRest (okVal (skipMinus 11 stNeg false)).2)).2) :=
  eq_ok_pair (by rw [cfg0_lit, unaryRest, stages_eq, stNeg, stOf_lit]; decide +kernel)
example := Theorems.C10.unary_encoding 10 cfg0 unaryRest stNeg _ _ _ _ skip_neg chain_neg
example : (okVal (skipMinus 11 stNeg false)).1 = true ∧
    (okVal (parseChain 10 cfg0 unaryRest (okVal (skipMinus 11 stNeg false)).2)).1 =
      .oper "|" (.axis (chE "a") .none) (.axis (chE "b") .none) := by
  rw [cfg0_lit, unaryRest, stages_eq, stNeg, stOf_lit]; decide +kernel

/-- `tier_loop_left_nested` (`h`): the additive loop over `+ 2 * 3 - 4` from accumulator `1` -/
theorem loop_run : tierLoop 200 cfg0 ["+", "-"] mulRest (.num "1") stPlus =
    .ok ((okVal (tierLoop 200 cfg0 ["+", "-"] mulRest (.num "1") stPlus)).1,
         (okVal (tierLoop 200 cfg0 ["+", "-"] mulRest (.num "1") stPlus)).2) :=
  eq_ok_pair (by rw [cfg0_lit, mulRest, stages_eq, stPlus, stOf_lit]; decide +kernel)
example := Theorems.C10.tier_loop_left_nested 200 (.num "1") stPlus loop_run
example : (okVal (tierLoop 200 cfg0 ["+", "-"] mulRest (.num "1") stPlus)).1 =
    .oper "-" (.oper "+" (.num "1") (.oper "*" (.num "2") (.num "3"))) (.num "4") := by
  rw [cfg0_lit, mulRest, stages_eq, stPlus, stOf_lit]; decide +kernel

/-- `C10_every_tier` (`hk`, `h`) at tier 4 (additive) on `1 + 2 * 3 - 4` -/
theorem tier4_run : parseChain 200 cfg0 (stages.drop 4) (stOf "1 + 2 * 3 - 4") =
    .ok ((okVal (parseChain 200 cfg0 (stages.drop 4) (stOf "1 + 2 * 3 - 4"))).1,
         (okVal (parseChain 200 cfg0 (stages.drop 4) (stOf "1 + 2 * 3 - 4"))).2) :=
  eq_ok_pair (by rw [cfg0_lit, stages_eq, stOf_lit]; decide +kernel)
example := Theorems.C10.C10_every_tier (k := 4) (by decide) tier4_run

/-- `C10_operator_token_unique` (`h1`, `h2`, `m1`, `m2`): the token `div` -/
example : "div" = "div" :=
  Theorems.C10.C10_operator_token_unique (s := (stOf "div 2").s) (by decide) (by decide)
    (by decide +kernel) (by decide +kernel)

/-- `C10_grammar_unambiguous` (two derivations of one chain; `Lemmas/ParserGrammar.lean:875` ff.
exhibit derivations) -/
example (e : E) (h : Derives 0 [.atom (.num "1"), .op "-", .atom (.num "2"), .op "-", .atom (.num "3")] e) :
    e = .bin "-" (.bin "-" (.atom (.num "1")) (.atom (.num "2"))) (.atom (.num "3")) :=
  Theorems.C10.C10_grammar_unambiguous h (refTier_sound (f := 40) (by decide))

/-! ## the full grammar: `tokVsRel`, `refParseFull = some b` / `Parses`, `nesting b < 200` -/

def t2 : String := "a/b[1] | //c[@k='x' and not(d)]/e[position() < last() - 1] = -3 * (f + count(g))"
/-- the scanner's token stream of `t2`, as the reference grammar's tokens -/
def toks2 : List TokV := (tokVs t2.toList).getD []
/-- the reference parser's tree -/
def b2 : Ast := (refParseFull none toks2).getD .none

/-- scanner and reference parser run once on a text; `P` is checked on the token list and the tree -/
def refCheck (text : List Char) (P : List TokV → Ast → Bool) : Bool :=
  match tokVs text with
  | some ts => (match refParseFull none ts with
    | some b => P ts b
    | none => false)
  | none => false

/-- `ts` and `b` come with their defining equations so that the conclusion mentions them by name -/
theorem refCheck_spec {text : List Char} {ts : List TokV} {b : Ast} {P : List TokV → Ast → Bool}
    (hts : ts = (tokVs text).getD []) (hb : b = (refParseFull none ts).getD .none)
    (h : refCheck text P = true) :
    tokVs text = some ts ∧ refParseFull none ts = some b ∧ P ts b = true := by
  subst hb hts
  unfold refCheck at h
  split at h
  · rename_i ts h1
    split at h
    · rename_i b h2
      simp only [h1, h2, Option.getD_some]
      exact ⟨trivial, trivial, h⟩
    · cases h
  · cases h

theorem t2_chk : refCheck t2.toList (fun ts b => ts.length == 45 && nesting b == 2) = true := by
  rw [t2, String.toList_ofList]; decide +kernel
theorem t2_run : tokVs t2.toList = some toks2 ∧ refParseFull none toks2 = some b2 ∧
    toks2.length = 45 ∧ nesting b2 = 2 := by
  have h := refCheck_spec (ts := toks2) (b := b2) rfl rfl t2_chk
  exact ⟨h.1, h.2.1, by simpa using h.2.2⟩

theorem toks2_ok : tokVs t2.toList = some toks2 := t2_run.1
theorem toks2_len : toks2.length = 45 := t2_run.2.2.1
theorem b2_ok : refParseFull none toks2 = some b2 := t2_run.2.1
theorem b2_nesting : nesting b2 = 2 := t2_run.2.2.2

theorem htoks2 : tokVsRel t2.toList toks2 := Theorems.C10.C10_full_grammar_driver_tokens toks2_ok

/-- **`C10_full_grammar_complete`**: all three hypotheses discharged from the text -/
theorem C10_full_grammar_complete_instance :
    ∃ a, parse (fuelFor t2.toList) cfg0 t2.toList = .ok a ∧ normConv a = normConv b2 :=
  Theorems.C10.C10_full_grammar_complete htoks2 b2_ok (by rw [b2_nesting]; decide)

/-- **`C10_full_grammar_tree`** -/
theorem C10_full_grammar_tree_instance :
    ∃ a, parse (fuelFor t2.toList) cfg0 t2.toList = .ok a ∧ normConv a = normConv b2 ∧ Parses none toks2 b2 :=
  Theorems.C10.C10_full_grammar_tree htoks2 b2_ok (by rw [b2_nesting]; decide)

/-- **`C10_grammar_tree_is_parsed`** (`Parses` from `C10_reference_parser_decides_grammar`) -/
theorem C10_grammar_tree_is_parsed_instance :
    ∃ a, parse (fuelFor t2.toList) cfg0 t2.toList = .ok a ∧ normConv a = normConv b2 :=
  Theorems.C10.C10_grammar_tree_is_parsed htoks2 (Theorems.C10.C10_reference_parser_decides_grammar.1 b2_ok)
    (by rw [b2_nesting]; decide)

/-- `C10_full_grammar_unambiguous` -/
example (a : Ast) (h : Parses none toks2 a) : a = b2 :=
  Theorems.C10.C10_full_grammar_unambiguous h (Theorems.C10.C10_reference_parser_decides_grammar.1 b2_ok)

/-! ### `C10_full_grammar_reject_only_deep`: 200 nested parentheses -/

/-- `(((…(a)…)))`, 200 deep -/
def deep : List Char := List.replicate 200 '(' ++ ['a'] ++ List.replicate 200 ')'
def toksD : List TokV := (tokVs deep).getD []
def bD : Ast := (refParseFull none toksD).getD .none
theorem deep_chk : refCheck deep (fun _ b => nesting b == 200) = true := by decide +kernel
theorem deep_run : tokVs deep = some toksD ∧ refParseFull none toksD = some bD ∧ nesting bD = 200 := by
  have h := refCheck_spec (ts := toksD) (b := bD) rfl rfl deep_chk
  exact ⟨h.1, h.2.1, by simpa using h.2.2⟩
theorem toksD_ok : tokVs deep = some toksD := deep_run.1
theorem bD_ok : refParseFull none toksD = some bD := deep_run.2.1
theorem deep_err : parse (fuelFor deep) cfg0 deep = .error .tooComplex := by
  rw [cfg0_lit]; decide +kernel

/-- **`C10_full_grammar_reject_only_deep`** (`htoks`, `href`, `herr` all hold for the 200-deep text) -/
theorem C10_full_grammar_reject_only_deep_instance : PErr.tooComplex = .tooComplex ∧ 200 ≤ nesting bD :=
  Theorems.C10.C10_full_grammar_reject_only_deep (Theorems.C10.C10_full_grammar_driver_tokens toksD_ok)
    bD_ok deep_err
example : nesting bD = 200 := deep_run.2.2

/-- … and 199 deep is accepted (the bound of `C10_full_grammar_complete` is sharp) -/
example : (parse (fuelFor (List.replicate 199 '(' ++ ['a'] ++ List.replicate 199 ')')) cfg0
    (List.replicate 199 '(' ++ ['a'] ++ List.replicate 199 ')')).isOk = true := by
  rw [cfg0_lit]; decide +kernel

/-- a small text with the token list and the tree spelled out -/
example : tokVs "a/b[1]".toList =
      some [Spec.Full.nm "a", TokV.slash, Spec.Full.nm "b", TokV.lbracket, TokV.num "1", TokV.rbracket] ∧
    refParseFull none [Spec.Full.nm "a", TokV.slash, Spec.Full.nm "b", TokV.lbracket, TokV.num "1", TokV.rbracket] =
      some (.filter (child "b" (child "a")) (.num "1")) := by decide +kernel

end XPathV.Theorems.NonVacuity.C10

