import XPathV.Theorems.C07
import XPathV.Theorems.NonVacuity.Common
/-!
# Non-vacuity of the C07 theorems
-/
namespace XPathV.Theorems.NonVacuity.C07
open XPathV XPathV.Model XPathV.Theorems.NonVacuity XPathV.PosSem
open XPathV.PathSem XPathV.CmpSem

attribute [local instance] toyAlg

def dosRoot : Ast := .axis dosAll (.root "//")
/-- `//a/@x`, `//b/@y`, `//c`, `//a` -/
def pAX : Ast := .axis (atA "x") (.axis (chE "a") dosRoot)
def pBY : Ast := .axis (atA "y") (.axis (chE "b") dosRoot)
def pC : Ast := .axis (chE "c") dosRoot
def pA : Ast := .axis (chE "a") dosRoot

theorem dosRoot_pf : PathPF dosRoot := .axis _ _ (.root _) (dosAll_axis)
theorem pAX_pf : PathPF pAX := .axis _ _ (.axis _ _ dosRoot_pf (chE_axis _)) (atA_axis _)
theorem pBY_pf : PathPF pBY := .axis _ _ (.axis _ _ dosRoot_pf (chE_axis _)) (atA_axis _)
theorem pC_pf : PathPF pC := .axis _ _ dosRoot_pf (chE_axis _)
theorem pA_pf : PathPF pA := .axis _ _ dosRoot_pf (chE_axis _)

/-- `//a/@x = 1 and (//b/@y > 2 or not(//c)) and //a = 't'` -/
def e1 : Ast :=
  .oper "and"
    (.oper "and" (.oper "=" pAX (.num "1"))
      (.group (.oper "or" (.oper ">" pBY (.num "2")) (.call "not" "" (.acons pC .anil)))))
    (.oper "=" pA (.str "t"))

theorem e1_parsed : ParsesTo "//a/@x = 1 and (//b/@y > 2 or not(//c)) and //a = 't'" e1 :=
  parsesTo_of (by decide +kernel)

theorem e1_xexp : XExp .bool e1 :=
  .and _ _ _ _
    (.and _ _ _ _ (.cmp "=" .eq .set .num _ _ rfl (.path _ pAX_pf) (.num _))
      (.group _ _ (.or _ _ _ _ (.cmp ">" .gt .set .num _ _ rfl (.path _ pBY_pf) (.num _))
        (.not .set _ _ (.path _ pC_pf)))))
    (.cmp "=" .eq .set .str _ _ rfl (.path _ pA_pf) (.str _))

/-- **`C07_main`**: every hypothesis discharged; both sides give `true` -/
theorem C07_main_instance : ∃ (o : BOut), build (fun _ => true) 100 true false e1 {} {} = .ok o ∧
    evalP (F := Int) d0 {} o.q (.node 0) = .ok (.bool true) := by
  obtain ⟨o, hb⟩ : ∃ o, build (fun _ => true) 100 true false e1 {} {} = .ok o :=
    exists_ok_of_isOk (by decide +kernel)
  obtain ⟨t, h1, h2⟩ := Theorems.C07.C07_main (F := Int) wf_d0 {} rfl hashInj_d0 (.node 0) (by decide)
    (fun _ => true) 100 false e1 e1_xexp {} o hb
  have e : Spec.evalTop (F := Int) d0 e1 (.node 0) = .ok (.bool true) := by decide +kernel
  rw [e] at h2; cases h2
  exact ⟨o, hb, h1⟩

/-- `r/c` -/
def pRC : Ast := .axis (chE "c") (.axis (chE "r") .none)
/-- `not()` of a number and of a string:
`not(count(r/c)) and not('') and not(1 - 1) and not(concat('', ''))` — every conjunct is true
(`count(r/c)` is 0); `notFunc` before its repair answered `false` to each of them -/
def e3 : Ast :=
  .oper "and"
    (.oper "and"
      (.oper "and" (.call "not" "" (.acons (.call "count" "" (.acons pRC .anil)) .anil))
        (.call "not" "" (.acons (.str "") .anil)))
      (.call "not" "" (.acons (.oper "-" (.num "1") (.num "1")) .anil)))
    (.call "not" "" (.acons (.call "concat" "" (.acons (.str "") (.acons (.str "") .anil))) .anil))

theorem e3_parsed : ParsesTo "not(count(r/c)) and not('') and not(1 - 1) and not(concat('', ''))" e3 :=
  parsesTo_of (by decide +kernel)

theorem e3_xexp : XExp .bool e3 :=
  .and _ _ _ _
    (.and _ _ _ _
      (.and _ _ _ _
        (.not .num _ _ (.numE _ (.count _ _ (.cons _ _ (by decide) (.step _ (by decide))))))
        (.not .str _ _ (.str _)))
      (.not .num _ _ (.numE _ (.arith "-" _ _ (by decide) (.num _) (.num _)))))
    (.not .str _ _ (.strE _ (.concat "" [.str "", .str ""] (by decide)
      (by intro a ha; simp only [List.mem_cons, List.not_mem_nil, or_false] at ha
          rcases ha with rfl | rfl <;> exact .lit _))))

/-- **`C07_main`** on `not()` of numbers and strings: both sides give `true` -/
theorem C07_main_not_instance : ∃ (o : BOut), build (fun _ => true) 100 true false e3 {} {} = .ok o ∧
    evalP (F := Int) d0 {} o.q (.node 0) = .ok (.bool true) := by
  obtain ⟨o, hb⟩ : ∃ o, build (fun _ => true) 100 true false e3 {} {} = .ok o :=
    exists_ok_of_isOk (by decide +kernel)
  obtain ⟨t, h1, h2⟩ := Theorems.C07.C07_main (F := Int) wf_d0 {} rfl hashInj_d0 (.node 0) (by decide)
    (fun _ => true) 100 false e3 e3_xexp {} o hb
  have e : Spec.evalTop (F := Int) d0 e3 (.node 0) = .ok (.bool true) := by decide +kernel
  rw [e] at h2; cases h2
  exact ⟨o, hb, h1⟩

/-- `not(7 mod 2 - 1)`: `mod` inside the oracle's domain (`C07_main_full`) -/
def e4 : Ast := .call "not" "" (.acons (.oper "-" (.oper "mod" (.num "7") (.num "2")) (.num "1")) .anil)

theorem e4_parsed : ParsesTo "not(7 mod 2 - 1)" e4 := parsesTo_of (by decide +kernel)

theorem e4_xexp : XExpG (ArithSem.NumEF d0 ⟨.node 0, 1, 1⟩ Int) StringFns.StrE .bool e4 :=
  .not .num _ _ (.numE _ (.arith "-" _ _ (by decide)
    (.mod _ _ (.num _) (.num _) (by
      intro x y ga gb hx hy
      rw [PredSem.eval_num] at hx hy
      cases hx; cases hy
      decide +kernel))
    (.num _)))

/-- **`C07_main_full`**: every hypothesis discharged (`ModDom` included); both sides give `true` -/
theorem C07_main_full_instance : ∃ (o : BOut), build (fun _ => true) 100 true false e4 {} {} = .ok o ∧
    evalP (F := Int) d0 {} o.q (.node 0) = .ok (.bool true) := by
  obtain ⟨o, hb⟩ : ∃ o, build (fun _ => true) 100 true false e4 {} {} = .ok o :=
    exists_ok_of_isOk (by decide +kernel)
  obtain ⟨t, h1, h2⟩ := Theorems.C07.C07_main_full (F := Int) wf_d0 {} rfl hashInj_d0 (.node 0) (by decide)
    (fun _ => true) 100 false e4 e4_xexp {} o hb
  have e : Spec.evalTop (F := Int) d0 e4 (.node 0) = .ok (.bool true) := by decide +kernel
  rw [e] at h2; cases h2
  exact ⟨o, hb, h1⟩

/-- **`C07_not_any_type`** (no hypothesis): `not(0)`, `not('')`, `not('x')` -/
example : callFn (F := Int) d0 {} "not" .nil (.node 0) [.ok (.num 0)] none = .ok (.bool true) :=
  (Theorems.C07.C07_not_any_type (F := Int) d0 {} .nil (.node 0) ⟨.node 0, 1, 1⟩ (.num 0) none).1
example : callFn (F := Int) d0 {} "not" .nil (.node 0) [.ok (.str "")] none = .ok (.bool true) :=
  (Theorems.C07.C07_not_any_type (F := Int) d0 {} .nil (.node 0) ⟨.node 0, 1, 1⟩ (.str "") none).1
example : callFn (F := Int) d0 {} "not" .nil (.node 0) [.ok (.str "x")] none = .ok (.bool false) :=
  (Theorems.C07.C07_not_any_type (F := Int) d0 {} .nil (.node 0) ⟨.node 0, 1, 1⟩ (.str "x") none).1

/-- `//a/@x = 1 and not(//b/@y < 2)` (the property's own fragment `BExp`) -/
def e2 : Ast :=
  .oper "and" (.oper "=" pAX (.num "1")) (.call "not" "" (.acons (.oper "<" pBY (.num "2")) .anil))

theorem e2_parsed : ParsesTo "//a/@x = 1 and not(//b/@y < 2)" e2 := parsesTo_of (by decide +kernel)

theorem e2_bexp : BExp e2 :=
  .and _ _ (.cmp _ (.mk "=" .eq _ _ rfl (.path _ pAX_pf) (.num _)))
    (.not _ _ (.cmp _ (.mk "<" .lt _ _ rfl (.path _ pBY_pf) (.num _))))

/-- **`C07_listed_pairs`** -/
theorem C07_listed_pairs_instance : ∃ (o : BOut), build (fun _ => true) 100 true false e2 {} {} = .ok o ∧
    evalP (F := Int) d0 {} o.q (.node 0) = .ok (.bool true) := by
  obtain ⟨o, hb⟩ : ∃ o, build (fun _ => true) 100 true false e2 {} {} = .ok o :=
    exists_ok_of_isOk (by decide +kernel)
  obtain ⟨t, h1, h2⟩ := Theorems.C07.C07_listed_pairs (F := Int) wf_d0 {} rfl hashInj_d0 (.node 0) (by decide)
    (fun _ => true) 100 false e2 e2_bexp {} o hb
  have e : Spec.evalTop (F := Int) d0 e2 (.node 0) = .ok (.bool true) := by decide +kernel
  rw [e] at h2; cases h2
  exact ⟨o, hb, h1⟩

/-- **`C07_comparison_value`** on `//a = 't'` (node-set / string, existential): `true`, from the
two-element node-set `{a[1], a[2]}` -/
theorem C07_comparison_value_instance : ∃ (o : BOut),
    evalP (F := Int) d0 {} o.q (.node 0) =
      .ok (.bool (Spec.compare (F := Int) d0 .eq (.nodes [.node 2, .node 6]) (.str "t"))) ∧
    Spec.compare (F := Int) d0 .eq (.nodes [.node 2, .node 6]) (.str "t") = true := by
  obtain ⟨o, hb⟩ : ∃ o, build (fun _ => true) 100 true false (.oper "=" pA (.str "t")) {} {} = .ok o :=
    exists_ok_of_isOk (by decide +kernel)
  obtain ⟨va, vb, ga, gb, h1, h2, h3, _⟩ := Theorems.C07.C07_comparison_value (F := Int) wf_d0 {} rfl
    hashInj_d0 (.node 0) (by decide) (fun _ => true) 100 false "=" .eq pA (.str "t") rfl (.path _ pA_pf)
    (.str _) {} o hb
  have ea := value_of_eval h1 (v' := .nodes [.node 2, .node 6]) (by decide +kernel)
  have eb := value_of_eval h2 (v' := .str "t") (by decide +kernel)
  subst ea eb
  exact ⟨o, h3, by decide +kernel⟩

/-- **`C07_cells`** (`VRel`, `VRel`): the engine holds the node list in another order than
the oracle; `{@x='1', @x='2'} >= 2` is true -/
example : cmpM (F := Int) d0 .ge (.nodes [.attr 4 0, .attr 2 0]) (.num 2) =
    .ok (Spec.compare (F := Int) d0 .ge (.nodes [.attr 2 0, .attr 4 0]) (.num 2)) :=
  Theorems.C07.C07_cells d0 .ge _ _ (.nodes [.attr 2 0, .attr 4 0]) (.num 2)
    (show ∀ x, x ∈ [Ref.attr 4 0, .attr 2 0] ↔ x ∈ [Ref.attr 2 0, .attr 4 0] by
      intro x; simp only [List.mem_cons, List.not_mem_nil, or_false]; exact Or.comm)
    (show (2 : Int) = 2 from rfl)
example : Spec.compare (F := Int) d0 .ge (.nodes [.attr 2 0, .attr 4 0]) (.num 2) = true := by
  decide +kernel

/-! ## the cells on which the engine differed before the repairs of the Go comparators -/

/-- `//a/@x < //b/@y and '10' > '9' and true() < 2 and '5' < 9`: node-set/node-set, string/string,
boolean/number and string/number under relational operators.  Every conjunct is true in XPath 1.0
and each was **false** in the engine before the repairs (`cmpStringStringF` compared byte-wise:
"1" < "3" holds but "10" > "9" does not — and `cmpBooleanAny` turned `2` into `true`,
`cmpStringNumeric` computed `9 < 5`) -/
def e6 : Ast :=
  .oper "and"
    (.oper "and"
      (.oper "and" (.oper "<" pAX pBY) (.oper ">" (.str "10") (.str "9")))
      (.oper "<" (.call "true" "" .anil) (.num "2")))
    (.oper "<" (.str "5") (.num "9"))

theorem e6_parsed : ParsesTo "//a/@x < //b/@y and '10' > '9' and true() < 2 and '5' < 9" e6 :=
  parsesTo_of (by decide +kernel)

theorem e6_xexp : XExp .bool e6 :=
  .and _ _ _ _
    (.and _ _ _ _
      (.and _ _ _ _ (.cmp "<" .lt .set .set _ _ rfl (.path _ pAX_pf) (.path _ pBY_pf))
        (.cmp ">" .gt .str .str _ _ rfl (.str _) (.str _)))
      (.cmp "<" .lt .bool .num _ _ rfl (.true _) (.num _)))
    (.cmp "<" .lt .str .num _ _ rfl (.str _) (.num _))

/-- **`C07_main`** on these cells: every hypothesis discharged; both sides give `true` -/
theorem C07_main_new_cells_instance : ∃ (o : BOut),
    build (fun _ => true) 100 true false e6 {} {} = .ok o ∧
    evalP (F := Int) d0 {} o.q (.node 0) = .ok (.bool true) := by
  obtain ⟨o, hb⟩ : ∃ o, build (fun _ => true) 100 true false e6 {} {} = .ok o :=
    exists_ok_of_isOk (by decide +kernel)
  obtain ⟨t, h1, h2⟩ := Theorems.C07.C07_main (F := Int) wf_d0 {} rfl hashInj_d0 (.node 0) (by decide)
    (fun _ => true) 100 false e6 e6_xexp {} o hb
  have e : Spec.evalTop (F := Int) d0 e6 (.node 0) = .ok (.bool true) := by decide +kernel
  rw [e] at h2; cases h2
  exact ⟨o, hb, h1⟩

/-- **`C07_every_cell`** on those cells: string/string `>` ("10" > "9": numbers,
not bytes), string/number `<` (operands in order), node-set/string `<` (node on the left),
boolean/number `<` (numbers, not truth values) -/
example : cmpM (F := Int) d0 .gt (.str "10") (.str "9") = .ok true :=
  (Theorems.C07.C07_every_cell_emb (F := Int) d0 .gt (.str "10") (.str "9")).trans (by decide +kernel)
example : cmpM (F := Int) d0 .lt (.str "5") (.num 9) = .ok true :=
  (Theorems.C07.C07_every_cell_emb (F := Int) d0 .lt (.str "5") (.num 9)).trans (by decide +kernel)
example : cmpM (F := Int) d0 .lt (.nodes [.attr 2 0]) (.str "2") = .ok true :=
  (Theorems.C07.C07_every_cell_emb (F := Int) d0 .lt (.nodes [.attr 2 0]) (.str "2")).trans
    (by decide +kernel)
example : cmpM (F := Int) d0 .lt (.bool true) (.num 2) = .ok true :=
  (Theorems.C07.C07_every_cell_emb (F := Int) d0 .lt (.bool true) (.num 2)).trans (by decide +kernel)

/-- `C07_short_circuit` (`hl`): the right operand is the failing plan `.nil` -/
example : evalP (F := Int) d0 {} (.boolean true (.constStr "x") .nil) (.node 0) = .ok (.bool true) :=
  (Theorems.C07.C07_short_circuit (F := Int) d0 {} (.constStr "x") .nil (.node 0) (.str "x")
    (by simp only [evalP])).1 (by decide)

/-- `C07_and_or_any_type` (`hl`, `hr`): a string and a number operand -/
example : evalP (F := Int) d0 {} (.boolean false (.constStr "x") (.constNum "0")) (.node 0) =
    .ok (.bool (Spec.toBool (F := Int) (.str "x") && Spec.toBool (F := Int) (.num (Spec.strToNum "0")))) :=
  (Theorems.C07.C07_and_or_any_type (F := Int) d0 {} (.constStr "x") (.constNum "0") (.node 0)
    (.str "x") (.num (Spec.strToNum "0")) (by simp only [evalP, Theorems.C08.emb])
    (by simp only [evalP, Theorems.C08.emb])).2

end XPathV.Theorems.NonVacuity.C07


/-! ## C07 over filtered paths: `C07_main_filtered_paths` -/
namespace XPathV.Theorems.NonVacuity.C07
open XPathV XPathV.Model XPathV.Theorems.NonVacuity XPathV.PosSem
open XPathV.PathSem XPathV.CmpSem XPathV.CmpSem2 XPathV.PredSem2

attribute [local instance] toyAlg

/-- `//a[@x]` -/
def fAX : Ast := .filter pA (.axis (atA "x") .none)
/-- `//b[count(*) = 0]` -/
def fB0 : Ast := .filter (.axis (chE "b") dosRoot)
  (.oper "=" (.call "count" "" (.acons (.axis (chE "") .none) .anil)) (.num "0"))
/-- `a[b < c]` -/
def fLt : Ast := .filter (.axis (chE "a") .none)
  (.oper "<" (.axis (chE "b") .none) (.axis (chE "c") .none))

theorem dosRoot_frag2 : Frag2 true dosRoot := .axis _ _ (.root _) (dosAll_axis)
theorem fAX_frag2 : Frag2 true fAX :=
  .filter _ _ (.axis _ _ dosRoot_frag2 (chE_axis _)) (.exist _ (.axis _ _ .none (atA_axis _)))
theorem fB0_frag2 : Frag2 true fB0 :=
  .filter _ _ (.axis _ _ dosRoot_frag2 (chE_axis _))
    (.countR _ _ _ _ (by decide) (.axis _ _ .none (chE_axis _)) (.axis _ _ (by decide) .none))
theorem fLt_frag2 : Frag2 true fLt :=
  .filter _ _ (.axis _ _ .none (chE_axis _))
    (.cmpPath _ _ _ (by decide) (.axis _ _ .none (chE_axis _)) (.axis _ _ .none (chE_axis _)))

/-- `//a[@x] = //b[count(*) = 0] or not(a[b < c])` -/
def eF1 : Ast := .oper "or" (.oper "=" fAX fB0) (.call "not" "" (.acons fLt .anil))

theorem eF1_parsed : ParsesTo "//a[@x] = //b[count(*) = 0] or not(a[b < c])" eF1 :=
  parsesTo_of (by decide +kernel)

theorem eF1_xexp2 : XExp2F d0 (.node 1) Int .bool eF1 :=
  .or _ _ _ _ (.cmp "=" .eq .set .set _ _ rfl (.path _ fAX_frag2) (.path _ fB0_frag2))
    (.not .set _ _ (.path _ fLt_frag2))

/-- **`C07_main_filtered_paths`** at `//a[@x] = //b[count(*) = 0] or not(a[b < c])`, context node
`r` of `d0`, every hypothesis discharged.  The comparison is false (the `a` with an `x` attribute
has string-value "t", the childless `b` has "u"), `a[b < c]` is empty, so `not(…)` is true: both
sides give `true` -/
theorem C07_main_filtered_paths_instance :
    ∃ (o : BOut), build (fun _ => true) 100 true false eF1 {} {} = .ok o ∧
    evalP (F := Int) d0 {} o.q (.node 1) = .ok (.bool true) := by
  obtain ⟨o, hb⟩ : ∃ o, build (fun _ => true) 100 true false eF1 {} {} = .ok o :=
    exists_ok_of_isOk (by decide +kernel)
  obtain ⟨t, h1, h2⟩ := Theorems.C07.C07_main_filtered_paths (F := Int) wf_d0 {} rfl hashInj_d0
    (.node 1) (by decide) (fun _ => true) 100 eF1 eF1_xexp2 {} o hb
  have e : Spec.evalTop (F := Int) d0 eF1 (.node 1) = .ok (.bool true) := by decide +kernel
  rw [e] at h2; cases h2
  exact ⟨o, hb, h1⟩

/-- `//a[not(@x)] = 't'`: the predicate decides — `//a = 't'` is true on `d0` (the first `a`), the
filtered comparison is false (the `a` without `x` is empty) -/
def fANX : Ast := .filter pA (.call "not" "" (.acons (.axis (atA "x") .none) .anil))
def eF2 : Ast := .oper "=" fANX (.str "t")

theorem eF2_parsed : ParsesTo "//a[not(@x)] = 't'" eF2 := parsesTo_of (by decide +kernel)

theorem fANX_frag2 : Frag2 true fANX :=
  .filter _ _ (.axis _ _ dosRoot_frag2 (chE_axis _))
    (.not _ _ (.exist _ (.axis _ _ .none (atA_axis _))))

theorem eF2_xexp2 : XExp2 .bool eF2 := .cmp "=" .eq .set .str _ _ rfl (.path _ fANX_frag2) (.str _)

/-- **`C07_main_filtered_paths_doc_independent`** at `//a[not(@x)] = 't'`: both sides give `false`,
while the unfiltered `//a = 't'` is `true` -/
theorem C07_main_filtered_paths_false_instance :
    ∃ (o : BOut), build (fun _ => true) 100 true false eF2 {} {} = .ok o ∧
    evalP (F := Int) d0 {} o.q (.node 0) = .ok (.bool false) ∧
    Spec.evalTop (F := Int) d0 (.oper "=" pA (.str "t")) (.node 0) = .ok (.bool true) := by
  obtain ⟨o, hb⟩ : ∃ o, build (fun _ => true) 100 true false eF2 {} {} = .ok o :=
    exists_ok_of_isOk (by decide +kernel)
  obtain ⟨t, h1, h2⟩ := Theorems.C07.C07_main_filtered_paths_doc_independent (F := Int) wf_d0 {} rfl
    hashInj_d0 (.node 0) (by decide) (fun _ => true) 100 eF2 eF2_xexp2 {} o hb
  have e : Spec.evalTop (F := Int) d0 eF2 (.node 0) = .ok (.bool false) := by decide +kernel
  rw [e] at h2; cases h2
  exact ⟨o, hb, h1, by decide +kernel⟩

/-- `C07_filtered_paths_embeds_main` on the instance of `C07_main` -/
example : XExp2 .bool e1 := Theorems.C07.C07_filtered_paths_embeds_main e1_xexp

end XPathV.Theorems.NonVacuity.C07

