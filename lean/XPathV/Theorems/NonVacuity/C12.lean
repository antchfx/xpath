import XPathV.Lemmas.Pull2Gen.NonVacuity
import XPathV.Theorems.C12
import XPathV.Theorems.NonVacuity.Common
import XPathV.Theorems.NonVacuity.C02
/-!
# Non-vacuity of the C12 theorems
-/
namespace XPathV.Theorems.NonVacuity.C12
open XPathV XPathV.Model XPathV.Theorems.NonVacuity XPathV.PosSem
open XPathV.PathSem XPathV.PredSem XPathV.FlatFiltered

attribute [local instance] toyAlg

/-! ## flat paths with (positional) predicates: `r/*[2]/@*` -/

def pF : Ast := .axis (atA "") (.filter (.axis (chE "") (.axis (chE "r") .none)) (.num "2"))
theorem pF_parsed : ParsesTo "r/*[2]/@*" pF := parsesTo_of (by decide +kernel)
theorem pF_flat : FlatAny pF :=
  .axis _ _ (atA_flat _) (.filter _ _ (.axis _ _ (chE_flat _) (.axis _ _ (chE_flat _) .none)))

/-- the plan the builder makes of it (merge rewrite) -/
def planF : Plan :=
  .attr (atA "") (.merge (.child (chE "r") .context) (.filter (.child (chE "") .context) (.constNum "2")))

def oF : BOut := okVal (build (fun _ => true) 100 true false pF {} {})
theorem oF_run : build (fun _ => true) 100 true false pF {} {} = .ok oF ∧ oF.q = planF :=
  built_plan (by decide +kernel)
theorem oF_built : build (fun _ => true) 100 true false pF {} {} = .ok oF := oF_run.1
theorem oF_plan : oF.q = planF := oF_run.2

theorem planF_sel : sel (F := Int) d0 {} planF (.node 0) = .ok [⟨.attr 4 0, 1, 0⟩, ⟨.attr 4 1, 1, 0⟩] := by
  simp only [planF]; sel_decide

/-- **`C12_flat_with_predicates_sorted`** (`WF`, `FlatAny`, `build = .ok`, `sel = .ok l`): the two
attributes of `b`, in document order -/
theorem C12_flat_with_predicates_sorted_instance :
    ([Ref.attr 4 0, .attr 4 1]).Pairwise (fun a b => Ref.lt a b = true) ∧ ([Ref.attr 4 0, .attr 4 1]).Nodup :=
  Theorems.C12.C12_flat_with_predicates_sorted (F := Int) wf_d0 {} (fun _ => true) 100 true false pF pF_flat
    {} {} oF oF_built (.node 0) [⟨.attr 4 0, 1, 0⟩, ⟨.attr 4 1, 1, 0⟩] (by rw [oF_plan]; exact planF_sel)

/-- **`C12_flat_filtered_is_oracle_list`** on `r/*[@x]/@*` (`FlatFrag`) -/
def pG : Ast := .axis (atA "") (.filter (.axis (chE "") (.axis (chE "r") .none)) (.axis (atA "x") .none))
theorem pG_flatFrag : FlatFrag pG :=
  .axis _ _ (atA_flat _) (.filter _ _ (.axis _ _ (chE_flat _) (.axis _ _ (chE_flat _) .none))
    (.exist _ (.axis _ _ .none (atA_axis _))))
theorem C12_flat_filtered_is_oracle_list_instance : ∃ (o : BOut), ∃ l,
    sel (F := Int) d0 {} o.q (.node 0) = .ok l ∧ refs l = [.attr 2 0, .attr 4 0, .attr 4 1] := by
  obtain ⟨o, hb⟩ : ∃ o, build (fun _ => true) 100 true false pG {} {} = .ok o := exists_ok_of_isOk (by decide +kernel)
  obtain ⟨l, ns, g, h1, _, _, h4, _, h6⟩ := Theorems.C12.C12_flat_filtered_is_oracle_list (F := Int) wf_d0 {} rfl
    hashInj_d0 (fun _ => true) 100 pG pG_flatFrag {} o hb (.node 0) (by decide)
  have e := value_of_eval h4 (v' := .nodes [.attr 2 0, .attr 4 0, .attr 4 1]) (by decide +kernel)
  cases e
  exact ⟨o, l, h1, h6⟩

/-- **`C12_slashslash_sorted`** (`fl.filter = false`, `a.axis = "child"`, `isPlainDos`) on `//a`;
its inner hypotheses (`build = .ok`, `sel = .ok l`) hold as well -/
def oS : BOut := okVal (build (fun _ => true) 100 true false (.axis (chE "a") (.axis dosAll (.root "//"))) {} {})
theorem oS_run : build (fun _ => true) 100 true false (.axis (chE "a") (.axis dosAll (.root "//"))) {} {} = .ok oS ∧
    oS.q = .descendant (chE "a") false .absolute :=
  built_plan (by decide +kernel)
theorem oS_built : build (fun _ => true) 100 true false (.axis (chE "a") (.axis dosAll (.root "//"))) {} {} = .ok oS :=
  oS_run.1
theorem oS_plan : oS.q = .descendant (chE "a") false .absolute := oS_run.2

theorem descA_sel : sel (F := Int) d0 {} (.descendant (chE "a") false .absolute) (.node 0) =
    .ok [⟨.node 2, 1, 2⟩, ⟨.node 6, 2, 2⟩] := by sel_decide
theorem C12_slashslash_sorted_instance :
    ([Ref.node 2, .node 6]).Pairwise (fun a b => Ref.lt a b = true) ∧ ([Ref.node 2, .node 6]).Nodup :=
  (Theorems.C12.C12_slashslash_sorted (F := Int) wf_d0 {} (fun _ => true) 100 true false (chE "a") dosAll {}
    rfl rfl (by decide)).1 "//" {} oS oS_built (.node 0) [⟨.node 2, 1, 2⟩, ⟨.node 6, 2, 2⟩]
    (by rw [oS_plan]; exact descA_sel)

/-- `flat_paths_sorted`, `single_descendant_sorted` -/
example := Theorems.C12.flat_paths_sorted (F := Int) wf_d0 {} (.node 0)
  (p := .attr (atA "") (.child (chE "") (.child (chE "r") .context))) (.attr _ (.child _ (.child _ .context)))
  [⟨.attr 2 0, 1, 0⟩, ⟨.attr 4 0, 1, 0⟩, ⟨.attr 4 1, 1, 0⟩] (by sel_decide)
example := Theorems.C12.single_descendant_sorted (F := Int) wf_d0 {} (chE "a") false 1 (by decide) (.node 0)
  [⟨.node 2, 1, 1⟩, ⟨.node 6, 2, 1⟩] [⟨.node 2, 1, 2⟩, ⟨.node 6, 2, 2⟩] (by sel_decide) descA_sel

/-- `evaluate_iter_eq_select` (`he`, `hs`), `reverse_eq_reverse` (`h`) -/
theorem planF_selectAll : selectAll (F := Int) d0 {} planF (.node 0) = .ok [.attr 4 0, .attr 4 1] := by
  simp only [selectAll, planF_sel, bind, Except.bind, pure, Except.pure]; rfl
theorem planF_evaluate : evaluate (F := Int) d0 {} planF (.node 0) = .ok (.nodes [.attr 4 0, .attr 4 1]) := by
  have hs := planF_sel
  have ha := planF_selectAll
  unfold planF at hs ha ⊢
  simp only [evaluate, evalP, hs, ha, bind, Except.bind, pure, Except.pure]
example : [Ref.attr 4 0, .attr 4 1] = [Ref.attr 4 0, .attr 4 1] :=
  Theorems.C12.evaluate_iter_eq_select (F := Int) d0 {} planF (.node 0) _ _ planF_evaluate planF_selectAll
example := Theorems.C12.reverse_eq_reverse (F := Int) d0 {} planF (.node 0) _ planF_sel

/-! ## the core pull machine (`Model/Pull`) -/

def planP : Plan := .attr (atA "") (.child (chE "") (.child (chE "r") .context))
def qP : PQ := .attr (atA "") (.child (chE "") (.child (chE "r") (.context 0) none 0) none 0) none

/-- `pull_refines_sequence` (`PQ.ofPlan p = some q`) -/
example := Theorems.C12.pull_refines_sequence (F := Int) d0 {} (.node 0) planP qP rfl

/-- `reported_node_and_counters` (`h : PQ.select … = (.yield n, q')`): the first pull reports `@x` of `a[1]` -/
example := Theorems.C12.reported_node_and_counters d0 {} (.node 0) (f := 100) (q := qP) (n := .attr 2 0)
  (pair_eq (by decide +kernel))

/-- `exhausted_stays_exhausted` (`h : PQ.select … = (.done, q')`): the machine of `r/zzz` -/
example := Theorems.C12.exhausted_stays_exhausted d0 {} (.node 0) (f := 100)
  (q := .child (chE "zzz") (.child (chE "r") (.context 0) none 0) none 0) (pair_eq (by decide +kernel))

/-! ## all sixteen iterator types (`Model/Pull2`) -/

open XPathV.Theorems.NonVacuity.C02 in
/-- **`C12_all_iterators_refine_sequence`** (`0 < d.length`, `PQ2.ofPlan p = some q`, `NeedsWF`, `DecOK`
— with a filter whose predicate is `not(@y)` —, `Good`) -/
theorem C12_all_iterators_refine_sequence_instance : ∃ l, sel (F := Int) d0 {} planD (.node 0) = .ok l ∧
    ∃ q' c' f0, ∀ f, f0 ≤ f → drain2 d0 {} decD f qD (.node 0) = some (l, q', c') := by
  obtain ⟨l, h1, q', c', f0, h2, _⟩ := Theorems.C12.C12_all_iterators_refine_sequence (F := Int) d0 {} decD
    (by decide) planD qD rfl (fun _ => wf_d0) ((decOK_iff_plan d0 {} decD qD).2 planD_decOK) (.node 0)
    (by simp [Good, Ref.idx, d0])
  exact ⟨l, h1, q', c', f0, h2⟩

open XPathV.Theorems.NonVacuity.C02 in
/-- **`C12_moveNext_current`** (`NeedsWF`, `Inv`, `Good`) at the mid-iteration state `qD1` of `C02`
(reached by `Evaluate` and one `Select`; `Inv` from `reach_inv`) -/
example := Theorems.C12.C12_moveNext_current d0 {} decD (by decide) qD1 (fun _ => wf_d0)
  (reach_inv d0 {} decD (by decide) planD (fun _ => wf_d0) qD1 qD1_reach).2 (.node 0)
  (by simp [Good, Ref.idx, d0])

/-- **`C12_exhausted_for_ever`** (`NeedsWF`, `Inv`, `Good`, `h : PQ2.select … = (.done, q', c')`): the
machine of `/r/zzz` reports exhaustion on its first `Select` -/
def qE : PQ2 := .child (chE "zzz") (.child (chE "r") (.absolute 0) none 0) none 0
example := Theorems.C12.C12_exhausted_for_ever d0 {} (fun _ _ => true) (by decide) (f := 100) (q := qE.evaluate)
  (c := .node 0) (fun _ => wf_d0) (PQ2.inv_evaluate d0 qE) (by simp [Good, Ref.idx, d0])
  (triple_eq (by decide +kernel))

end XPathV.Theorems.NonVacuity.C12

/-! ## `Frag2`: a flat path whose predicate is outside `Frag`

`/r/*[@x < @y]/@*` — the predicate compares two paths with `<` (`Frag2.cmpPath`; not in `Frag`, whose
comparisons have a literal on one side); `/r[count(*) = 3]/*[@x < @y]/@*` adds a `count` predicate
(`Frag2.countR`).  On `d0` only `b` has `@x` = 2 < 3 = `@y`, so both yield `b`'s two attributes, in
document order. -/
namespace XPathV.Theorems.NonVacuity.C12
open XPathV XPathV.Model XPathV.Theorems.NonVacuity XPathV.PosSem
open XPathV.PathSem XPathV.PredSem XPathV.PredSem2 XPathV.FlatFiltered XPathV.FlatFiltered2

attribute [local instance] toyAlg

/-- `@x < @y` -/
def bLt : Ast := .oper "<" (.axis (atA "x") .none) (.axis (atA "y") .none)
/-- `count(*) = 3` -/
def bCnt3 : Ast := .oper "=" (.call "count" "" (.acons (.axis (chE "") .none) .anil)) (.num "3")
/-- `/r/*[@x < @y]/@*` -/
def pH : Ast := .axis (atA "") (.filter (.axis (chE "") (.axis (chE "r") (.root "/"))) bLt)
/-- `/r[count(*) = 3]/*[@x < @y]/@*` -/
def pK : Ast :=
  .axis (atA "") (.filter (.axis (chE "") (.filter (.axis (chE "r") (.root "/")) bCnt3)) bLt)

theorem pH_parsed : ParsesTo "/r/*[@x < @y]/@*" pH := parsesTo_of (by decide +kernel)
theorem pK_parsed : ParsesTo "/r[count(*) = 3]/*[@x < @y]/@*" pK := parsesTo_of (by decide +kernel)

theorem bLt_frag : Frag2 false bLt :=
  .cmpPath _ _ _ (List.mem_cons_of_mem _ (List.mem_cons_of_mem _ List.mem_cons_self))
    (.axis _ _ .none (atA_axis _)) (.axis _ _ .none (atA_axis _))
theorem bCnt3_frag : Frag2 false bCnt3 :=
  .countR _ _ _ _ List.mem_cons_self (.axis _ _ .none (chE_axis _)) (.axis _ _ (chE_flat _) .none)

theorem pH_flatFrag2 : FlatFrag2 pH :=
  .axis _ _ (atA_flat _) (.filter _ _ (.axis _ _ (chE_flat _) (.axis _ _ (chE_flat _) (.root _))) bLt_frag)
theorem pK_flatFrag2 : FlatFrag2 pK :=
  .axis _ _ (atA_flat _) (.filter _ _ (.axis _ _ (chE_flat _)
    (.filter _ _ (.axis _ _ (chE_flat _) (.root _)) bCnt3_frag)) bLt_frag)

/-- **`C12_flat_filtered_is_oracle_list_full`** on `/r/*[@x < @y]/@*` (`WF`, `nsIface`, `HashInj`,
`Frag2 true`, `FlatAny`, `build = .ok`, `validRef` discharged): the engine's sequence is
`[b/@x, b/@y]`, the oracle's list -/
theorem C12_flat_filtered_is_oracle_list_full_instance : ∃ (o : BOut), ∃ l,
    sel (F := Int) d0 {} o.q (.node 0) = .ok l ∧ refs l = [.attr 4 0, .attr 4 1] := by
  obtain ⟨o, hb⟩ : ∃ o, build (fun _ => true) 100 true false pH {} {} = .ok o := exists_ok_of_isOk (by decide +kernel)
  obtain ⟨l, ns, g, h1, _, _, h4, _, h6⟩ := Theorems.C12.C12_flat_filtered_is_oracle_list_full (F := Int) wf_d0 {}
    rfl hashInj_d0 (fun _ => true) 100 pH pH_flatFrag2.frag2 pH_flatFrag2.flatAny {} o hb (.node 0) (by decide)
  have e := value_of_eval h4 (v' := .nodes [.attr 4 0, .attr 4 1]) (by decide +kernel)
  cases e
  exact ⟨o, l, h1, h6⟩

/-- … and on `/r[count(*) = 3]/*[@x < @y]/@*` (two predicates outside `Frag`, on two steps),
through the `FlatFrag2` form of the statement -/
theorem C12_flat_filtered_is_oracle_list_full_fragment_instance : ∃ (o : BOut), ∃ l,
    sel (F := Int) d0 {} o.q (.node 0) = .ok l ∧ refs l = [.attr 4 0, .attr 4 1] := by
  obtain ⟨o, hb⟩ : ∃ o, build (fun _ => true) 100 true false pK {} {} = .ok o := exists_ok_of_isOk (by decide +kernel)
  obtain ⟨l, ns, g, h1, _, _, h4, _, h6⟩ := Theorems.C12.C12_flat_filtered_is_oracle_list_full_fragment (F := Int)
    wf_d0 {} rfl hashInj_d0 (fun _ => true) 100 pK pK_flatFrag2 {} o hb (.node 0) (by decide)
  have e := value_of_eval h4 (v' := .nodes [.attr 4 0, .attr 4 1]) (by decide +kernel)
  cases e
  exact ⟨o, l, h1, h6⟩

/-- the predicate `@x < @y` is not in the old fragment: `Frag false` has no comparison of two paths -/
theorem bLt_not_frag : ¬ Frag false bLt := by
  intro h
  generalize he : bLt = e at h
  cases h
  all_goals first
    | (subst he; rename_i hp; cases hp)
    | (simp [bLt] at he)

end XPathV.Theorems.NonVacuity.C12
