import XPathV.Theorems.C03
import XPathV.Theorems.NonVacuity.Common
/-!
# Non-vacuity of the C03 theorems

The numeric side conditions (`Agree`, `NumOK`, `LitIsNat`, the `hn`/`hx` of `nth_child`) are met by
the exact-integer algebra `toyAlg` (already shown by `C03_side_conditions_satisfiable`); here they are
discharged *together with* all other hypotheses on the document `d0` and expressions with non-empty
results.
-/
namespace XPathV.Theorems.NonVacuity.C03
open XPathV XPathV.Model XPathV.Theorems.NonVacuity XPathV.PosSem
open XPathV.PathSem XPathV.PredSem

attribute [local instance] toyAlg

/-- `/r` -/
def qR : Ast := .axis (chE "r") (.root "/")
theorem qR_frag : Frag true qR := .axis _ _ (.root _) (chE_axis _)

/-- `[2]`, `[last() - 2]`, `[position() >= 2]` -/
def f2 : PosForm := .lit "2"
def fLm : PosForm := .lastMinus "" "2"

theorem parsed_lit : ParsesTo "/r/*[2]" (.filter (.axis (chE "") qR) f2.ast) :=
  parsesTo_of (by decide +kernel)
theorem parsed_lastMinus : ParsesTo "/r/*[last() - 2]" (.filter (.axis (chE "") qR) fLm.ast) :=
  parsesTo_of (by decide +kernel)

theorem f2_numOK (N : Nat) : f2.NumOK Int 2 N := toy_numOK f2 (by simp [f2]) N
theorem fLm_numOK (N : Nat) : fLm.NumOK Int 2 N := toy_numOK fLm (by simp [fLm]) N

theorem built (f : PosForm) (h : (build (fun _ => true) 100 true false (.filter (.axis (chE "") qR) f.ast) {} {}).isOk = true) :
    ∃ o, build (fun _ => true) 100 true false (.filter (.axis (chE "") qR) f.ast) {} {} = .ok o := exists_ok_of_isOk h

theorem lit_spec : Spec.eval (F := Int) d0 (.filter (.axis (chE "") qR) f2.ast) ⟨.node 0, 1, 1⟩ =
    .ok (.val (.nodes [.node 4]) (some [[.node 4]])) := by decide +kernel

/-- **`C03_main`** on `/r/*[2]`: all hypotheses (`WF`, `nsIface`, `HashInj`, `a.axis = "child"`, `Frag`,
`Agree`, `build = .ok`, `validRef`) discharged; the result is `{b}` -/
theorem C03_main_instance : ∃ (o : BOut), ∃ out, sel (F := Int) d0 {} o.q (.node 0) = .ok out ∧
    ∀ x, x ∈ refs out ↔ x ∈ [Ref.node 4] := by
  obtain ⟨o, hb⟩ := built f2 (by decide +kernel)
  obtain ⟨out, ns, g, origins, g0, h1, h2, _, h4, _⟩ := Theorems.C03.C03_main (F := Int) wf_d0 {} rfl
    hashInj_d0 (fun _ => true) 100 (chE "") rfl qR qR_frag f2 (agree_of_numOK f2 2 _ (f2_numOK _)) {} o hb
    (.node 0) (by decide)
  rw [lit_spec] at h2; cases h2
  exact ⟨o, out, h1, h4⟩

/-- **`C03_on_naturals`** on `/r/*[last() - 2]` (`NumOK` discharged): the result is `{a[1]}` -/
theorem C03_on_naturals_instance : ∃ (o : BOut), ∃ out, sel (F := Int) d0 {} o.q (.node 0) = .ok out ∧
    ∀ x, x ∈ refs out ↔ x ∈ [Ref.node 2] := by
  obtain ⟨o, hb⟩ := built fLm (by decide +kernel)
  obtain ⟨out, ns, g, origins, g0, h1, h2, _, h4, _⟩ := Theorems.C03.C03_on_naturals (F := Int) wf_d0 {} rfl
    hashInj_d0 (fun _ => true) 100 (chE "") rfl qR qR_frag fLm 2 (fLm_numOK _) {} o hb
    (.node 0) (by decide)
  have e : Spec.eval (F := Int) d0 (.filter (.axis (chE "") qR) fLm.ast) ⟨.node 0, 1, 1⟩ =
      .ok (.val (.nodes [.node 2]) (some [[.node 2]])) := by decide +kernel
  rw [e] at h2; cases h2
  exact ⟨o, out, h1, h4⟩

/-- **`C03_then_boolean_predicates`** on `/r/*[2][@y]` -/
theorem C03_then_boolean_predicates_instance :
    ∃ (o : BOut), ∃ qi, PosChainOK Int d0 {} (chE "") f2 [.axis (atA "y") .none] o.q qi qR ⟨.node 0, 1, 1⟩ := by
  obtain ⟨o, hb⟩ : ∃ o, build (fun _ => true) 100 true false
      (stackAst (.filter (.axis (chE "") qR) f2.ast) [.axis (atA "y") .none]) {} {} = .ok o :=
    exists_ok_of_isOk (by decide +kernel)
  obtain ⟨qi, h⟩ := Theorems.C03.C03_then_boolean_predicates (F := Int) wf_d0 {} rfl hashInj_d0
    (fun _ => true) 100 (chE "") rfl qR qR_frag f2 (agree_of_numOK f2 2 _ (f2_numOK _))
    [.axis (atA "y") .none] (by
      intro b hb; simp only [List.mem_cons, List.not_mem_nil, or_false] at hb; subst hb
      exact .exist _ (.axis _ _ .none (atA_axis _))) {} o hb
  exact ⟨o, qi, h (.node 0) (by decide)⟩
example : Spec.eval (F := Int) d0 (stackAst (.filter (.axis (chE "") qR) f2.ast) [.axis (atA "y") .none])
    ⟨.node 0, 1, 1⟩ = .ok (.val (.nodes [.node 4]) (some [[.node 4]])) := by decide +kernel

/-- `[@y and position() = 2]`: the positional test comes after the location step `@y` -/
def condYP : Ast := MixShape.andPos.ast (.axis (atA "y") .none) (PosForm.posCmp .eq "" "2").ast
theorem fragY : Frag false (.axis (atA "y") .none) := .exist _ (.axis _ _ .none (atA_axis _))
theorem condYP_posCond : PosCond condYP := posCond_mix .andPos _ _ fragY (posCond_posCmp .eq "" "2")
theorem parsed_condYP : ParsesTo "/r/*[@y and position() = 2]" (.filter (.axis (chE "") qR) condYP) :=
  parsesTo_of (by decide +kernel)

/-- **`C03_position_after_steps`** on `/r/*[@y and position() = 2]`: all hypotheses discharged; the
result is `{b}` (the second element child of `r`, the only one with an attribute `y`) -/
theorem C03_position_after_steps_instance : ∃ (o : BOut), ∃ out,
    sel (F := Int) d0 {} o.q (.node 0) = .ok out ∧ ∀ x, x ∈ refs out ↔ x ∈ [Ref.node 4] := by
  obtain ⟨o, hb⟩ : ∃ o, build (fun _ => true) 100 true false
      (.filter (.axis (chE "") qR) condYP) {} {} = .ok o := exists_ok_of_isOk (by decide +kernel)
  obtain ⟨out, ns, g, origins, g0, h1, h2, _, h4, _⟩ := Theorems.C03.C03_position_after_steps (F := Int)
    wf_d0 {} rfl hashInj_d0 (fun _ => true) 100 (chE "") rfl qR qR_frag condYP condYP_posCond {} o hb
    (.node 0) (by decide)
  have e : Spec.eval (F := Int) d0 (.filter (.axis (chE "") qR) condYP) ⟨.node 0, 1, 1⟩ =
      .ok (.val (.nodes [.node 4]) (some [[.node 4]])) := by decide +kernel
  rw [e] at h2; cases h2
  exact ⟨o, out, h1, h4⟩

/-- **`C03_bool_with_position`** on `/r/*[@x or position() = 3]`: `{a[1], b, a[2]}` — the third
element child has no `x`, it is kept by its position -/
theorem C03_bool_with_position_instance : ∃ (o : BOut), ∃ out,
    sel (F := Int) d0 {} o.q (.node 0) = .ok out ∧
      ∀ x, x ∈ refs out ↔ x ∈ [Ref.node 2, Ref.node 4, Ref.node 6] := by
  obtain ⟨o, hb⟩ : ∃ o, build (fun _ => true) 100 true false
      (.filter (.axis (chE "") qR)
        (MixShape.orPos.ast (.axis (atA "x") .none) (PosForm.posCmp .eq "" "3").ast)) {} {} = .ok o :=
    exists_ok_of_isOk (by decide +kernel)
  obtain ⟨out, ns, g, origins, g0, h1, h2, _, h4, _⟩ := Theorems.C03.C03_bool_with_position (F := Int)
    wf_d0 {} rfl hashInj_d0 (fun _ => true) 100 (chE "") rfl qR qR_frag .orPos (.axis (atA "x") .none)
    (.exist _ (.axis _ _ .none (atA_axis _))) .eq "" "3" {} o hb (.node 0) (by decide)
  have e : Spec.eval (F := Int) d0 (.filter (.axis (chE "") qR)
      (MixShape.orPos.ast (.axis (atA "x") .none) (PosForm.posCmp .eq "" "3").ast)) ⟨.node 0, 1, 1⟩ =
      .ok (.val (.nodes [.node 2, .node 4, .node 6]) (some [[.node 2, .node 4, .node 6]])) := by
    decide +kernel
  rw [e] at h2; cases h2
  exact ⟨o, out, h1, h4⟩

/-- the builder-level theorem on `a[count(b) = position()]`: the hypothesis `build = .ok` holds -/
example : ∃ o, build (fun _ => true) 100 true false
    (.filter (.axis (chE "a") .none)
      (.oper "=" (.call "count" "" (.acons (.axis (chE "b") .none) .anil)) (.call "position" "" .anil)))
    {} {} = .ok o := exists_ok_of_isOk (by decide +kernel)

/-- **`C03_flat_input_exact`** on `r/*[2]` from the root (`q = r` is a `FlatPath`) -/
theorem C03_flat_input_exact_instance : ∃ (o : BOut), ∃ out,
    sel (F := Int) d0 {} o.q (.node 0) = .ok out ∧ refs out = [.node 4] := by
  obtain ⟨o, hb⟩ : ∃ o, build (fun _ => true) 100 true false
      (.filter (.axis (chE "") (.axis (chE "r") .none)) f2.ast) {} {} = .ok o :=
    exists_ok_of_isOk (by decide +kernel)
  obtain ⟨out, ns, g, h1, h2, h3⟩ := Theorems.C03.C03_flat_input_exact (F := Int) wf_d0 {} rfl hashInj_d0
    (fun _ => true) 100 (chE "") rfl (.axis (chE "r") .none) (.inr (.step _ (by decide))) f2
    (agree_of_numOK f2 2 _ (f2_numOK _)) {} o hb (.node 0) (by decide)
  have e : Spec.eval (F := Int) d0 (.filter (.axis (chE "") (.axis (chE "r") .none)) f2.ast) ⟨.node 0, 1, 1⟩ =
      .ok (.val (.nodes [.node 4]) (some [[.node 4]])) := by decide +kernel
  rw [e] at h2; cases h2
  exact ⟨o, out, h1, h3⟩

/-- **`C03_parenthesised_nth`** on `(r/*)[2]` (`LitIsNat` discharged) -/
theorem C03_parenthesised_nth_instance : ∃ (o : BOut), ∃ out,
    sel (F := Int) d0 {} o.q (.node 0) = .ok out ∧ refs out = [.node 4] := by
  obtain ⟨o, hb⟩ : ∃ o, build (fun _ => true) 100 true false
      (.filter (.group (.axis (chE "") (.axis (chE "r") .none))) (.num "2")) {} {} = .ok o :=
    exists_ok_of_isOk (by decide +kernel)
  obtain ⟨out, ns, g, h1, h2, h3⟩ := Theorems.C03.C03_parenthesised_nth (F := Int) wf_d0 {} rfl hashInj_d0
    (fun _ => true) 100 false (.axis (chE "") (.axis (chE "r") .none))
    (.cons _ _ (by decide) (.step _ (by decide))) "2" 2 8 (by decide) (toy_litIsNat 8) {} o hb
    (.node 0) (by decide)
  have e : Spec.eval (F := Int) d0 (.axis (chE "") (.axis (chE "r") .none)) ⟨.node 0, 1, 1⟩ =
      .ok (.val (.nodes [.node 2, .node 4, .node 6]) (some [[.node 2, .node 4, .node 6]])) := by decide +kernel
  rw [e] at h2; cases h2
  exact ⟨o, out, h1, (h3 (by decide)).1⟩

/-- `nth_child` (`hn1`, `hn`, `hx` discharged in `toyAlg`) from `r`: `*[2]` keeps `b` -/
theorem nth_child_instance : ∃ keep,
    (sel (F := Int) d0 {} (.filter (.child (chE "") .context) (.constNum "2")) (.node 1)).map
      (fun l => l.map (·.r)) = .ok keep ∧ keep = [.node 4] := by
  obtain ⟨keep, _, h2, h3⟩ := Theorems.C03.nth_child (F := Int) wf_d0 {} (chE "") "2" (.node 1) 2 (by decide)
    (by decide) (by
      intro m _
      rw [toy_lit]
      show decide ((2 : Int) = (m : Int)) = true ↔ m = 2
      rw [decide_eq_true_iff]; omega)
  refine ⟨keep, h2, ?_⟩
  rw [h3]; decide +kernel

/-- `C03_position_last` (`hfi`, `h`): at `b`, the 2nd of 3 element children of `r` -/
example : positionM d0 {} (.child (chE "") .context) (.node 4) = 2 ∧
    lastM d0 {} (.child (chE "") .context) (.node 4) = 3 := by
  have h := Theorems.C03.C03_position_last wf_d0 {} (chE "") (.child (chE "") .context) rfl (.node 1)
    (.node 4) 1 (by decide +kernel)
  have e : (childCands d0 {} (chE "") (.node 1)).length = 3 := by decide +kernel
  exact ⟨h.1, by rw [h.2.2, e]⟩

/-- `child_pos_is_proximity` (`WF`, `FlatPlan`, `sel = .ok`, the split of the result) and the three
sequence-level lemmas, whose only hypothesis is that the input plan succeeds -/
example : ∃ l, sel (F := Int) d0 {} (.child (chE "") (.child (chE "r") .context))
    (.node 0) = .ok l := by
  refine ⟨[⟨.node 2, 1, 0⟩, ⟨.node 4, 2, 0⟩, ⟨.node 6, 3, 0⟩], ?_⟩
  sel_decide
example : (2 : Nat) = 1 + ([(⟨.node 2, 1, 0⟩ : Item)].filter
    (fun y => Spec.parent? d0 y.r == Spec.parent? d0 (Ref.node 4))).length :=
  Theorems.C03.child_pos_is_proximity (F := Int) wf_d0 {} (chE "")
    (.child (chE "r") .context) (.node 0) [⟨.node 2, 1, 0⟩, ⟨.node 4, 2, 0⟩, ⟨.node 6, 3, 0⟩]
    (by sel_decide) [⟨.node 2, 1, 0⟩] [⟨.node 6, 3, 0⟩] ⟨.node 4, 2, 0⟩ rfl
example := Theorems.C03.child_positions_restart (F := Int) d0 {} (chE "") (.child (chE "r") .absolute)
  (.node 0) [⟨.node 1, 1, 0⟩] (by sel_decide)
example := Theorems.C03.merge_is_per_parent (F := Int) d0 {} (.child (chE "r") .absolute)
  (.child (chE "") .context) (.node 0) [⟨.node 1, 1, 0⟩] (by sel_decide)
example := Theorems.C03.group_positions_global (F := Int) d0 {} (.child (chE "r") .absolute)
  (.node 0) [⟨.node 1, 1, 0⟩] (by sel_decide)

end XPathV.Theorems.NonVacuity.C03


/-! ## `Frag2`: input path and following predicate outside `Frag`

`/r[count(*) = 3]/*[2]` — the input path `/r[count(*) = 3]` carries a `count` predicate (in `Frag2`,
not in `Frag`); `/r/*[2][@x < @y]` — the following predicate compares two paths with `<` (in `Frag2`,
not in `Frag`).  On `d0` both select `{b}`: `r` has three element children, `b` is the second, and
at `b` `@x` = 2 < 3 = `@y`. -/
namespace XPathV.Theorems.NonVacuity.C03
open XPathV XPathV.Model XPathV.Theorems.NonVacuity XPathV.PosSem
open XPathV.PathSem XPathV.PredSem XPathV.PredSem2

attribute [local instance] toyAlg

/-- `count(*) = 3` -/
def bCnt : Ast := .oper "=" (.call "count" "" (.acons (.axis (chE "") .none) .anil)) (.num "3")
/-- `/r[count(*) = 3]` -/
def qRc : Ast := .filter qR bCnt
/-- `@x < @y` -/
def bXltY : Ast := .oper "<" (.axis (atA "x") .none) (.axis (atA "y") .none)

theorem bCnt_frag : Frag2 false bCnt :=
  .countR _ _ _ _ (by decide) (.axis _ _ .none (chE_axis _)) (.axis _ _ (by decide) .none)
theorem qRc_frag : Frag2 true qRc := .filter _ _ (frag2_of_frag _ _ qR_frag) bCnt_frag
theorem bXltY_frag : Frag2 false bXltY :=
  .cmpPath _ _ _ (by decide) (.axis _ _ .none (atA_axis _)) (.axis _ _ .none (atA_axis _))

theorem parsed_full_main : ParsesTo "/r[count(*) = 3]/*[2]" (.filter (.axis (chE "") qRc) f2.ast) :=
  parsesTo_of (by decide +kernel)
theorem parsed_full_chain : ParsesTo "/r/*[2][@x < @y]"
    (stackAst (.filter (.axis (chE "") qR) f2.ast) [bXltY]) :=
  parsesTo_of (by decide +kernel)

/-- **`C03_main_full`** on `/r[count(*) = 3]/*[2]`: all hypotheses (`WF`, `nsIface`, `HashInj`,
`a.axis = "child"`, `Frag2`, `Agree`, `build = .ok`, `validRef`) discharged; the input path selects
`{r}` and the result is `{b}` -/
theorem C03_main_full_instance : ∃ (o : BOut), ∃ out, sel (F := Int) d0 {} o.q (.node 0) = .ok out ∧
    ∀ x, x ∈ refs out ↔ x ∈ [Ref.node 4] := by
  obtain ⟨o, hb⟩ : ∃ o, build (fun _ => true) 100 true false
      (.filter (.axis (chE "") qRc) f2.ast) {} {} = .ok o := exists_ok_of_isOk (by decide +kernel)
  obtain ⟨out, ns, g, origins, g0, h1, h2, h3, h4, _⟩ := Theorems.C03.C03_main_full (F := Int) wf_d0 {} rfl
    hashInj_d0 (fun _ => true) 100 (chE "") rfl qRc qRc_frag f2 (agree_of_numOK f2 2 _ (f2_numOK _)) {} o hb
    (.node 0) (by decide)
  have e : Spec.eval (F := Int) d0 (.filter (.axis (chE "") qRc) f2.ast) ⟨.node 0, 1, 1⟩ =
      .ok (.val (.nodes [.node 4]) (some [[.node 4]])) := by decide +kernel
  rw [e] at h2; cases h2
  exact ⟨o, out, h1, h4⟩
/-- the input path of the instance is not empty: `/r[count(*) = 3]` selects `r` -/
example : (Spec.eval (F := Int) d0 qRc ⟨.node 0, 1, 1⟩).map Spec.Res.value =
    .ok (.nodes [.node 1]) := by decide +kernel

/-- **`C03_on_naturals_full`** on `/r[count(*) = 3]/*[last() - 2]` (`NumOK` discharged): `{a[1]}` -/
theorem C03_on_naturals_full_instance : ∃ (o : BOut), ∃ out, sel (F := Int) d0 {} o.q (.node 0) = .ok out ∧
    ∀ x, x ∈ refs out ↔ x ∈ [Ref.node 2] := by
  obtain ⟨o, hb⟩ : ∃ o, build (fun _ => true) 100 true false
      (.filter (.axis (chE "") qRc) fLm.ast) {} {} = .ok o := exists_ok_of_isOk (by decide +kernel)
  obtain ⟨out, ns, g, origins, g0, h1, h2, _, h4, _⟩ := Theorems.C03.C03_on_naturals_full (F := Int) wf_d0 {} rfl
    hashInj_d0 (fun _ => true) 100 (chE "") rfl qRc qRc_frag fLm 2 (fLm_numOK _) {} o hb
    (.node 0) (by decide)
  have e : Spec.eval (F := Int) d0 (.filter (.axis (chE "") qRc) fLm.ast) ⟨.node 0, 1, 1⟩ =
      .ok (.val (.nodes [.node 2]) (some [[.node 2]])) := by decide +kernel
  rw [e] at h2; cases h2
  exact ⟨o, out, h1, h4⟩

/-- **`C03_then_boolean_predicates_full`** on `/r/*[2][@x < @y]`: the following predicate is a
path-vs-path comparison with `<` -/
theorem C03_then_boolean_predicates_full_instance :
    ∃ (o : BOut), ∃ qi, PosChainOK Int d0 {} (chE "") f2 [bXltY] o.q qi qR ⟨.node 0, 1, 1⟩ := by
  obtain ⟨o, hb⟩ : ∃ o, build (fun _ => true) 100 true false
      (stackAst (.filter (.axis (chE "") qR) f2.ast) [bXltY]) {} {} = .ok o :=
    exists_ok_of_isOk (by decide +kernel)
  obtain ⟨qi, h⟩ := Theorems.C03.C03_then_boolean_predicates_full (F := Int) wf_d0 {} rfl hashInj_d0
    (fun _ => true) 100 (chE "") rfl qR (frag2_of_frag _ _ qR_frag) f2
    (agree_of_numOK f2 2 _ (f2_numOK _)) [bXltY] (by
      intro b hb; simp only [List.mem_cons, List.not_mem_nil, or_false] at hb; subst hb
      exact bXltY_frag) {} o hb
  exact ⟨o, qi, h (.node 0) (by decide)⟩
example : Spec.eval (F := Int) d0 (stackAst (.filter (.axis (chE "") qR) f2.ast) [bXltY])
    ⟨.node 0, 1, 1⟩ = .ok (.val (.nodes [.node 4]) (some [[.node 4]])) := by decide +kernel
/-- the predicate decides: true at `b` (2 < 3), false at the first `a` (no `@y`) -/
example : holds (F := Int) d0 bXltY (.node 4) = true ∧ holds (F := Int) d0 bXltY (.node 2) = false := by
  decide +kernel

/-- both in one: `/r[count(*) = 3]/*[2][@x < @y]` -/
theorem C03_then_boolean_predicates_full_instance2 :
    ∃ (o : BOut), ∃ qi, PosChainOK Int d0 {} (chE "") f2 [bXltY] o.q qi qRc ⟨.node 0, 1, 1⟩ := by
  obtain ⟨o, hb⟩ : ∃ o, build (fun _ => true) 100 true false
      (stackAst (.filter (.axis (chE "") qRc) f2.ast) [bXltY]) {} {} = .ok o :=
    exists_ok_of_isOk (by decide +kernel)
  obtain ⟨qi, h⟩ := Theorems.C03.C03_then_boolean_predicates_full (F := Int) wf_d0 {} rfl hashInj_d0
    (fun _ => true) 100 (chE "") rfl qRc qRc_frag f2
    (agree_of_numOK f2 2 _ (f2_numOK _)) [bXltY] (by
      intro b hb; simp only [List.mem_cons, List.not_mem_nil, or_false] at hb; subst hb
      exact bXltY_frag) {} o hb
  exact ⟨o, qi, h (.node 0) (by decide)⟩
theorem chain_spec : Spec.eval (F := Int) d0 (stackAst (.filter (.axis (chE "") qRc) f2.ast) [bXltY])
    ⟨.node 0, 1, 1⟩ = .ok (.val (.nodes [.node 4]) (some [[.node 4]])) := by decide +kernel
example : Spec.eval (F := Int) d0 (stackAst (.filter (.axis (chE "") qRc) f2.ast) [bXltY])
    ⟨.node 0, 1, 1⟩ = .ok (.val (.nodes [.node 4]) (some [[.node 4]])) := chain_spec

end XPathV.Theorems.NonVacuity.C03

namespace XPathV.Theorems.NonVacuity.C03
open XPathV XPathV.Model XPathV.Theorems.NonVacuity XPathV.PosSem
open XPathV.PathSem XPathV.PredSem XPathV.PredSem2

attribute [local instance] toyAlg

/-- **`C03_position_after_steps_full`** on `/r[count(*) = 3]/*[@y and position() = 2]`: `{b}` -/
theorem C03_position_after_steps_full_instance : ∃ (o : BOut), ∃ out,
    sel (F := Int) d0 {} o.q (.node 0) = .ok out ∧ ∀ x, x ∈ refs out ↔ x ∈ [Ref.node 4] := by
  obtain ⟨o, hb⟩ : ∃ o, build (fun _ => true) 100 true false
      (.filter (.axis (chE "") qRc) condYP) {} {} = .ok o := exists_ok_of_isOk (by decide +kernel)
  obtain ⟨out, ns, g, origins, g0, h1, h2, _, h4, _⟩ := Theorems.C03.C03_position_after_steps_full (F := Int)
    wf_d0 {} rfl hashInj_d0 (fun _ => true) 100 (chE "") rfl qRc qRc_frag condYP condYP_posCond {} o hb
    (.node 0) (by decide)
  have e : Spec.eval (F := Int) d0 (.filter (.axis (chE "") qRc) condYP) ⟨.node 0, 1, 1⟩ =
      .ok (.val (.nodes [.node 4]) (some [[.node 4]])) := by decide +kernel
  rw [e] at h2; cases h2
  exact ⟨o, out, h1, h4⟩

end XPathV.Theorems.NonVacuity.C03

/-! ## `PosCond2`: a `Frag2` predicate next to `position()` inside the first predicate

`/r/*[@x < @y and position() = 2]` — the boolean part `@x < @y` compares two paths with `<` (in
`Frag2`, not in `Frag`), so the condition is in `PosCond2` and not in `PosCond`.  On `d0` it selects
`{b}`: `b` is the second element child of `r` and `@x` = 2 < 3 = `@y` there. -/
namespace XPathV.Theorems.NonVacuity.C03
open XPathV XPathV.Model XPathV.Theorems.NonVacuity XPathV.PosSem XPathV.PosSem3
open XPathV.PathSem XPathV.PredSem XPathV.PredSem2

attribute [local instance] toyAlg

/-- `[@x < @y and position() = 2]` -/
def condXYP : Ast := MixShape.andPos.ast bXltY (PosForm.posCmp .eq "" "2").ast
theorem condXYP_posCond2 : PosCond2 condXYP :=
  posCond2_mix .andPos _ _ bXltY_frag (posCond2_posCmp .eq "" "2")
theorem parsed_condXYP : ParsesTo "/r/*[@x < @y and position() = 2]"
    (.filter (.axis (chE "") qR) condXYP) :=
  parsesTo_of (by decide +kernel)

/-- **`C03_position_after_steps_all_full`** on `/r/*[@x < @y and position() = 2]`: all hypotheses
(`WF`, `nsIface`, `HashInj`, `a.axis = "child"`, `Frag2`, `PosCond2`, `build = .ok`, `validRef`)
discharged; the result is `{b}` -/
theorem C03_position_after_steps_all_full_instance : ∃ (o : BOut), ∃ out,
    sel (F := Int) d0 {} o.q (.node 0) = .ok out ∧ ∀ x, x ∈ refs out ↔ x ∈ [Ref.node 4] := by
  obtain ⟨o, hb⟩ : ∃ o, build (fun _ => true) 100 true false
      (.filter (.axis (chE "") qR) condXYP) {} {} = .ok o := exists_ok_of_isOk (by decide +kernel)
  obtain ⟨out, ns, g, origins, g0, h1, h2, _, h4, _⟩ :=
    Theorems.C03.C03_position_after_steps_all_full (F := Int)
      wf_d0 {} rfl hashInj_d0 (fun _ => true) 100 (chE "") rfl qR (frag2_of_frag _ _ qR_frag) condXYP
      condXYP_posCond2 {} o hb (.node 0) (by decide)
  have e : Spec.eval (F := Int) d0 (.filter (.axis (chE "") qR) condXYP) ⟨.node 0, 1, 1⟩ =
      .ok (.val (.nodes [.node 4]) (some [[.node 4]])) := by decide +kernel
  rw [e] at h2; cases h2
  exact ⟨o, out, h1, h4⟩

/-- **`C03_bool_with_position_full`** on `/r[count(*) = 3]/*[@x < @y or position() = 3]`: input path
and boolean part both outside `Frag`; `{b, a[2]}` — `b` by `@x < @y`, the third element child by its
position -/
theorem C03_bool_with_position_full_instance : ∃ (o : BOut), ∃ out,
    sel (F := Int) d0 {} o.q (.node 0) = .ok out ∧
      ∀ x, x ∈ refs out ↔ x ∈ [Ref.node 4, Ref.node 6] := by
  obtain ⟨o, hb⟩ : ∃ o, build (fun _ => true) 100 true false
      (.filter (.axis (chE "") qRc)
        (MixShape.orPos.ast bXltY (PosForm.posCmp .eq "" "3").ast)) {} {} = .ok o :=
    exists_ok_of_isOk (by decide +kernel)
  obtain ⟨out, ns, g, origins, g0, h1, h2, _, h4, _⟩ :=
    Theorems.C03.C03_bool_with_position_full (F := Int)
      wf_d0 {} rfl hashInj_d0 (fun _ => true) 100 (chE "") rfl qRc qRc_frag .orPos bXltY bXltY_frag
      .eq "" "3" {} o hb (.node 0) (by decide)
  have e : Spec.eval (F := Int) d0 (.filter (.axis (chE "") qRc)
      (MixShape.orPos.ast bXltY (PosForm.posCmp .eq "" "3").ast)) ⟨.node 0, 1, 1⟩ =
      .ok (.val (.nodes [.node 4, .node 6]) (some [[.node 4, .node 6]])) := by
    decide +kernel
  rw [e] at h2; cases h2
  exact ⟨o, out, h1, h4⟩

end XPathV.Theorems.NonVacuity.C03

/-! ## `C03_from_text`: positional steps from the expression text

The hypotheses of `C03_from_text` (`a.axis = "child"`, `Frag2`, the parse of the text) and those of
its second disjunct (`WF`, `nsIface`, `HashInj`, `Agree`, `validRef`) discharged on `d0`; the first
disjunct (a builder error) is excluded by running the builder on the parsed tree. -/
namespace XPathV.Theorems.NonVacuity.C03
open XPathV XPathV.Model XPathV.Theorems.NonVacuity XPathV.PosSem
open XPathV.PathSem XPathV.PredSem XPathV.PredSem2

attribute [local instance] toyAlg

/-- **`C03_from_text`** at the text `/r/*[2]`: `Select` and `Evaluate` on the compiled text yield
`{b}`, the second element child of `r` -/
theorem C03_from_text_instance : ∃ p l, compile {} none "/r/*[2]".toList = .ok p ∧
    selectAll (F := Int) d0 {} p (.node 0) = .ok l ∧
    evaluate (F := Int) d0 {} p (.node 0) = .ok (.nodes l) ∧ ∀ x, x ∈ l ↔ x ∈ [Ref.node 4] := by
  rcases Theorems.C03.C03_from_text (fun _ => true) none _ (chE "") rfl qR
    (frag2_of_frag _ _ qR_frag) f2 parsed_lit with ⟨e, he⟩ | ⟨p, hp, _, h⟩
  · obtain ⟨p, hp⟩ := compile_ok parsed_lit (by decide +kernel)
    rw [hp] at he; cases he
  · obtain ⟨l, nsl, h1, h2, h3, h4⟩ := h Int d0 wf_d0 {} rfl hashInj_d0
      (agree_of_numOK f2 2 _ (f2_numOK _)) (.node 0) (by decide)
    rw [evalTop_of_eval lit_spec] at h3; cases h3
    exact ⟨p, l, hp, h1, h2, h4⟩

/-- `[last()]` -/
def fL : PosForm := .last ""

theorem fL_numOK (N : Nat) : fL.NumOK Int 2 N :=
  toy_numOK fL (by
    intro lex h
    rcases h with h | ⟨_, _, h⟩ | ⟨_, h⟩ <;> cases h) N

theorem parsed_cnt_last : ParsesTo "/r[count(*) = 3]/*[last()]" (.filter (.axis (chE "") qRc) fL.ast) :=
  parsesTo_of (by decide +kernel)

/-- **`C03_from_text`** at the text `/r[count(*) = 3]/*[last()]` (input path in `Frag2`, not in
`Frag`): `{a[2]}`, the last element child of `r` -/
theorem C03_from_text_last_instance : ∃ p l,
    compile {} none "/r[count(*) = 3]/*[last()]".toList = .ok p ∧
    selectAll (F := Int) d0 {} p (.node 0) = .ok l ∧
    evaluate (F := Int) d0 {} p (.node 0) = .ok (.nodes l) ∧ ∀ x, x ∈ l ↔ x ∈ [Ref.node 6] := by
  rcases Theorems.C03.C03_from_text (fun _ => true) none _ (chE "") rfl qRc qRc_frag fL
    parsed_cnt_last with ⟨e, he⟩ | ⟨p, hp, _, h⟩
  · obtain ⟨p, hp⟩ := compile_ok parsed_cnt_last (by decide +kernel)
    rw [hp] at he; cases he
  · obtain ⟨l, nsl, h1, h2, h3, h4⟩ := h Int d0 wf_d0 {} rfl hashInj_d0
      (agree_of_numOK fL 2 _ (fL_numOK _)) (.node 0) (by decide)
    have e : Spec.evalTop (F := Int) d0 (.filter (.axis (chE "") qRc) fL.ast) (.node 0) =
        .ok (.nodes [.node 6]) := by decide +kernel
    rw [e] at h3; cases h3
    exact ⟨p, l, hp, h1, h2, h4⟩

theorem parsed_chain : ParsesTo "/r[count(*) = 3]/*[2][@x < @y]"
    (stackAst (.filter (.axis (chE "") qRc) f2.ast) [bXltY]) :=
  parsesTo_of (by decide +kernel)

/-- **`C03_from_text_then_boolean_predicates`** at the text `/r[count(*) = 3]/*[2][@x < @y]`: `{b}` -/
theorem C03_from_text_then_boolean_predicates_instance : ∃ p l,
    compile {} none "/r[count(*) = 3]/*[2][@x < @y]".toList = .ok p ∧
    selectAll (F := Int) d0 {} p (.node 0) = .ok l ∧
    evaluate (F := Int) d0 {} p (.node 0) = .ok (.nodes l) ∧ ∀ x, x ∈ l ↔ x ∈ [Ref.node 4] := by
  rcases Theorems.C03.C03_from_text_then_boolean_predicates (fun _ => true) none _ (chE "") rfl qRc
    qRc_frag f2 [bXltY] (by
      intro b hb; simp only [List.mem_cons, List.not_mem_nil, or_false] at hb; subst hb
      exact bXltY_frag) parsed_chain with ⟨e, he⟩ | ⟨p, hp, _, h⟩
  · obtain ⟨p, hp⟩ := compile_ok parsed_chain (by decide +kernel)
    rw [hp] at he; cases he
  · obtain ⟨l, nsl, h1, h2, h3, h4⟩ := h Int d0 wf_d0 {} rfl hashInj_d0
      (agree_of_numOK f2 2 _ (f2_numOK _)) (.node 0) (by decide)
    rw [evalTop_of_eval chain_spec] at h3; cases h3
    exact ⟨p, l, hp, h1, h2, h4⟩

end XPathV.Theorems.NonVacuity.C03

