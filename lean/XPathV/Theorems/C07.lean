import XPathV.Lemmas.Facts
import XPathV.Generated.ExtraFacts
import XPathV.Lemmas.C07Base
import XPathV.Lemmas.CmpSem
import XPathV.Lemmas.CmpSem2
/-!
# C07 — comparison and boolean operators follow XPath 1.0 (property-level theorems)

`Lemmas/C07Base.lean` (same namespace) holds the per-cell theorems (`cell_numNum`, `cell_setNum`,
`cell_numSet`, and — for all six operators since the repairs — `cell_strStr`, `cell_strNum`,
`cell_numStr`, `cell_setStr`, `cell_strSet`, `cell_setSet`); `Lemmas/Sem/Cells.lean` the boolean cells
(`cell_boolAny`, `cell_anyBool`, all six operators) and the sixteen cells as one statement
(`cmpM_vrel`); `Lemmas/Sem/Agree.lean` comparison, `and`/`or` with their short-circuit,
`not()`/`boolean()`/`true()`/`false()` and parentheses given their operands; `Lemmas/CmpSem.lean` and
`Lemmas/CmpSem2.lean` the inductions over expressions.

Fragment `XExp`: number and string literals, predicate-free paths (`PathPF`), the arithmetic
expressions of C08 (`ArithSem.NumEC`: `+ - * div`, unary minus, `floor`, `ceiling`, `number`,
`string-length('…')`, `count` over flat paths) and the nested string-function calls of C09
(`StringFns.StrE`) as number- and string-valued leaves, comparisons `a op b` with **all six
operators on every pair of the four types** (number, string, node-set, boolean — `C07_every_cell`),
`and`, `or`, `not()` of an operand of **any** type (boolean, node-set, number, string — `notFunc` was
repaired: `default: return !asBool(t, v)`), `boolean()`, `true()`, `false()`, parentheses — nested
to any depth.

Repaired in the Go code, and followed by the model (`cmpStrF`, `cmpM`): `cmpStringStringF` compares
`stringToNumber` of its operands for `<`, `<=`, `>`, `>=` (it compared the strings byte-wise:
`'10' < '9'`, `//a[b < c]`); `cmpNodeSetString` and `cmpStringNumeric` hand their operands over in
order (`//a[b < '9']` tested `'9' < b`; `'5' < 9` computed `9 < 5`); `cmpBooleanAny` /
`cmpAnyBoolean` compare numbers for the relational operators (`true() < 2` converted `2` with
`boolean()`).  No type pair and no operator is excluded.

The second half of the file (`## C07 over filtered paths`) has the same theorems with predicates on the
node-set operands; it opens `CmpSem2` in addition, hence the namespace is closed and opened again there.
-/
namespace XPathV.Theorems.C07
open XPathV XPathV.Model XPathV.Facts XPathV.PathSem XPathV.CmpSem NumAlg

variable {F : Type} [NumAlg F]

/-- **C07, every cell, no exception**: for each of the six operators and every pair of operand
types (number, string, node-set, boolean — sixteen cells), if the engine's operands are related to
the oracle's operands (equal atoms; node lists with the same members, in any order and with any
repetitions), the engine's comparison is XPath's `compare`: existential on node-sets; numbers for
the relational operators; for `=`/`!=` booleans before numbers before strings. -/
theorem C07_every_cell (d : Doc) (cop : Spec.CmpOp) (m n : MVal F) (va vb : Spec.Value F)
    (hm : VRel m va) (hn : VRel n vb) :
    cmpM d cop m n = .ok (Spec.compare d cop va vb) :=
  cmpM_vrel d cop m n va vb hm hn

/-- the statement of `C07_every_cell` under the name by which the check entry of C07 cites it.  (Before the repairs of the Go comparators the
engine differed from XPath on string/number and on the relational operators on strings, node-set
pairs and booleans beside numbers/strings.) -/
theorem C07_cells (d : Doc) (cop : Spec.CmpOp) (m n : MVal F) (va vb : Spec.Value F)
    (hm : VRel m va) (hn : VRel n vb) :
    cmpM d cop m n = .ok (Spec.compare d cop va vb) :=
  C07_every_cell d cop m n va vb hm hn

/-- `C07_every_cell` on the oracle's own values (`emb`: the same atoms, the same node list) -/
theorem C07_every_cell_emb (d : Doc) (cop : Spec.CmpOp) (va vb : Spec.Value F) :
    cmpM d cop (Theorems.C08.emb va) (Theorems.C08.emb vb) = .ok (Spec.compare d cop va vb) :=
  cmpM_emb_cell d cop va vb

/-- **C07 at expression level, through the builder**: for every boolean-valued expression of the
fragment, every well-formed document and valid context node, the plan the builder makes evaluates
to the boolean the oracle's top-level evaluation gives.  Hypotheses of C01 for the path operands
(navigator exposing namespace URIs,
`HashInj`: node keys are injective, which `PathSem.hashInj_holds` proves — see the `_unconditional`
corollary). -/
theorem C07_main {d : Doc} (wf : WF d) (cfg : ECfg) (hns : cfg.nsIface = true)
    (hinj : HashInj d cfg) (c : Ref) (hc : validRef d c = true) (regexOk : RegexOk) (limit : Nat)
    (sdf : Bool) (e : Ast) (h : XExp .bool e) (st : BState) (o : BOut)
    (hb : build regexOk limit true sdf e {} st = .ok o) :
    ∃ t : Bool, evalP (F := F) d cfg o.q c = .ok (.bool t) ∧
      Spec.evalTop (F := F) d e c = .ok (.bool t) :=
  sem_bool_out d cfg c _ e (build_xexp wf cfg hns hinj c hc regexOk limit sdf .bool e h st o hb)

/-- `C07_main` without the `HashInj` hypothesis (`PathSem.hashInj_holds` proves it; the side
condition left is "no element has two attributes with the same prefix, name and value") -/
theorem C07_main_unconditional {d : Doc} (wf : WF d) (cfg : ECfg) (hns : cfg.nsIface = true)
    (hattr : AttrTriplesDistinct d) (c : Ref) (hc : validRef d c = true) (regexOk : RegexOk) (limit : Nat)
    (sdf : Bool) (e : Ast) (h : XExp .bool e) (st : BState) (o : BOut)
    (hb : build regexOk limit true sdf e {} st = .ok o) :
    ∃ t : Bool, evalP (F := F) d cfg o.q c = .ok (.bool t) ∧
      Spec.evalTop (F := F) d e c = .ok (.bool t) :=
  C07_main wf cfg hns (PathSem.hashInj_holds wf hattr cfg) c hc regexOk limit sdf e h st o hb

/-- `C07_main` with the **full** arithmetic fragment of C08 as number-valued leaves: `mod` and
`sum` too, inside the oracle's domain at the context node (`ArithSem.NumEF d ⟨c, 1, 1⟩ F` — a
hypothesis on the document, hence not part of the document-independent `XExp`) -/
theorem C07_main_full {d : Doc} (wf : WF d) (cfg : ECfg) (hns : cfg.nsIface = true)
    (hinj : HashInj d cfg) (c : Ref) (hc : validRef d c = true) (regexOk : RegexOk) (limit : Nat)
    (sdf : Bool) (e : Ast) (h : XExpG (ArithSem.NumEF d ⟨c, 1, 1⟩ F) StringFns.StrE .bool e)
    (st : BState) (o : BOut) (hb : build regexOk limit true sdf e {} st = .ok o) :
    ∃ t : Bool, evalP (F := F) d cfg o.q c = .ok (.bool t) ∧
      Spec.evalTop (F := F) d e c = .ok (.bool t) :=
  sem_bool_out d cfg c _ e (build_xexpG wf cfg hns hinj c hc regexOk limit sdf
    (sem_numEF_build wf cfg hns hinj c hc regexOk limit sdf)
    (sem_strE_build d cfg c regexOk limit true sdf) .bool e h st o hb)

/-- **`not()` of every type** (`callFn_not_spec`): on a boolean, a node-set, a number or a string the
engine's `not` is the oracle's `not(boolean(v))` -/
theorem C07_not_any_type (d : Doc) (cfg : ECfg) (fi : Plan) (c : Ref) (ctx : Spec.Ctx)
    (v : Spec.Value F) (asel : Option (List Ref)) :
    callFn (F := F) d cfg "not" fi c [.ok (Theorems.C08.emb v)] asel = .ok (.bool (!Spec.toBool v)) ∧
    Spec.callFn (F := F) d ctx "not" [v] = .ok (.bool (!Spec.toBool v)) :=
  callFn_not_spec d cfg fi c ctx v asel

/-- the property's own fragment (comparisons over literals and paths on the listed pairs, closed
under `and`/`or`/`not()`/`boolean()`) -/
theorem C07_listed_pairs {d : Doc} (wf : WF d) (cfg : ECfg) (hns : cfg.nsIface = true)
    (hinj : HashInj d cfg) (c : Ref) (hc : validRef d c = true) (regexOk : RegexOk) (limit : Nat)
    (sdf : Bool) (e : Ast) (h : BExp e) (st : BState) (o : BOut)
    (hb : build regexOk limit true sdf e {} st = .ok o) :
    ∃ t : Bool, evalP (F := F) d cfg o.q c = .ok (.bool t) ∧
      Spec.evalTop (F := F) d e c = .ok (.bool t) :=
  C07_main wf cfg hns hinj c hc regexOk limit sdf e (XExp.of_bexp e h) st o hb

/-- `C07_listed_pairs` without the `HashInj` hypothesis (`PathSem.hashInj_holds` proves it; the side
condition left is "no element has two attributes with the same prefix, name and value") -/
theorem C07_listed_pairs_unconditional {d : Doc} (wf : WF d) (cfg : ECfg) (hns : cfg.nsIface = true)
    (hattr : AttrTriplesDistinct d) (c : Ref) (hc : validRef d c = true) (regexOk : RegexOk) (limit : Nat)
    (sdf : Bool) (e : Ast) (h : BExp e) (st : BState) (o : BOut)
    (hb : build regexOk limit true sdf e {} st = .ok o) :
    ∃ t : Bool, evalP (F := F) d cfg o.q c = .ok (.bool t) ∧
      Spec.evalTop (F := F) d e c = .ok (.bool t) :=
  C07_listed_pairs wf cfg hns (PathSem.hashInj_holds wf hattr cfg) c hc regexOk limit sdf e h st o
    hb

/-- a single comparison with the value spelled out: existential on node-sets is `Spec.compare`.
Operands: number literal, string literal, path — every pair, all six operators -/
theorem C07_comparison_value {d : Doc} (wf : WF d) (cfg : ECfg) (hns : cfg.nsIface = true)
    (hinj : HashInj d cfg) (c : Ref) (hc : validRef d c = true) (regexOk : RegexOk) (limit : Nat)
    (sdf : Bool) (op : String) (cop : Spec.CmpOp) (a b : Ast) (hop : Spec.CmpOp.ofString op = some cop)
    (ha : Opnd a) (hb : Opnd b)
    (st : BState) (o : BOut) (hbd : build regexOk limit true sdf (.oper op a b) {} st = .ok o) :
    ∃ (va vb : Spec.Value F) (ga gb : Option (List (List Ref))),
      Spec.eval (F := F) d a ⟨c, 1, 1⟩ = .ok (.val va ga) ∧
      Spec.eval (F := F) d b ⟨c, 1, 1⟩ = .ok (.val vb gb) ∧
      evalP (F := F) d cfg o.q c = .ok (.bool (Spec.compare d cop va vb)) ∧
      Spec.eval (F := F) d (.oper op a b) ⟨c, 1, 1⟩ = .ok (.val (.bool (Spec.compare d cop va vb)) none) := by
  obtain ⟨lo, ro, hlo, hro, rfl⟩ := build_oper_ok hbd
  rw [operOut_cmp (Spec.CmpOp.ofString_mem hop)]
  exact (build_xexp wf cfg hns hinj c hc regexOk limit sdf _ a (XExp.of_opnd a ha) _ _ hlo).vrel.cmp_value hop
    (build_xexp wf cfg hns hinj c hc regexOk limit sdf _ b (XExp.of_opnd b hb) _ _ hro).vrel

/-- `C07_comparison_value` without the `HashInj` hypothesis (`PathSem.hashInj_holds` proves it; the side
condition left is "no element has two attributes with the same prefix, name and value") -/
theorem C07_comparison_value_unconditional {d : Doc} (wf : WF d) (cfg : ECfg) (hns : cfg.nsIface = true)
    (hattr : AttrTriplesDistinct d) (c : Ref) (hc : validRef d c = true) (regexOk : RegexOk) (limit : Nat)
    (sdf : Bool) (op : String) (cop : Spec.CmpOp) (a b : Ast) (hop : Spec.CmpOp.ofString op = some cop)
    (ha : Opnd a) (hb : Opnd b)
    (st : BState) (o : BOut) (hbd : build regexOk limit true sdf (.oper op a b) {} st = .ok o) :
    ∃ (va vb : Spec.Value F) (ga gb : Option (List (List Ref))),
      Spec.eval (F := F) d a ⟨c, 1, 1⟩ = .ok (.val va ga) ∧
      Spec.eval (F := F) d b ⟨c, 1, 1⟩ = .ok (.val vb gb) ∧
      evalP (F := F) d cfg o.q c = .ok (.bool (Spec.compare d cop va vb)) ∧
      Spec.eval (F := F) d (.oper op a b) ⟨c, 1, 1⟩ = .ok (.val (.bool (Spec.compare d cop va vb)) none) :=
  C07_comparison_value wf cfg hns (PathSem.hashInj_holds wf hattr cfg) c hc regexOk limit sdf op cop
    a b hop ha hb st o hbd

/-- **short-circuit**: `or` with a true left operand is `true`, `and` with a false left operand is
`false`, and the right operand is not evaluated (it may be any plan, even a failing one) -/
theorem C07_short_circuit (d : Doc) (cfg : ECfg) (l r : Plan) (c : Ref) (lv : MVal F)
    (hl : evalP (F := F) d cfg l c = .ok lv) :
    (asBoolM lv = .ok true → evalP (F := F) d cfg (.boolean true l r) c = .ok (.bool true)) ∧
    (asBoolM lv = .ok false → evalP (F := F) d cfg (.boolean false l r) c = .ok (.bool false)) :=
  ⟨fun hb => evalP_bool_left true d cfg l r c lv hl hb, fun hb => evalP_bool_left false d cfg l r c lv hl hb⟩

/-- `and`/`or` over operands of any type: the truth values of the operands, converted with
`boolean()`, combined with `&&` / `||` -/
theorem C07_and_or_any_type (d : Doc) (cfg : ECfg) (l r : Plan) (c : Ref) (va vb : Spec.Value F)
    (hl : evalP (F := F) d cfg l c = .ok (Theorems.C08.emb va)) (hr : evalP (F := F) d cfg r c = .ok (Theorems.C08.emb vb)) :
    evalP (F := F) d cfg (.boolean true l r) c = .ok (.bool (Spec.toBool va || Spec.toBool vb)) ∧
    evalP (F := F) d cfg (.boolean false l r) c = .ok (.bool (Spec.toBool va && Spec.toBool vb)) :=
  ⟨evalP_bool_spec true d cfg l r c va vb hl hr, evalP_bool_spec false d cfg l r c va vb hl hr⟩

/-! ## T0: what the regenerated facts say about the current source (leaf theorems: nothing builds on them, so a
change of the source that invalidates one of them stops only this module) -/

/-- T0 (F1): the comparison dispatch matrix has no nil cell and holds the expected cells -/
theorem cmp_table_ok : Generated.cmpTable =
    [[some "cmpBooleanBoolean", some "cmpBooleanAny", some "cmpBooleanAny", some "cmpBooleanAny"],
     [some "cmpAnyBoolean", some "cmpNumericNumeric", some "cmpNumericString", some "cmpNumericNodeSet"],
     [some "cmpAnyBoolean", some "cmpStringNumeric", some "cmpStringString", some "cmpStringNodeSet"],
     [some "cmpAnyBoolean", some "cmpNodeSetNumeric", some "cmpNodeSetString", some "cmpNodeSetNodeSet"]] := by decide

/-- T0 (F2): the leaf comparators map each XPath operator to the Go operator of the same meaning,
with the operands in order: numbers with the Go operator of the same spelling; strings with `==` /
`!=` and, for the four relational operators, through `stringToNumber` of both operands (they used
to be compared byte-wise with `<`, `<=`, `>`, `>=`); booleans with `==` / `!=` and, for the relational
operators, through `boolToNumber` -/
theorem leaf_comparators_ok :
    Generated.cmpNumOps = [("=", "=="), ("!=", "!="), ("<", "<"), ("<=", "<="), (">", ">"), (">=", ">=")] ∧
    Generated.cmpStrOps = [("=", "=="), ("!=", "!="), ("<", "num:stringToNumber"), ("<=", "num:stringToNumber"),
      (">", "num:stringToNumber"), (">=", "num:stringToNumber")] ∧
    Generated.cmpBoolOps = [("or", "||"), ("and", "&&"), ("=", "=="), ("!=", "!="), ("<", "num:boolToNumber"),
      ("<=", "num:boolToNumber"), (">", "num:boolToNumber"), (">=", "num:boolToNumber")] ∧
    Generated.opFuncs = [("eqFunc", "="), ("gtFunc", ">"), ("geFunc", ">="), ("ltFunc", "<"), ("leFunc", "<="), ("neFunc", "!=")] := by decide

/-- T0 (F2): **every cell hands its operands to the leaf comparator in order**: in each entry of
`Generated.cellCalls` the comparator's first operand derives from the cell's left parameter (`"L"`)
and its second from the right one (`"R"`), wherever the extractor can tell (`"?"`: an operand that
goes through a conversion helper).  Before the repairs `cmpStringNumeric` and `cmpNodeSetString`
were `("R", "L")`. -/
theorem cells_keep_operand_order :
    Generated.cellCalls.all (fun e => (e.2.2.1 == "L" || e.2.2.1 == "?") && (e.2.2.2 == "R" || e.2.2.2 == "?")) = true ∧
    (Generated.cellCalls.filter (fun e => e.2.2.1 != "?" && e.2.2.2 != "?")).all
      (fun e => e.2.2.1 == "L" && e.2.2.2 == "R") = true ∧
    (Generated.cellCalls.filter (fun e => e.2.2.1 != "?" && e.2.2.2 != "?")).map (·.1) =
      ["cmpBooleanBoolean", "cmpNumericNumeric", "cmpNumericString", "cmpNumericNodeSet", "cmpStringNumeric",
       "cmpStringString", "cmpStringNodeSet", "cmpNodeSetNumeric", "cmpNodeSetString", "cmpNodeSetNodeSet"] := by
  decide

/-- T0 (F2): no comparison cell panics (before their repair the number/string and number/node-set cells did) -/
theorem cells_do_not_panic : Generated.cellPanics.all (fun p => !p.2) = true := by decide

/-- T0: the float arm of `asBool` is "non-zero and not NaN" -/
theorem asBool_float_arm_ok : Generated.asBoolFloatSrc = "returnv!=0&&!math.IsNaN(v)" := rfl

end XPathV.Theorems.C07


/-! ## C07 over filtered paths (`Lemmas/CmpSem2.lean`)

The node-set operands of `C07_main` / `C07_main_full` are predicate-free paths (`PathPF`).  Here they
are the paths of the C02 fragment **with predicates**, `PredSem2.Frag2 true`: `//a[@x]`,
`//b[count(*) = 0]`, `a[b < c]`, `(P)[b]`, … — any number of boolean-valued predicates on any step.
`CmpSem2.XExpP PP NP SP` is `XExpG NP SP` with the node-set leaves as a parameter;
`CmpSem2.XExp2F d c F = XExpP (Frag2 true) (NumEF d ⟨c, 1, 1⟩ F) StrE`.  As everywhere for `Frag2`
the builder runs with `smartDescThroughFilter = false` (the value read off the source). -/
namespace XPathV.Theorems.C07
open XPathV XPathV.Model XPathV.Facts XPathV.PathSem XPathV.CmpSem XPathV.CmpSem2 NumAlg

variable {F : Type} [NumAlg F]

/-- **C07 at expression level, through the builder, node-set operands with predicates**: the same
conclusion as `C07_main_full` — the built plan evaluates to the oracle's boolean — for every
boolean-valued expression whose node-set leaves are paths of `PredSem2.Frag2 true` (number-valued
leaves: the full arithmetic fragment of C08; string-valued leaves: the nested string functions of
C09; all six comparison operators on every pair of types; `and`, `or`, `not()`, `boolean()`,
`true()`, `false()`, parentheses, nested to any depth) -/
theorem C07_main_filtered_paths {d : Doc} (wf : WF d) (cfg : ECfg) (hns : cfg.nsIface = true)
    (hinj : HashInj d cfg) (c : Ref) (hc : validRef d c = true) (regexOk : RegexOk) (limit : Nat)
    (e : Ast) (h : XExp2F d c F .bool e)
    (st : BState) (o : BOut) (hb : build regexOk limit true false e {} st = .ok o) :
    ∃ t : Bool, evalP (F := F) d cfg o.q c = .ok (.bool t) ∧
      Spec.evalTop (F := F) d e c = .ok (.bool t) :=
  sem_bool_out d cfg c _ e (build_xexp2F wf cfg hns hinj c hc regexOk limit .bool e h st o hb)

/-- `C07_main_filtered_paths` without the `HashInj` hypothesis (`PathSem.hashInj_holds` proves it; the side
condition left is "no element has two attributes with the same prefix, name and value") -/
theorem C07_main_filtered_paths_unconditional {d : Doc} (wf : WF d) (cfg : ECfg) (hns : cfg.nsIface = true)
    (hattr : AttrTriplesDistinct d) (c : Ref) (hc : validRef d c = true) (regexOk : RegexOk) (limit : Nat)
    (e : Ast) (h : XExp2F d c F .bool e)
    (st : BState) (o : BOut) (hb : build regexOk limit true false e {} st = .ok o) :
    ∃ t : Bool, evalP (F := F) d cfg o.q c = .ok (.bool t) ∧
      Spec.evalTop (F := F) d e c = .ok (.bool t) :=
  C07_main_filtered_paths wf cfg hns (PathSem.hashInj_holds wf hattr cfg) c hc regexOk limit e h st o hb

/-- the document-independent version (number-valued leaves `ArithSem.NumEC`, as in `C07_main`) -/
theorem C07_main_filtered_paths_doc_independent {d : Doc} (wf : WF d) (cfg : ECfg) (hns : cfg.nsIface = true)
    (hinj : HashInj d cfg) (c : Ref) (hc : validRef d c = true) (regexOk : RegexOk) (limit : Nat)
    (e : Ast) (h : XExp2 .bool e)
    (st : BState) (o : BOut) (hb : build regexOk limit true false e {} st = .ok o) :
    ∃ t : Bool, evalP (F := F) d cfg o.q c = .ok (.bool t) ∧
      Spec.evalTop (F := F) d e c = .ok (.bool t) :=
  sem_bool_out d cfg c _ e (build_xexp2 wf cfg hns hinj c hc regexOk limit .bool e h st o hb)

/-- every expression of the fragment of `C07_main_full` (node-set leaves `PathPF`) is in the fragment
of `C07_main_filtered_paths` -/
theorem C07_filtered_paths_embeds_full {d : Doc} {c : Ref} {k : CmpSem.Kind} {e : Ast}
    (h : XExpG (ArithSem.NumEF d ⟨c, 1, 1⟩ F) StringFns.StrE k e) : XExp2F d c F k e :=
  xexp2_of_xexpG h

/-- … and every expression of the fragment of `C07_main` is in `XExp2` -/
theorem C07_filtered_paths_embeds_main {k : CmpSem.Kind} {e : Ast} (h : XExp k e) : XExp2 k e :=
  xexp2_of_xexpG h

/-- `C07_main_full` at `smartDescThroughFilter = false` is the restriction of
`C07_main_filtered_paths` to the fragment with predicate-free paths -/
theorem C07_main_full_of_filtered_paths {d : Doc} (wf : WF d) (cfg : ECfg) (hns : cfg.nsIface = true)
    (hinj : HashInj d cfg) (c : Ref) (hc : validRef d c = true) (regexOk : RegexOk) (limit : Nat)
    (e : Ast) (h : XExpG (ArithSem.NumEF d ⟨c, 1, 1⟩ F) StringFns.StrE .bool e)
    (st : BState) (o : BOut) (hb : build regexOk limit true false e {} st = .ok o) :
    ∃ t : Bool, evalP (F := F) d cfg o.q c = .ok (.bool t) ∧
      Spec.evalTop (F := F) d e c = .ok (.bool t) :=
  C07_main_filtered_paths wf cfg hns hinj c hc regexOk limit e (C07_filtered_paths_embeds_full h) st o hb

/-- **what the comparison sees of a filtered path**: the built plan of a path of `Frag2 true`
evaluates to a node list with exactly the members of the oracle's node-set (order and repetitions
are immaterial to the existential comparison cells), and its `boolean()` is the oracle's
(non-emptiness) -/
theorem C07_filtered_path_operand {d : Doc} (wf : WF d) (cfg : ECfg) (hns : cfg.nsIface = true)
    (hinj : HashInj d cfg) (c : Ref) (hc : validRef d c = true) (regexOk : RegexOk) (limit : Nat)
    (p : Ast) (hp : PredSem2.Frag2 true p) (st : BState) (o : BOut)
    (hb : build regexOk limit true false p {} st = .ok o) :
    ∃ l ns g, evalP (F := F) d cfg o.q c = .ok (.nodes l) ∧
      Spec.eval (F := F) d p ⟨c, 1, 1⟩ = .ok (.val (.nodes ns) g) ∧ (∀ x, x ∈ l ↔ x ∈ ns) ∧
      asBoolM (F := F) (.nodes l) = .ok (Spec.toBool (F := F) (.nodes ns)) := by
  have ih := ((PredSem2.build_frag2 (F := F) wf cfg hns hinj regexOk limit true p hp).1 rfl).1
  obtain ⟨_, out, ns, g, _, hev, hS, hm, hv, _⟩ :=
    PredSem2.operand_pathOK2 (F := F) wf cfg hns hinj regexOk limit p hp ih st o hb ⟨c, 1, 1⟩ hc
  have hmem : ∀ x, x ∈ PredSem.nodesVal d cfg out ↔ x ∈ ns :=
    fun x => PredSem.mem_nodesVal d cfg out ns hm hv x
  exact ⟨_, ns, g, hev, hS, hmem,
    asBool_vrel (F := F) (.nodes (PredSem.nodesVal d cfg out)) (.nodes ns) hmem⟩

/-- a single comparison between two operands of `XExp2` (filtered paths among them), with the
value spelled out: the built plan gives XPath's `compare` of the oracle's operand values -/
theorem C07_comparison_value_filtered_paths {d : Doc} (wf : WF d) (cfg : ECfg) (hns : cfg.nsIface = true)
    (hinj : HashInj d cfg) (c : Ref) (hc : validRef d c = true) (regexOk : RegexOk) (limit : Nat)
    (op : String) (cop : Spec.CmpOp) (ka kb : CmpSem.Kind) (a b : Ast)
    (hop : Spec.CmpOp.ofString op = some cop) (ha : XExp2 ka a) (hb : XExp2 kb b)
    (st : BState) (o : BOut) (hbd : build regexOk limit true false (.oper op a b) {} st = .ok o) :
    ∃ (va vb : Spec.Value F) (ga gb : Option (List (List Ref))),
      Spec.eval (F := F) d a ⟨c, 1, 1⟩ = .ok (.val va ga) ∧
      Spec.eval (F := F) d b ⟨c, 1, 1⟩ = .ok (.val vb gb) ∧
      evalP (F := F) d cfg o.q c = .ok (.bool (Spec.compare d cop va vb)) ∧
      Spec.eval (F := F) d (.oper op a b) ⟨c, 1, 1⟩ = .ok (.val (.bool (Spec.compare d cop va vb)) none) := by
  obtain ⟨lo, ro, hlo, hro, rfl⟩ := build_oper_ok hbd
  rw [operOut_cmp (Spec.CmpOp.ofString_mem hop)]
  exact (build_xexp2 wf cfg hns hinj c hc regexOk limit _ a ha _ _ hlo).vrel.cmp_value hop
    (build_xexp2 wf cfg hns hinj c hc regexOk limit _ b hb _ _ hro).vrel

end XPathV.Theorems.C07

