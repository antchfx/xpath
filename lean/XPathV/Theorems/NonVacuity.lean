import XPathV.Theorems.NonVacuity.C01
import XPathV.Theorems.NonVacuity.C02
import XPathV.Theorems.NonVacuity.C03
import XPathV.Theorems.NonVacuity.C04
import XPathV.Theorems.NonVacuity.C05
import XPathV.Theorems.NonVacuity.C06
import XPathV.Theorems.NonVacuity.C07
import XPathV.Theorems.NonVacuity.C08
import XPathV.Theorems.NonVacuity.C09
import XPathV.Theorems.NonVacuity.C10
import XPathV.Theorems.NonVacuity.C11
import XPathV.Theorems.NonVacuity.C12
import XPathV.Theorems.NonVacuity.C13
import XPathV.Theorems.NonVacuity.C14
import XPathV.Theorems.NonVacuity.C15
import XPathV.Theorems.NonVacuity.C16
import XPathV.Theorems.NonVacuity.C17
/-!
# Non-vacuity audit of the property-level theorems (C01–C17)

One file per property under `Theorems/NonVacuity/`; `Common.lean` holds the shared concrete document
`d0`, the decision procedure for `HashInj`, and small helpers.  Nothing here is used
by the theorems themselves.
-/
