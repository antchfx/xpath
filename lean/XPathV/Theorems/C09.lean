import XPathV.Lemmas.Facts
import XPathV.Generated.ExtraFacts
import XPathV.Lemmas.C09Base
import XPathV.Lemmas.StringFns
import XPathV.Lemmas.StringFns2
/-!
# C09 — string functions compute the XPath result on their arguments (property-level theorems)

`Lemmas/C09Base.lean` (same namespace) holds the `substring` theorems (the set of positions,
never fails, is a sublist) and each function on string arguments at the engine (the T0 theorems
are in this file); the per-function agreement with the oracle is `C09_each_function` below, from
the equations of `Lemmas/CallFn`; `Lemmas/StringFns/*` has the node-set-argument rule,
`normalize-space`, and the induction over nested calls.

`Agrees m s` : the oracle returns a value `v` and the engine returns the same value.

After the repair of `containsFunc`/`startwithFunc`/`endwithFunc` (the second argument is read like
the first: a string as it is, a node-set as the string-value of its first node, `""` when empty;
numbers and booleans still raise) a node-set is allowed in EITHER position of these three functions:
`C09_each_function` (last three conjuncts), `C09_nodeset_argument` (second conjunct),
`C09_string_tests_either_position`, `C09_string_tests_raise`.
-/
namespace XPathV.Theorems.C09
open XPathV XPathV.Model XPathV.Facts XPathV.StringFns NumAlg

variable {F : Type} [NumAlg F]

/-- **C09, one function at a time, string-typed arguments**: all thirteen functions of the
property (substring with 2 and 3 arguments; `normalize-space` on strings on which Go's and XML's
whitespace coincide), for every document, context and configuration.  One statement of seventeen
conjuncts under shared hypotheses: `hp` is needed by the `normalize-space` conjunct only, and the
same `a` serves as haystack, as `normalize-space` argument and as `translate` source.  `concat` of any number `n ≥ 2`
of strings, `string-join` of the string-values of *all* nodes of the list, in list order -/
theorem C09_each_function (d : Doc) (cfg : ECfg) (fi : Plan) (c : Ref) (asel : Option (List Ref))
    (ctx : Spec.Ctx) (a b s : String) (x y : F) (ss : List String) (h2 : 2 ≤ ss.length) (l : List Ref)
    (hp : ∀ ch ∈ a.toList, Model.isSpace ch = Spec.isXmlSpace ch)
    (va vb : Spec.Value F) (hva : StrLike va) (hvb : StrLike vb) :
    Agrees (F := F) (callFn d cfg "concat" fi c (ss.map (fun s => .ok (.str s))) asel)
      (Spec.callFn d ctx "concat" (ss.map .str)) ∧
    Agrees (F := F) (callFn d cfg "contains" fi c [.ok (.str a), .ok (.str b)] asel)
      (Spec.callFn d ctx "contains" [.str a, .str b]) ∧
    Agrees (F := F) (callFn d cfg "starts-with" fi c [.ok (.str a), .ok (.str b)] asel)
      (Spec.callFn d ctx "starts-with" [.str a, .str b]) ∧
    Agrees (F := F) (callFn d cfg "ends-with" fi c [.ok (.str a), .ok (.str b)] asel)
      (Spec.callFn d ctx "ends-with" [.str a, .str b]) ∧
    Agrees (F := F) (callFn d cfg "substring-before" fi c [.ok (.str a), .ok (.str b)] asel)
      (Spec.callFn d ctx "substring-before" [.str a, .str b]) ∧
    Agrees (F := F) (callFn d cfg "substring-after" fi c [.ok (.str a), .ok (.str b)] asel)
      (Spec.callFn d ctx "substring-after" [.str a, .str b]) ∧
    Agrees (F := F) (callFn d cfg "substring" fi c [.ok (.str a), .ok (.num x)] asel)
      (Spec.callFn d ctx "substring" [.str a, .num x]) ∧
    Agrees (F := F) (callFn d cfg "substring" fi c [.ok (.str a), .ok (.num x), .ok (.num y)] asel)
      (Spec.callFn d ctx "substring" [.str a, .num x, .num y]) ∧
    Agrees (F := F) (callFn d cfg "string-length" fi c [.ok (.str a)] asel)
      (Spec.callFn d ctx "string-length" [.str a]) ∧
    Agrees (F := F) (callFn d cfg "normalize-space" fi c [.ok (.str a)] asel)
      (Spec.callFn d ctx "normalize-space" [.str a]) ∧
    Agrees (F := F) (callFn d cfg "translate" fi c [.ok (.str s), .ok (.str a), .ok (.str b)] asel)
      (Spec.callFn d ctx "translate" [.str s, .str a, .str b]) ∧
    Agrees (F := F) (callFn d cfg "lower-case" fi c [.ok (.str a)] asel)
      (Spec.callFn d ctx "lower-case" [.str a]) ∧
    Agrees (F := F) (callFn d cfg "string-join" fi c [.ok (.nodes l), .ok (.str b)] asel)
      (Spec.callFn d ctx "string-join" [.nodes l, .str b]) ∧
    Agrees (F := F) (callFn d cfg "string" fi c [.ok (.str a)] asel) (Spec.callFn d ctx "string" [.str a]) ∧
    -- after the repair of containsFunc/startwithFunc/endwithFunc: a string or a node-set (`StrLike`)
    -- in EITHER position; the answer is the oracle's, i.e. the test on the two string-values
    Agrees (F := F) (callFn d cfg "contains" fi c [.ok (Theorems.C08.emb va), .ok (Theorems.C08.emb vb)] asel)
      (Spec.callFn d ctx "contains" [va, vb]) ∧
    Agrees (F := F) (callFn d cfg "starts-with" fi c [.ok (Theorems.C08.emb va), .ok (Theorems.C08.emb vb)] asel)
      (Spec.callFn d ctx "starts-with" [va, vb]) ∧
    Agrees (F := F) (callFn d cfg "ends-with" fi c [.ok (Theorems.C08.emb va), .ok (Theorems.C08.emb vb)] asel)
      (Spec.callFn d ctx "ends-with" [va, vb]) :=
  ⟨by
      have := fn_concat_strlike_spec (F := F) d cfg fi c asel ctx (ss.map .str)
        (by intro v hv; obtain ⟨s, _, rfl⟩ := List.mem_map.1 hv; exact .str s) (by simpa using h2)
      simpa [List.map_map, Function.comp_def, Theorems.C08.emb] using this,
   fn_strtest_strlike_agrees d cfg fi c asel ctx "contains" (by simp [strTestFns]) (.str a) (.str b)
     (.str a) (.str b),
   ⟨_, Spec.callFn_startsWith d ctx _ _, by rw [callFn_startsWith]; rfl⟩,
   ⟨_, Spec.callFn_endsWith d ctx _ _, by rw [callFn_endsWith]; rfl⟩,
   ⟨_, Spec.callFn_substringBefore d ctx _ _, by rw [callFn_substringBefore]; rfl⟩,
   ⟨_, Spec.callFn_substringAfter d ctx _ _, by rw [callFn_substringAfter]; rfl⟩,
   ⟨_, Spec.callFn_substring2 d ctx _ _, by rw [callFn_substring, ← substring2_spec]; rfl⟩,
   ⟨_, Spec.callFn_substring3 d ctx _ _ _, by rw [callFn_substring, ← substring3_spec]; rfl⟩,
   ⟨_, Spec.callFn_stringLength d ctx _, by rw [callFn_stringLength]; rfl⟩,
   ⟨_, Spec.callFn_normalizeSpace d ctx _, by
      rw [callFn_normalizeSpace]
      show Except.ok (MVal.str (normalizeSpaceM a)) = Except.ok (MVal.str (Spec.fnNormalizeSpace a))
      rw [normalizeSpace_spec a hp]⟩,
   ⟨_, Spec.callFn_translate d ctx _ _ _, by rw [callFn_translate]; rfl⟩,
   ⟨_, Spec.callFn_lowerCase d ctx _, by rw [callFn_lowerCase]; rfl⟩,
   ⟨_, Spec.callFn_stringJoin d ctx l _, by rw [callFn_stringJoin]; rfl⟩,
   fn_string_spec d cfg fi c asel ctx (.str a),
   fn_strtest_strlike_agrees d cfg fi c asel ctx "contains" (by simp [strTestFns]) va vb hva hvb,
   fn_strtest_strlike_agrees d cfg fi c asel ctx "starts-with" (by simp [strTestFns]) va vb hva hvb,
   fn_strtest_strlike_agrees d cfg fi c asel ctx "ends-with" (by simp [strTestFns]) va vb hva hvb⟩

/-- `string(v)` for a value of any type, and `string()` of the context node -/
theorem C09_string_any (d : Doc) (cfg : ECfg) (fi : Plan) (c : Ref) (asel : Option (List Ref))
    (ctx : Spec.Ctx) (v : Spec.Value F) :
    Agrees (F := F) (callFn d cfg "string" fi c [.ok (Theorems.C08.emb v)] asel) (Spec.callFn d ctx "string" [v]) ∧
    Agrees (F := F) (callFn d cfg "string" fi ctx.node [] asel) (Spec.callFn d ctx "string" []) :=
  ⟨fn_string_spec d cfg fi c asel ctx v, _, Spec.callFn_string0 d ctx, by rw [callFn_string]; rfl⟩

/-- **node-set arguments**: a node list in first position stands for the string-value of its
first node (`""` when empty), exactly as the oracle's `string()` conversion — and, after the repair
of `contains`/`starts-with`/`ends-with`, so does a node list in **second** position of the functions
of `secondArgFns` (`contains`, `starts-with`, `ends-with`, `substring-before`, `substring-after`,
`translate`), whatever the first argument's outcome is -/
theorem C09_nodeset_argument (d : Doc) (cfg : ECfg) (fi : Plan) (c : Ref) (asel : Option (List Ref))
    (name : String) (hn : name ∈ firstArgFns) (l : List Ref) (rest : List (Except EErr (MVal F)))
    (hr : RestOk name rest) :
    callFn (F := F) d cfg name fi c (.ok (.nodes l) :: rest) asel
      = callFn d cfg name fi c (.ok (.str (Spec.toStr (F := F) d (.nodes l))) :: rest) asel ∧
    (name ∈ secondArgFns → ∀ (a1 : Except EErr (MVal F)) (l2 : List Ref) (tl : List (Except EErr (MVal F))),
      callFn (F := F) d cfg name fi c (a1 :: .ok (.nodes l2) :: tl) asel
        = callFn d cfg name fi c (a1 :: .ok (.str (Spec.toStr (F := F) d (.nodes l2))) :: tl) asel) :=
  ⟨nodeset_arg_is_first d cfg fi c asel name hn l rest hr,
   fun hn2 a1 l2 tl => nodeset_arg_is_second d cfg fi c asel name hn2 a1 l2 tl⟩

/-- **a node-set in either position of `contains` / `starts-with` / `ends-with`**: the engine's
answer is the oracle's answer, the test on the two string-values; node lists in both positions are
as good as their first nodes' string-values -/
theorem C09_string_tests_either_position (d : Doc) (cfg : ECfg) (fi : Plan) (c : Ref)
    (asel : Option (List Ref)) (ctx : Spec.Ctx) (name : String) (hn : name ∈ strTestFns)
    (va vb : Spec.Value F) (hva : StrLike va) (hvb : StrLike vb) :
    callFn (F := F) d cfg name fi c [.ok (Theorems.C08.emb va), .ok (Theorems.C08.emb vb)] asel =
      .ok (.bool (strTestOf name (Spec.toStr d va) (Spec.toStr d vb))) ∧
    Spec.callFn (F := F) d ctx name [va, vb] =
      .ok (.bool (strTestOf name (Spec.toStr d va) (Spec.toStr d vb))) :=
  fn_strtest_strlike_spec d cfg fi c asel ctx name hn va vb hva hvb

/-- what still raises "argument type must be string": a number or a boolean, in either position
(the package's own tests pin `contains(0, 0)` as an error) -/
theorem C09_string_tests_raise (d : Doc) (cfg : ECfg) (fi : Plan) (c : Ref) (asel : Option (List Ref))
    (name : String) (hn : name ∈ strTestFns) (v w : MVal F)
    (hw : (∃ x, w = .num x) ∨ (∃ b, w = .bool b)) :
    callFn (F := F) d cfg name fi c [.ok w, .ok v] asel = .error (.raised name) ∧
    ((∃ s, v = .str s) ∨ (∃ l, v = .nodes l) →
      callFn (F := F) d cfg name fi c [.ok v, .ok w] asel = .error (.raised name)) := by
  simp only [strTestFns, List.mem_cons, List.not_mem_nil, or_false] at hn
  rcases hn with h | h | h <;> subst h
  · rw [callFn_contains, callFn_contains]
    rcases hw with ⟨x, rfl⟩ | ⟨b, rfl⟩ <;> refine ⟨rfl, ?_⟩ <;>
      rintro (⟨s, rfl⟩ | ⟨_ | ⟨r, l⟩, rfl⟩) <;> rfl
  · rw [callFn_startsWith, callFn_startsWith]
    rcases hw with ⟨x, rfl⟩ | ⟨b, rfl⟩ <;> refine ⟨rfl, ?_⟩ <;>
      rintro (⟨s, rfl⟩ | ⟨_ | ⟨r, l⟩, rfl⟩) <;> rfl
  · rw [callFn_endsWith, callFn_endsWith]
    rcases hw with ⟨x, rfl⟩ | ⟨b, rfl⟩ <;> refine ⟨rfl, ?_⟩ <;>
      rintro (⟨s, rfl⟩ | ⟨_ | ⟨r, l⟩, rfl⟩) <;> rfl

/-- `normalize-space`: Go's `unicode.IsSpace`/`TrimSpace` loop equals the XML-whitespace collapse
on every string on which the two notions of whitespace coincide (in particular all ASCII strings
without \v and \f) -/
theorem C09_normalize_space (s : String) (h : ∀ c ∈ s.toList, Model.isSpace c = Spec.isXmlSpace c) :
    normalizeSpaceM s = Spec.fnNormalizeSpace s :=
  normalizeSpace_spec s h

/-- **C09, nested to any depth, through the builder**: every expression of `StrE` (string
literals; concat, substring-before/after, substring, normalize-space, translate, lower-case,
string over such expressions) evaluates, via the plan the builder makes, to the string the
oracle gives — at `evalP`, at the public `Evaluate`, and against the top-level oracle -/
theorem C09_nested (e : Ast) (h : StrE e) (d : Doc) (cfg : ECfg) (c : Ref)
    (regexOk : RegexOk) (limit : Nat) (sn sd : Bool) (st : BState) (o : BOut)
    (hb : build regexOk limit sn sd e {} st = .ok o) :
    ∃ s, evalP (F := F) d cfg o.q c = .ok (.str s) ∧
      evaluate (F := F) d cfg o.q c = .ok (.str s) ∧
      Spec.eval (F := F) d e ⟨c, 1, 1⟩ = .ok (.val (.str s) none) ∧
      Spec.evalTop (F := F) d e c = .ok (.str s) :=
  strE_sem e h d cfg c regexOk limit sn sd st o hb

/-- … and the builder does accept it whenever the nesting fits the depth limit (non-vacuity of
`C09_nested` for every member of the fragment) -/
theorem C09_nested_total (e : Ast) (h : StrE e) (d : Doc) (cfg : ECfg) (c : Ref)
    (regexOk : RegexOk) (limit : Nat) (sn sd : Bool) (st : BState) (hd : st.depth + ht e ≤ limit) :
    ∃ o s, build regexOk limit sn sd e {} st = .ok o ∧
      evaluate (F := F) d cfg o.q c = .ok (.str s) ∧ Spec.evalTop (F := F) d e c = .ok (.str s) := by
  obtain ⟨o, ho, _⟩ := strE_builds e h regexOk limit sn sd {} st hd
  obtain ⟨s, _, h2, _, h4⟩ := strE_sem (F := F) e h d cfg c regexOk limit sn sd st o ho
  exact ⟨o, s, ho, h2, h4⟩

/-! ## T0: what the regenerated facts say about the current source (leaf theorems: nothing builds on them, so a
change of the source that invalidates one of them stops only this module) -/

/-- T0 (F3): each string function's arity window in `processFunction` -/
theorem string_function_arities :
    (Generated.funcTable.filter (fun e => e.names.any (fun n => ["concat", "contains", "starts-with", "ends-with",
        "substring", "substring-before", "substring-after", "string-length", "normalize-space", "translate",
        "lower-case", "string-join"].contains n))).map (fun e => (e.names, e.minArgs, e.maxArgs)) =
    [(["lower-case"], 1, none), (["starts-with"], 2, none), (["ends-with"], 2, none), (["contains"], 2, none),
     (["substring"], 2, none), (["substring-before", "substring-after"], 2, some 2), (["string-length"], 1, none),
     (["normalize-space"], 0, none), (["translate"], 3, some 3), (["concat"], 2, none), (["string-join"], 2, some 2)] := by decide

/-- T0: the bounds `substringFunc` computes are the ones `substringM` models:
`first = xpathRound(start)`, `last = first + xpathRound(length)` (or +Inf), clipped to `[1, len+1]`
(`xpathRound` itself is `xpathRoundM`, compared with the code by the substring sweep) -/
theorem substring_bounds_source_ok : Generated.substringBoundsSrc =
    ["first:=xpathRound(start)", "last:=math.Inf(1)", "last=first+xpathRound(length)", "first=1", "last=float64(len(m)+1)"] := rfl

end XPathV.Theorems.C09

/-! ## nested string functions whose leaves are string literals **and flat filtered paths**
(`Lemmas/StringFns2`) -/
namespace XPathV.Theorems.C09
open XPathV XPathV.Model XPathV.StringFns XPathV.StringFns2 XPathV.PathSem NumAlg

variable {F : Type} [NumAlg F]

/-- **C09, nested to any depth, with node-set arguments, through the builder**: every expression of
`StrE2` — `StrE` with, wherever a string-valued argument is allowed (and in `string(P)`), a flat path
`P` over child/attribute/self steps carrying predicates of the C02 fragment (`ArithSem2.FlatF2`) —
evaluates, via the plan the builder makes, to the string the oracle gives: the engine reads a
node-set argument as the string-value of the FIRST node of the list it computed, the oracle as the
string-value of the first node in document order, and the two lists are the same list
(`ArithSem2.flat2_same_list`).  `normalize-space(a)` is in the fragment when the string the oracle
reads `a` as is one on which Go's and XML's whitespace coincide (`NormDom`).  Hypotheses of C02 for
the paths: well-formed document, valid context node, navigator exposing namespace URIs, `HashInj`;
builder at `smartDescThroughFilter = false`. -/
theorem C09_nested_with_paths {d : Doc} (wf : WF d) (cfg : ECfg) (hns : cfg.nsIface = true)
    (hinj : HashInj d cfg) (regexOk : RegexOk) (limit : Nat)
    (c : Ref) (hc : validRef d c = true) {e : Ast} (he : StrE2 d ⟨c, 1, 1⟩ F e)
    (st : BState) (o : BOut) (hb : build regexOk limit true false e {} st = .ok o) :
    ∃ s, evalP (F := F) d cfg o.q c = .ok (.str s) ∧
      evaluate (F := F) d cfg o.q c = .ok (.str s) ∧
      Spec.eval (F := F) d e ⟨c, 1, 1⟩ = .ok (.val (.str s) none) ∧
      Spec.evalTop (F := F) d e c = .ok (.str s) := by
  obtain ⟨s, hv, h1⟩ := strE2_sem (F := F) wf cfg hns hinj regexOk limit c hc 1 1 he {} st o hb
  obtain ⟨h2, h4⟩ := evaluate_evalTop_of_str d cfg o.q e c s hv h1
  exact ⟨s, hv, h2, h1, h4⟩

/-- `C09_nested_with_paths` without the `HashInj` hypothesis (it is a theorem: `hashInj_holds`; the
side condition left is "no element has two attributes with the same prefix, name and value") -/
theorem C09_nested_with_paths_unconditional {d : Doc} (wf : WF d) (cfg : ECfg)
    (hns : cfg.nsIface = true) (hattr : AttrTriplesDistinct d) (regexOk : RegexOk) (limit : Nat)
    (c : Ref) (hc : validRef d c = true) {e : Ast} (he : StrE2 d ⟨c, 1, 1⟩ F e)
    (st : BState) (o : BOut) (hb : build regexOk limit true false e {} st = .ok o) :
    ∃ s, evalP (F := F) d cfg o.q c = .ok (.str s) ∧
      evaluate (F := F) d cfg o.q c = .ok (.str s) ∧
      Spec.eval (F := F) d e ⟨c, 1, 1⟩ = .ok (.val (.str s) none) ∧
      Spec.evalTop (F := F) d e c = .ok (.str s) :=
  C09_nested_with_paths wf cfg hns (PathSem.hashInj_holds wf hattr cfg) regexOk limit c hc he st o hb

/-- … inside a predicate or any other context: at every context position `i` and size `n`, any
builder flags -/
theorem C09_nested_with_paths_at {d : Doc} (wf : WF d) (cfg : ECfg) (hns : cfg.nsIface = true)
    (hinj : HashInj d cfg) (regexOk : RegexOk) (limit : Nat)
    (c : Ref) (hc : validRef d c = true) (i n : Nat) {e : Ast} (he : StrE2 d ⟨c, i, n⟩ F e)
    (fl : Flags) (st : BState) (o : BOut) (hb : build regexOk limit true false e fl st = .ok o) :
    ∃ s, evalP (F := F) d cfg o.q c = .ok (.str s) ∧
      Spec.eval (F := F) d e ⟨c, i, n⟩ = .ok (.val (.str s) none) :=
  strE2_sem wf cfg hns hinj regexOk limit c hc i n he fl st o hb

/-- **the literal-only fragment is contained**: every member of `StrE` is a member of `StrE2`, for every document and
context -/
theorem C09_strE_embeds (d : Doc) (ctx : Spec.Ctx) {e : Ast} (h : StrE e) : StrE2 d ctx F e :=
  strEP_of_strE d ctx ArithSem2.FlatF2 h

end XPathV.Theorems.C09
