import XPathV.Lemmas.Facts
import XPathV.Generated.ExtraFacts
import XPathV.Lemmas.C11Base
import XPathV.Lemmas.UnionSem
import XPathV.Lemmas.UnionSem2
import XPathV.Lemmas.ApiSem4
/-!
# C11 — union yields the set union, each node exactly once (property-level theorems)

`Lemmas/C11Base.lean` (same namespace) holds the plan-level theorem (`C11_union`: de-duplication by
key), the structured-key injectivity (`key_injective`) and the parser fact for the sequence form;
`Lemmas/UnionSem.lean` takes them through the builder and against the oracle.  The T0 theorems over
the regenerated key recipe (`identity_key_recipe_ok`, `identity_is_the_key_string`) are stated here.

Operands: `Frag true` — paths over the twelve axes whose start and steps may carry boolean-valued
predicates (as in C02).  Hypotheses: well-formed document, valid context node, navigator exposing
namespace URIs, `HashInj` (the node key union de-duplicates with is injective — since the repair of
`getNodeKey` the engine compares the key STRINGS and this is a theorem: `PathSem.hashInj_holds`, used by
the `_unconditional` corollaries).
-/
namespace XPathV.Theorems.C11
open XPathV XPathV.Model XPathV.Facts XPathV.PathSem XPathV.PredSem XPathV.UnionSem NumAlg

variable {F : Type} [NumAlg F]

/-- **C11 (main theorem, through the builder)**: the plan the builder makes of `A | B` yields a
sequence without repetition whose members are exactly the nodes the oracle returns for `A` or for
`B`, whatever their overlap; the oracle's value of `A | B` has the same members, each once -/
theorem C11_main {d : Doc} (wf : WF d) (cfg : ECfg) (hns : cfg.nsIface = true) (hinj : HashInj d cfg)
    (regexOk : RegexOk) (limit : Nat) (A B : Ast) (hA : Frag true A) (hB : Frag true B) (fl : Flags)
    (st : BState) (o : BOut) (hb : build regexOk limit true false (.oper "|" A B) fl st = .ok o)
    (c : Ref) (hc : validRef d c = true) :
    ∃ out nsA gA nsB gB nsU,
      sel (F := F) d cfg o.q c = .ok out ∧ (refs out).Nodup ∧
      Spec.eval (F := F) d A ⟨c, 1, 1⟩ = .ok (.val (.nodes nsA) gA) ∧
      Spec.eval (F := F) d B ⟨c, 1, 1⟩ = .ok (.val (.nodes nsB) gB) ∧
      (∀ x, x ∈ refs out ↔ x ∈ nsA ∨ x ∈ nsB) ∧
      Spec.eval (F := F) d (.oper "|" A B) ⟨c, 1, 1⟩ = .ok (.val (.nodes nsU) none) ∧
      nsU.Nodup ∧ (∀ x, x ∈ nsU ↔ x ∈ nsA ∨ x ∈ nsB) ∧ (∀ x, x ∈ refs out ↔ x ∈ nsU) :=
  UnionSem.C11_main wf cfg hns hinj regexOk limit A B hA hB fl st o hb c hc

/-- `C11_main` without the `HashInj` hypothesis (it is a theorem: `hashInj_holds`; the side
condition left is "no element has two attributes with the same prefix, name and value") -/
theorem C11_main_unconditional {d : Doc} (wf : WF d) (cfg : ECfg) (hns : cfg.nsIface = true) (hattr : AttrTriplesDistinct d)
    (regexOk : RegexOk) (limit : Nat) (A B : Ast) (hA : Frag true A) (hB : Frag true B) (fl : Flags)
    (st : BState) (o : BOut) (hb : build regexOk limit true false (.oper "|" A B) fl st = .ok o)
    (c : Ref) (hc : validRef d c = true) :
    ∃ out nsA gA nsB gB nsU,
      sel (F := F) d cfg o.q c = .ok out ∧ (refs out).Nodup ∧
      Spec.eval (F := F) d A ⟨c, 1, 1⟩ = .ok (.val (.nodes nsA) gA) ∧
      Spec.eval (F := F) d B ⟨c, 1, 1⟩ = .ok (.val (.nodes nsB) gB) ∧
      (∀ x, x ∈ refs out ↔ x ∈ nsA ∨ x ∈ nsB) ∧
      Spec.eval (F := F) d (.oper "|" A B) ⟨c, 1, 1⟩ = .ok (.val (.nodes nsU) none) ∧
      nsU.Nodup ∧ (∀ x, x ∈ nsU ↔ x ∈ nsA ∨ x ∈ nsB) ∧ (∀ x, x ∈ refs out ↔ x ∈ nsU) :=
  C11_main wf cfg hns (PathSem.hashInj_holds wf hattr cfg) regexOk limit A B hA hB fl st o hb c hc

/-- **n-ary**: `p₀ | p₁ | … | pₙ` (left-nested, as parsed): every node of some `pᵢ`, nothing else,
each exactly once, on both sides -/
theorem C11_nary {d : Doc} (wf : WF d) (cfg : ECfg) (hns : cfg.nsIface = true) (hinj : HashInj d cfg)
    (regexOk : RegexOk) (limit : Nat) (p : Ast) (ps : List Ast) (hp : Frag true p)
    (hps : ∀ q ∈ ps, Frag true q) (hne : ps ≠ []) (st : BState) (o : BOut)
    (hb : build regexOk limit true false (unionOf p ps) {} st = .ok o)
    (c : Ref) (hc : validRef d c = true) :
    ∃ out ns g, sel (F := F) d cfg o.q c = .ok out ∧ (refs out).Nodup ∧
      Spec.eval (F := F) d (unionOf p ps) ⟨c, 1, 1⟩ = .ok (.val (.nodes ns) g) ∧ ns.Nodup ∧
      (∀ x, x ∈ refs out ↔ ∃ q ∈ p :: ps, x ∈ nodesAt d F q c) ∧
      (∀ x, x ∈ ns ↔ ∃ q ∈ p :: ps, x ∈ nodesAt d F q c) :=
  UnionSem.C11_nary wf cfg hns hinj regexOk limit p ps hp hps hne st o hb c hc

/-- `C11_nary` without the `HashInj` hypothesis (it is a theorem: `hashInj_holds`; the side
condition left is "no element has two attributes with the same prefix, name and value") -/
theorem C11_nary_unconditional {d : Doc} (wf : WF d) (cfg : ECfg) (hns : cfg.nsIface = true) (hattr : AttrTriplesDistinct d)
    (regexOk : RegexOk) (limit : Nat) (p : Ast) (ps : List Ast) (hp : Frag true p)
    (hps : ∀ q ∈ ps, Frag true q) (hne : ps ≠ []) (st : BState) (o : BOut)
    (hb : build regexOk limit true false (unionOf p ps) {} st = .ok o)
    (c : Ref) (hc : validRef d c = true) :
    ∃ out ns g, sel (F := F) d cfg o.q c = .ok out ∧ (refs out).Nodup ∧
      Spec.eval (F := F) d (unionOf p ps) ⟨c, 1, 1⟩ = .ok (.val (.nodes ns) g) ∧ ns.Nodup ∧
      (∀ x, x ∈ refs out ↔ ∃ q ∈ p :: ps, x ∈ nodesAt d F q c) ∧
      (∀ x, x ∈ ns ↔ ∃ q ∈ p :: ps, x ∈ nodesAt d F q c) :=
  C11_nary wf cfg hns (PathSem.hashInj_holds wf hattr cfg) regexOk limit p ps hp hps hne st o hb c
    hc

/-- **sequence form `p/(s, t, …)`**: the tree the parser produces (`seqLoop_is_seqForm`) is built
into a plan that yields exactly the nodes reached by some member step from some node of `p`, each
once; the oracle agrees -/
theorem C11_sequence {d : Doc} (wf : WF d) (cfg : ECfg) (hns : cfg.nsIface = true) (hinj : HashInj d cfg)
    (regexOk : RegexOk) (limit : Nat) (p : Ast) (hp : Frag true p) (s : SeqStep)
    (ss : List SeqStep) (hs : StepOK s) (hss : ∀ t ∈ ss, StepOK t) (st : BState) (o : BOut)
    (hb : build regexOk limit true false (seqForm p s ss) {} st = .ok o)
    (c : Ref) (hc : validRef d c = true) :
    ∃ out ns g, sel (F := F) d cfg o.q c = .ok out ∧
      Spec.eval (F := F) d (seqForm p s ss) ⟨c, 1, 1⟩ = .ok (.val (.nodes ns) g) ∧
      (∀ x, x ∈ refs out ↔ x ∈ ns) ∧
      (∀ x, x ∈ ns ↔ ∃ t ∈ s :: ss, ∃ n ∈ nodesAt d F p c, x ∈ nodesAt d F (stepOn .none t) n) ∧
      (ss ≠ [] → (refs out).Nodup ∧ ns.Nodup) :=
  UnionSem.C11_sequence wf cfg hns hinj regexOk limit p hp s ss hs hss st o hb c hc

/-- `C11_sequence` without the `HashInj` hypothesis (it is a theorem: `hashInj_holds`; the side
condition left is "no element has two attributes with the same prefix, name and value") -/
theorem C11_sequence_unconditional {d : Doc} (wf : WF d) (cfg : ECfg) (hns : cfg.nsIface = true) (hattr : AttrTriplesDistinct d)
    (regexOk : RegexOk) (limit : Nat) (p : Ast) (hp : Frag true p) (s : SeqStep)
    (ss : List SeqStep) (hs : StepOK s) (hss : ∀ t ∈ ss, StepOK t) (st : BState) (o : BOut)
    (hb : build regexOk limit true false (seqForm p s ss) {} st = .ok o)
    (c : Ref) (hc : validRef d c = true) :
    ∃ out ns g, sel (F := F) d cfg o.q c = .ok out ∧
      Spec.eval (F := F) d (seqForm p s ss) ⟨c, 1, 1⟩ = .ok (.val (.nodes ns) g) ∧
      (∀ x, x ∈ refs out ↔ x ∈ ns) ∧
      (∀ x, x ∈ ns ↔ ∃ t ∈ s :: ss, ∃ n ∈ nodesAt d F p c, x ∈ nodesAt d F (stepOn .none t) n) ∧
      (ss ≠ [] → (refs out).Nodup ∧ ns.Nodup) :=
  C11_sequence wf cfg hns (PathSem.hashInj_holds wf hattr cfg) regexOk limit p hp s ss hs hss st o
    hb c hc

/-- the parser side of the sequence form: along any run of comma-separated members the sequence
loop returns `seqForm` -/
theorem seqLoop_is_seqForm (cfg : PCfg) (inp : Ast) (f : Nat) (st stEnd : PState) (s : SeqStep)
    (ts : List SeqStep) (h : SeqRun cfg inp f st ts stEnd) :
    seqLoop f cfg inp (stepOn inp s) st = .ok (seqForm inp s ts, stEnd) :=
  seqLoop_run cfg inp f st stEnd ts h _

/-! ## T0: what the regenerated facts say about the current source (leaf theorems: nothing builds on them, so a
change of the source that invalidates one of them stops only this module) -/

/-- T0: the identity key is rendered as the model's `identityKey` assumes: length-prefixed prefix,
local name (and value), then the sibling-index path -/
theorem identity_key_recipe_ok :
    Generated.hashKeyCases = ["AttributeNode,TextNode,CommentNode: writeKeyPart(&sb,n.Prefix()); writeKeyPart(&sb,n.LocalName()); writeKeyPart(&sb,n.Value())",
      "ElementNode: writeKeyPart(&sb,n.Prefix()); writeKeyPart(&sb,n.LocalName())"] ∧
    Generated.writeKeyPartSrc = "{sb.WriteString(strconv.Itoa(len(s)))sb.WriteByte(':')sb.WriteString(s)}" := ⟨rfl, rfl⟩

/-- T0: node identity is the key string itself — `getNodeKey` writes the node type first and returns the buffer's
string, and no table of `query.go` is keyed by a 64-bit number (with the FNV-64a hash of the key as
identity, colliding names can be constructed within a minute, §11.1) -/
theorem identity_is_the_key_string :
    Generated.nodeKeyHead = ["sb.WriteString(strconv.Itoa(int(n.NodeType())))", "sb.WriteByte(':')"] ∧
    Generated.nodeKeyIsString = true := ⟨rfl, rfl⟩

end XPathV.Theorems.C11

/-! ## the extended fragment `Frag2`

The same statements for operands in `PredSem2.Frag2 true` — the whole C02 fragment: besides
the forms of `Frag`, predicates `count(P) op n`, `n op count(P)`, `not(count(P))`, `contains` /
`starts-with` / `ends-with` over literals, `local-name()`, `local-name(P)` and flat paths,
`local-name(…) = 'lit'`, a path compared with a path or with a string literal (six operators, either
side), and the parenthesised filter input `(P)[b]`.  Proofs in `Lemmas/UnionSem2.lean`; `Frag true`
is contained in `Frag2 true` (`PredSem2.frag2_of_frag`), so these subsume the theorems above. -/
namespace XPathV.Theorems.C11
open XPathV XPathV.Model XPathV.Facts XPathV.PathSem XPathV.PredSem XPathV.PredSem2 XPathV.UnionSem
  XPathV.UnionSem2 NumAlg

variable {F : Type} [NumAlg F]

/-- **C11 (main theorem, through the builder, extended fragment)**: `C11_main` for operands of
`Frag2 true` -/
theorem C11_main_full {d : Doc} (wf : WF d) (cfg : ECfg) (hns : cfg.nsIface = true) (hinj : HashInj d cfg)
    (regexOk : RegexOk) (limit : Nat) (A B : Ast) (hA : Frag2 true A) (hB : Frag2 true B) (fl : Flags)
    (st : BState) (o : BOut) (hb : build regexOk limit true false (.oper "|" A B) fl st = .ok o)
    (c : Ref) (hc : validRef d c = true) :
    ∃ out nsA gA nsB gB nsU,
      sel (F := F) d cfg o.q c = .ok out ∧ (refs out).Nodup ∧
      Spec.eval (F := F) d A ⟨c, 1, 1⟩ = .ok (.val (.nodes nsA) gA) ∧
      Spec.eval (F := F) d B ⟨c, 1, 1⟩ = .ok (.val (.nodes nsB) gB) ∧
      (∀ x, x ∈ refs out ↔ x ∈ nsA ∨ x ∈ nsB) ∧
      Spec.eval (F := F) d (.oper "|" A B) ⟨c, 1, 1⟩ = .ok (.val (.nodes nsU) none) ∧
      nsU.Nodup ∧ (∀ x, x ∈ nsU ↔ x ∈ nsA ∨ x ∈ nsB) ∧ (∀ x, x ∈ refs out ↔ x ∈ nsU) :=
  UnionSem2.C11_main2 wf cfg hns hinj regexOk limit A B hA hB fl st o hb c hc

/-- `C11_main_full` without the `HashInj` hypothesis (`hashInj_holds`; the side condition left is "no
element has two attributes with the same prefix, name and value") -/
theorem C11_main_full_unconditional {d : Doc} (wf : WF d) (cfg : ECfg) (hns : cfg.nsIface = true)
    (hattr : AttrTriplesDistinct d)
    (regexOk : RegexOk) (limit : Nat) (A B : Ast) (hA : Frag2 true A) (hB : Frag2 true B) (fl : Flags)
    (st : BState) (o : BOut) (hb : build regexOk limit true false (.oper "|" A B) fl st = .ok o)
    (c : Ref) (hc : validRef d c = true) :
    ∃ out nsA gA nsB gB nsU,
      sel (F := F) d cfg o.q c = .ok out ∧ (refs out).Nodup ∧
      Spec.eval (F := F) d A ⟨c, 1, 1⟩ = .ok (.val (.nodes nsA) gA) ∧
      Spec.eval (F := F) d B ⟨c, 1, 1⟩ = .ok (.val (.nodes nsB) gB) ∧
      (∀ x, x ∈ refs out ↔ x ∈ nsA ∨ x ∈ nsB) ∧
      Spec.eval (F := F) d (.oper "|" A B) ⟨c, 1, 1⟩ = .ok (.val (.nodes nsU) none) ∧
      nsU.Nodup ∧ (∀ x, x ∈ nsU ↔ x ∈ nsA ∨ x ∈ nsB) ∧ (∀ x, x ∈ refs out ↔ x ∈ nsU) :=
  C11_main_full wf cfg hns (PathSem.hashInj_holds wf hattr cfg) regexOk limit A B hA hB fl st o hb c hc

/-- **n-ary, extended fragment**: `C11_nary` for operands of `Frag2 true` -/
theorem C11_nary_full {d : Doc} (wf : WF d) (cfg : ECfg) (hns : cfg.nsIface = true) (hinj : HashInj d cfg)
    (regexOk : RegexOk) (limit : Nat) (p : Ast) (ps : List Ast) (hp : Frag2 true p)
    (hps : ∀ q ∈ ps, Frag2 true q) (hne : ps ≠ []) (st : BState) (o : BOut)
    (hb : build regexOk limit true false (unionOf p ps) {} st = .ok o)
    (c : Ref) (hc : validRef d c = true) :
    ∃ out ns g, sel (F := F) d cfg o.q c = .ok out ∧ (refs out).Nodup ∧
      Spec.eval (F := F) d (unionOf p ps) ⟨c, 1, 1⟩ = .ok (.val (.nodes ns) g) ∧ ns.Nodup ∧
      (∀ x, x ∈ refs out ↔ ∃ q ∈ p :: ps, x ∈ nodesAt d F q c) ∧
      (∀ x, x ∈ ns ↔ ∃ q ∈ p :: ps, x ∈ nodesAt d F q c) :=
  union_nary cfg hinj regexOk limit p ps (operand_frag2 wf cfg hns hinj regexOk limit p hp)
    (fun q hq => operand_frag2 wf cfg hns hinj regexOk limit q (hps q hq)) hne st o hb c hc

/-- `C11_nary_full` without the `HashInj` hypothesis -/
theorem C11_nary_full_unconditional {d : Doc} (wf : WF d) (cfg : ECfg) (hns : cfg.nsIface = true)
    (hattr : AttrTriplesDistinct d)
    (regexOk : RegexOk) (limit : Nat) (p : Ast) (ps : List Ast) (hp : Frag2 true p)
    (hps : ∀ q ∈ ps, Frag2 true q) (hne : ps ≠ []) (st : BState) (o : BOut)
    (hb : build regexOk limit true false (unionOf p ps) {} st = .ok o)
    (c : Ref) (hc : validRef d c = true) :
    ∃ out ns g, sel (F := F) d cfg o.q c = .ok out ∧ (refs out).Nodup ∧
      Spec.eval (F := F) d (unionOf p ps) ⟨c, 1, 1⟩ = .ok (.val (.nodes ns) g) ∧ ns.Nodup ∧
      (∀ x, x ∈ refs out ↔ ∃ q ∈ p :: ps, x ∈ nodesAt d F q c) ∧
      (∀ x, x ∈ ns ↔ ∃ q ∈ p :: ps, x ∈ nodesAt d F q c) :=
  C11_nary_full wf cfg hns (PathSem.hashInj_holds wf hattr cfg) regexOk limit p ps hp hps hne st o hb
    c hc

/-- **sequence form `p/(s, t, …)`, extended fragment**: `C11_sequence` for `p` in `Frag2 true` and
member steps whose predicates are in `Frag2 false` (`StepOK2`) -/
theorem C11_sequence_full {d : Doc} (wf : WF d) (cfg : ECfg) (hns : cfg.nsIface = true) (hinj : HashInj d cfg)
    (regexOk : RegexOk) (limit : Nat) (p : Ast) (hp : Frag2 true p) (s : SeqStep)
    (ss : List SeqStep) (hs : StepOK2 s) (hss : ∀ t ∈ ss, StepOK2 t) (st : BState) (o : BOut)
    (hb : build regexOk limit true false (seqForm p s ss) {} st = .ok o)
    (c : Ref) (hc : validRef d c = true) :
    ∃ out ns g, sel (F := F) d cfg o.q c = .ok out ∧
      Spec.eval (F := F) d (seqForm p s ss) ⟨c, 1, 1⟩ = .ok (.val (.nodes ns) g) ∧
      (∀ x, x ∈ refs out ↔ x ∈ ns) ∧
      (∀ x, x ∈ ns ↔ ∃ t ∈ s :: ss, ∃ n ∈ nodesAt d F p c, x ∈ nodesAt d F (stepOn .none t) n) ∧
      (ss ≠ [] → (refs out).Nodup ∧ ns.Nodup) :=
  have hall : ∀ t ∈ s :: ss, StepOK2 t := List.forall_mem_cons.2 ⟨hs, hss⟩
  union_sequence cfg hinj regexOk limit p s ss
    (fun t ht => operand_frag2 wf cfg hns hinj regexOk limit _ (stepOn_frag2 p hp t (hall t ht)))
    (fun t ht => step_compose d (Compose3.frag2_opath d hp) t (hall t ht).1
      (fun b hb => Compose3.nodeTest_frag2 d ((hall t ht).2 b hb)))
    st o hb c hc

/-- `C11_sequence_full` without the `HashInj` hypothesis -/
theorem C11_sequence_full_unconditional {d : Doc} (wf : WF d) (cfg : ECfg) (hns : cfg.nsIface = true)
    (hattr : AttrTriplesDistinct d)
    (regexOk : RegexOk) (limit : Nat) (p : Ast) (hp : Frag2 true p) (s : SeqStep)
    (ss : List SeqStep) (hs : StepOK2 s) (hss : ∀ t ∈ ss, StepOK2 t) (st : BState) (o : BOut)
    (hb : build regexOk limit true false (seqForm p s ss) {} st = .ok o)
    (c : Ref) (hc : validRef d c = true) :
    ∃ out ns g, sel (F := F) d cfg o.q c = .ok out ∧
      Spec.eval (F := F) d (seqForm p s ss) ⟨c, 1, 1⟩ = .ok (.val (.nodes ns) g) ∧
      (∀ x, x ∈ refs out ↔ x ∈ ns) ∧
      (∀ x, x ∈ ns ↔ ∃ t ∈ s :: ss, ∃ n ∈ nodesAt d F p c, x ∈ nodesAt d F (stepOn .none t) n) ∧
      (ss ≠ [] → (refs out).Nodup ∧ ns.Nodup) :=
  C11_sequence_full wf cfg hns (PathSem.hashInj_holds wf hattr cfg) regexOk limit p hp s ss hs hss st
    o hb c hc

end XPathV.Theorems.C11

/-! ## from the expression text, through `compile` (`Lemmas/ApiSem4.lean`)

The theorems above start from a parse tree and a successful `build`.  Here the statement starts from
the text: the parser (as `compile` runs it) turns it into `A | B` with operands in `Frag2 true`.
A union plan is not `PathShape`, but `evaluate` does not need that: `evalP` on `.union _ _` takes
its default arm, so `Evaluate` is covered too (`C11_from_text_evaluate`). -/
namespace XPathV.Theorems.C11
open XPathV XPathV.Model XPathV.Facts XPathV.PathSem XPathV.PredSem XPathV.PredSem2 XPathV.UnionSem
  XPathV.UnionSem2 XPathV.ApiSem NumAlg

/-- **C11 from the expression text**: for a text the parser turns into `A | B` with operands of the
extended fragment, `compile` at the source configuration either reports a builder error (never
"empty", a parse error, lack of fuel or the nil query) or returns a plan on which `Select`, from
every valid context node of every well-formed document, yields each node of the oracle's value of
`A | B` exactly once and nothing else -/
theorem C11_from_text (regexOk : RegexOk) (ns : Option (List (String × String)))
    (text : List Char) (A B : Ast)
    (hparse : parse (fuelFor text) (defaultCfg ns) text = .ok (.oper "|" A B))
    (hA : Frag2 true A) (hB : Frag2 true B) :
    (∃ e, compile { regexOk := regexOk } ns text = .error (.build e)) ∨
    (∃ p, compile { regexOk := regexOk } ns text = .ok p ∧
      ∀ (F : Type) [NumAlg F] (d : Doc), WF d → ∀ cfg : ECfg, cfg.nsIface = true → HashInj d cfg →
        ∀ c, validRef d c = true →
          ∃ l nsl, selectAll (F := F) d cfg p c = .ok l ∧ l.Nodup ∧
            Spec.evalTop (F := F) d (.oper "|" A B) c = .ok (.nodes nsl) ∧ ∀ x, x ∈ l ↔ x ∈ nsl) := by
  rcases C11_compile_total regexOk ns text A B hparse hA hB with h | ⟨p, h1, _, h3⟩
  · exact .inl h
  · refine .inr ⟨p, h1, fun F _ d wf cfg hns hinj c hc => ?_⟩
    obtain ⟨l, nsl, a1, _, a3, a4, _, a6, _⟩ := h3 F d wf cfg hns hinj c hc
    exact ⟨l, nsl, a1, a3, a4, a6⟩

/-- `C11_from_text` without the `HashInj` hypothesis (`hashInj_holds`; the side condition left is "no
element has two attributes with the same prefix, name and value") -/
theorem C11_from_text_unconditional (regexOk : RegexOk) (ns : Option (List (String × String)))
    (text : List Char) (A B : Ast)
    (hparse : parse (fuelFor text) (defaultCfg ns) text = .ok (.oper "|" A B))
    (hA : Frag2 true A) (hB : Frag2 true B) :
    (∃ e, compile { regexOk := regexOk } ns text = .error (.build e)) ∨
    (∃ p, compile { regexOk := regexOk } ns text = .ok p ∧
      ∀ (F : Type) [NumAlg F] (d : Doc), WF d → ∀ cfg : ECfg, cfg.nsIface = true →
        AttrTriplesDistinct d →
        ∀ c, validRef d c = true →
          ∃ l nsl, selectAll (F := F) d cfg p c = .ok l ∧ l.Nodup ∧
            Spec.evalTop (F := F) d (.oper "|" A B) c = .ok (.nodes nsl) ∧ ∀ x, x ∈ l ↔ x ∈ nsl) := by
  rcases C11_from_text regexOk ns text A B hparse hA hB with h | ⟨p, h1, h2⟩
  · exact .inl h
  · exact .inr ⟨p, h1, fun F _ d wf cfg hns hattr c hc =>
      h2 F d wf cfg hns (hashInj_holds wf hattr cfg) c hc⟩

/-- **C11 from the expression text, `Select` and `Evaluate`**: the plan is a union plan, `Evaluate`
returns the list `Select` yields, the oracle's node-set has no repetition either and is the union
of the operands' node-sets -/
theorem C11_from_text_evaluate (regexOk : RegexOk) (ns : Option (List (String × String)))
    (text : List Char) (A B : Ast)
    (hparse : parse (fuelFor text) (defaultCfg ns) text = .ok (.oper "|" A B))
    (hA : Frag2 true A) (hB : Frag2 true B) :
    (∃ e, compile { regexOk := regexOk } ns text = .error (.build e)) ∨
    (∃ p, compile { regexOk := regexOk } ns text = .ok p ∧ (∃ l r, p = .union l r) ∧
      ∀ (F : Type) [NumAlg F] (d : Doc), WF d → ∀ cfg : ECfg, cfg.nsIface = true → HashInj d cfg →
        ∀ c, validRef d c = true →
          ∃ l nsl, selectAll (F := F) d cfg p c = .ok l ∧ evaluate (F := F) d cfg p c = .ok (.nodes l) ∧
            l.Nodup ∧ Spec.evalTop (F := F) d (.oper "|" A B) c = .ok (.nodes nsl) ∧ nsl.Nodup ∧
            (∀ x, x ∈ l ↔ x ∈ nsl) ∧
            (∀ x, x ∈ nsl ↔ x ∈ nodesAt d F A c ∨ x ∈ nodesAt d F B c)) :=
  C11_compile_total regexOk ns text A B hparse hA hB

end XPathV.Theorems.C11

