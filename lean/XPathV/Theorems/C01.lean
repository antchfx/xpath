import XPathV.Lemmas.PathSem
import XPathV.Lemmas.AxesLemmas
import XPathV.Generated.ExtraFacts
import XPathV.Model.Api
import XPathV.Lemmas.Facts
import XPathV.Lemmas.ApiSem
/-!
# C01 — predicate-free location paths select exactly the XPath 1.0 node-set
-/
namespace XPathV.Theorems.C01
open XPathV XPathV.Model XPathV.Facts

/-- T0 (F4): the axis switch of `processAxis` maps each axis name to the iterator and flag
settings the model's `axisPlan` assumes -/
theorem axis_table_ok : Generated.axisTable = [
    ⟨"ancestor", [("ancestorQuery", [])], true⟩,
    ⟨"ancestor-or-self", [("ancestorQuery", ["Self=true"])], true⟩,
    ⟨"attribute", [("attributeQuery", [])], false⟩,
    ⟨"child", [("childQuery", []), ("cachedChildQuery", [])], false⟩,
    ⟨"descendant", [("descendantOverDescendantQuery", ["MatchSelf=false"]), ("descendantQuery", [])], true⟩,
    ⟨"descendant-or-self", [("descendantOverDescendantQuery", ["MatchSelf=true"]), ("descendantQuery", ["Self=true"])], true⟩,
    ⟨"following", [("followingQuery", [])], true⟩,
    ⟨"following-sibling", [("followingQuery", ["Sibling=true"])], false⟩,
    ⟨"parent", [("parentQuery", [])], false⟩,
    ⟨"preceding", [("precedingQuery", [])], true⟩,
    ⟨"preceding-sibling", [("precedingQuery", ["Sibling=true"])], false⟩,
    ⟨"self", [("selfQuery", [])], false⟩,
    ⟨"namespace", [], false⟩] ∧ Generated.axisDefaultErrors = true := by decide

/-- T0 (F4): the `//name` shortcut fires only for `descendant-or-self::node()` (before the repair
the condition lacked the node-test conjuncts and dropped the step's name test).  The same text as in
`Lemmas.SourceConfig.shortcut_guard_from_source` -/
theorem shortcut_condition_ok : Generated.shortcutCondSrc =
    "!(root.Input==nil) && (flags&flagsEnum.Filter)==0 && root.AxisType==\"child\"&&(root.Input.Type()==nodeAxis) && input:=root.Input.(*axisNode);input.AxisType==\"descendant-or-self\"&&input.typeTest==allNode&&input.LocalName==\"\"&&input.Prefix==\"\"" := rfl

/-- the model's shortcut guard is read off the source and is on (an instance of
`Lemmas.SourceConfig.shortcut_guard_from_source`) -/
theorem shortcut_guard_from_source : Model.shortcutNeedsNodeTestFromSource = true :=
  Lemmas.SourceConfig.shortcut_guard_from_source

/-! ## The Go traversal loops enumerate the XPath axes (every well-formed document, every node) -/

/-- child: `MoveToChild` then `MoveToNext…` yields exactly the children, in document order -/
theorem child_walk {d : Doc} (wf : WF d) (i : Nat) (hi : i < d.length) :
    childrenM d (.node i) = Spec.children d (.node i) := children_spec wf i hi

/-- descendant: the child/next/parent-with-level loop of `descendantQuery` yields exactly the
descendants, in document order, and its level counter is the relative depth -/
theorem descendant_walk {d : Doc} (wf : WF d) (i : Nat) (hi : i < d.length) :
    (descM d (.node i)).map (·.1) = Spec.descendants d (.node i) ∧
    ∀ rl ∈ descM d (.node i), rl.2 = dep d rl.1.idx - dep d i :=
  ⟨desc_spec wf i hi, desc_level wf i hi⟩

/-- ancestor: the `MoveToParent` chain is the ancestor axis (nearest first), for every node incl. attributes -/
theorem ancestor_walk (d : Doc) (r : Ref) : ancestorsM d r = Spec.ancestors d r := ancestors_spec d r

/-- following-sibling / preceding-sibling -/
theorem sibling_walks {d : Doc} (wf : WF d) (i : Nat) (hi : i < d.length) :
    nextSibsM d (.node i) = Spec.followingSiblings d (.node i) ∧
    (prevSibsM d (.node i)).reverse = Spec.precedingSiblings d (.node i) :=
  ⟨nextSibs_spec wf i hi, prevSibs_spec wf i hi⟩

/-- following: climbing to each later sibling subtree and walking it in pre-order yields exactly the
following axis, in document order -/
theorem following_walk {d : Doc} (wf : WF d) (i : Nat) (hi : i < d.length) :
    (followRoots d (2 * d.length + 2) (.node i)).flatMap (fun r => r :: (descM d r).map (·.1)) = Spec.following d (.node i) :=
  following_spec_eq wf i hi

/-- preceding: the earlier sibling subtrees of the node and of its ancestors are exactly the preceding axis -/
theorem preceding_walk {d : Doc} (wf : WF d) (i : Nat) (hi : i < d.length) (x : Ref) :
    x ∈ (precRoots d (2 * d.length + 2) (.node i) false).flatMap (fun rb => rb.1 :: (descM d rb.1).map (·.1)) ↔
      x ∈ Spec.preceding d (.node i) :=
  preceding_spec wf i hi x

/-! ## The main theorem -/

variable {F : Type} [NumAlg F]

/-- **C01** (full statement, closed): for every well-formed document, every valid context node
(elements, text, comments, the root *and attributes*), and every predicate-free location path over
the twelve axes with any node tests, the plan the builder model produces — with all its rewrites:
the `//name` shortcut, descendant-over-descendant, `cachedChild` — yields exactly the XPath 1.0
node-set of the path.  Neither side fails.  `HashInj` says that the node key the ancestor
axes de-duplicate with is injective (a theorem: `PathSem.hashInj_holds`, see `C01_main_unconditional`); `cfg.nsIface` says the navigator exposes
namespace URIs.  The builder configuration is the one read off the current source. -/
theorem C01_main {d : Doc} (wf : WF d) (cfg : ECfg) (hns : cfg.nsIface = true)
    (hinj : PathSem.HashInj d cfg) (regexOk : RegexOk) (limit : Nat) (p : Ast) (hp : PathSem.PathPF p)
    (o : BOut)
    (hb : build regexOk limit shortcutNeedsNodeTestFromSource smartDescThroughFilterFromSource p {} {} = .ok o)
    (c : Ref) (hc : validRef d c = true) :
    ∃ out ns, sel (F := F) d cfg o.q c = .ok out ∧
      Spec.evalTop (F := F) d p c = .ok (.nodes ns) ∧ ∀ x, x ∈ PathSem.refs out ↔ x ∈ ns :=
  PathSem.C01_source_config wf cfg hns hinj regexOk limit p hp o hb c hc

/-- `C01_main` without the `HashInj` hypothesis (it is a theorem: `hashInj_holds`; the side
condition left is "no element has two attributes with the same prefix, name and value") -/
theorem C01_main_unconditional {d : Doc} (wf : WF d) (cfg : ECfg) (hns : cfg.nsIface = true)
    (hattr : AttrTriplesDistinct d) (regexOk : RegexOk) (limit : Nat) (p : Ast) (hp : PathSem.PathPF p)
    (o : BOut)
    (hb : build regexOk limit shortcutNeedsNodeTestFromSource smartDescThroughFilterFromSource p {} {} = .ok o)
    (c : Ref) (hc : validRef d c = true) :
    ∃ out ns, sel (F := F) d cfg o.q c = .ok out ∧
      Spec.evalTop (F := F) d p c = .ok (.nodes ns) ∧ ∀ x, x ∈ PathSem.refs out ↔ x ∈ ns :=
  C01_main wf cfg hns (PathSem.hashInj_holds wf hattr cfg) regexOk limit p hp o hb c hc

/-- a single step from any valid context node: the walk of each of the twelve axes is the XPath axis -/
theorem C01_single_step {d : Doc} (wf : WF d) (o : Ref) (ho : validRef d o = true) (ax : String)
    (hax : ax ∈ PathSem.axes12) (x : Ref) :
    x ∈ PathSem.axisRefsM d ax o ↔ x ∈ (Spec.axisNodes d ax o).getD [] :=
  PathSem.axisRefsM_spec wf o ho ax hax x

/-- non-vacuity: `//b` (as the parser produces it) is in the fragment -/
example : PathSem.PathPF (.axis ⟨"child", .elem, "", "b", "", false, ""⟩ (.axis ⟨"descendant-or-self", .all, "", "", "", false, ""⟩ (.root "//"))) :=
  .axis _ _ (.axis _ _ (.root _) (by decide)) (by decide)

open XPathV.PathSem XPathV.ApiSem in
/-- **C01 at the public API, from the expression text**: `compile` (scanner + parser + builder at
the configuration read off the current source, the fuel `compile` itself supplies) followed by
`Select`: if the text parses into a predicate-free path, the compiled expression selects, at every
valid context node of every well-formed document, exactly the members of the oracle's node set -/
theorem C01_from_text {d : Doc} (wf : WF d) (cfg : ECfg) (hns : cfg.nsIface = true)
    (hinj : HashInj d cfg) (regexOk : RegexOk) (ns : Option (List (String × String)))
    (text : List Char) (a : Ast) (hparse : parse (fuelFor text) (defaultCfg ns) text = .ok a)
    (hpf : PathPF a) (p : Plan) (hcomp : compile { regexOk := regexOk } ns text = .ok p)
    (c : Ref) (hc : validRef d c = true) :
    ∃ l nsl, selectAll (F := F) d cfg p c = .ok l ∧
      Spec.evalTop (F := F) d a c = .ok (.nodes nsl) ∧ ∀ x, x ∈ l ↔ x ∈ nsl :=
  C01_compile wf cfg hns hinj { regexOk := regexOk } (srcCfg_snt regexOk)
    ns text a hparse hpf p hcomp c hc

open XPathV.PathSem XPathV.ApiSem in
/-- `C01_from_text` without the `HashInj` hypothesis (it is a theorem: `hashInj_holds`; the side
condition left is "no element has two attributes with the same prefix, name and value") -/
theorem C01_from_text_unconditional {d : Doc} (wf : WF d) (cfg : ECfg) (hns : cfg.nsIface = true)
    (hattr : AttrTriplesDistinct d) (regexOk : RegexOk) (ns : Option (List (String × String)))
    (text : List Char) (a : Ast) (hparse : parse (fuelFor text) (defaultCfg ns) text = .ok a)
    (hpf : PathPF a) (p : Plan) (hcomp : compile { regexOk := regexOk } ns text = .ok p)
    (c : Ref) (hc : validRef d c = true) :
    ∃ l nsl, selectAll (F := F) d cfg p c = .ok l ∧
      Spec.evalTop (F := F) d a c = .ok (.nodes nsl) ∧ ∀ x, x ∈ l ↔ x ∈ nsl :=
  C01_from_text wf cfg hns (PathSem.hashInj_holds wf hattr cfg) regexOk ns text a hparse hpf p hcomp
    c hc

/-- T0: `ancestor::` tells the nodes it has seen apart by the node key string itself — `getNodeKey` writes the node
type first and returns the buffer's string; no table of `query.go` is keyed by a 64-bit number (until e5691be the
FNV-64a hash of the key was the identity and an ancestor whose key collided with another's was lost) -/
theorem identity_is_the_key_string :
    Generated.nodeKeyHead = ["sb.WriteString(strconv.Itoa(int(n.NodeType())))", "sb.WriteByte(':')"] ∧
    Generated.nodeKeyIsString = true := ⟨rfl, rfl⟩

end XPathV.Theorems.C01
