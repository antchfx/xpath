import XPathV.Model.Api
import XPathV.Lemmas.Facts
import XPathV.Lemmas.RootedPlans
import XPathV.Lemmas.Compose
import XPathV.Lemmas.Compose2
import XPathV.Lemmas.Compose3
import XPathV.Lemmas.Pull2.Context
/-!
# C13 — absolute paths ignore the start node; relative paths compose with the context

Property-level theorems.  What they rest on is in `Lemmas/RootedPlans.lean` (start-node
independence of rooted plans, by induction on plans) and `Lemmas/Compose.lean` … `Compose3.lean`
(composition stated once for step chains: `eval_plug`, `compose_sel`, `Computes.same`; the built plan
of an absolute chain is rooted: `abs_chain_start_indep`).

Fragment: `PathPF` = predicate-free location paths over the 12 axes (any node test);
`AbsPF` = those whose leaf is `/`; `RelPF` = those whose leaf is the context node.
`appendPath q p` is the parse tree of `q/p`.

Iterator level (`Model/Pull2.lean`, all sixteen node-set iterator types as Go-like state machines
sharing the context node `t.Current()`): `C13_select_leaves_context_node` — no `Select` leaves the
context node moved, so whatever is evaluated after an earlier operand, argument or predicate sees
the context node it was meant to see (proof: `Lemmas/Pull2/Context.lean`).
-/
namespace XPathV.Theorems.C13
open XPathV XPathV.Model XPathV.Facts XPathV.PathSem XPathV.Compose NumAlg

variable {F : Type} [NumAlg F]

/-- `RootedPlans.abs_start_indep` under the name the property is cited by: a plan in which every
read of the context outside predicates goes through `absoluteQuery` yields the same sequence from
every start node -/
theorem abs_start_indep (d : Doc) (cfg : ECfg) (p : Plan) (h : RootedPlans.Rooted p = true) (c₁ c₂ : Ref) :
    sel (F := F) d cfg p c₁ = sel (F := F) d cfg p c₂ :=
  RootedPlans.abs_start_indep d cfg p h c₁ c₂

/-- wrapping in parentheses preserves the node sequence -/
theorem group_preserves_sequence (d : Doc) (cfg : ECfg) (p : Plan) (c : Ref) (ins : List Item)
    (h : sel (F := F) d cfg p c = .ok ins) :
    (sel (F := F) d cfg (.group p) c).map (fun o => o.map (·.r)) = .ok (ins.map (·.r)) := by
  simp [sel, h, bind, Except.bind, numbered, Except.map, List.map_map, Function.comp_def]

/-- the steps of a relative path compose: a child step over an input is the concatenation of the
child steps from each input node (the denotation of a path is the union over its prefix) -/
theorem rel_compose_child (d : Doc) (cfg : ECfg) (a : AxisInfo) (inp : Plan) (c : Ref) (ins : List Item)
    (h : sel (F := F) d cfg inp c = .ok ins) :
    (sel (F := F) d cfg (.child a inp) c).map (fun o => o.map (·.r)) =
      .ok (ins.flatMap (fun it => (childrenM d it.r).filter (nodeTestM d cfg a))) := by
  simp [sel, h, bind, Except.bind, numbered, Except.map, test, List.map_flatMap, List.map_map, Function.comp_def]

/-- **C13, absolute paths (oracle)**: an absolute predicate-free path has the same value in every
context -/
theorem C13_absolute_spec (d : Doc) {p : Ast} (hp : AbsPF p) (c₁ c₂ : Spec.Ctx) :
    Spec.eval (F := F) d p c₁ = Spec.eval (F := F) d p c₂ :=
  abs_eval_indep d hp c₁ c₂

/-- **C13, absolute paths (model, the plan `build` produces, with every rewrite)**: the same
*sequence* — or the same failure — from every start node; no assumption on the document, the
start nodes, the namespace configuration or the hash -/
theorem C13_absolute_build (d : Doc) (cfg : ECfg) (regexOk : RegexOk) (limit : Nat) (snt sdf : Bool)
    {p : Ast} (hp : AbsPF p) (fl : Flags) (st : BState) (o : BOut)
    (h : build regexOk limit snt sdf p fl st = .ok o) (c₁ c₂ : Ref) :
    sel (F := F) d cfg o.q c₁ = sel (F := F) d cfg o.q c₂ :=
  Compose2.abs_chain_start_indep d cfg regexOk limit snt sdf hp.chain fl st o h c₁ c₂

/-- **C13, path composition (oracle)**: `x` is selected by `q/p` from context `c` iff it is
selected by `p` from some node that `q` selects from `c`; any context, any document -/
theorem C13_compose_spec (d : Doc) {q p : Ast} (hq : PathPF q) (hp : RelPF p) (c : Spec.Ctx) (x : Ref) :
    x ∈ nodesOf (Spec.eval (F := F) d (appendPath q p) c) ↔
      ∃ n ∈ nodesOf (Spec.eval (F := F) d q c), x ∈ nodesOf (Spec.eval (F := F) d p ⟨n, 1, 1⟩) :=
  eval_append d hq hp c x

/-- **C13, relative paths compose with the context (model, built plans)**: if the absolute
path `q` addresses exactly the node `n`, then the plan `build` makes of the relative path `p`,
started at `n`, and the plan it makes of `q/p`, started at the root, both succeed and select the
same node set (through `C01_main`).  Hypotheses: well-formed document, navigator exposing namespace URIs,
`HashInj` (node keys are injective: a theorem, `PathSem.hashInj_holds` — see the `_unconditional` corollary). -/
theorem C13_relative_compose {d : Doc} (wf : WF d) (cfg : ECfg) (hns : cfg.nsIface = true)
    (hinj : HashInj d cfg) (regexOk : RegexOk) (limit : Nat) (sdf : Bool)
    {q p : Ast} (hq : PathPF q) (hp : RelPF p) (n : Ref)
    (h : nodesOf (Spec.eval (F := F) d q ⟨.node 0, 1, 1⟩) = [n])
    (st st' : BState) (o o' : BOut)
    (hb : build regexOk limit true sdf p {} st = .ok o)
    (hb' : build regexOk limit true sdf (appendPath q p) {} st' = .ok o') :
    ∃ o1 o2, sel (F := F) d cfg o.q n = .ok o1 ∧ sel (F := F) d cfg o'.q (.node 0) = .ok o2 ∧
      ∀ x, x ∈ refs o1 ↔ x ∈ refs o2 :=
  (build_computes wf cfg hns hinj regexOk limit sdf hp.pathPF st o hb n
      (valid_of_single wf cfg hns hinj hq n h)).same
    (build_computes wf cfg hns hinj regexOk limit sdf (appendPath_pathPF hq hp) st' o' hb' _
      (valid_root wf))
    (rel_compose_spec d hq hp n h)

/-- `C13_relative_compose` without the `HashInj` hypothesis (it is a theorem: `hashInj_holds`; the side
condition left is "no element has two attributes with the same prefix, name and value") -/
theorem C13_relative_compose_unconditional {d : Doc} (wf : WF d) (cfg : ECfg) (hns : cfg.nsIface = true)
    (hattr : AttrTriplesDistinct d) (regexOk : RegexOk) (limit : Nat) (sdf : Bool)
    {q p : Ast} (hq : PathPF q) (hp : RelPF p) (n : Ref)
    (h : nodesOf (Spec.eval (F := F) d q ⟨.node 0, 1, 1⟩) = [n])
    (st st' : BState) (o o' : BOut)
    (hb : build regexOk limit true sdf p {} st = .ok o)
    (hb' : build regexOk limit true sdf (appendPath q p) {} st' = .ok o') :
    ∃ o1 o2, sel (F := F) d cfg o.q n = .ok o1 ∧ sel (F := F) d cfg o'.q (.node 0) = .ok o2 ∧
      ∀ x, x ∈ refs o1 ↔ x ∈ refs o2 :=
  C13_relative_compose wf cfg hns (PathSem.hashInj_holds wf hattr cfg) regexOk limit sdf hq hp n h
    st st' o o' hb hb'

/-- … and on the oracle side the two node *lists* are equal (both in document order) -/
theorem C13_relative_compose_spec (d : Doc) {q p : Ast} (hq : PathPF q) (hp : RelPF p) (c : Spec.Ctx) (n : Ref)
    (h : nodesOf (Spec.eval (F := F) d q c) = [n]) :
    nodesOf (Spec.eval (F := F) d p ⟨n, 1, 1⟩) = nodesOf (Spec.eval (F := F) d (appendPath q p) c) := by
  cases hp with
  | none => simp only [appendPath, h, Spec.eval, nodesOf_ok]
  | axis a inp hinp ha =>
    simp only [appendPath]
    rw [nodesOf_axis_eq d a ha (opath_pathPF d hinp.pathPF _),
      nodesOf_axis_eq d a ha ((hinp.plug d q).opath (opath_pathPF d hq) c)]
    apply docOrder_congr
    intro x
    simp only [List.mem_flatten, List.mem_map]
    have hin := plug_single (hinp.plug (F := F) d q) (opath_pathPF d hq) c n (mem_singleton_of_eq h)
    constructor
    · rintro ⟨l, ⟨o, ho, rfl⟩, hx⟩; exact ⟨_, ⟨o, (hin o).1 ho, rfl⟩, hx⟩
    · rintro ⟨l, ⟨o, ho, rfl⟩, hx⟩; exact ⟨_, ⟨o, (hin o).2 ho, rfl⟩, hx⟩

/-- appending an absolute path to anything changes nothing (oracle and model) -/
theorem C13_absolute_after_anything (d : Doc) (cfg : ECfg) (q : Ast) {p : Ast} (hp : AbsPF p) (c₁ c₂ : Ref) :
    Spec.eval (F := F) d (appendPath q p) ⟨c₁, 1, 1⟩ = Spec.eval (F := F) d p ⟨c₂, 1, 1⟩ ∧
    sel (F := F) d cfg (naivePlan (appendPath q p)) c₁ = sel (F := F) d cfg (naivePlan p) c₂ := by
  -- the un-rewritten plan of a predicate-free path is its `predPlan`
  rw [appendPath_abs q hp, ← PredSem.predPlan_pathPF p hp.pathPF]
  exact ⟨abs_eval_indep d hp _ _, Compose2.abs_model_indep2 d cfg (Compose2.AbsPF.absFrag hp) c₁ c₂⟩

/-- **wrapper `P[true()]`**: keeps every node, in order; fails exactly when `P` does -/
theorem C13_wrap_true (d : Doc) (cfg : ECfg) (p : Plan) (c : Ref) :
    (∀ ins, sel (F := F) d cfg p c = .ok ins →
      ∃ out, sel (F := F) d cfg (.filter p (.func "true" .nil .pnil)) c = .ok out ∧ refs out = refs ins) ∧
    (∀ e, sel (F := F) d cfg p c = .error e →
      sel (F := F) d cfg (.filter p (.func "true" .nil .pnil)) c = .error e) :=
  ⟨fun ins h => by
    refine ⟨filterPositions ins, ?_, PredSem.filterPositions_refs ins⟩
    have ht := fun r => evalP_true (F := F) d cfg r
    simp only [truePlan] at ht
    rw [sel]
    simp only [h, bind, Except.bind]
    rw [mapM_eq_ok_map _ (fun _ => true) ins]
    · simp only []
      rw [keep_all_true]
    · intro it
      simp [ht, pure, Except.pure, predDecision],
   fun e h => by rw [sel]; simp [h, bind, Except.bind]⟩

/-- **wrapper `(P)`**: same node sequence (positions renumbered); fails exactly when `P` does -/
theorem C13_wrap_group (d : Doc) (cfg : ECfg) (p : Plan) (c : Ref) :
    (∀ ins, sel (F := F) d cfg p c = .ok ins →
      ∃ out, sel (F := F) d cfg (.group p) c = .ok out ∧ refs out = refs ins) ∧
    (∀ e, sel (F := F) d cfg p c = .error e → sel (F := F) d cfg (.group p) c = .error e) :=
  ⟨fun ins h => ⟨numbered (ins.map (·.r)), by simp [sel, h, bind, Except.bind], numbered_refs _⟩,
   fun e h => by simp [sel, h, bind, Except.bind]⟩

/-- **wrapper `P | P`** for a predicate-free path: the model's union and the oracle's union both
denote exactly the nodes of `P`, without duplicates -/
theorem C13_wrap_union_self {d : Doc} (wf : WF d) (cfg : ECfg) (hns : cfg.nsIface = true)
    (hinj : HashInj d cfg) {p : Ast} (hp : PathPF p) (c : Ref) (hc : validRef d c = true) :
    ∃ out ns, sel (F := F) d cfg (.union (naivePlan p) (naivePlan p)) c = .ok out ∧
      Spec.eval (F := F) d (.oper "|" p p) ⟨c, 1, 1⟩ = .ok (.val (.nodes ns) none) ∧
      (∀ x, x ∈ refs out ↔ x ∈ ns) ∧ (refs out).Nodup ∧
      (∀ x, x ∈ ns ↔ x ∈ nodesOf (Spec.eval (F := F) d p ⟨c, 1, 1⟩)) := by
  obtain ⟨a, ns, g, h1, h2, h3, h4⟩ := naive_sem (F := F) wf cfg hns hinj p hp c hc
  obtain ⟨out, ho, hm, hnd⟩ := union_self (F := F) d cfg hinj (naivePlan p) c a h1
    (fun x hx => h4 x ((h3 x).1 hx))
  obtain ⟨hs, hsm⟩ := union_self_spec (F := F) d p ⟨c, 1, 1⟩ ns g h2
  refine ⟨out, _, ho, hs, fun x => ?_, hnd, fun x => ?_⟩
  · rw [hm, hsm, h3]; exact ⟨fun h => ⟨h, h4 x h⟩, fun h => h.1⟩
  · rw [hsm, h2]; exact ⟨fun h => h.1, fun h => ⟨h, h4 x h⟩⟩

/-- `C13_wrap_union_self` without the `HashInj` hypothesis (it is a theorem: `hashInj_holds`; the side
condition left is "no element has two attributes with the same prefix, name and value") -/
theorem C13_wrap_union_self_unconditional {d : Doc} (wf : WF d) (cfg : ECfg) (hns : cfg.nsIface = true)
    (hattr : AttrTriplesDistinct d) {p : Ast} (hp : PathPF p) (c : Ref) (hc : validRef d c = true) :
    ∃ out ns, sel (F := F) d cfg (.union (naivePlan p) (naivePlan p)) c = .ok out ∧
      Spec.eval (F := F) d (.oper "|" p p) ⟨c, 1, 1⟩ = .ok (.val (.nodes ns) none) ∧
      (∀ x, x ∈ refs out ↔ x ∈ ns) ∧ (refs out).Nodup ∧
      (∀ x, x ∈ ns ↔ x ∈ nodesOf (Spec.eval (F := F) d p ⟨c, 1, 1⟩)) :=
  C13_wrap_union_self wf cfg hns (PathSem.hashInj_holds wf hattr cfg) hp c hc

/-- **wrapper `not(not(P))` = `boolean(P)`** at plan level, for **every** plan `P` — whatever `P`
evaluates to (node-set, boolean, number, string), failures included.  (With the unrepaired
`notFunc` this holds only when `P` evaluates to a node-set or a boolean, or fails.) -/
theorem C13_wrap_not_not (d : Doc) (cfg : ECfg) (fi₁ fi₂ fi₃ : Plan) (P : Plan) (c : Ref) :
    evalP (F := F) d cfg (.func "not" fi₁ (.pcons (.func "not" fi₂ (.pcons P .pnil)) .pnil)) c =
      evalP (F := F) d cfg (.func "boolean" fi₃ (.pcons P .pnil)) c :=
  not_not_plan_spec d cfg fi₁ fi₂ fi₃ P c

open XPathV.PredSem XPathV.Compose2 in
/-- **C13, absolute paths with boolean predicates**: the plan built from any absolute path of the
C02 fragment (`AbsFrag`: predicates on any step, the merge rewrite included) yields the same
sequence — or the same failure — from every start node; no assumption on the document, the
configuration or the start nodes -/
theorem C13_absolute_build_with_predicates (d : Doc) (cfg : ECfg) (regexOk : RegexOk) (limit : Nat)
    (snt sdf : Bool) {p : Ast} (hp : AbsFrag p) (fl : Flags) (st : BState) (o : BOut)
    (h : build regexOk limit snt sdf p fl st = .ok o) (c₁ c₂ : Ref) :
    sel (F := F) d cfg o.q c₁ = sel (F := F) d cfg o.q c₂ :=
  abs_chain_start_indep d cfg regexOk limit snt sdf hp.chain fl st o h c₁ c₂

open XPathV.PredSem XPathV.Compose2 in
/-- **C13, relative paths with boolean predicates compose with the context**, through the
builder: if the absolute path `q` addresses exactly `n`, the built plan of `p` at `n` and the built
plan of `q/p` at the root select the same node set (`appendPath2` descends through the steps and
the inputs of filters; predicates stay relative to their candidates) -/
theorem C13_relative_compose_with_predicates {d : Doc} (wf : WF d) (cfg : ECfg) (hns : cfg.nsIface = true)
    (hinj : HashInj d cfg) (regexOk : RegexOk) (limit : Nat)
    {q p : Ast} (hq : Frag true q) (hp : RelFrag p) (n : Ref)
    (h : nodesOf (Spec.eval (F := F) d q ⟨.node 0, 1, 1⟩) = [n])
    (st st' : BState) (o o' : BOut)
    (hb : build regexOk limit true false p {} st = .ok o)
    (hb' : build regexOk limit true false (appendPath2 q p) {} st' = .ok o') :
    ∃ o1 o2, sel (F := F) d cfg o.q n = .ok o1 ∧ sel (F := F) d cfg o'.q (.node 0) = .ok o2 ∧
      ∀ x, x ∈ refs o1 ↔ x ∈ refs o2 :=
  rel_compose_build2 wf cfg hns hinj regexOk limit hq hp n h st st' o o' hb hb'

open XPathV.PredSem XPathV.Compose2 in
/-- `C13_relative_compose_with_predicates` without the `HashInj` hypothesis (it is a theorem: `hashInj_holds`; the side
condition left is "no element has two attributes with the same prefix, name and value") -/
theorem C13_relative_compose_with_predicates_unconditional {d : Doc} (wf : WF d) (cfg : ECfg) (hns : cfg.nsIface = true)
    (hattr : AttrTriplesDistinct d) (regexOk : RegexOk) (limit : Nat)
    {q p : Ast} (hq : Frag true q) (hp : RelFrag p) (n : Ref)
    (h : nodesOf (Spec.eval (F := F) d q ⟨.node 0, 1, 1⟩) = [n])
    (st st' : BState) (o o' : BOut)
    (hb : build regexOk limit true false p {} st = .ok o)
    (hb' : build regexOk limit true false (appendPath2 q p) {} st' = .ok o') :
    ∃ o1 o2, sel (F := F) d cfg o.q n = .ok o1 ∧ sel (F := F) d cfg o'.q (.node 0) = .ok o2 ∧
      ∀ x, x ∈ refs o1 ↔ x ∈ refs o2 :=
  C13_relative_compose_with_predicates wf cfg hns (PathSem.hashInj_holds wf hattr cfg) regexOk limit
    hq hp n h st st' o o' hb hb'

open XPathV.PredSem XPathV.Compose2 in
/-- the oracle-side composition law on the fragment with predicates (no assumption at all) -/
theorem C13_compose_spec_with_predicates (d : Doc) {q p : Ast} (hq : Frag true q) (hp : RelFrag p)
    (c : Spec.Ctx) (x : Ref) :
    x ∈ nodesOf (Spec.eval (F := F) d (appendPath2 q p) c) ↔
      ∃ n ∈ nodesOf (Spec.eval (F := F) d q c), x ∈ nodesOf (Spec.eval (F := F) d p ⟨n, 1, 1⟩) :=
  eval_append2 d hq hp c x

/-- **C13, the context survives evaluation of an earlier operand or predicate (iterator level).**
`q` is any state of any of the sixteen node-set iterator types (over inputs of any of them: a filter
over a union, a merge whose child is a `following::` walk, …; mid-iteration, exhausted, reachable or
not), `cur` the context node `t.Current()` of the evaluation, `dec` any predicate decision, `d` any
document.  If `q.Select(t)` answers — a node (`.yield`) or `nil` (`.done`) — then `t.Current()`
afterwards is `cur`: the filter's predicate ran on the candidates and the caller's node was put back,
the merge's child ran on each parent and the node was put back, the non-sibling `following::`/
`preceding::` walks did not touch it, and what a union leaves is what its right operand leaves.
(`.fuel`, "the model ran out of fuel", is not an outcome of the Go code.) -/
theorem C13_select_leaves_context_node (d : Doc) (cfg : ECfg) (dec : Plan → Ref → Bool) (f : Nat) (q : PQ2)
    (cur : Ref) (out : Res Ref) (q' : PQ2) (cur' : Ref)
    (h : PQ2.select d cfg dec f q cur = (out, q', cur')) (hne : out ≠ .fuel) : cur' = cur :=
  select_preserves_context d cfg dec f q cur out q' cur' h hne

/-- … and a `MoveNext` that returns false (the operand is exhausted) leaves it where it was, too
(one that returns true moves the iterator's node onto the node it reports: that is its result) -/
theorem C13_moveNext_false_leaves_context_node (d : Doc) (cfg : ECfg) (dec : Plan → Ref → Bool) (f : Nat)
    (q : PQ2) (cur : Ref) (q' : PQ2) (cur' : Ref)
    (h : PQ2.moveNext d cfg dec f q cur = some (false, q', cur')) : cur' = cur := by
  simp only [PQ2.moveNext] at h
  cases hs : PQ2.select d cfg dec f q cur with
  | mk o rest =>
    obtain ⟨q1, c1⟩ := rest
    rw [hs] at h
    cases o with
    | fuel => simp at h
    | yield n => simp at h
    | done =>
      simp only [Option.some.injEq, Prod.mk.injEq, true_and] at h
      rw [← h.2]
      exact select_preserves_context d cfg dec f q cur _ _ _ hs (by simp)

private def stepA (n : String) : AxisInfo := { axis := "child", typeTest := default, pfx := "", lname := n, prop := "", hasNS := false, nsURI := "" }

/-- non-vacuity: `/a/b` is an absolute path, `b` a relative one, and `/a/b` = `appendPath (/a) b` -/
example : AbsPF (.axis (stepA "b") (.axis (stepA "a") (.root "/"))) ∧
    RelPF (.axis (stepA "b") .none) ∧
    appendPath (.axis (stepA "a") (.root "/")) (.axis (stepA "b") .none) =
      .axis (stepA "b") (.axis (stepA "a") (.root "/")) := by
  refine ⟨?_, ?_, rfl⟩
  · exact .axis _ _ (.axis _ _ (.root _) (by decide)) (by decide)
  · exact .axis _ _ .none (by decide)

/-! ## C13 on the whole C02 fragment `PredSem2.Frag2` (`Lemmas/Compose3.lean`)

`AbsFrag2` / `RelFrag2`: the step-chain shapes of `AbsFrag` / `RelFrag` with predicates in
`Frag2 false` (count / contains / starts-with / ends-with / local-name tests, path-vs-path and
path-vs-string comparisons with the six operators, on top of the boolean predicates of `Frag`);
`AbsFrag2` also has the parenthesised form `(P)[b]` with `P` absolute. -/
open XPathV.PredSem XPathV.PredSem2 XPathV.Compose2 XPathV.Compose3

/-- the fragments of the `_with_predicates` theorems embed in those of the `_full` ones -/
theorem C13_absFrag_embeds {p : Ast} (h : AbsFrag p) : AbsFrag2 p := by
  induction h with
  | root s => exact .root s
  | axis a inp _ ha ih => exact .axis a inp ih ha
  | filter inp b _ hb ih => exact .filter inp b ih (frag2_of_frag false b hb)

theorem C13_relFrag_embeds {p : Ast} (h : RelFrag p) : RelFrag2 p := by
  induction h with
  | none => exact .none
  | axis a inp _ ha ih => exact .axis a inp ih ha
  | filter inp b _ hb ih => exact .filter inp b ih (frag2_of_frag false b hb)

theorem C13_frag_embeds {p : Ast} (h : Frag true p) : Frag2 true p := frag2_of_frag true p h

/-- **C13, absolute paths, whole C02 fragment**: the plan built from any absolute path of `AbsFrag2`
(predicates of `Frag2` on any step, `(P)[b]`, the merge rewrite included) yields the same sequence —
or the same failure — from every start node; no assumption on the document, the configuration or
the start nodes -/
theorem C13_absolute_build_full (d : Doc) (cfg : ECfg) (regexOk : RegexOk) (limit : Nat)
    (snt sdf : Bool) {p : Ast} (hp : AbsFrag2 p) (fl : Flags) (st : BState) (o : BOut)
    (h : build regexOk limit snt sdf p fl st = .ok o) (c₁ c₂ : Ref) :
    sel (F := F) d cfg o.q c₁ = sel (F := F) d cfg o.q c₂ :=
  abs_chain_start_indep d cfg regexOk limit snt sdf hp.chain fl st o h c₁ c₂

/-- … and the oracle: an absolute path of `AbsFrag2` has the same value in every context -/
theorem C13_absolute_spec_full (d : Doc) {p : Ast} (hp : AbsFrag2 p) (c₁ c₂ : Spec.Ctx) :
    Spec.eval (F := F) d p c₁ = Spec.eval (F := F) d p c₂ :=
  abs_eval_indep3 d hp c₁ c₂

/-- **C13, relative paths compose with the context, whole C02 fragment**, through the builder: if
the path `q` of `Frag2` addresses exactly `n`, the built plan of `p` (`RelFrag2`) at `n` and the built
plan of `q/p` at the root select the same node set -/
theorem C13_relative_compose_full {d : Doc} (wf : WF d) (cfg : ECfg) (hns : cfg.nsIface = true)
    (hinj : HashInj d cfg) (regexOk : RegexOk) (limit : Nat)
    {q p : Ast} (hq : Frag2 true q) (hp : RelFrag2 p) (n : Ref)
    (h : nodesOf (Spec.eval (F := F) d q ⟨.node 0, 1, 1⟩) = [n])
    (st st' : BState) (o o' : BOut)
    (hb : build regexOk limit true false p {} st = .ok o)
    (hb' : build regexOk limit true false (appendPath2 q p) {} st' = .ok o') :
    ∃ o1 o2, sel (F := F) d cfg o.q n = .ok o1 ∧ sel (F := F) d cfg o'.q (.node 0) = .ok o2 ∧
      ∀ x, x ∈ refs o1 ↔ x ∈ refs o2 :=
  rel_compose_build3 wf cfg hns hinj regexOk limit hq hp n h st st' o o' hb hb'

/-- `C13_relative_compose_full` without the `HashInj` hypothesis (`hashInj_holds`; the side condition
left is "no element has two attributes with the same prefix, name and value") -/
theorem C13_relative_compose_full_unconditional {d : Doc} (wf : WF d) (cfg : ECfg)
    (hns : cfg.nsIface = true) (hattr : AttrTriplesDistinct d) (regexOk : RegexOk) (limit : Nat)
    {q p : Ast} (hq : Frag2 true q) (hp : RelFrag2 p) (n : Ref)
    (h : nodesOf (Spec.eval (F := F) d q ⟨.node 0, 1, 1⟩) = [n])
    (st st' : BState) (o o' : BOut)
    (hb : build regexOk limit true false p {} st = .ok o)
    (hb' : build regexOk limit true false (appendPath2 q p) {} st' = .ok o') :
    ∃ o1 o2, sel (F := F) d cfg o.q n = .ok o1 ∧ sel (F := F) d cfg o'.q (.node 0) = .ok o2 ∧
      ∀ x, x ∈ refs o1 ↔ x ∈ refs o2 :=
  C13_relative_compose_full wf cfg hns (PathSem.hashInj_holds wf hattr cfg) regexOk limit
    hq hp n h st st' o o' hb hb'

/-- **the oracle-side composition law on the whole C02 fragment** (no assumption at all: any
document, any context) -/
theorem C13_compose_spec_full (d : Doc) {q p : Ast} (hq : Frag2 true q) (hp : RelFrag2 p)
    (c : Spec.Ctx) (x : Ref) :
    x ∈ nodesOf (Spec.eval (F := F) d (appendPath2 q p) c) ↔
      ∃ n ∈ nodesOf (Spec.eval (F := F) d q c), x ∈ nodesOf (Spec.eval (F := F) d p ⟨n, 1, 1⟩) :=
  eval_append3 d hq hp c x

/-- **path composition through the builder, whole C02 fragment**: from a valid start node `c` the
built plan of `q/p` selects `x` iff the built plan of `p`, started at some node the built plan of `q`
selects from `c`, selects `x`; none of the evaluations fails -/
theorem C13_compose_build_full {d : Doc} (wf : WF d) (cfg : ECfg) (hns : cfg.nsIface = true)
    (hinj : HashInj d cfg) (regexOk : RegexOk) (limit : Nat)
    {q p : Ast} (hq : Frag2 true q) (hp : RelFrag2 p)
    (stq stp stqp : BState) (bq bp bqp : BOut)
    (hbq : build regexOk limit true false q {} stq = .ok bq)
    (hbp : build regexOk limit true false p {} stp = .ok bp)
    (hbqp : build regexOk limit true false (appendPath2 q p) {} stqp = .ok bqp)
    (c : Ref) (hc : validRef d c = true) :
    ∃ oq oqp, sel (F := F) d cfg bq.q c = .ok oq ∧ sel (F := F) d cfg bqp.q c = .ok oqp ∧
      (∀ n ∈ refs oq, ∃ on, sel (F := F) d cfg bp.q n = .ok on) ∧
      ∀ x, x ∈ refs oqp ↔
        ∃ n ∈ refs oq, ∃ on, sel (F := F) d cfg bp.q n = .ok on ∧ x ∈ refs on :=
  compose_sel (build_computes3 wf cfg hns hinj regexOk limit hq stq bq hbq c hc)
    (build_computes3 wf cfg hns hinj regexOk limit (appendPath2_frag2 hq hp) stqp bqp hbqp c hc)
    (fun n hn => build_computes3 wf cfg hns hinj regexOk limit hp.frag2 stp bp hbp n
      ((naive_computes3 (F := F) wf cfg hns hinj hq c hc).2 n hn))
    (eval_append3 d hq hp _)

/-- `C13_absolute_build_with_predicates` as an instance of `C13_absolute_build_full` -/
theorem C13_absolute_build_with_predicates_of_full (d : Doc) (cfg : ECfg) (regexOk : RegexOk) (limit : Nat)
    (snt sdf : Bool) {p : Ast} (hp : AbsFrag p) (fl : Flags) (st : BState) (o : BOut)
    (h : build regexOk limit snt sdf p fl st = .ok o) (c₁ c₂ : Ref) :
    sel (F := F) d cfg o.q c₁ = sel (F := F) d cfg o.q c₂ :=
  C13_absolute_build_full d cfg regexOk limit snt sdf (C13_absFrag_embeds hp) fl st o h c₁ c₂

/-- `C13_compose_spec_with_predicates` as an instance of `C13_compose_spec_full` -/
theorem C13_compose_spec_with_predicates_of_full (d : Doc) {q p : Ast} (hq : Frag true q) (hp : RelFrag p)
    (c : Spec.Ctx) (x : Ref) :
    x ∈ nodesOf (Spec.eval (F := F) d (appendPath2 q p) c) ↔
      ∃ n ∈ nodesOf (Spec.eval (F := F) d q c), x ∈ nodesOf (Spec.eval (F := F) d p ⟨n, 1, 1⟩) :=
  C13_compose_spec_full d (C13_frag_embeds hq) (C13_relFrag_embeds hp) c x

end XPathV.Theorems.C13
