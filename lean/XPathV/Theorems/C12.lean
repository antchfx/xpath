import XPathV.Lemmas.FlatOrder
import XPathV.Lemmas.PullProofs
import XPathV.Model.Api
import XPathV.Lemmas.Facts
import XPathV.Lemmas.FlatFiltered
import XPathV.Lemmas.FlatFiltered2
import XPathV.Lemmas.Pull2Proofs
import XPathV.Lemmas.Pull2Gen
/-!
# C12 — flat paths: document order, no duplicates; iterator protocol

The sequence-level facts are below; the pull-level protocol facts (exhausted stays exhausted,
`Current` is the node just reported) live on the pull machines: `Model/Pull.lean` (core iterator
types) and `Model/Pull2.lean` (all sixteen iterator types, with `t.Current()` threaded: context,
absolute, child, cachedChild, attribute, self, parent, descendant, ancestor, following and
preceding with and without `Sibling`, filter, union, group, descendant-over-descendant, merge).
-/
namespace XPathV.Theorems.C12
open XPathV XPathV.Model XPathV.Facts NumAlg

variable {F : Type} [NumAlg F]

/-- for a node-set plan `Evaluate` hands out an iterator that yields the same sequence as `Select` -/
theorem evaluate_iter_eq_select (d : Doc) (cfg : ECfg) (p : Plan) (c : Ref) (l l' : List Ref)
    (he : evaluate (F := F) d cfg p c = .ok (.nodes l)) (hs : selectAll (F := F) d cfg p c = .ok l') : l = l' := by
  unfold evaluate at he
  simp only [bind, Except.bind] at he
  split at he
  · cases he
  · rename_i v hv
    split at he
    · simp only [hs, pure, Except.pure] at he
      cases he; rfl
    · rename_i hnot
      simp only [pure, Except.pure] at he
      cases he
      exact absurd rfl (hnot l)

/-- `count()` of a node-set argument is the length of the sequence it yields -/
theorem count_eq_length (d : Doc) (cfg : ECfg) (c : Ref) (l : List Ref) :
    callFn (F := F) d cfg "count" .nil c [.ok (.nodes l)] none = .ok (.num (ofNat l.length)) := by
  simp [callFn, bind, Except.bind]

/-- `reverse()` yields its argument's sequence reversed -/
theorem reverse_eq_reverse (d : Doc) (cfg : ECfg) (inp : Plan) (c : Ref) (ins : List Item)
    (h : sel (F := F) d cfg inp c = .ok ins) :
    (sel (F := F) d cfg (.transform "reverse" inp) c).map (fun o => o.map (·.r)) = .ok (ins.map (·.r)).reverse := by
  simp [sel, h, bind, Except.bind, plain, Except.map, List.map_reverse, Function.comp_def]

/-- a child step from one node yields that node's matching children in sibling order -/
theorem child_from_context (d : Doc) (cfg : ECfg) (a : AxisInfo) (c : Ref) :
    (sel (F := F) d cfg (.child a .context) c).map (fun o => o.map (·.r)) = .ok ((childrenM d c).filter (nodeTestM d cfg a)) := by
  simp [sel, bind, Except.bind, numbered, Except.map, test, List.map_map, Function.comp_def]

/-! ## The iterator protocol on the pull machine (`Model/Pull.lean`)

`PQ` is the defunctionalised model of the Go iterator structs (configuration **and** mutable state)
for context, absolute, child, attribute, self, parent and descendant queries; `PQ.select` is one
`Select` call, `drain` is a `MoveNext` loop.  The theorems hold for every document, context node and
*every state*, reachable or not. -/

/-- the pull machine yields exactly the sequence of the sequence-level model (nodes, `position()`
and `depth()` counters), from any sufficiently large fuel on, and any terminated drain yields it -/
theorem pull_refines_sequence (d : Doc) (cfg : ECfg) (cur : Ref) (p : Plan) (q : PQ) (h : PQ.ofPlan p = some q) :
    ∃ l, sel (F := F) d cfg p cur = .ok l ∧
      (∃ q' f0, (∀ f, f0 ≤ f → drain d cfg cur f q = some (l, q')) ∧ rem d cfg cur q' = []) ∧
      (∀ f l' q', drain d cfg cur f q = some (l', q') → l' = l) :=
  drain_eq_sel d cfg cur p q h

/-- **MoveNext keeps returning false once it has returned false**: after a pull that reported
exhaustion, every further pull (with any fuel) that terminates reports exhaustion again -/
theorem exhausted_stays_exhausted (d : Doc) (cfg : ECfg) (cur : Ref) {f : Nat} {q q' : PQ}
    (h : PQ.select d cfg cur f q = (.done, q')) :
    rem d cfg cur q' = [] ∧
    (∀ f' o q'', PQ.select d cfg cur f' q' = (o, q'') → o ≠ .fuel → o = .done ∧ rem d cfg cur q'' = []) ∧
    (∃ q'' f0, (∀ f', f0 ≤ f' → PQ.select d cfg cur f' q' = (.done, q'')) ∧ rem d cfg cur q'' = []) :=
  exhausted_stays d cfg cur h

/-- the node a pull reports is the head of the remaining stream, and the position/depth counters
a filter would read are the ones the sequence model attaches to that node -/
theorem reported_node_and_counters (d : Doc) (cfg : ECfg) (cur : Ref) {f : Nat} {q q' : PQ} {n : Ref}
    (h : PQ.select d cfg cur f q = (.yield n, q')) :
    ∃ x xs, rem d cfg cur q = x :: xs ∧ x.r = n ∧ q'.position = x.pos ∧ q'.depth = x.lvl ∧ rem d cfg cur q' = xs :=
  select_position d cfg cur h

/-! ## Flat paths are in document order, without repetition -/

/-- **flat paths**: a path made of child, attribute and self steps from one context node yields its
nodes strictly increasing in document order — hence ordered and duplicate-free — for every
well-formed document and every context node -/
theorem flat_paths_sorted {d : Doc} (wf : WF d) (cfg : ECfg) (c : Ref) {p : Plan} (hp : FlatPlan p) (l : List Item)
    (h : sel (F := F) d cfg p c = .ok l) :
    (l.map (·.r)).Pairwise (fun a b => Ref.lt a b = true) ∧ (l.map (·.r)).Nodup :=
  ⟨XPathV.flat_sorted wf cfg c hp l h, XPathV.flat_nodup wf cfg c hp l h⟩

/-- a single descendant step (`descendant::t`, `//t` from the root) is in document order -/
theorem single_descendant_sorted {d : Doc} (wf : WF d) (cfg : ECfg) (a : AxisInfo) (self : Bool) (i : Nat)
    (hi : i < d.length) (c : Ref) (l l' : List Item)
    (h : sel (F := F) d cfg (.descendant a self .context) (.node i) = .ok l)
    (h' : sel (F := F) d cfg (.descendant a self .absolute) c = .ok l') :
    (l.map (·.r)).Pairwise (fun a b => Ref.lt a b = true) ∧ (l'.map (·.r)).Pairwise (fun a b => Ref.lt a b = true) :=
  ⟨XPathV.desc_sorted wf cfg a self i hi l h, XPathV.desc_abs_sorted wf cfg a self c l' h'⟩

open XPathV.PathSem XPathV.PredSem XPathV.FlatFiltered in
/-- **C12, first half, with the predicates allowed by C02/C03, through the builder**: a path made
only of child, attribute and self steps — every step may carry *any* predicates (boolean,
positional, `last()`, arbitrary parse trees) — is built, under every builder configuration, into a
plan whose result sequence from any context is strictly increasing in document order, hence
duplicate-free.  Needs only a well-formed document. -/
theorem C12_flat_with_predicates_sorted {d : Doc} (wf : WF d) (cfg : ECfg) (regexOk : RegexOk) (limit : Nat)
    (snt sdf : Bool) (p : Ast) (hp : FlatAny p) (fl : Flags) (st : BState) (o : BOut)
    (hb : build regexOk limit snt sdf p fl st = .ok o) (c : Ref) (l : List Item)
    (hl : sel (F := F) d cfg o.q c = .ok l) :
    (refs l).Pairwise (fun a b => Ref.lt a b = true) ∧ (refs l).Nodup :=
  flatAny_sorted wf cfg regexOk limit snt sdf p hp fl st o hb c l hl

open XPathV.PathSem XPathV.PredSem XPathV.FlatFiltered in
/-- … and with boolean predicates the plan the builder makes (plain filters or the merge form)
succeeds from every valid context node, and the engine's *sequence* is the oracle's document-ordered
list, element by element -/
theorem C12_flat_filtered_is_oracle_list {d : Doc} (wf : WF d) (cfg : ECfg) (hns : cfg.nsIface = true)
    (hinj : HashInj d cfg) (regexOk : RegexOk) (limit : Nat) (p : Ast) (hp : FlatFrag p) (st : BState) (o : BOut)
    (hb : build regexOk limit true false p {} st = .ok o) (c : Ref) (hc : validRef d c = true) :
    ∃ l ns g, sel (F := F) d cfg o.q c = .ok l ∧
      (refs l).Pairwise (fun a b => Ref.lt a b = true) ∧ (refs l).Nodup ∧
      Spec.eval (F := F) d p ⟨c, 1, 1⟩ = .ok (.val (.nodes ns) g) ∧
      (∀ x, x ∈ refs l ↔ x ∈ ns) ∧ refs l = ns :=
  FlatFiltered2.flatFrag2_main_frag wf cfg hns hinj regexOk limit p
    (FlatFiltered2.flatFrag2_of_flatFrag hp) st o hb c hc

open XPathV.PathSem XPathV.PredSem XPathV.FlatFiltered in
/-- `C12_flat_filtered_is_oracle_list` without the `HashInj` hypothesis (it is a theorem: `hashInj_holds`; the side
condition left is "no element has two attributes with the same prefix, name and value") -/
theorem C12_flat_filtered_is_oracle_list_unconditional {d : Doc} (wf : WF d) (cfg : ECfg) (hns : cfg.nsIface = true)
    (hattr : AttrTriplesDistinct d) (regexOk : RegexOk) (limit : Nat) (p : Ast) (hp : FlatFrag p) (st : BState) (o : BOut)
    (hb : build regexOk limit true false p {} st = .ok o) (c : Ref) (hc : validRef d c = true) :
    ∃ l ns g, sel (F := F) d cfg o.q c = .ok l ∧
      (refs l).Pairwise (fun a b => Ref.lt a b = true) ∧ (refs l).Nodup ∧
      Spec.eval (F := F) d p ⟨c, 1, 1⟩ = .ok (.val (.nodes ns) g) ∧
      (∀ x, x ∈ refs l ↔ x ∈ ns) ∧ refs l = ns :=
  C12_flat_filtered_is_oracle_list wf cfg hns (PathSem.hashInj_holds wf hattr cfg) regexOk limit p
    hp st o hb c hc

open XPathV.PathSem XPathV.FlatFiltered in
/-- **`//name`** (absolute and relative), through the builder's shortcut: one descendant query,
sequence strictly increasing in document order — the absolute form from every context reference,
the relative form from any valid one (a node of the document or an attribute) -/
theorem C12_slashslash_sorted {d : Doc} (wf : WF d) (cfg : ECfg) (regexOk : RegexOk) (limit : Nat)
    (snt sdf : Bool) (a b : AxisInfo) (fl : Flags) (hf : fl.filter = false) (ha : a.axis = "child")
    (hb : isPlainDos snt b = true) :
    (∀ s st o, build regexOk limit snt sdf (.axis a (.axis b (.root s))) fl st = .ok o →
      ∀ c l, sel (F := F) d cfg o.q c = .ok l →
        (refs l).Pairwise (fun a b => Ref.lt a b = true) ∧ (refs l).Nodup) ∧
    (∀ st o, build regexOk limit snt sdf (.axis a (.axis b .none)) fl st = .ok o →
      ∀ c, validRef d c = true → ∀ l, sel (F := F) d cfg o.q c = .ok l →
        (refs l).Pairwise (fun a b => Ref.lt a b = true) ∧ (refs l).Nodup) := by
  constructor
  · intro s st o h c l hl
    rw [build_slashslash_abs regexOk limit snt sdf a b s fl st o hf ha hb h] at hl
    have hs := desc_abs_sorted wf cfg a false c l hl
    exact ⟨hs, DocOrder.sorted_nodup hs⟩
  · intro st o h c hc l hl
    rw [build_slashslash_rel regexOk limit snt sdf a b fl st o hf ha hb h] at hl
    have hs : (refs l).Pairwise (fun a b => Ref.lt a b = true) := by
      cases c with
      | node i =>
        exact desc_sorted wf cfg a false i (by simpa [validRef] using hc) l hl
      | attr i k =>
        simp only [sel, bind, Except.bind, List.flatMap_cons, List.flatMap_nil, List.append_nil,
          PathSem.descM_attr, Bool.false_and, Bool.false_eq_true, ↓reduceIte, List.filter_nil,
          List.append_nil, List.zipIdx_nil, List.map_nil, Except.ok.injEq] at hl
        subst hl
        exact List.Pairwise.nil
    exact ⟨hs, DocOrder.sorted_nodup hs⟩

/-- **C12, second half, all sixteen iterator types (`Model/Pull2`)** — *Evaluate's iterator produces
the same sequence as Select*: for every covered plan the Go-like pull machine the builder creates,
drained with enough fuel, reports exactly the sequence `sel` of the plan and ends exhausted.
(`dec` = the decision of filter predicates, tied to the engine by `DecOK`; `NeedsWF`: only a
non-sibling `followingQuery` needs a well-formed document.) -/
theorem C12_all_iterators_refine_sequence (d : Doc) (cfg : ECfg) (dec : Plan → Ref → Bool) (hd : 0 < d.length)
    (p : Plan) (q : PQ2) (h : PQ2.ofPlan p = some q) (hs : NeedsWF p → WF d)
    (hdec : q.DecOK (F := F) d cfg dec) (c : Ref) (hg : Good d c) :
    ∃ l, sel (F := F) d cfg p c = .ok l ∧
      ∃ q' c' f0, (∀ f, f0 ≤ f → drain2 d cfg dec f q c = some (l, q', c')) ∧
        (∀ c'', rem2 d cfg dec c'' q' = []) :=
  drain2_eq_sel d cfg dec hd p q h hs hdec c hg

/-- *MoveNext keeps returning false once it has returned false*, for ever, with any fuel and any
position of the shared cursor: once `Select` has returned `nil` from a state satisfying the invariant,
the new state is exhausted, and every later `Select` from it that answers at all answers `nil` again,
into a state for which the same holds -/
theorem C12_exhausted_for_ever (d : Doc) (cfg : ECfg) (dec : Plan → Ref → Bool) (hd : 0 < d.length)
    {f : Nat} {q : PQ2} {c : Ref} {q' : PQ2} {c' : Ref}
    (hw : NeedsWF q.plan → WF d) (hi : q.Inv d) (hg : Good d c)
    (h : PQ2.select d cfg dec f q c = (.done, q', c')) :
    (∀ c'', rem2 d cfg dec c'' q' = []) ∧ q'.Inv d ∧ (NeedsWF q'.plan → WF d) ∧
    ∀ f2 c2 o q2 c3, Good d c2 → PQ2.select d cfg dec f2 q' c2 = (o, q2, c3) → o ≠ .fuel →
      o = .done ∧ (∀ c'', rem2 d cfg dec c'' q2 = []) ∧ q2.Inv d ∧ (NeedsWF q2.plan → WF d) := by
  obtain ⟨ho, hrem, hcons, hplan, _, _⟩ := select_sound2 d cfg dec hd hw hi hg h (by simp)
  have hq : rem2 d cfg dec c q = [] := by
    cases hr : rem2 d cfg dec c q with
    | nil => rfl
    | cons x xs => rw [hr] at ho; simp [headRes] at ho
  have hq' : ∀ c'', rem2 d cfg dec c'' q' = [] := fun c'' => by rw [hrem c'', hq]; rfl
  have hw' : NeedsWF q'.plan → WF d := by rw [hplan]; exact hw
  refine ⟨hq', PQ2.cons_inv d _ hcons, hw', ?_⟩
  intro f2 c2 o q2 c3 hg2 h2 hne
  obtain ⟨ho2, hrem2, hcons2, hplan2, _, _⟩ :=
    select_sound2 d cfg dec hd hw' (PQ2.cons_inv d _ hcons) hg2 h2 hne
  rw [hq' c2] at ho2 hrem2
  exact ⟨ho2, hrem2, PQ2.cons_inv d _ hcons2, by rw [hplan2]; exact hw'⟩

/-- *Current is positioned on the node just reported*: with enough fuel, `MoveNext` answers true
exactly when something remains, `Current` is then that node, `position()`/`depth()` are its counters,
and the tail remains — for every later position of `t.Current()` -/
theorem C12_moveNext_current (d : Doc) (cfg : ECfg) (dec : Plan → Ref → Bool) (hd : 0 < d.length)
    (q : PQ2) (hs : NeedsWF q.plan → WF d) (hi : q.Inv d) (c : Ref) (hg : Good d c) :
    ∃ f0, ∀ f, f0 ≤ f →
      match rem2 d cfg dec c q with
      | [] => ∃ q' c', PQ2.moveNext d cfg dec f q c = some (false, q', c')
      | x :: xs => ∃ q', PQ2.moveNext d cfg dec f q c = some (true, q', x.r) ∧
          q'.position = x.pos ∧ q'.depth = x.lvl ∧ (∀ c'', rem2 d cfg dec c'' q' = xs) ∧ q'.Inv d := by
  obtain ⟨q1, c1, f1, hsel, hrem, hcons, _, _, hpos⟩ := select_step2 d cfg dec hd q hs hi c hg
  simp only [mach2_sel, mach2_rem, mach2_pos, mach2_lvl] at hsel hrem hpos
  refine ⟨f1, fun f hf => ?_⟩
  cases hr : rem2 d cfg dec c q with
  | nil =>
    rw [hr] at hsel
    exact ⟨q1, c1, by simp only [PQ2.moveNext, hsel f hf, headRes]⟩
  | cons x xs =>
    obtain ⟨hp1, hp2, _⟩ := hpos x xs hr
    rw [hr] at hsel hrem
    refine ⟨q1, by simp only [PQ2.moveNext, hsel f hf, headRes], hp1, hp2, fun c'' => ?_, PQ2.cons_inv d _ hcons⟩
    rw [rem2_cons_indep d cfg dec q1 hcons c'' c1, hrem]; rfl

/-! ## the machine-level statement for filters with predicates of any value kind (`Lemmas/Pull2Gen`)

`DecOK'`: the oracle `dec` only has to be the keep-decision the sequence model makes for the candidates the machine
can present (boolean, string and node-list valued predicates without restriction; a number-valued predicate when its
verdict is a function of the node among the candidates offered — `DecOK → DecOK'`). -/
section AnyPredicate
open XPathV.Model
/-- **C12, second half, all sixteen iterator types (`Model/Pull2`)**, filters with predicates of any
value kind — *Evaluate's iterator produces the same sequence as Select*: for every covered plan the
Go-like pull machine the builder creates, drained with enough fuel, reports exactly the sequence
`sel` of the plan and ends exhausted. -/
theorem C12_all_iterators_refine_sequence_any_predicate {F : Type} [NumAlg F] (d : Doc) (cfg : ECfg) (dec : Plan → Ref → Bool) (hd : 0 < d.length)
    (p : Plan) (q : PQ2) (h : PQ2.ofPlan p = some q) (hs : NeedsWF p → WF d)
    (c : Ref) (hdec : q.DecOK' (F := F) d cfg dec c) (hg : Good d c) :
    ∃ l, sel (F := F) d cfg p c = .ok l ∧
      ∃ q' c' f0, (∀ f, f0 ≤ f → drain2 d cfg dec f q c = some (l, q', c')) ∧
        (∀ c'', rem2 d cfg dec c'' q' = []) :=
  drain2_eq_sel' d cfg dec hd p q h hs c hdec hg

end AnyPredicate

end XPathV.Theorems.C12

/-! ## Flat paths with the predicates of the whole C02 fragment (`PredSem2.Frag2`, `Lemmas/FlatFiltered2`) -/
namespace XPathV.Theorems.C12
open XPathV XPathV.Model XPathV.Facts NumAlg
open XPathV.PathSem XPathV.PredSem XPathV.PredSem2 XPathV.FlatFiltered XPathV.FlatFiltered2

variable {F : Type} [NumAlg F]

/-- **`C12_flat_filtered_is_oracle_list` lifted to the whole C02 fragment**: a flat path (child,
attribute and self steps from the context node or the root: `FlatAny p`) whose predicates are in
`Frag2 false` (`Frag2 true p`; besides those of `Frag`: `count(P) op n`, `not(count(P))`, the string
tests, `local-name(…) = 'lit'`, path `op` path, path `op` string literal) — equivalently
`FlatFrag2 p` (`FlatFiltered2.flatFrag2_iff`) — is built into a plan that succeeds from every valid
context node; its *sequence* is strictly increasing in document order, repeats no node, and is the
oracle's document-ordered list, element by element -/
theorem C12_flat_filtered_is_oracle_list_full {d : Doc} (wf : WF d) (cfg : ECfg) (hns : cfg.nsIface = true)
    (hinj : HashInj d cfg) (regexOk : RegexOk) (limit : Nat) (p : Ast) (hp : Frag2 true p) (hflat : FlatAny p)
    (st : BState) (o : BOut)
    (hb : build regexOk limit true false p {} st = .ok o) (c : Ref) (hc : validRef d c = true) :
    ∃ l ns g, sel (F := F) d cfg o.q c = .ok l ∧
      (refs l).Pairwise (fun a b => Ref.lt a b = true) ∧ (refs l).Nodup ∧
      Spec.eval (F := F) d p ⟨c, 1, 1⟩ = .ok (.val (.nodes ns) g) ∧
      (∀ x, x ∈ refs l ↔ x ∈ ns) ∧ refs l = ns :=
  flatFrag2_main wf cfg hns hinj regexOk limit p hp hflat st o hb c hc

/-- `C12_flat_filtered_is_oracle_list_full` without the `HashInj` hypothesis (`hashInj_holds`; the side
condition left is "no element has two attributes with the same prefix, name and value") -/
theorem C12_flat_filtered_is_oracle_list_full_unconditional {d : Doc} (wf : WF d) (cfg : ECfg)
    (hns : cfg.nsIface = true) (hattr : AttrTriplesDistinct d) (regexOk : RegexOk) (limit : Nat) (p : Ast)
    (hp : Frag2 true p) (hflat : FlatAny p) (st : BState) (o : BOut)
    (hb : build regexOk limit true false p {} st = .ok o) (c : Ref) (hc : validRef d c = true) :
    ∃ l ns g, sel (F := F) d cfg o.q c = .ok l ∧
      (refs l).Pairwise (fun a b => Ref.lt a b = true) ∧ (refs l).Nodup ∧
      Spec.eval (F := F) d p ⟨c, 1, 1⟩ = .ok (.val (.nodes ns) g) ∧
      (∀ x, x ∈ refs l ↔ x ∈ ns) ∧ refs l = ns :=
  C12_flat_filtered_is_oracle_list_full wf cfg hns (PathSem.hashInj_holds wf hattr cfg) regexOk limit p
    hp hflat st o hb c hc

/-- the statement for the inductive fragment `FlatFrag2` (same shape as `FlatFrag`, predicates in
`Frag2 false`); `C12_flat_filtered_is_oracle_list` is its restriction to `FlatFrag`
(`FlatFiltered2.flatFrag2_of_flatFrag`) -/
theorem C12_flat_filtered_is_oracle_list_full_fragment {d : Doc} (wf : WF d) (cfg : ECfg)
    (hns : cfg.nsIface = true) (hinj : HashInj d cfg) (regexOk : RegexOk) (limit : Nat) (p : Ast)
    (hp : FlatFrag2 p) (st : BState) (o : BOut)
    (hb : build regexOk limit true false p {} st = .ok o) (c : Ref) (hc : validRef d c = true) :
    ∃ l ns g, sel (F := F) d cfg o.q c = .ok l ∧
      (refs l).Pairwise (fun a b => Ref.lt a b = true) ∧ (refs l).Nodup ∧
      Spec.eval (F := F) d p ⟨c, 1, 1⟩ = .ok (.val (.nodes ns) g) ∧
      (∀ x, x ∈ refs l ↔ x ∈ ns) ∧ refs l = ns :=
  C12_flat_filtered_is_oracle_list_full wf cfg hns hinj regexOk limit p hp.frag2 hp.flatAny st o hb c hc

end XPathV.Theorems.C12
