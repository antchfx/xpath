import XPathV.Lemmas.NameSem
/-!
# C14 — name tests, namespaces and name functions identify nodes as documented
-/
namespace XPathV.Theorems.C14
open XPathV XPathV.Model XPathV.Facts NumAlg

/-- without a namespace map a prefixed or unprefixed name test matches exactly the nodes of the
principal type whose prefix and local name are equal to the test's -/
theorem nametest_noNS (d : Doc) (cfg : ECfg) (a : AxisInfo) (r : Ref) (hn : a.hasNS = false) (hl : a.lname ≠ "") :
    nodeTestM d cfg a r = ((a.typeTest == nodeType d r || a.typeTest == .all) &&
      (a.lname == localName d r && a.pfx == prefixOf d r)) := by
  have hl' : (a.lname == "") = false := by simpa using hl
  simp [nodeTestM, hn, hl, hl']

/-- an unprefixed test matches only unprefixed nodes -/
theorem unprefixed_matches_unprefixed (d : Doc) (cfg : ECfg) (a : AxisInfo) (r : Ref) (hn : a.hasNS = false)
    (hl : a.lname ≠ "") (hp : a.pfx = "") (h : nodeTestM d cfg a r = true) : prefixOf d r = "" := by
  rw [nametest_noNS d cfg a r hn hl] at h
  simp only [Bool.and_eq_true, beq_iff_eq] at h
  rw [← h.2.2, hp]

/-- with a binding for the prefix (CompileWithNS) and a navigator exposing URIs, a prefixed test
matches by (namespace URI, local name), whatever prefix the document uses -/
theorem nametest_NS (d : Doc) (cfg : ECfg) (a : AxisInfo) (r : Ref) (hn : a.hasNS = true) (hi : cfg.nsIface = true)
    (hl : a.lname ≠ "") :
    nodeTestM d cfg a r = ((a.typeTest == nodeType d r || a.typeTest == .all) &&
      (a.lname == localName d r && a.nsURI == nsURL d r)) := by
  have hl' : (a.lname == "") = false := by simpa using hl
  simp [nodeTestM, hn, hi, hl, hl']

/-- the model's node test is the specification's (§2.3) when the navigator exposes URIs -/
theorem nodeTest_spec (d : Doc) (cfg : ECfg) (a : AxisInfo) (r : Ref) (hi : cfg.nsIface = true) (hl : a.lname ≠ "") :
    nodeTestM d cfg a r = Spec.nodeTest d a r := by
  unfold nodeTestM Spec.nodeTest
  simp only [hi, hl, ne_eq, not_false_eq_true, bne_iff_ne, true_or, ↓reduceIte, Bool.true_and]
  rw [Bool.or_comm]
  cases a.hasNS <;> simp

/-- an unbound prefix under a namespace map is a compile error -/
theorem unbound_prefix_error (cfg : PCfg) (m : List (String × String)) (inp : Ast) (axis : String) (mt : NType) (st st1 : PState)
    (hns : cfg.ns = some m) (ht : st.s.typ = .name) (hnf : (st.s.canBeFunc && isNodeType st.s) = false)
    (hp : st.s.pfx ≠ "") (hl : m.lookup st.s.pfx = none) (hnext : st.next = .ok st1) :
    parseNodeTest cfg inp axis mt st = .error .prefixUndefined := by
  simp [parseNodeTest, ht, hnf, hnext, hns, hl, hp, bind, Except.bind]

variable {F : Type} [NumAlg F]

/-- `local-name()` / `name()` without argument report the context node -/
theorem local_name_context (d : Doc) (cfg : ECfg) (c : Ref) :
    callFn (F := F) d cfg "local-name" .nil c [] none = .ok (.str (localName d c)) :=
  callFn_localName d cfg .nil c [] none

theorem name_context (d : Doc) (cfg : ECfg) (c : Ref) :
    callFn (F := F) d cfg "name" .nil c [] none =
      .ok (.str (if prefixOf d c == "" then localName d c else prefixOf d c ++ ":" ++ localName d c)) :=
  callFn_name d cfg .nil c [] none

/-- with a node-set argument they report its first node, and "" for the empty set -/
theorem namespace_uri_first (d : Doc) (cfg : ECfg) (c r : Ref) (rest : List Ref) (hi : cfg.nsIface = true)
    (a : List (Except EErr (MVal F))) :
    callFn (F := F) d cfg "namespace-uri" .nil c a (some (r :: rest)) = .ok (.str (nsURL d r)) := by
  rw [callFn_namespaceUri, hi]; rfl

theorem name_fn_empty (d : Doc) (cfg : ECfg) (c : Ref) (a : List (Except EErr (MVal F))) :
    callFn (F := F) d cfg "name" .nil c a (some []) = .ok (.str "") :=
  callFn_name d cfg .nil c a (some [])

/-- **`prefix:*`** (XPath's `NCName:*`): every node of the principal type in the namespace of the
prefix, whatever its local name — the URI bound to the prefix under a map (and a navigator exposing
URIs), the same prefix otherwise.  (The parser records the empty local name for `*`; since the repair
of `axisPredicate` an empty local name in the test matches every local name.) -/
theorem nametest_prefix_wildcard (d : Doc) (cfg : ECfg) (axis : String) (mt : NType)
    (pfx prop uri : String) (hn : Bool) (hmt : mt ≠ .all) (hp : pfx ≠ "") (x : Ref) :
    nodeTestM d cfg ⟨axis, mt, pfx, "", prop, hn, uri⟩ x = true ↔
      (nodeType d x = mt ∧ (if (cfg.nsIface && hn) = true then nsURL d x = uri else prefixOf d x = pfx)) := by
  simp only [nodeTestM, hp, bne_iff_ne, ne_eq, not_false_eq_true, or_true, ↓reduceIte,
    Bool.and_eq_true, Bool.or_eq_true, beq_iff_eq, beq_self_eq_true, Bool.true_or, Bool.true_and]
  constructor
  · rintro ⟨h1 | h1, h2⟩
    · refine ⟨h1.symm, ?_⟩
      split at h2
      · rename_i hc; rw [if_pos (by simpa using hc)]; exact (beq_iff_eq.1 h2).symm
      · rename_i hc; rw [if_neg (by simpa using hc)]; exact (beq_iff_eq.1 h2).symm
    · exact absurd h1 hmt
  · rintro ⟨h1, h2⟩
    refine ⟨Or.inl h1.symm, ?_⟩
    split
    · rename_i hc; rw [if_pos (by simpa using hc)] at h2; exact beq_iff_eq.2 h2.symm
    · rename_i hc; rw [if_neg (by simpa using hc)] at h2; exact beq_iff_eq.2 h2.symm

open XPathV.PathSem XPathV.NameSem in
/-- **what the parser records for a name test** (`parseNodeTest`): no map — prefix and local name
as scanned; a map binding the prefix — the bound URI; an unprefixed name — never bound; an unbound
prefix — the compile error -/
theorem C14_parser_records (cfg : PCfg) (inp : Ast) (axis : String) (mt : NType) (st st1 : PState)
    (ht : st.s.typ = .name) (hnf : (st.s.canBeFunc && isNodeType st.s) = false)
    (hnext : st.next = .ok st1) :
    parseNodeTest cfg inp axis mt st =
      match nameInfo cfg.ns axis mt st.s.pfx (scannedLocal st) with
      | some a => .ok (.axis a inp, st1)
      | none => .error .prefixUndefined :=
  parseNodeTest_name_spec cfg inp axis mt st st1 ht hnf hnext

open XPathV.PathSem XPathV.NameSem in
/-- **one step on each of the twelve axes, no namespace map**: exactly the nodes on the axis of the
principal node type whose prefix *and* local name are those of the test (an unprefixed test
therefore matches only unprefixed nodes) -/
theorem C14_step_without_map {d : Doc} (wf : WF d) (cfg : ECfg) (hinj : HashInj d cfg)
    (axis : String) (ha : axis ∈ axes12) (mt : NType) (hmt : mt ≠ .all)
    (pfx lname : String) (hl : lname ≠ "") (c : Ref) (hc : validRef d c = true) :
    ∃ out, sel (F := F) d cfg (stepPlan ⟨axis, mt, pfx, lname, "", false, ""⟩ .context) c = .ok out ∧
      ∀ x, x ∈ refs out ↔
        (x ∈ (Spec.axisNodes d axis c).getD [] ∧
          nodeType d x = mt ∧ prefixOf d x = pfx ∧ localName d x = lname) :=
  step_noNS wf cfg hinj axis ha mt hmt pfx lname hl c hc

open XPathV.PathSem XPathV.NameSem in
/-- `C14_step_without_map` without the `HashInj` hypothesis (it is a theorem, `hashInj_holds`; the side
condition left is "no element has two attributes with the same prefix, name and value") -/
theorem C14_step_without_map_unconditional {d : Doc} (wf : WF d) (cfg : ECfg) (hattr : AttrTriplesDistinct d)
    (axis : String) (ha : axis ∈ axes12) (mt : NType) (hmt : mt ≠ .all)
    (pfx lname : String) (hl : lname ≠ "") (c : Ref) (hc : validRef d c = true) :
    ∃ out, sel (F := F) d cfg (stepPlan ⟨axis, mt, pfx, lname, "", false, ""⟩ .context) c = .ok out ∧
      ∀ x, x ∈ refs out ↔
        (x ∈ (Spec.axisNodes d axis c).getD [] ∧
          nodeType d x = mt ∧ prefixOf d x = pfx ∧ localName d x = lname) :=
  C14_step_without_map wf cfg (PathSem.hashInj_holds wf hattr cfg) axis ha mt hmt pfx lname hl c hc

open XPathV.PathSem XPathV.NameSem in
/-- **… with a map binding the prefix** (`CompileWithNS`, navigator exposing URIs): by (bound URI,
local name); the prefix used in the document does not occur in the statement -/
theorem C14_step_with_map {d : Doc} (wf : WF d) (cfg : ECfg) (hinj : HashInj d cfg) (hi : cfg.nsIface = true)
    (axis : String) (ha : axis ∈ axes12) (mt : NType) (hmt : mt ≠ .all)
    (pfx lname uri : String) (hl : lname ≠ "") (c : Ref) (hc : validRef d c = true) :
    ∃ out, sel (F := F) d cfg (stepPlan ⟨axis, mt, pfx, lname, "", true, uri⟩ .context) c = .ok out ∧
      ∀ x, x ∈ refs out ↔
        (x ∈ (Spec.axisNodes d axis c).getD [] ∧
          nodeType d x = mt ∧ nsURL d x = uri ∧ localName d x = lname) :=
  step_NS wf cfg hinj hi axis ha mt hmt pfx lname uri hl c hc

open XPathV.PathSem XPathV.NameSem in
/-- `C14_step_with_map` without the `HashInj` hypothesis (it is a theorem, `hashInj_holds`; the side
condition left is "no element has two attributes with the same prefix, name and value") -/
theorem C14_step_with_map_unconditional {d : Doc} (wf : WF d) (cfg : ECfg) (hattr : AttrTriplesDistinct d) (hi : cfg.nsIface = true)
    (axis : String) (ha : axis ∈ axes12) (mt : NType) (hmt : mt ≠ .all)
    (pfx lname uri : String) (hl : lname ≠ "") (c : Ref) (hc : validRef d c = true) :
    ∃ out, sel (F := F) d cfg (stepPlan ⟨axis, mt, pfx, lname, "", true, uri⟩ .context) c = .ok out ∧
      ∀ x, x ∈ refs out ↔
        (x ∈ (Spec.axisNodes d axis c).getD [] ∧
          nodeType d x = mt ∧ nsURL d x = uri ∧ localName d x = lname) :=
  C14_step_with_map wf cfg (PathSem.hashInj_holds wf hattr cfg) hi axis ha mt hmt pfx lname uri hl c
    hc

open XPathV.PathSem XPathV.NameSem in
/-- **… with a map but a navigator without `NamespaceURL()`**: the binding is ignored and the test
compares (prefix as written, local name) with the document's prefixes — the third branch -/
theorem C14_step_with_map_no_uri_interface {d : Doc} (wf : WF d) (cfg : ECfg) (hinj : HashInj d cfg)
    (hi : cfg.nsIface = false) (axis : String) (ha : axis ∈ axes12) (mt : NType)
    (hmt : mt ≠ .all) (pfx lname uri : String) (hl : lname ≠ "") (c : Ref) (hc : validRef d c = true) :
    ∃ out, sel (F := F) d cfg (stepPlan ⟨axis, mt, pfx, lname, "", true, uri⟩ .context) c = .ok out ∧
      ∀ x, x ∈ refs out ↔
        (x ∈ (Spec.axisNodes d axis c).getD [] ∧
          nodeType d x = mt ∧ prefixOf d x = pfx ∧ localName d x = lname) := by
  obtain ⟨out, h1, h2⟩ := step_ctx (F := F) wf cfg hinj ⟨axis, mt, pfx, lname, "", true, uri⟩ ha c hc
  exact ⟨out, h1, fun x => by rw [h2 x, test_NS_noIface d cfg hi axis mt pfx lname "" uri hmt hl x]⟩

open XPathV.PathSem XPathV.NameSem in
/-- `C14_step_with_map_no_uri_interface` without the `HashInj` hypothesis (it is a theorem, `hashInj_holds`; the side
condition left is "no element has two attributes with the same prefix, name and value") -/
theorem C14_step_with_map_no_uri_interface_unconditional {d : Doc} (wf : WF d) (cfg : ECfg) (hattr : AttrTriplesDistinct d)
    (hi : cfg.nsIface = false) (axis : String) (ha : axis ∈ axes12) (mt : NType)
    (hmt : mt ≠ .all) (pfx lname uri : String) (hl : lname ≠ "") (c : Ref) (hc : validRef d c = true) :
    ∃ out, sel (F := F) d cfg (stepPlan ⟨axis, mt, pfx, lname, "", true, uri⟩ .context) c = .ok out ∧
      ∀ x, x ∈ refs out ↔
        (x ∈ (Spec.axisNodes d axis c).getD [] ∧
          nodeType d x = mt ∧ prefixOf d x = pfx ∧ localName d x = lname) :=
  C14_step_with_map_no_uri_interface wf cfg (PathSem.hashInj_holds wf hattr cfg) hi axis ha mt hmt
    pfx lname uri hl c hc

open XPathV.PathSem XPathV.NameSem in
/-- **C14 (main theorem, whole paths, through the builder)**: for every predicate-free path whose
steps are name tests as the parser records them under the map `ns` (any of the twelve axes), the
built plan selects exactly the oracle's node set, which is the denotation by (principal type, local
name, bound URI or prefix).  Stated on the parse tree `p` and a successful `build`, not on a text: that
the parser yields such trees is `C14_parser_records`, and for one-step texts `compileWithNS_name/_attr/_axis`,
`compile_name_noMap`, `compileWithNS_unprefixed` in `Lemmas/NameSem.lean`.  A step of a `NamePath` has a
local name; `p:*` is covered by `nametest_prefix_wildcard` and `NameSem.ex_prefix_star` only. -/
theorem C14_main {d : Doc} (wf : WF d) (cfg : ECfg) (hns : cfg.nsIface = true)
    (hinj : HashInj d cfg) (regexOk : RegexOk) (limit : Nat) (sdf : Bool)
    (ns : Option (List (String × String))) (p : Ast) (hp : NamePath ns p)
    (st : BState) (o : BOut) (hb : build regexOk limit true sdf p {} st = .ok o)
    (c : Ref) (hc : validRef d c = true) :
    ∃ out nodes g, sel (F := F) d cfg o.q c = .ok out ∧
      Spec.eval (F := F) d p ⟨c, 1, 1⟩ = .ok (.val (.nodes nodes) g) ∧
      (∀ x, x ∈ refs out ↔ x ∈ nodes) ∧ (∀ x, x ∈ refs out ↔ nameDen d p c x) :=
  NameSem.C14_main wf cfg hns hinj regexOk limit sdf ns p hp st o hb c hc

open XPathV.PathSem XPathV.NameSem in
/-- `C14_main` without the `HashInj` hypothesis (it is a theorem, `hashInj_holds`; the side
condition left is "no element has two attributes with the same prefix, name and value") -/
theorem C14_main_unconditional {d : Doc} (wf : WF d) (cfg : ECfg) (hns : cfg.nsIface = true)
    (hattr : AttrTriplesDistinct d) (regexOk : RegexOk) (limit : Nat) (sdf : Bool)
    (ns : Option (List (String × String))) (p : Ast) (hp : NamePath ns p)
    (st : BState) (o : BOut) (hb : build regexOk limit true sdf p {} st = .ok o)
    (c : Ref) (hc : validRef d c = true) :
    ∃ out nodes g, sel (F := F) d cfg o.q c = .ok out ∧
      Spec.eval (F := F) d p ⟨c, 1, 1⟩ = .ok (.val (.nodes nodes) g) ∧
      (∀ x, x ∈ refs out ↔ x ∈ nodes) ∧ (∀ x, x ∈ refs out ↔ nameDen d p c x) :=
  C14_main wf cfg hns (PathSem.hashInj_holds wf hattr cfg) regexOk limit sdf ns p hp st o hb c hc

open XPathV.PathSem XPathV.NameSem in
/-- **regardless of the prefix used in the document**: two documents with the same shape, local
names and namespace URIs (prefixes arbitrary) give the same node set for every path of bound name
tests -/
theorem C14_document_prefixes_irrelevant {d₁ d₂ : Doc} (wf₁ : WF d₁) (hs : SameNames d₁ d₂) (cfg : ECfg)
    (hi : cfg.nsIface = true) (hinj₁ : HashInj d₁ cfg) (hinj₂ : HashInj d₂ cfg)
    (regexOk : RegexOk) (limit : Nat) (sdf : Bool)
    (ns : Option (List (String × String))) (p : Ast) (hp : NamePath ns p) (hb : AllBound p)
    (st : BState) (o : BOut) (hbd : build regexOk limit true sdf p {} st = .ok o)
    (c : Ref) (hc : validRef d₁ c = true) :
    ∃ out₁ out₂, sel (F := F) d₁ cfg o.q c = .ok out₁ ∧ sel (F := F) d₂ cfg o.q c = .ok out₂ ∧
      ∀ x, x ∈ refs out₁ ↔ x ∈ refs out₂ := by
  have wf₂ : WF d₂ := hs.toSameShape.wf wf₁
  have hc₂ : validRef d₂ c = true := by rw [← validRef_shape hs.toSameShape]; exact hc
  obtain ⟨o1, _, _, h1, _, _, m1⟩ := C14_main (F := F) wf₁ cfg hi hinj₁ regexOk limit sdf ns p hp st o hbd c hc
  obtain ⟨o2, _, _, h2, _, _, m2⟩ := C14_main (F := F) wf₂ cfg hi hinj₂ regexOk limit sdf ns p hp st o hbd c hc₂
  exact ⟨o1, o2, h1, h2, fun x => by rw [m1, m2]; exact nameDen_same hs p hb c x⟩

open XPathV.PathSem XPathV.NameSem in
/-- `C14_document_prefixes_irrelevant` without the `HashInj` hypotheses (they are theorems,
`hashInj_holds`; the side condition left, for each document, is "no element has two attributes with
the same prefix, name and value"; the second document is well-formed because it has the shape of the
first) -/
theorem C14_document_prefixes_irrelevant_unconditional {d₁ d₂ : Doc} (wf₁ : WF d₁) (hs : SameNames d₁ d₂)
    (cfg : ECfg) (hi : cfg.nsIface = true)
    (hattr₁ : AttrTriplesDistinct d₁) (hattr₂ : AttrTriplesDistinct d₂)
    (regexOk : RegexOk) (limit : Nat) (sdf : Bool)
    (ns : Option (List (String × String))) (p : Ast) (hp : NamePath ns p) (hb : AllBound p)
    (st : BState) (o : BOut) (hbd : build regexOk limit true sdf p {} st = .ok o)
    (c : Ref) (hc : validRef d₁ c = true) :
    ∃ out₁ out₂, sel (F := F) d₁ cfg o.q c = .ok out₁ ∧ sel (F := F) d₂ cfg o.q c = .ok out₂ ∧
      ∀ x, x ∈ refs out₁ ↔ x ∈ refs out₂ :=
  C14_document_prefixes_irrelevant wf₁ hs cfg hi (PathSem.hashInj_holds wf₁ hattr₁ cfg)
    (PathSem.hashInj_holds (hs.toSameShape.wf wf₁) hattr₂ cfg) regexOk limit sdf ns p hp hb st o hbd c hc

open XPathV.NameSem in
/-- **an unbound prefix is a compile error**, from the expression text (`prefix:name` as the whole
expression; `@…` and `axis::…` variants in `Lemmas/NameSem.lean`) -/
theorem C14_unbound_prefix_from_text (cc : CompileCfg) (m : List (String × String)) (text : List Char)
    (s s1 : Scan) (hinit : Scan.init text = .ok s) (ht : s.typ = .name) (hcf : s.canBeFunc = false)
    (hnext : s.nextItem = .ok s1) (he : s1.typ = .eof)
    (hp : s.pfx ≠ "") (hl : m.lookup s.pfx = none) :
    compile cc (some m) text = .error (.parse .prefixUndefined) := by
  exact compile_err_unbound cc m text (init_nonempty text s hinit (by rw [ht]; decide)) _ _ _ _ hp hl
    (parse_name_text' (some m) text s s1 hinit ht hcf hnext he)

open XPathV.NameSem in
/-- **name functions with no argument, through the builder**: `name()`, `local-name()`,
`namespace-uri()` evaluate to the qualified name / local name / namespace URI of the context node,
which is the oracle's value (any builder configuration, any context position and size) -/
theorem C14_name_functions_no_argument (d : Doc) (cfg : ECfg) (hi : cfg.nsIface = true) (regexOk : RegexOk)
    (limit : Nat) (snt sdf : Bool) (nm pfx : String) (hnm : nm ∈ nameFns) (fl : Flags) (st : BState) (o : BOut)
    (hb : build regexOk limit snt sdf (.call nm pfx .anil) fl st = .ok o) (c : Ref) (i n : Nat) :
    evalP (F := F) d cfg o.q c = .ok (.str (specName d nm c)) ∧
      Spec.eval (F := F) d (.call nm pfx .anil) ⟨c, i, n⟩ = .ok (.val (.str (specName d nm c)) none) := by
  rw [build_name0 regexOk limit snt sdf nm pfx hnm fl st o hb, evalP_name0 d cfg nm hnm,
    engineName_eq d cfg hi]
  exact ⟨rfl, eval_name0 d ⟨c, i, n⟩ nm pfx hnm⟩

open XPathV.PathSem XPathV.NameSem in
/-- **name functions with a node-set argument** (a flat path: child/attribute/self steps, no predicates —
the restriction under which the engine's sequence is in document order): the name of the first node of
the argument in document order, `""` for the empty set — engine = oracle.  `ns` is the oracle's node
list; it is strictly increasing in document order. -/
theorem C14_name_functions_nodeset_argument {d : Doc} (wf : WF d) (cfg : ECfg) (hi : cfg.nsIface = true)
    (hinj : HashInj d cfg) (regexOk : RegexOk) (limit : Nat) (sdf : Bool) (nm pfx : String)
    (hnm : nm ∈ nameFns) (p : Ast) (hp : ArithSem.FlatPath p) (fl : Flags) (st : BState) (o : BOut)
    (hb : build regexOk limit true sdf (.call nm pfx (.acons p .anil)) fl st = .ok o)
    (c : Ref) (hc : validRef d c = true) (i n : Nat) :
    ∃ (ns : List Ref) (g : Option (List (List Ref))),
      Spec.eval (F := F) d p ⟨c, 1, 1⟩ = .ok (.val (.nodes ns) g) ∧
      ns.Pairwise (fun a b => Ref.lt a b = true) ∧
      evalP (F := F) d cfg o.q c = .ok (.str (firstOr (specName d nm) ns)) ∧
      Spec.eval (F := F) d (.call nm pfx (.acons p .anil)) ⟨c, i, n⟩ =
        .ok (.val (.str (firstOr (specName d nm) ns)) none) := by
  obtain ⟨st', ao, hao, hq⟩ := build_name1 regexOk limit true sdf nm pfx hnm p fl st o hb
  obtain ⟨out, ns, g, hsel, hev, hmem⟩ :=
    C01_main (F := F) wf cfg hi hinj regexOk limit sdf p hp.pathPF st' ao hao c hc
  have hsorted := (FlatFiltered.flatPath_sorted (F := F) wf cfg regexOk limit true sdf p hp {} st' ao hao c out hsel).1
  have hns : ns.Pairwise (fun a b => Ref.lt a b = true) := by
    cases hp with
    | step a _ =>
      obtain ⟨l, rfl⟩ := ArithSem.eval_axis_inv (F := F) d a _ _ ns g hev
      exact DocOrder.docOrder_sorted d l
    | cons a inp _ _ =>
      obtain ⟨l, rfl⟩ := ArithSem.eval_axis_inv (F := F) d a _ _ ns g hev
      exact DocOrder.docOrder_sorted d l
  have heq : refs out = ns := DocOrder.sorted_ext _ _ hsorted hns hmem
  refine ⟨ns, g, hev, hns, ?_, ?_⟩
  · rw [hq, evalP_name1 d cfg nm hnm .nil ao.q c out hsel, heq]
    congr 2
    cases ns with
    | nil => rfl
    | cons r t => exact engineName_eq d cfg hi nm r
  · exact eval_name1 d ⟨c, i, n⟩ nm pfx hnm p ns g (by rw [ArithSem.eval_pathpf_ctx d hp.pathPF]; exact hev)

open XPathV.PathSem XPathV.NameSem in
/-- `C14_name_functions_nodeset_argument` without the `HashInj` hypothesis (it is a theorem, `hashInj_holds`; the side
condition left is "no element has two attributes with the same prefix, name and value") -/
theorem C14_name_functions_nodeset_argument_unconditional {d : Doc} (wf : WF d) (cfg : ECfg) (hi : cfg.nsIface = true)
    (hattr : AttrTriplesDistinct d) (regexOk : RegexOk) (limit : Nat) (sdf : Bool) (nm pfx : String)
    (hnm : nm ∈ nameFns) (p : Ast) (hp : ArithSem.FlatPath p) (fl : Flags) (st : BState) (o : BOut)
    (hb : build regexOk limit true sdf (.call nm pfx (.acons p .anil)) fl st = .ok o)
    (c : Ref) (hc : validRef d c = true) (i n : Nat) :
    ∃ (ns : List Ref) (g : Option (List (List Ref))),
      Spec.eval (F := F) d p ⟨c, 1, 1⟩ = .ok (.val (.nodes ns) g) ∧
      ns.Pairwise (fun a b => Ref.lt a b = true) ∧
      evalP (F := F) d cfg o.q c = .ok (.str (firstOr (specName d nm) ns)) ∧
      Spec.eval (F := F) d (.call nm pfx (.acons p .anil)) ⟨c, i, n⟩ =
        .ok (.val (.str (firstOr (specName d nm) ns)) none) :=
  C14_name_functions_nodeset_argument wf cfg hi (PathSem.hashInj_holds wf hattr cfg) regexOk limit
    sdf nm pfx hnm p hp fl st o hb c hc i n

end XPathV.Theorems.C14
