import XPathV.Lemmas.Abbrev.Grammar
import XPathV.Lemmas.Abbrev.Classify
import XPathV.Lemmas.Abbrev.Full
import XPathV.Lemmas.FullGrammarComplete
import XPathV.Lemmas.ParserFull
/-!
# C10, third clause — each abbreviation means its expansion

XPath 1.0 §2.5: `a` = `child::a`, `@a` = `attribute::a`, `.` = `self::node()`, `..` = `parent::node()`,
`//` = `/descendant-or-self::node()/`.

**Expansion** (`Abbrev/Defs.lean`) is a function on the scanner's token stream — what a user writes:
`expandWith sel none 0 toks` writes out the abbreviations at the positions `sel` selects
(`expandAbbrev`: all of them; `expandAt i`: the one at position `i`; `expandKind k`: all of one kind;
`Expands toks toks'`: some set of them).

**Grammar** (`Parses_expandWith`, `Parses_of_Expands` and corollaries):
  `Parses ns toks a → Expands toks toks' → Parses ns toks' a`
— the written-out stream is an expression of the XPath 1.0 grammar with the *same* tree `a`; no
normalisation is involved, because the grammar's tree conventions already give `.` the record of
`self::node()` (`nodeStep`, with `prop = "node"`) and `//` the step `dos` under a root `"/"`.
Conversely (`expanded_tree_eq`) whatever tree the written-out form has is the tree of the abbreviated
form.  (The implication "the written-out form is an expression ⇒ the abbreviated form is one" is
false for the Recommendation's grammar: `self::node()[1]` is an expression, `.[1]` is not —
`not_conversely`.)

`Parses_at`, `Parses_dot`, `Parses_dotdot`, `Parses_slashslash` state the single-occurrence case
without `expandWith` (`pre ++ .at :: post` ↦ `pre ++ [.axis "attribute"] ++ post`, …);
`Abbrev/Full.lean` shows that `expandWith` with nothing selected is the identity, that `expandAbbrev`
leaves no `@ . .. //` token and is a fixed point of every further expansion.

The proof has two halves: on classified tokens, `D_expand` (`Abbrev/Grammar.lean`, induction on the
derivation, every non-terminal); and `classify_expand` (`Abbrev/Classify.lean`): the §3.7
classification of the written-out stream is the written-out classification — expansion never moves a
token into or out of operator position.

**Model parser** (`model_expand`): for texts whose token streams are related by expansion, if the
abbreviated one is an expression of the grammar nesting less than 200 deep, the model parser accepts
both texts and returns trees equal up to `normConv`.  Here `normConv` is needed, for two of its four
conventions: the model leaves `prop` empty in the step it makes for `.`, `..`, `//` and sets it to
`"node"` for a written `node()`; and it keeps the spelling `"//"` in the root node of `//a` where
`/descendant-or-self::node()/a` has `"/"`.  For `a` / `child::a` and `@a` / `attribute::a` the model's
trees are identical (examples at the end).
-/
namespace XPathV.Lemmas.Abbrev
open XPathV XPathV.Model XPathV.Bridge XPathV.Spec.Full XPathV.Lemmas.ParserFull

/-- the classified written-out stream is the classified stream written out -/
theorem classify_expandWith (sel : Nat → Bool) (toks : List TokV) :
    EE false (classify none toks) (classify none (expandWith sel none 0 toks)) :=
  classify_expand sel none toks none 0 (Agree.rfl' _)

/-- every non-terminal: writing out any set of abbreviations keeps the tree -/
theorem Derives_expandWith {ns : Option NsMap} {X : NT} {toks : List TokV} {a : Ast} (sel : Nat → Bool)
    (h : Derives ns X toks a) : Derives ns (upNT X) (expandWith sel none 0 toks) a :=
  D_expand h (classify_expandWith sel toks)

/-- **Abbreviations mean their expansions (grammar).**  If `toks` is an expression with tree `a`, then
`toks` with the abbreviations at any set of positions written out is an expression with the same
tree `a`. -/
theorem Parses_expandWith {ns : Option NsMap} {toks : List TokV} {a : Ast} (sel : Nat → Bool)
    (h : Parses ns toks a) : Parses ns (expandWith sel none 0 toks) a :=
  Derives_expandWith sel h

theorem Parses_of_Expands {ns : Option NsMap} {toks toks' : List TokV} {a : Ast}
    (h : Parses ns toks a) (hx : Expands toks toks') : Parses ns toks' a := by
  obtain ⟨sel, rfl⟩ := hx
  exact Parses_expandWith sel h

/-- all abbreviations written out -/
theorem Parses_expandAbbrev {ns : Option NsMap} {toks : List TokV} {a : Ast} (h : Parses ns toks a) :
    Parses ns (expandAbbrev toks) a :=
  Parses_expandWith _ h

/-- a single occurrence written out -/
theorem Parses_expandAt {ns : Option NsMap} {toks : List TokV} {a : Ast} (i : Nat)
    (h : Parses ns toks a) : Parses ns (expandAt i toks) a :=
  Parses_expandWith _ h

/-- all abbreviations of one kind written out -/
theorem Parses_expandKind {ns : Option NsMap} {toks : List TokV} {a : Ast} (k : Kind)
    (h : Parses ns toks a) : Parses ns (expandKind k toks) a :=
  Parses_expandWith _ h

/-! ### one occurrence, stated without `expandWith`

`toks = pre ++ t :: post` with the abbreviation token `t` anywhere in the stream. -/

/-- `@` = `attribute::` -/
theorem Parses_at {ns : Option NsMap} {pre post : List TokV} {a : Ast}
    (h : Parses ns (pre ++ .at :: post) a) : Parses ns (pre ++ [.axis "attribute"] ++ post) a :=
  expandAt_at pre post ▸ Parses_expandAt pre.length h

/-- `.` = `self::node()` -/
theorem Parses_dot {ns : Option NsMap} {pre post : List TokV} {a : Ast}
    (h : Parses ns (pre ++ .dot :: post) a) : Parses ns (pre ++ nodeT "self" ++ post) a :=
  expandAt_dot pre post ▸ Parses_expandAt pre.length h

/-- `..` = `parent::node()` -/
theorem Parses_dotdot {ns : Option NsMap} {pre post : List TokV} {a : Ast}
    (h : Parses ns (pre ++ .dotdot :: post) a) : Parses ns (pre ++ nodeT "parent" ++ post) a :=
  expandAt_dotdot pre post ▸ Parses_expandAt pre.length h

/-- `//` = `/descendant-or-self::node()/` -/
theorem Parses_slashslash {ns : Option NsMap} {pre post : List TokV} {a : Ast}
    (h : Parses ns (pre ++ .slashslash :: post) a) : Parses ns (pre ++ dosT ++ post) a :=
  expandAt_slashslash pre post ▸ Parses_expandAt pre.length h

/-- no axis = `child::`, for a name at the start of the text that §3.7 makes a NameTest or NodeType
(elsewhere in the text the position of the step is what `expandAt` / `expandKind .child` identify) -/
theorem Parses_child_first {ns : Option NsMap} {p l : String} {b : Bool} {post : List TokV} {a : Ast}
    (hn : nameTestStart (classifyName none p l b) = true)
    (h : Parses ns (.name p l b :: post) a) : Parses ns (.axis "child" :: .name p l b :: post) a := by
  have e : expandAt 0 (.name p l b :: post) = .axis "child" :: .name p l b :: post := by
    simp only [expandAt, expandWith]
    rw [expandWith_none_from _ _ _ _ (fun j hj => by simp; omega)]
    simp [childPfx, hn, isAx]
  exact e ▸ Parses_expandAt 0 h

/-- the same for `*` at the start of the text -/
theorem Parses_child_first_star {ns : Option NsMap} {post : List TokV} {a : Ast}
    (h : Parses ns (.star :: post) a) : Parses ns (.axis "child" :: .star :: post) a := by
  have e : expandAt 0 (.star :: post) = .axis "child" :: .star :: post := by
    simp only [expandAt, expandWith]
    rw [expandWith_none_from _ _ _ _ (fun j hj => by simp; omega)]
    simp [childPfx, operatorPosition, nameTestStart, isAx]
  exact e ▸ Parses_expandAt 0 h

/-- **Conversely**: whatever tree a written-out form has is the tree of the abbreviated expression. -/
theorem expanded_tree_eq {ns : Option NsMap} {toks toks' : List TokV} {a a' : Ast}
    (h : Parses ns toks a) (hx : Expands toks toks') (h' : Parses ns toks' a') : a' = a :=
  Parses_unique h' (Parses_of_Expands h hx)

/-- for an expression `toks`: the trees of the written-out form are exactly the trees of `toks` -/
theorem Parses_expand_iff {ns : Option NsMap} {toks toks' : List TokV} {a : Ast}
    (h : Parses ns toks a) (hx : Expands toks toks') (a' : Ast) :
    Parses ns toks' a' ↔ Parses ns toks a' :=
  ⟨fun h' => expanded_tree_eq h hx h' ▸ h, fun h' => Parses_of_Expands h' hx⟩

/-- the same for the executable reference parser -/
theorem refParseFull_expand {ns : Option NsMap} {toks toks' : List TokV} {a : Ast}
    (h : refParseFull ns toks = some a) (hx : Expands toks toks') : refParseFull ns toks' = some a :=
  refParseFull_complete (Parses_of_Expands (refParseFull_sound h) hx)

theorem refParseFull_expandAbbrev {ns : Option NsMap} {toks : List TokV} {a : Ast}
    (h : refParseFull ns toks = some a) : refParseFull ns (expandAbbrev toks) = some a :=
  refParseFull_expand h (Expands.all toks)

/-- **Abbreviations mean their expansions (model parser).**  `text` and `text'` are texts whose token
streams `toks`, `toks'` are related by writing out some abbreviations; `toks` is an expression of the
XPath 1.0 grammar whose tree `b` nests less than 200 deep (`toks'` then has the same tree, so this is
the bound for both).  Then the model parser accepts both texts, and its two trees are equal up to
`normConv` (and equal, up to `normConv`, to the grammar's tree). -/
theorem model_expand {ns : Option NsMap} {text text' : List Char} {toks toks' : List TokV} {b : Ast}
    (ht : tokVsRel text toks) (ht' : tokVsRel text' toks') (hx : Expands toks toks')
    (hp : Parses ns toks b) (hd : nesting b < 200) :
    ∃ a a', parse (fuelFor text) (defaultCfg ns) text = .ok a ∧
      parse (fuelFor text') (defaultCfg ns) text' = .ok a' ∧
      normConv a = normConv a' ∧ normConv a = normConv b := by
  obtain ⟨a, h₁, e₁⟩ := full_complete ht (refParseFull_complete hp) hd
  obtain ⟨a', h₂, e₂⟩ := full_complete ht' (refParseFull_complete (Parses_of_Expands hp hx)) hd
  exact ⟨a, a', h₁, h₂, e₁.trans e₂.symm, e₁⟩

/-- with the nesting bound stated for both trees, as two separate parses -/
theorem model_expand' {ns : Option NsMap} {text text' : List Char} {toks toks' : List TokV} {b b' : Ast}
    (ht : tokVsRel text toks) (ht' : tokVsRel text' toks') (hx : Expands toks toks')
    (hp : Parses ns toks b) (hp' : Parses ns toks' b') (hd : nesting b < 200) :
    b' = b ∧ nesting b' < 200 ∧
    ∃ a a', parse (fuelFor text) (defaultCfg ns) text = .ok a ∧
      parse (fuelFor text') (defaultCfg ns) text' = .ok a' ∧ normConv a = normConv a' := by
  obtain rfl := expanded_tree_eq hp hx hp'
  obtain ⟨a, a', h₁, h₂, e, _⟩ := model_expand ht ht' hx hp hd
  exact ⟨rfl, hd, a, a', h₁, h₂, e⟩

/-- with the driver's functions: both token streams computed by `tokVs`, the tree by `refParseFull` -/
theorem model_expand_tokVs {ns : Option NsMap} {text text' : List Char} {toks toks' : List TokV} {b : Ast}
    (ht : tokVs text = some toks) (ht' : tokVs text' = some toks') (hx : Expands toks toks')
    (hp : refParseFull ns toks = some b) (hd : nesting b < 200) :
    ∃ a a', parse (fuelFor text) (defaultCfg ns) text = .ok a ∧
      parse (fuelFor text') (defaultCfg ns) text' = .ok a' ∧
      normConv a = normConv a' ∧ normConv a = normConv b :=
  model_expand (tokVs_sound ht) (tokVs_sound ht') hx (refParseFull_sound hp) hd

/-! ## Examples (kernel evaluation of the scanner model, `tokVs`, `expandAbbrev`, `refParseFull`) -/
section Examples

/-- both texts scan; the token stream of `t'` is that of `t` with every abbreviation written out; the
reference parser accepts `t` and gives both the same tree -/
def checkFull (ns : Option NsMap) (t t' : String) : Bool :=
  match tokVs t.toList, tokVs t'.toList with
  | some a, some b =>
    decide (expandAbbrev a = b) && (refParseFull ns a).isSome && decide (refParseFull ns a = refParseFull ns b)
  | _, _ => false

/-- the same for the single occurrence at token position `i` -/
def checkAt (ns : Option NsMap) (i : Nat) (t t' : String) : Bool :=
  match tokVs t.toList, tokVs t'.toList with
  | some a, some b =>
    decide (expandAt i a = b) && (refParseFull ns a).isSome && decide (refParseFull ns a = refParseFull ns b)
  | _, _ => false

/-- for `b` an expansion of `a`, the reference parser need not be run on `b` -/
theorem agree_of_expands {ns : Option NsMap} {a b : List TokV} (hx : Expands a b) :
    ((refParseFull ns a).isSome && decide (refParseFull ns a = refParseFull ns b)) = (refParseFull ns a).isSome := by
  cases h : refParseFull ns a with
  | none => rfl
  | some t => simp [refParseFull_expand h hx]

/-- Under kernel evaluation `"…".toList` encodes the literal in UTF-8 and decodes it again, which costs more
than scanning and parsing the text.  A literal is by definition `String.ofList` of its characters, and
`(String.ofList l).toList = l` is a theorem: the examples below are evaluated on the character lists. -/
theorem checkFull_ofList (ns : Option NsMap) (l l' : List Char) :
    checkFull ns (String.ofList l) (String.ofList l') =
      match tokVs l with
      | some a => decide (tokVs l' = some (expandAbbrev a)) && (refParseFull ns a).isSome
      | none => false := by
  simp only [checkFull, String.toList_ofList]
  cases tokVs l with
  | none => rfl
  | some a =>
    cases tokVs l' with
    | none => rfl
    | some b =>
      by_cases h : expandAbbrev a = b
      · subst h
        simp [agree_of_expands (Expands.all a)]
      · simp [h, Ne.symm h]

theorem checkAt_ofList (ns : Option NsMap) (i : Nat) (l l' : List Char) :
    checkAt ns i (String.ofList l) (String.ofList l') =
      match tokVs l with
      | some a => decide (tokVs l' = some (expandAt i a)) && (refParseFull ns a).isSome
      | none => false := by
  simp only [checkAt, String.toList_ofList]
  cases tokVs l with
  | none => rfl
  | some a =>
    cases tokVs l' with
    | none => rfl
    | some b =>
      by_cases h : expandAt i a = b
      · subst h
        simp [agree_of_expands (Expands.one i a)]
      · simp [h, Ne.symm h]

example : checkFull none "a" "child::a" = true :=
  (checkFull_ofList ..).trans (by decide +kernel)
example : checkFull none "@k" "attribute::k" = true :=
  (checkFull_ofList ..).trans (by decide +kernel)
example : checkFull none "." "self::node()" = true :=
  (checkFull_ofList ..).trans (by decide +kernel)
example : checkFull none ".." "parent::node()" = true :=
  (checkFull_ofList ..).trans (by decide +kernel)
example : checkFull none "//a" "/descendant-or-self::node()/child::a" = true :=
  (checkFull_ofList ..).trans (by decide +kernel)
example : checkFull none "a//b" "child::a/descendant-or-self::node()/child::b" = true :=
  (checkFull_ofList ..).trans (by decide +kernel)
example : checkFull none "a[@k]/.." "child::a[attribute::k]/parent::node()" = true :=
  (checkFull_ofList ..).trans (by decide +kernel)
example : checkFull none ".//@*" "self::node()/descendant-or-self::node()/attribute::*" = true :=
  (checkFull_ofList ..).trans (by decide +kernel)
example : checkFull none "text()" "child::text()" = true :=
  (checkFull_ofList ..).trans (by decide +kernel)
example : checkFull (some [("p", "urn:p")]) "p:*/@p:k" "child::p:*/attribute::p:k" = true :=
  (checkFull_ofList ..).trans (by decide +kernel)
example : checkFull none "f(.)//a[../@k = $v]"
    "f(self::node())/descendant-or-self::node()/child::a[parent::node()/attribute::k = $v]" = true :=
  (checkFull_ofList ..).trans (by decide +kernel)

-- the classification of `*` and of operator names is not disturbed
example : checkFull none "a/*" "child::a/child::*" = true :=
  (checkFull_ofList ..).trans (by decide +kernel)
example : checkFull none "2 * a" "2 * child::a" = true :=
  (checkFull_ofList ..).trans (by decide +kernel)
example : checkFull none "* * *" "child::* * child::*" = true :=
  (checkFull_ofList ..).trans (by decide +kernel)
example : checkFull none ". * .." "self::node() * parent::node()" = true :=
  (checkFull_ofList ..).trans (by decide +kernel)
example : checkFull none "a div div" "child::a div child::div" = true :=
  (checkFull_ofList ..).trans (by decide +kernel)
example : checkFull none "@and and and" "attribute::and and child::and" = true :=
  (checkFull_ofList ..).trans (by decide +kernel)
example : checkFull none ".. and //or" "parent::node() and /descendant-or-self::node()/child::or" = true :=
  (checkFull_ofList ..).trans (by decide +kernel)

-- one occurrence at a time (token positions): `a//b` = tokens `a`, `//`, `b`
example : checkAt none 0 "a//b" "child::a//b" = true :=
  (checkAt_ofList ..).trans (by decide +kernel)
example : checkAt none 1 "a//b" "a/descendant-or-self::node()/b" = true :=
  (checkAt_ofList ..).trans (by decide +kernel)
example : checkAt none 2 "a//b" "a//child::b" = true :=
  (checkAt_ofList ..).trans (by decide +kernel)
example : checkAt none 2 "a[@k]/.." "a[attribute::k]/.." = true :=
  (checkAt_ofList ..).trans (by decide +kernel)
-- position 3 is the `k` after `@`: it has an axis specifier, nothing to write out
example : checkAt none 3 "a[@k]/.." "a[@k]/.." = true :=
  (checkAt_ofList ..).trans (by decide +kernel)
-- one kind at a time
example : (tokVs "a[@k]/..".toList).map (expandKind .attribute) = tokVs "a[attribute::k]/..".toList := by
  rw [String.toList_ofList, String.toList_ofList]
  decide +kernel
example : (tokVs "a[@k]/..".toList).map (expandKind .child) = tokVs "child::a[@k]/..".toList := by
  rw [String.toList_ofList, String.toList_ofList]
  decide +kernel

/-- the converse implication fails for the Recommendation's grammar: an AbbreviatedStep takes no
predicates, the step it abbreviates does -/
theorem not_conversely :
    (∃ a, Parses none (expandAbbrev [.dot, .lbracket, .num "1", .rbracket]) a) ∧
    ¬ ∃ a, Parses none [.dot, .lbracket, .num "1", .rbracket] a := by
  refine ⟨⟨_, refParseFull_sound (a := .filter (nodeStep "self" .none) (.num "1")) (by decide)⟩, ?_⟩
  rintro ⟨a, h⟩
  exact not_Parses_of_none (by decide) a h

/-- model trees of two texts, when the model parser accepts both -/
def modelTrees (ns : Option NsMap) (t t' : String) : Option (Ast × Ast) :=
  match parse (fuelFor t.toList) (defaultCfg ns) t.toList, parse (fuelFor t'.toList) (defaultCfg ns) t'.toList with
  | .ok a, .ok b => some (a, b)
  | _, _ => none

/-- (the two model trees are equal, they are equal up to `normConv`) -/
def cmpModel (t t' : String) : Option (Bool × Bool) :=
  (modelTrees none t t').map (fun p => (p.1 == p.2, normConv p.1 == normConv p.2))

theorem modelTrees_ofList (ns : Option NsMap) (l l' : List Char) :
    modelTrees ns (String.ofList l) (String.ofList l') =
      match parse (fuelFor l) (defaultCfg ns) l, parse (fuelFor l') (defaultCfg ns) l' with
      | .ok a, .ok b => some (a, b)
      | _, _ => none := by
  simp only [modelTrees, String.toList_ofList]

theorem cmpModel_ofList (l l' : List Char) :
    cmpModel (String.ofList l) (String.ofList l') =
      match parse (fuelFor l) (defaultCfg none) l, parse (fuelFor l') (defaultCfg none) l' with
      | .ok a, .ok b => some (a == b, normConv a == normConv b)
      | _, _ => none := by
  rw [cmpModel, modelTrees_ofList]
  split <;> simp_all

theorem modelTrees_dot : modelTrees none "." "self::node()"
    = some (.axis ⟨"self", .all, "", "", "", false, ""⟩ .none,
            .axis ⟨"self", .all, "", "", "node", false, ""⟩ .none) :=
  (modelTrees_ofList ..).trans (by decide +kernel)

theorem modelTrees_slashslash : modelTrees none "//a" "/descendant-or-self::node()/child::a"
    = some (child "a" (.axis ⟨"descendant-or-self", .all, "", "", "", false, ""⟩ (.root "//")),
            child "a" (.axis ⟨"descendant-or-self", .all, "", "", "node", false, ""⟩ (.root "/"))) :=
  (modelTrees_ofList ..).trans (by decide +kernel)

-- in the model, `child::` and `attribute::` give the very same tree as their abbreviations …
example : cmpModel "a" "child::a" = some (true, true) :=
  (cmpModel_ofList ..).trans (by decide +kernel)
example : cmpModel "@k" "attribute::k" = some (true, true) :=
  (cmpModel_ofList ..).trans (by decide +kernel)
example : cmpModel "a/*" "child::a/child::*" = some (true, true) :=
  (cmpModel_ofList ..).trans (by decide +kernel)
-- … and `.`, `..`, `//` differ from their expansions in what `normConv` erases (the `prop` field of
-- the `node()` step, the slash string of the root), and in nothing else
example : cmpModel "." "self::node()" = some (false, true) := by
  rw [cmpModel, modelTrees_dot]
  decide +kernel
example : cmpModel ".." "parent::node()" = some (false, true) :=
  (cmpModel_ofList ..).trans (by decide +kernel)
example : cmpModel "//a" "/descendant-or-self::node()/child::a" = some (false, true) := by
  rw [cmpModel, modelTrees_slashslash]
  decide +kernel
example : cmpModel "a//b" "child::a/descendant-or-self::node()/child::b" = some (false, true) :=
  (cmpModel_ofList ..).trans (by decide +kernel)
-- the two differences, spelled out
example : modelTrees none "." "self::node()"
    = some (.axis ⟨"self", .all, "", "", "", false, ""⟩ .none,
            .axis ⟨"self", .all, "", "", "node", false, ""⟩ .none) :=
  modelTrees_dot
example : modelTrees none "//a" "/descendant-or-self::node()/child::a"
    = some (child "a" (.axis ⟨"descendant-or-self", .all, "", "", "", false, ""⟩ (.root "//")),
            child "a" (.axis ⟨"descendant-or-self", .all, "", "", "node", false, ""⟩ (.root "/"))) :=
  modelTrees_slashslash

/-- an instance of `model_expand_tokVs` with all hypotheses evaluated -/
example : ∃ a a', parse (fuelFor "a[@k]/..".toList) (defaultCfg none) "a[@k]/..".toList = .ok a ∧
    parse (fuelFor "child::a[attribute::k]/parent::node()".toList) (defaultCfg none)
      "child::a[attribute::k]/parent::node()".toList = .ok a' ∧ normConv a = normConv a' := by
  have ht : tokVs "a[@k]/..".toList = some [.name "" "a" false, .lbracket, .at, .name "" "k" false,
      .rbracket, .slash, .dotdot] := by
    rw [String.toList_ofList]
    decide +kernel
  have ht' : tokVs "child::a[attribute::k]/parent::node()".toList = some (expandAbbrev
      [.name "" "a" false, .lbracket, .at, .name "" "k" false, .rbracket, .slash, .dotdot]) := by
    rw [String.toList_ofList]
    decide +kernel
  obtain ⟨a, a', h₁, h₂, e, _⟩ := model_expand_tokVs (ns := none) ht ht' (Expands.all _)
    (b := nodeStep "parent" (.filter (child "a") (.axis ⟨"attribute", .attr, "", "k", "", false, ""⟩ .none)))
    (by decide +kernel) (by decide +kernel)
  exact ⟨a, a', h₁, h₂, e⟩

end Examples

end XPathV.Lemmas.Abbrev
