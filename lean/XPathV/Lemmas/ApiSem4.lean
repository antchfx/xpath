import XPathV.Lemmas.ApiSem2
import XPathV.Lemmas.UnionSem2
/-!
# C11 at the public API: a text that parses into `A | B`, operands in `Frag2 true`

`ApiSem2.C02_compile_total2` takes a text of the fragment `Frag2` through `compile`, `selectAll` and
`evaluate`.  Here the same for a text that parses into `.oper "|" A B` with `Frag2 true A`,
`Frag2 true B` (plan-level: `UnionSem2.C11_main2` / `C11_evalTop2`).

A union plan is not `PathShape` (that predicate lists steps, filters and merges only), but neither
`selectAll` nor `evaluate` needs it: `selectAll` is `sel`, and `evalP` on `.union l r` takes its
default arm (`sel` then `.nodes`), after which `evaluate` drains `selectAll`
(`evalP_union`, `evaluate_of_nodes`).  So both entry points are covered.

* `build_union_q`, `build_union_ne_nil` — the plan of `A | B` is `.union _ _`, never the nil query
* `C11_api_build`, and through `compile_lift`: `C11_compile`, `C11_compile_source`, `C11_compile_total`
-/
namespace XPathV.ApiSem
open XPathV XPathV.Model XPathV.PathSem XPathV.PredSem XPathV.PredSem2 XPathV.UnionSem
  XPathV.UnionSem2

variable {F : Type} [NumAlg F]

/-- the plan `build` makes of `A | B` is a union plan -/
theorem build_union_q (regexOk : RegexOk) (limit : Nat) (snt sdf : Bool) (A B : Ast) (fl : Flags)
    (st : BState) (o : BOut) (h : build regexOk limit snt sdf (.oper "|" A B) fl st = .ok o) :
    ∃ l r, o.q = .union l r := by
  obtain ⟨_, lo, ro, _, _, hq, _⟩ := build_union_inv regexOk limit snt sdf A B fl st o h
  exact ⟨lo.q, ro.q, hq⟩

/-- … in particular not the nil query -/
theorem build_union_ne_nil (regexOk : RegexOk) (limit : Nat) (snt sdf : Bool) (A B : Ast) (fl : Flags)
    (st : BState) (o : BOut) (h : build regexOk limit snt sdf (.oper "|" A B) fl st = .ok o) :
    o.q ≠ .nil := by
  obtain ⟨l, r, hq⟩ := build_union_q regexOk limit snt sdf A B fl st o h
  rw [hq]; intro h'; cases h'

/-- `evalP` on a union plan takes the default arm: the selected sequence as a node-set value -/
theorem evalP_union (d : Doc) (cfg : ECfg) (l r : Plan) (c : Ref) (out : List Item)
    (h : sel (F := F) d cfg (.union l r) c = .ok out) :
    evalP (F := F) d cfg (.union l r) c = .ok (.nodes (nodesVal d cfg out)) := by
  simp only [evalP, h, bind, Except.bind, nodesVal, refs]

/-- C11 at the interface, for the plan the builder makes of `A | B` (switches as read off the source) -/
theorem C11_api_build {d : Doc} (wf : WF d) (cfg : ECfg) (hns : cfg.nsIface = true)
    (hinj : HashInj d cfg) (regexOk : RegexOk) (limit : Nat) (A B : Ast) (hA : Frag2 true A)
    (hB : Frag2 true B) (o : BOut) (hb : build regexOk limit true false (.oper "|" A B) {} {} = .ok o)
    (c : Ref) (hc : validRef d c = true) :
    ∃ l nsl, selectAll (F := F) d cfg o.q c = .ok l ∧ evaluate (F := F) d cfg o.q c = .ok (.nodes l) ∧
      l.Nodup ∧ Spec.evalTop (F := F) d (.oper "|" A B) c = .ok (.nodes nsl) ∧ nsl.Nodup ∧
      (∀ x, x ∈ l ↔ x ∈ nsl) ∧
      (∀ x, x ∈ nsl ↔ x ∈ nodesAt d F A c ∨ x ∈ nodesAt d F B c) := by
  obtain ⟨l, r, hu⟩ := build_union_q _ _ _ _ A B _ _ o hb
  obtain ⟨out, nsU, h1, h2, h3, h4, h5, h6⟩ :=
    C11_evalTop2 (F := F) wf cfg hns hinj regexOk limit A B hA hB {} o hb c hc
  refine ⟨refs out, nsU, selectAll_of_sel d cfg o.q c out h1, ?_, h2, h3, h4, ?_, h6⟩
  · rw [hu] at h1 ⊢
    exact evaluate_of_nodes d cfg _ c out _ (evalP_union d cfg l r c out h1) h1
  · intro x; rw [h5 x, h6 x]

/-- **C11 against `compile` / `selectAll` / `evaluate`**: for a text the parser turns into `A | B`
with operands in `Frag2 true`, every plan `compile` returns (under a configuration with the `//name`
shortcut guarded and no smartDesc through filters) selects, from every valid context node of every
well-formed document, a sequence without repetition whose members are exactly those of the node-set
the oracle assigns to `A | B` (itself without repetition, and the union of the operands' node-sets);
`evaluate` returns the same list -/
theorem C11_compile {d : Doc} (wf : WF d) (cfg : ECfg) (hns : cfg.nsIface = true)
    (hinj : HashInj d cfg) (cc : CompileCfg) (hsnt : cc.shortcutNeedsNodeTest = true)
    (hsdf : cc.smartDescThroughFilter = false) (ns : Option (List (String × String)))
    (text : List Char) (A B : Ast)
    (hparse : parse (fuelFor text) (defaultCfg ns) text = .ok (.oper "|" A B))
    (hA : Frag2 true A) (hB : Frag2 true B) (p : Plan) (hcomp : compile cc ns text = .ok p)
    (c : Ref) (hc : validRef d c = true) :
    ∃ l nsl, selectAll (F := F) d cfg p c = .ok l ∧ evaluate (F := F) d cfg p c = .ok (.nodes l) ∧
      l.Nodup ∧ Spec.evalTop (F := F) d (.oper "|" A B) c = .ok (.nodes nsl) ∧ nsl.Nodup ∧
      (∀ x, x ∈ l ↔ x ∈ nsl) ∧
      (∀ x, x ∈ nsl ↔ x ∈ nodesAt d F A c ∨ x ∈ nodesAt d F B c) := by
  apply (compile_lift cc ns text _ hparse ?_).1 p hcomp
  intro o hb
  have hn := build_union_ne_nil _ _ _ _ A B _ _ o hb
  rw [hsnt, hsdf] at hb
  exact ⟨hn, C11_api_build (F := F) wf cfg hns hinj cc.regexOk apiLimit A B hA hB o hb c hc⟩

/-- **C11 against `compile` at the source configuration** (`CompileCfg`'s default switches are the
ones read off the current source); any regexp oracle -/
theorem C11_compile_source {d : Doc} (wf : WF d) (cfg : ECfg) (hns : cfg.nsIface = true)
    (hinj : HashInj d cfg) (regexOk : RegexOk) (ns : Option (List (String × String)))
    (text : List Char) (A B : Ast)
    (hparse : parse (fuelFor text) (defaultCfg ns) text = .ok (.oper "|" A B))
    (hA : Frag2 true A) (hB : Frag2 true B) (p : Plan)
    (hcomp : compile { regexOk := regexOk } ns text = .ok p)
    (c : Ref) (hc : validRef d c = true) :
    ∃ l nsl, selectAll (F := F) d cfg p c = .ok l ∧ evaluate (F := F) d cfg p c = .ok (.nodes l) ∧
      l.Nodup ∧ Spec.evalTop (F := F) d (.oper "|" A B) c = .ok (.nodes nsl) ∧ nsl.Nodup ∧
      (∀ x, x ∈ l ↔ x ∈ nsl) ∧
      (∀ x, x ∈ nsl ↔ x ∈ nodesAt d F A c ∨ x ∈ nodesAt d F B c) :=
  C11_compile wf cfg hns hinj { regexOk := regexOk } (srcCfg_snt regexOk) (srcCfg_sdf regexOk)
    ns text A B hparse hA hB p hcomp c hc

/-- **the whole pipeline on a text that parses into `A | B`** (operands in `Frag2 true`): `compile`
(source configuration) either reports a *builder* error (never "empty", a parse error, lack of fuel
or the nil query), or returns a union plan on which `selectAll` and `evaluate` agree with the oracle
at every valid context node of every well-formed document, each node exactly once -/
theorem C11_compile_total (regexOk : RegexOk) (ns : Option (List (String × String)))
    (text : List Char) (A B : Ast)
    (hparse : parse (fuelFor text) (defaultCfg ns) text = .ok (.oper "|" A B))
    (hA : Frag2 true A) (hB : Frag2 true B) :
    (∃ e, compile { regexOk := regexOk } ns text = .error (.build e)) ∨
    (∃ p, compile { regexOk := regexOk } ns text = .ok p ∧ (∃ l r, p = .union l r) ∧
      ∀ (F : Type) [NumAlg F] (d : Doc), WF d → ∀ cfg : ECfg, cfg.nsIface = true → HashInj d cfg →
        ∀ c, validRef d c = true →
          ∃ l nsl, selectAll (F := F) d cfg p c = .ok l ∧ evaluate (F := F) d cfg p c = .ok (.nodes l) ∧
            l.Nodup ∧ Spec.evalTop (F := F) d (.oper "|" A B) c = .ok (.nodes nsl) ∧ nsl.Nodup ∧
            (∀ x, x ∈ l ↔ x ∈ nsl) ∧
            (∀ x, x ∈ nsl ↔ x ∈ nodesAt d F A c ∨ x ∈ nodesAt d F B c)) := by
  refine (compile_lift { regexOk := regexOk } ns text _ hparse (fun o hb => ?_)).2
  have hn := build_union_ne_nil _ _ _ _ A B _ _ o hb
  have hu := build_union_q _ _ _ _ A B _ _ o hb
  rw [srcCfg_snt, srcCfg_sdf] at hb
  exact ⟨hn, hu, fun F _ d wf cfg hns hinj c hc =>
    C11_api_build (F := F) wf cfg hns hinj regexOk apiLimit A B hA hB o hb c hc⟩

end XPathV.ApiSem
