import XPathV.Spec.FullBridge
import XPathV.Lemmas.Lexeme
/-!
# Token streams with values, and their §3.7 classification seen from the scanner state

* `TV s toks`: `toks` is the list of `TokV`s ahead of the scanner state `s` (up to end of input);
  `tokVsRel text toks`: the same from `Scan.init text`; `tokVs_sound`: the driver's `tokVs` computes it.
* `etok prev s`: the ExprToken of the current item of `s` when the preceding ExprToken is `prev`.
* `ES prev s ets`: `ets` is the classified stream ahead of `s` — the relation the simulation proof
  works with; `TV.es`: `TV s toks → ES prev s (classify prev toks)`.
-/
namespace XPathV.Lemmas.ParserFull
open XPathV XPathV.Model XPathV.Bridge XPathV.Spec.Full

/-! ## the stream of `TokV`s -/

inductive TV : Scan → List TokV → Prop
  | eof {s : Scan} : s.typ = .eof → TV s []
  | cons {s s1 : Scan} {t : TokV} {rest : List TokV} :
      s.typ ≠ .eof → convTok s = some t → s.nextItem = .ok s1 → TV s1 rest → TV s (t :: rest)

/-- `toks` is the scanner's token stream of `text` -/
def tokVsRel (text : List Char) (toks : List TokV) : Prop := ∃ s, Scan.init text = .ok s ∧ TV s toks

theorem tokVsGo_sound : ∀ (f : Nat) (s : Scan) (acc toks : List TokV), tokVsGo f s acc = some toks →
    ∃ r, toks = acc.reverse ++ r ∧ TV s r
  | 0, _, _, _, h => by simp [tokVsGo] at h
  | f+1, s, acc, toks, h => by
    unfold tokVsGo at h
    split at h
    · rename_i he
      cases h
      exact ⟨[], by simp, .eof (eq_of_beq he)⟩
    · rename_i hne
      split at h
      · rename_i t s' hc hn
        obtain ⟨r, rfl, hr⟩ := tokVsGo_sound f s' (t :: acc) toks h
        exact ⟨t :: r, by simp, .cons (by simpa using hne) hc hn hr⟩
      · cases h

/-- the driver's `tokVs` is sound for the relation -/
theorem tokVs_sound {text : List Char} {toks : List TokV} (h : tokVs text = some toks) : tokVsRel text toks := by
  unfold tokVs at h
  split at h
  · rename_i s hs
    obtain ⟨r, rfl, hr⟩ := tokVsGo_sound _ _ _ _ h
    exact ⟨s, hs, by simpa using hr⟩
  · cases h

theorem TV.det {s : Scan} {a b : List TokV} (ha : TV s a) (hb : TV s b) : a = b := by
  induction ha generalizing b with
  | eof he =>
    cases hb with
    | eof _ => rfl
    | cons hne _ _ _ => exact absurd he hne
  | cons hne hc hn _ ih =>
    cases hb with
    | eof he => exact absurd he hne
    | cons _ hc' hn' hb' =>
      rw [hn] at hn'; cases hn'
      rw [hc] at hc'; cases hc'
      rw [ih hb']

theorem tokVsRel.det {text : List Char} {a b : List TokV} (ha : tokVsRel text a) (hb : tokVsRel text b) : a = b := by
  obtain ⟨s, hs, ha⟩ := ha
  obtain ⟨s', hs', hb⟩ := hb
  rw [hs] at hs'; cases hs'
  exact ha.det hb

/-! ## a name token that "can be a function" is followed by `(` -/

/-- a state produced by `nextItem` -/
def Out (s : Scan) : Prop := ∃ s0 : Scan, s0.nextItem = .ok s

theorem curr_paren_next {s s1 : Scan} (hc : s.curr = '(') (h : s.nextItem = .ok s1) : s1.typ = .lparen :=
  Whitespace.nextItem_single (c := '(') (by decide) hc h

/-- Only a name-like kind of token has the type `name`, and it sets `canBeFunc` from the character it stops at. -/
theorem nextItem_name_paren (s0 s' : Scan) (h : s0.nextItem = .ok s') (ht : s'.typ = .name)
    (hcf : s'.canBeFunc = true) : s'.curr = '(' := by
  obtain ⟨k, r, hk, rfl⟩ := Whitespace.nextItem_out h
  cases k with
  | nameLike t n p => exact eq_of_beq hcf
  | plain t => exact absurd ht hk.1
  | _ => cases ht

/-- a name token that can be a function name is followed by the token `(` -/
theorem name_paren_next {s s1 : Scan} (ho : Out s) (ht : s.typ = .name) (hcf : s.canBeFunc = true)
    (h : s.nextItem = .ok s1) : s1.typ = .lparen := by
  obtain ⟨s0, h0⟩ := ho
  exact curr_paren_next (nextItem_name_paren s0 s h0 ht hcf) h

/-! ## the classified stream, seen from the scanner state -/

/-- the ExprToken of the current item (for every item but `$`, `!` and end of input) -/
def etok (prev : Option ETok) (s : Scan) : ETok :=
  match s.typ with
  | .name => classifyName prev s.pfx s.name s.canBeFunc
  | .star => if operatorPosition prev then .mul else .wild
  | .axe => .axisName s.name
  | .string => .literal s.strval
  | .number => .number s.numlex
  | .slash => .slash | .slashslash => .slashslash | .at => .at | .dot => .dot
  | .dotdot => .dotdot | .lparen => .lparen | .rparen => .rparen
  | .lbracket => .lbracket | .rbracket => .rbracket | .comma => .comma
  | .union => .union | .plus => .plus | .minus => .minus
  | .eq => .eq | .ne => .ne | .lt => .lt | .le => .le | .gt => .gt | .ge => .ge
  | .dollar => .invalid | .bang => .invalid | .eof => .invalid

/-- `ES prev s ets`: the ExprTokens ahead of `s` are `ets`, when the ExprToken before them is `prev`.
After an `invalid` token that stems from a `$` nothing is recorded (no production reads past it). -/
inductive ES : Option ETok → Scan → List ETok → Prop
  | eof {prev : Option ETok} {s : Scan} : s.typ = .eof → ES prev s []
  | tok {prev : Option ETok} {s s1 : Scan} {ets : List ETok} :
      s.typ ≠ .eof → s.typ ≠ .dollar → s.typ ≠ .bang → s.nextItem = .ok s1 →
      (s.typ = .name → s.canBeFunc = true → s1.typ = .lparen) →
      ES (some (etok prev s)) s1 ets → ES prev s (etok prev s :: ets)
  | var {prev : Option ETok} {s s1 s2 : Scan} {ets : List ETok} :
      s.typ = .dollar → s.nextItem = .ok s1 → s1.typ = .name → s1.name ≠ "*" → s1.nextItem = .ok s2 →
      ES (some (.varRef s1.pfx s1.name)) s2 ets → ES prev s (.varRef s1.pfx s1.name :: ets)
  | bad {prev : Option ETok} {s : Scan} {ets : List ETok} : s.typ = .dollar → ES prev s (.invalid :: ets)

theorem convTok_dollar {s : Scan} (h : convTok s = some .dollar) : s.typ = .dollar := by
  unfold convTok at h
  split at h <;> first | assumption | cases h

theorem convTok_name {s : Scan} {p l : String} {b : Bool} (h : convTok s = some (.name p l b)) :
    s.typ = .name ∧ s.pfx = p ∧ s.name = l ∧ s.canBeFunc = b := by
  unfold convTok at h
  split at h <;> first | (cases h; exact ⟨‹_›, rfl, rfl, rfl⟩) | cases h

/-- for a token other than `$`, `classify` puts `etok` in front and goes on -/
theorem classify_cons {prev : Option ETok} {s : Scan} {t : TokV} (rest : List TokV) (hc : convTok s = some t)
    (hd : s.typ ≠ .dollar) : classify prev (t :: rest) = etok prev s :: classify (some (etok prev s)) rest := by
  unfold convTok at hc
  unfold etok
  generalize s.typ = ty at hc hd ⊢
  cases ty <;> first | exact absurd rfl hd | (cases hc; rfl) | cases hc

theorem TV.es_aux : ∀ (n : Nat) (toks : List TokV), toks.length ≤ n → ∀ (s : Scan) (prev : Option ETok),
    TV s toks → Out s → ES prev s (classify prev toks)
  | 0, toks, hl, s, prev, h, _ => by
    cases h with
    | eof he => exact .eof he
    | cons _ _ _ _ => cases hl
  | n+1, toks, hl, s, prev, h, ho => by
    cases h with
    | eof he => exact .eof he
    | @cons _ s1 t rest hne hc hn htv =>
      have hr : rest.length ≤ n := Nat.le_of_succ_le_succ hl
      by_cases hd : s.typ = .dollar
      · obtain rfl : t = .dollar := by
          unfold convTok at hc
          rw [hd] at hc
          cases hc; rfl
        cases htv with
        | eof he => exact .bad hd
        | @cons _ s2 t2 rest2 hne1 hc1 hn1 htv1 =>
          cases t2 with
          | name p l b =>
            obtain ⟨hty1, rfl, rfl, rfl⟩ := convTok_name hc1
            show ES prev s (if s1.name == "*" then _ else _)
            split
            · exact .bad hd
            · rename_i hl'
              exact .var hd hn hty1 (by simpa using hl') hn1
                (TV.es_aux n rest2 (Nat.le_of_succ_le hr) s2 _ htv1 ⟨s1, hn1⟩)
          | _ => exact .bad hd
      · rw [classify_cons rest hc hd]
        have hb : s.typ ≠ .bang := by
          intro hb
          unfold convTok at hc
          rw [hb] at hc
          cases hc
        exact .tok hne hd hb hn (fun ht hcf => name_paren_next ho ht hcf hn) (TV.es_aux n rest hr s1 _ htv ⟨s, hn⟩)
theorem TV.es {s : Scan} {toks : List TokV} (h : TV s toks) (prev : Option ETok) (ho : Out s) :
    ES prev s (classify prev toks) := TV.es_aux _ toks (Nat.le_refl _) s prev h ho

/-- the classified stream of a whole text -/
theorem tokVsRel.es {text : List Char} {toks : List TokV} (h : tokVsRel text toks) :
    ∃ s, Scan.init text = .ok s ∧ ES none s (classify none toks) := by
  obtain ⟨s, hs, htv⟩ := h
  exact ⟨s, hs, htv.es none ⟨_, hs⟩⟩

end XPathV.Lemmas.ParserFull
