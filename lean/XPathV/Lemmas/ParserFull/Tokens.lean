import XPathV.Lemmas.ParserFull.Stream
import XPathV.Model.Parser
/-!
# Local agreement between the §3.7 classification and the decisions of the parser model

The reference parser reads a classified token; the model looks at the scanner item (`tokMatches`,
`isStep`, `isPrimaryExpr`, `canBeFunc`, `isNodeType`).  The lemmas here relate the two views at one
position of the stream (`ES prev s ets`).  `follow rest` — `rest` is empty or starts with a token that can
follow a complete operand — is the side condition of the simulation (`Sim.lean`); it enters in `word_hit` and
`not_startsStep_not_isStep`.  What `Sim.lean` uses of the operator part are `tier_hit`, `tier_miss`,
`union_hit`, `union_miss`.
-/
namespace XPathV.Lemmas.ParserFull
open XPathV XPathV.Model XPathV.Bridge XPathV.Spec.Full

/-! ## what `etok` tells about the scanner item -/

/-- the scanner token type of an ExprToken (none for `varRef`, which spans two items, and `invalid`) -/
def tokOf : ETok → Option Tok
  | .lparen => some .lparen | .rparen => some .rparen | .lbracket => some .lbracket
  | .rbracket => some .rbracket | .dot => some .dot | .dotdot => some .dotdot | .at => some .at
  | .comma => some .comma | .axisName _ => some .axe | .wild => some .star | .mul => some .star
  | .nsWild _ => some .name | .qname _ _ => some .name | .nodeType _ => some .name
  | .funcName _ _ => some .name | .opName _ => some .name
  | .slash => some .slash | .slashslash => some .slashslash | .union => some .union
  | .plus => some .plus | .minus => some .minus | .eq => some .eq | .ne => some .ne
  | .lt => some .lt | .le => some .le | .gt => some .gt | .ge => some .ge
  | .literal _ => some .string | .number _ => some .number
  | .varRef _ _ => none | .invalid => none

/-- the ExprToken of a scanner token type that has only one -/
def simpleE : Tok → Option ETok
  | .lparen => some .lparen | .rparen => some .rparen | .lbracket => some .lbracket
  | .rbracket => some .rbracket | .dot => some .dot | .dotdot => some .dotdot | .at => some .at
  | .comma => some .comma | .slash => some .slash | .slashslash => some .slashslash
  | .union => some .union | .plus => some .plus | .minus => some .minus | .eq => some .eq
  | .ne => some .ne | .lt => some .lt | .le => some .le | .gt => some .gt | .ge => some .ge
  | _ => none

/-- the six outcomes of `classifyName`, each with the conditions under which it arises -/
inductive ClassName (prev : Option ETok) (p l : String) (b : Bool) : ETok → Prop
  | invalid : l = "*" → p = "" → ClassName prev p l b .invalid
  | nsWild : l = "*" → p ≠ "" → ClassName prev p l b (.nsWild p)
  | opName : l ≠ "*" → operatorPosition prev = true → p = "" → ClassName prev p l b (.opName l)
  | nodeType : l ≠ "*" → ¬ (operatorPosition prev = true ∧ p = "") → b = true → p = "" → l ∈ nodeTypes →
      ClassName prev p l b (.nodeType l)
  | funcName : l ≠ "*" → ¬ (operatorPosition prev = true ∧ p = "") → b = true →
      ¬ (p = "" ∧ l ∈ nodeTypes) → ClassName prev p l b (.funcName p l)
  | qname : l ≠ "*" → ¬ (operatorPosition prev = true ∧ p = "") → b = false → ClassName prev p l b (.qname p l)

theorem classifyName_spec (prev : Option ETok) (p l : String) (b : Bool) :
    ClassName prev p l b (classifyName prev p l b) := by
  unfold classifyName
  split
  · rename_i h1
    split
    · rename_i h2
      exact .invalid (beq_iff_eq.1 h1) (beq_iff_eq.1 h2)
    · rename_i h2
      exact .nsWild (beq_iff_eq.1 h1) (mt beq_iff_eq.2 h2)
  · rename_i h1
    have h1 : l ≠ "*" := mt beq_iff_eq.2 h1
    split
    · rename_i h3
      have h3 : operatorPosition prev = true ∧ p = "" := by simpa using h3
      exact .opName h1 h3.1 h3.2
    · rename_i h3
      have h3 : ¬ (operatorPosition prev = true ∧ p = "") := by simpa using h3
      split
      · rename_i hb
        split
        · rename_i h4
          have h4 : p = "" ∧ l ∈ nodeTypes := by simpa using h4
          exact .nodeType h1 h3 hb h4.1 h4.2
        · rename_i h4
          exact .funcName h1 h3 hb (by simpa using h4)
      · rename_i hb
        exact .qname h1 h3 (Bool.eq_false_iff.2 hb)

theorem etok_typ {prev : Option ETok} {s : Scan} {t : Tok} (h : tokOf (etok prev s) = some t) : s.typ = t := by
  unfold etok at h
  generalize s.typ = ty at h ⊢
  cases ty <;> first | exact Option.some.inj h | cases h | skip
  · change tokOf (if _ then _ else _) = _ at h
    split at h <;> exact Option.some.inj h
  · change tokOf (classifyName _ _ _ _) = _ at h
    have c := classifyName_spec prev s.pfx s.name s.canBeFunc
    generalize classifyName prev s.pfx s.name s.canBeFunc = e at h c
    cases c <;> first | exact Option.some.inj h | cases h

theorem etok_simple {prev : Option ETok} {s : Scan} {e : ETok} (h : simpleE s.typ = some e) : etok prev s = e := by
  unfold etok
  generalize s.typ = ty at h ⊢
  cases ty <;> first | exact Option.some.inj h | cases h

theorem etok_name {prev : Option ETok} {s : Scan} (h : s.typ = .name) :
    etok prev s = classifyName prev s.pfx s.name s.canBeFunc := by
  simp [etok, h]

theorem etok_star {prev : Option ETok} {s : Scan} (h : s.typ = .star) :
    etok prev s = if operatorPosition prev then .mul else .wild := by
  simp [etok, h]

theorem etok_ne_varRef {prev : Option ETok} {s : Scan} {p l : String} : etok prev s ≠ .varRef p l := by
  intro h
  unfold etok at h
  split at h <;> try (cases h; done)
  · have c := classifyName_spec prev s.pfx s.name s.canBeFunc
    rw [h] at c
    cases c
  · split at h <;> cases h

theorem etok_axis {prev : Option ETok} {s : Scan} {a : String} (h : etok prev s = .axisName a) :
    s.typ = .axe ∧ s.name = a := by
  have ht : s.typ = .axe := etok_typ (by rw [h]; rfl)
  simp [etok, ht] at h
  exact ⟨ht, h⟩

theorem etok_literal {prev : Option ETok} {s : Scan} {v : String} (h : etok prev s = .literal v) :
    s.typ = .string ∧ s.strval = v := by
  have ht : s.typ = .string := etok_typ (by rw [h]; rfl)
  simp [etok, ht] at h
  exact ⟨ht, h⟩

theorem etok_number {prev : Option ETok} {s : Scan} {v : String} (h : etok prev s = .number v) :
    s.typ = .number ∧ s.numlex = v := by
  have ht : s.typ = .number := etok_typ (by rw [h]; rfl)
  simp [etok, ht] at h
  exact ⟨ht, h⟩

theorem etok_nsWild {prev : Option ETok} {s : Scan} {p : String} (h : etok prev s = .nsWild p) :
    s.typ = .name ∧ s.name = "*" ∧ s.pfx = p ∧ p ≠ "" := by
  have ht : s.typ = .name := etok_typ (by rw [h]; rfl)
  have c := classifyName_spec prev s.pfx s.name s.canBeFunc
  rw [← etok_name ht, h] at c
  cases c with
  | nsWild a b => exact ⟨ht, a, rfl, b⟩

theorem etok_qname {prev : Option ETok} {s : Scan} {p l : String} (h : etok prev s = .qname p l) :
    s.typ = .name ∧ s.pfx = p ∧ s.name = l ∧ l ≠ "*" ∧ s.canBeFunc = false := by
  have ht : s.typ = .name := etok_typ (by rw [h]; rfl)
  have c := classifyName_spec prev s.pfx s.name s.canBeFunc
  rw [← etok_name ht, h] at c
  cases c with
  | qname a _ b => exact ⟨ht, rfl, rfl, a, b⟩

theorem isNodeType_iff (s : Scan) : isNodeType s = true ↔ (s.pfx = "" ∧ s.name ∈ nodeTypes) := by
  simp only [isNodeType, nodeTypes, Bool.and_eq_true, Bool.or_eq_true, beq_iff_eq, List.mem_cons,
    List.not_mem_nil, or_false]
  constructor
  · rintro ⟨((h | h) | h) | h, hp⟩ <;> simp [h, hp]
  · rintro ⟨hp, h | h | h | h⟩ <;> simp [h, hp]

theorem etok_nodeType {prev : Option ETok} {s : Scan} {l : String} (h : etok prev s = .nodeType l) :
    s.typ = .name ∧ s.pfx = "" ∧ s.name = l ∧ s.canBeFunc = true ∧ l ∈ nodeTypes ∧ isNodeType s = true := by
  have ht : s.typ = .name := etok_typ (by rw [h]; rfl)
  have c := classifyName_spec prev s.pfx s.name s.canBeFunc
  rw [← etok_name ht, h] at c
  cases c with
  | nodeType _ _ b c d => exact ⟨ht, c, rfl, b, d, (isNodeType_iff s).2 ⟨c, d⟩⟩

theorem etok_funcName {prev : Option ETok} {s : Scan} {p l : String} (h : etok prev s = .funcName p l) :
    s.typ = .name ∧ s.pfx = p ∧ s.name = l ∧ s.canBeFunc = true ∧ isNodeType s = false := by
  have ht : s.typ = .name := etok_typ (by rw [h]; rfl)
  have c := classifyName_spec prev s.pfx s.name s.canBeFunc
  rw [← etok_name ht, h] at c
  cases c with
  | funcName _ _ b c =>
    refine ⟨ht, rfl, rfl, b, ?_⟩
    cases hn : isNodeType s with
    | false => rfl
    | true => exact absurd ((isNodeType_iff s).1 hn) c

theorem etok_opName {prev : Option ETok} {s : Scan} {w : String} (h : etok prev s = .opName w) :
    s.typ = .name ∧ s.pfx = "" ∧ s.name = w ∧ operatorPosition prev = true := by
  have ht : s.typ = .name := etok_typ (by rw [h]; rfl)
  have c := classifyName_spec prev s.pfx s.name s.canBeFunc
  rw [← etok_name ht, h] at c
  cases c with
  | opName _ b c => exact ⟨ht, c, rfl, b⟩

/-! ## inversion of `ES` -/

theorem ES.nil_inv {prev : Option ETok} {s : Scan} (h : ES prev s []) : s.typ = .eof := by
  generalize hl : ([] : List ETok) = L at h
  cases h with
  | eof he => exact he
  | _ => cases hl

theorem ES.cons_inv {prev : Option ETok} {s : Scan} {e : ETok} {ets : List ETok} (h : ES prev s (e :: ets)) :
    (s.typ ≠ .eof ∧ s.typ ≠ .dollar ∧ s.typ ≠ .bang ∧ e = etok prev s ∧
      ∃ s1, s.nextItem = .ok s1 ∧ (s.typ = .name → s.canBeFunc = true → s1.typ = .lparen) ∧ ES (some e) s1 ets) ∨
    (s.typ = .dollar ∧ ∃ s1 s2, s.nextItem = .ok s1 ∧ s1.typ = .name ∧ s1.name ≠ "*" ∧
      e = .varRef s1.pfx s1.name ∧ s1.nextItem = .ok s2 ∧ ES (some e) s2 ets) ∨
    (s.typ = .dollar ∧ e = .invalid) := by
  generalize hl : e :: ets = L at h
  cases h with
  | eof he => cases hl
  | tok h1 h2 h3 h4 h5 h6 =>
    cases hl
    exact .inl ⟨h1, h2, h3, rfl, _, h4, h5, h6⟩
  | var h1 h2 h3 h4 h5 h6 =>
    cases hl
    exact .inr (.inl ⟨h1, _, _, h2, h3, h4, rfl, h5, h6⟩)
  | bad h1 =>
    cases hl
    exact .inr (.inr ⟨h1, rfl⟩)

/-- a token that is one scanner item -/
theorem ES.tok_inv {prev : Option ETok} {s : Scan} {e : ETok} {ets : List ETok} {t : Tok}
    (h : ES prev s (e :: ets)) (ht : tokOf e = some t) :
    etok prev s = e ∧ s.typ = t ∧ ∃ s1, s.nextItem = .ok s1 ∧
      (s.typ = .name → s.canBeFunc = true → s1.typ = .lparen) ∧ ES (some e) s1 ets := by
  rcases h.cons_inv with ⟨_, _, _, he, s1, h1, h2, h3⟩ | ⟨_, s1, s2, _, _, _, he, _⟩ | ⟨_, he⟩
  · subst he
    exact ⟨rfl, etok_typ ht, s1, h1, h2, h3⟩
  · subst he; cases ht
  · subst he; cases ht

theorem ES.var_inv {prev : Option ETok} {s : Scan} {p l : String} {ets : List ETok}
    (h : ES prev s (.varRef p l :: ets)) :
    s.typ = .dollar ∧ ∃ s1 s2, s.nextItem = .ok s1 ∧ s1.typ = .name ∧ s1.pfx = p ∧ s1.name = l ∧
      s1.nextItem = .ok s2 ∧ ES (some (.varRef p l)) s2 ets := by
  rcases h.cons_inv with ⟨_, _, _, he, _⟩ | ⟨hd, s1, s2, h1, h2, _, he, h3, h4⟩ | ⟨_, he⟩
  · exact absurd he.symm etok_ne_varRef
  · cases he
    exact ⟨hd, s1, s2, h1, h2, rfl, rfl, h3, h4⟩
  · cases he

/-- a scanner item with a single reading is that ExprToken -/
theorem ES.of_simple {prev : Option ETok} {s : Scan} {ets : List ETok} {e : ETok} (h : ES prev s ets)
    (hs : simpleE s.typ = some e) : ∃ r, ets = e :: r := by
  cases ets with
  | nil => rw [h.nil_inv] at hs; cases hs
  | cons e' r =>
    rcases h.cons_inv with ⟨_, _, _, he, _⟩ | ⟨hd, _⟩ | ⟨hd, _⟩
    · rw [etok_simple hs] at he
      exact ⟨r, by rw [he]⟩
    · rw [hd] at hs; cases hs
    · rw [hd] at hs; cases hs

theorem ES.of_axe {prev : Option ETok} {s : Scan} {ets : List ETok} (h : ES prev s ets)
    (hs : s.typ = .axe) : ∃ r, ets = .axisName s.name :: r := by
  cases ets with
  | nil => rw [h.nil_inv] at hs; cases hs
  | cons e' r =>
    rcases h.cons_inv with ⟨_, _, _, he, _⟩ | ⟨hd, _⟩ | ⟨hd, _⟩
    · refine ⟨r, ?_⟩
      rw [he]
      simp [etok, hs]
    · rw [hd] at hs; cases hs
    · rw [hd] at hs; cases hs

/-- the head is not the ExprToken `e` of a single-reading item: the scanner is not at that item -/
theorem ES.typ_ne {prev : Option ETok} {s : Scan} {ets : List ETok} {e : ETok} {t : Tok} (h : ES prev s ets)
    (hs : simpleE t = some e) (hne : ∀ r, ets ≠ e :: r) : s.typ ≠ t := by
  intro ht
  subst ht
  obtain ⟨r, hr⟩ := h.of_simple hs
  exact hne r hr

/-! ## the tokens that can follow a complete sub-expression -/

/-- what can follow a complete operand in an expression of the grammar: nothing, an operator, or a
closing `)` `]` or a `,` -/
def follow : List ETok → Bool
  | [] => true
  | t :: _ => t.isOperator || t == .rparen || t == .rbracket || t == .comma

/-! ## step starts -/

theorem startsStep_isStep {prev : Option ETok} {s : Scan} {ets : List ETok} (h : ES prev s ets)
    (hs : startsStep ets = true) : isStep s.typ = true := by
  cases ets with
  | nil => simp [startsStep] at hs
  | cons e r =>
    cases e <;> simp [startsStep] at hs <;>
      (have := (h.tok_inv rfl).2.1; rw [this]; rfl)

theorem not_startsStep_not_isStep {prev : Option ETok} {s : Scan} {ets : List ETok} (h : ES prev s ets)
    (hp : operatorPosition prev = false) (hs : startsStep ets = false) (hf : follow ets = true) :
    isStep s.typ = false := by
  cases hi : isStep s.typ with
  | false => rfl
  | true =>
    exfalso
    cases ets with
    | nil => rw [h.nil_inv] at hi; cases hi
    | cons e r =>
      simp only [isStep, Bool.or_eq_true, beq_iff_eq] at hi
      rcases hi with ((((ht | ht) | ht) | ht) | ht) | ht
      · obtain ⟨r', hr⟩ := h.of_simple (e := .dot) (by rw [ht]; rfl)
        cases hr; simp [startsStep] at hs
      · obtain ⟨r', hr⟩ := h.of_simple (e := .dotdot) (by rw [ht]; rfl)
        cases hr; simp [startsStep] at hs
      · obtain ⟨r', hr⟩ := h.of_simple (e := .at) (by rw [ht]; rfl)
        cases hr; simp [startsStep] at hs
      · obtain ⟨r', hr⟩ := h.of_axe ht
        cases hr; simp [startsStep] at hs
      · rcases h.cons_inv with ⟨_, _, _, he, _⟩ | ⟨hd, _⟩ | ⟨hd, _⟩
        · rw [etok_star ht, hp] at he
          subst he; simp [startsStep] at hs
        · rw [hd] at ht; cases ht
        · rw [hd] at ht; cases ht
      · rcases h.cons_inv with ⟨_, _, _, he, _⟩ | ⟨hd, _⟩ | ⟨hd, _⟩
        · have c := classifyName_spec prev s.pfx s.name s.canBeFunc
          rw [← etok_name ht, ← he] at c
          cases c with
          | invalid | funcName => simp [follow, ETok.isOperator] at hf
          | nsWild | nodeType | qname => simp [startsStep] at hs
          | opName _ b => rw [hp] at b; cases b
        · rw [hd] at ht; cases ht
        · rw [hd] at ht; cases ht

/-! ## primary starts -/

theorem startsPrimary_isPrimary {prev : Option ETok} {s : Scan} {ets : List ETok} (h : ES prev s ets)
    (hs : startsPrimary ets = true) : isPrimaryExpr s = true := by
  cases ets with
  | nil => simp [startsPrimary] at hs
  | cons e r =>
    cases e <;> simp [startsPrimary] at hs
    · have := (h.tok_inv rfl).2.1; simp [isPrimaryExpr, this]
    · obtain ⟨ht, _, _, hc, hn⟩ := etok_funcName (h.tok_inv rfl).1
      simp [isPrimaryExpr, ht, hc, hn]
    · have := (h.tok_inv rfl).2.1; simp [isPrimaryExpr, this]
    · have := (h.tok_inv rfl).2.1; simp [isPrimaryExpr, this]
    · have := h.var_inv.1; simp [isPrimaryExpr, this]

/-- the model takes an item for the start of a primary expression: so does the grammar, except for
`p:*(` (a name test followed by a stray parenthesis) and for two kinds of tokens no path can start with -/
theorem isPrimary_cases {prev : Option ETok} {s : Scan} {ets : List ETok} (h : ES prev s ets)
    (hp : isPrimaryExpr s = true) :
    startsPrimary ets = true ∨ (∃ p r, ets = .nsWild p :: .lparen :: r) ∨
      (∃ r, ets = .invalid :: r) ∨ (∃ w r, ets = .opName w :: r) := by
  cases ets with
  | nil => rw [isPrimaryExpr, h.nil_inv] at hp; simp at hp
  | cons e r =>
    rcases h.cons_inv with ⟨_, _, _, he, s1, _, hcf, hes1⟩ | ⟨hd, _, _, _, _, _, he, _⟩ | ⟨hd, he⟩
    · simp only [isPrimaryExpr, Bool.or_eq_true, Bool.and_eq_true, beq_iff_eq, Bool.not_eq_true'] at hp
      rcases hp with (((ht | ht) | ht) | ht) | ⟨⟨ht, hc⟩, hn⟩
      · subst he; simp [etok, ht, startsPrimary]
      · subst he; simp [etok, ht, startsPrimary]
      · exact absurd ht ‹_›
      · subst he; simp [etok, ht, startsPrimary]
      · have hlp := hcf ht hc
        have c := classifyName_spec prev s.pfx s.name s.canBeFunc
        rw [← etok_name ht, ← he] at c
        cases c with
        | invalid => exact .inr (.inr (.inl ⟨r, rfl⟩))
        | nsWild =>
          obtain ⟨r', hr⟩ := hes1.of_simple (e := .lparen) (by rw [hlp]; rfl)
          subst hr
          exact .inr (.inl ⟨_, _, rfl⟩)
        | opName => exact .inr (.inr (.inr ⟨_, r, rfl⟩))
        | nodeType _ _ _ c d =>
          have := (isNodeType_iff s).2 ⟨c, d⟩
          rw [this] at hn; cases hn
        | funcName => simp [startsPrimary]
        | qname _ _ b => rw [hc] at b; cases b
    · subst he; simp [startsPrimary]
    · subst he; exact .inr (.inr (.inl ⟨r, rfl⟩))

/-! ## operators: `tokMatches` against `lookup` in a tier of `upperTiers` -/

/-- the keys of the tiers are Operators -/
theorem tier_key_isOperator {ops : List (ETok × String)} (hops : ops ∈ upperTiers) {t : ETok} {op : String}
    (h : (t, op) ∈ ops) : t.isOperator = true :=
  (by decide : ∀ ops ∈ upperTiers, ∀ p ∈ ops, p.1.isOperator = true) ops hops (t, op) h

theorem isOperator_pos {t : ETok} (h : t.isOperator = true) : operatorPosition (some t) = false := by
  cases t <;> first | rfl | cases h

theorem isOperator_tokOf {t : ETok} (h : t.isOperator = true) : ∃ k, tokOf t = some k := by
  cases t <;> first | exact ⟨_, rfl⟩ | cases h

/-- the item is an operator word in operator position (or what follows is no continuation) -/
theorem word_hit {prev : Option ETok} {s : Scan} {t : ETok} {r : List ETok} {w : String}
    (h : ES prev s (t :: r)) (hpost : operatorPosition prev = true ∨ startsStep (t :: r) = false)
    (hf : follow (t :: r) = true) (ht : s.typ = .name) (hp : s.pfx = "") (hn : s.name = w)
    (hw : w ≠ "*") (hnt : w ∉ nodeTypes) : t = .opName w := by
  rcases h.cons_inv with ⟨_, _, _, he, _⟩ | ⟨hd, _⟩ | ⟨hd, _⟩
  · have c := classifyName_spec prev s.pfx s.name s.canBeFunc
    rw [← etok_name ht, ← he, hp, hn] at c
    cases c with
    | invalid a | nsWild a => exact absurd a hw
    | opName => rfl
    | nodeType _ _ _ _ d => exact absurd d hnt
    | funcName => simp [follow, ETok.isOperator] at hf
    | qname _ a =>
      rcases hpost with hpo | hst
      · exact absurd ⟨hpo, rfl⟩ a
      · simp [startsStep] at hst
  · rw [hd] at ht; cases ht
  · rw [hd] at ht; cases ht

theorem star_hit {prev : Option ETok} {s : Scan} {t : ETok} {r : List ETok}
    (h : ES prev s (t :: r)) (hpost : operatorPosition prev = true ∨ startsStep (t :: r) = false)
    (ht : s.typ = .star) : t = .mul := by
  rcases h.cons_inv with ⟨_, _, _, he, _⟩ | ⟨hd, _⟩ | ⟨hd, _⟩
  · rw [etok_star ht] at he
    cases hpo : operatorPosition prev with
    | true => rw [hpo] at he; simpa using he
    | false =>
      rw [hpo] at he
      simp at he
      subst he
      rcases hpost with h1 | h1
      · rw [hpo] at h1; cases h1
      · simp [startsStep] at h1
  · rw [hd] at ht; cases ht
  · rw [hd] at ht; cases ht

theorem sym_hit {prev : Option ETok} {s : Scan} {t e : ETok} {r : List ETok}
    (h : ES prev s (t :: r)) (hs : simpleE s.typ = some e) : t = e := by
  obtain ⟨r', hr⟩ := h.of_simple hs
  cases hr; rfl

/-- how `tokMatches s op` reads the scanner item, for an entry `(k, op)` of a tier: a token type for the
symbols, the word itself for `or and div mod` -/
inductive OpEntry (s : Scan) : ETok → String → Prop
  | sym {ty k op} : simpleE ty = some k → tokMatches s op = (s.typ == ty) → OpEntry s k op
  | star : OpEntry s .mul "*"
  | word {w} : w ≠ "*" → w ∉ nodeTypes →
      tokMatches s w = (s.typ == .name && s.pfx == "" && s.name == w) → OpEntry s (.opName w) w

/-- the table: every entry of `upperTiers` has such a reading -/
theorem opEntry_tiers (s : Scan) {ops : List (ETok × String)} (hops : ops ∈ upperTiers)
    {k : ETok} {op : String} (h : (k, op) ∈ ops) : OpEntry s k op := by
  simp only [upperTiers, List.mem_cons, List.not_mem_nil, or_false] at hops
  rcases hops with rfl | rfl | rfl | rfl | rfl | rfl <;>
    simp only [List.mem_cons, List.not_mem_nil, or_false, Prod.mk.injEq] at h
  · obtain ⟨rfl, rfl⟩ := h; exact .word (by decide) (by decide) rfl
  · obtain ⟨rfl, rfl⟩ := h; exact .word (by decide) (by decide) rfl
  · rcases h with ⟨rfl, rfl⟩ | ⟨rfl, rfl⟩
    · exact .sym (ty := .eq) rfl rfl
    · exact .sym (ty := .ne) rfl rfl
  · rcases h with ⟨rfl, rfl⟩ | ⟨rfl, rfl⟩ | ⟨rfl, rfl⟩ | ⟨rfl, rfl⟩
    · exact .sym (ty := .lt) rfl rfl
    · exact .sym (ty := .gt) rfl rfl
    · exact .sym (ty := .le) rfl rfl
    · exact .sym (ty := .ge) rfl rfl
  · rcases h with ⟨rfl, rfl⟩ | ⟨rfl, rfl⟩
    · exact .sym (ty := .plus) rfl rfl
    · exact .sym (ty := .minus) rfl rfl
  · rcases h with ⟨rfl, rfl⟩ | ⟨rfl, rfl⟩ | ⟨rfl, rfl⟩
    · exact .star
    · exact .word (by decide) (by decide) rfl
    · exact .word (by decide) (by decide) rfl

theorem tokOf_simpleE {ty : Tok} {k : ETok} (h : simpleE ty = some k) : tokOf k = some ty := by
  cases ty <;> first | (cases h; rfl) | cases h

/-- at an entry of a tier, `tokMatches` says whether the head of the classified stream is its key,
provided the head is in operator position (or no step can start there) and can follow an operand -/
theorem OpEntry.iff {s : Scan} {k : ETok} {op : String} (e : OpEntry s k op) {prev : Option ETok} {t : ETok}
    {r : List ETok} (h : ES prev s (t :: r))
    (hpost : operatorPosition prev = true ∨ startsStep (t :: r) = false) (hf : follow (t :: r) = true) :
    tokMatches s op = true ↔ t = k := by
  cases e with
  | @sym ty _ _ hs hm =>
    rw [hm, beq_iff_eq]
    constructor
    · intro ht; exact sym_hit h (by rw [ht]; exact hs)
    · rintro rfl
      exact (h.tok_inv (tokOf_simpleE hs)).2.1
  | star =>
    show (s.typ == .star) = true ↔ _
    rw [beq_iff_eq]
    exact ⟨star_hit h hpost, by rintro rfl; exact (h.tok_inv rfl).2.1⟩
  | word hw hnt hm =>
    rw [hm]
    simp only [Bool.and_eq_true, beq_iff_eq]
    constructor
    · rintro ⟨⟨a, b⟩, c⟩; exact word_hit h hpost hf a b c hw hnt
    · rintro rfl
      obtain ⟨a, b, c, _⟩ := etok_opName (h.tok_inv rfl).1
      exact ⟨⟨a, b⟩, c⟩

theorem find_lookup {p : String → Bool} {t : ETok} : ∀ {ops : List (ETok × String)},
    (∀ k op, (k, op) ∈ ops → (p op = true ↔ t = k)) → (ops.map Prod.snd).find? p = ops.lookup t
  | [], _ => rfl
  | (k, v) :: ops, H => by
    have ih := find_lookup (ops := ops) fun k op hm => H k op (List.mem_cons_of_mem _ hm)
    have hk := H k v List.mem_cons_self
    by_cases e : t = k
    · simp only [List.map_cons, List.find?_cons, hk.2 e, List.lookup, e, beq_self_eq_true]
    · have hp : p v = false := by
        cases hp : p v
        · rfl
        · exact absurd (hk.1 hp) e
      have hb : (t == k) = false := by simpa using e
      simp only [List.map_cons, List.find?_cons, hp, List.lookup, hb, ih]

theorem tier_find {ops : List (ETok × String)} (hops : ops ∈ upperTiers) {prev : Option ETok} {s : Scan}
    {t : ETok} {r : List ETok} (h : ES prev s (t :: r))
    (hpost : operatorPosition prev = true ∨ startsStep (t :: r) = false) (hf : follow (t :: r) = true) :
    (ops.map Prod.snd).find? (tokMatches s) = ops.lookup t :=
  find_lookup fun _ _ hm => (opEntry_tiers s hops hm).iff h hpost hf

theorem isOperator_not_startsStep {t : ETok} (h : t.isOperator = true) (r : List ETok) :
    startsStep (t :: r) = false := by
  cases t <;> first | rfl | cases h

/-- the reference finds the operator `op` of the tier at the head: so does `tokMatches` (an Operator at
the head meets the two side conditions of `tier_find` by itself) -/
theorem tier_hit {ops : List (ETok × String)} (hops : ops ∈ upperTiers) {prev : Option ETok} {s : Scan}
    {t : ETok} {r : List ETok} {op : String} (h : ES prev s (t :: r)) (hl : ops.lookup t = some op) :
    (ops.map Prod.snd).find? (tokMatches s) = some op := by
  have hop := tier_key_isOperator hops (mem_of_lookup hl)
  rw [← hl]
  exact tier_find hops h (.inr (isOperator_not_startsStep hop r))
    (by simp only [follow, hop, Bool.true_or])

theorem tier_miss {ops : List (ETok × String)} (hops : ops ∈ upperTiers) {prev : Option ETok} {s : Scan}
    {t : ETok} {r : List ETok} (h : ES prev s (t :: r))
    (hpost : operatorPosition prev = true ∨ startsStep (t :: r) = false)
    (hf : follow (t :: r) = true) (hl : ops.lookup t = none) :
    (ops.map Prod.snd).find? (tokMatches s) = none :=
  hl ▸ tier_find hops h hpost hf

/-- the same for the union tier (which the reference parser handles in `pUnionLoop`) -/
theorem union_hit {prev : Option ETok} {s : Scan} {r : List ETok} (h : ES prev s (.union :: r)) :
    (["|"] : List String).find? (tokMatches s) = some "|" := by
  have a := (h.tok_inv rfl).2.1
  simp [tokMatches, a]

theorem union_miss {prev : Option ETok} {s : Scan} {ets : List ETok} (h : ES prev s ets)
    (hne : ∀ r, ets ≠ .union :: r) : (["|"] : List String).find? (tokMatches s) = none := by
  have := h.typ_ne (t := .union) rfl hne
  simp [tokMatches, this]

end XPathV.Lemmas.ParserFull
