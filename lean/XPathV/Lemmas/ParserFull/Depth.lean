import XPathV.Spec.FullGrammar
/-!
# Nesting depth of a parse tree, and its growth along the loops of the reference parser

`nesting b` counts the levels of Expr inside `b` that the parsers enter through a predicate, a
parenthesis or a function argument (each is one `parseExpression` call of the model, one unit of its
depth counter).
-/
namespace XPathV.Lemmas.ParserFull
open XPathV XPathV.Spec.Full

/-- the number of nested Expr levels below the top one: `a[b[c]]` has 2, `(1)` has 1, `f(g(1))` has 2 -/
def nesting : Ast → Nat
  | .axis _ i => nesting i
  | .filter i c => max (nesting i) (nesting c + 1)
  | .call _ _ as => nesting as
  | .acons h t => max (nesting h + 1) (nesting t)
  | .oper _ l r => max (nesting l) (nesting r)
  | .group x => nesting x + 1
  | _ => 0

@[simp] theorem nesting_axis (a : AxisInfo) (i : Ast) : nesting (.axis a i) = nesting i := by simp [nesting]
@[simp] theorem nesting_filter (i c : Ast) : nesting (.filter i c) = max (nesting i) (nesting c + 1) := by
  simp [nesting]
@[simp] theorem nesting_call (n p : String) (as : Ast) : nesting (.call n p as) = nesting as := by simp [nesting]
@[simp] theorem nesting_acons (h t : Ast) : nesting (.acons h t) = max (nesting h + 1) (nesting t) := by
  simp [nesting]
@[simp] theorem nesting_oper (o : String) (l r : Ast) : nesting (.oper o l r) = max (nesting l) (nesting r) := by
  simp [nesting]
@[simp] theorem nesting_group (x : Ast) : nesting (.group x) = nesting x + 1 := by simp [nesting]
@[simp] theorem nesting_num (s : String) : nesting (.num s) = 0 := by simp [nesting]
@[simp] theorem nesting_str (s : String) : nesting (.str s) = 0 := by simp [nesting]
@[simp] theorem nesting_var (p n : String) : nesting (.var p n) = 0 := by simp [nesting]
@[simp] theorem nesting_root (s : String) : nesting (.root s) = 0 := by simp [nesting]
@[simp] theorem nesting_none : nesting .none = 0 := by simp [nesting]
@[simp] theorem nesting_anil : nesting .anil = 0 := by simp [nesting]

@[simp] theorem nesting_nodeStep (ax : String) (x : Ast) : nesting (nodeStep ax x) = nesting x := by
  simp [nodeStep]

@[simp] theorem nesting_dos (x : Ast) : nesting (dos x) = nesting x := by simp [dos]

@[simp] theorem nesting_negEnc (n : Nat) (x : Ast) : nesting (negEnc n x) = nesting x := by
  unfold negEnc
  split
  · rfl
  · split <;> simp

theorem pPreds_nest {ns : Option NsMap} : ∀ (f : Nat) {acc b : Ast} {ets rest : List ETok},
    pPreds ns f acc ets = some (b, rest) → nesting acc ≤ nesting b
  | 0, _, _, _, _, h => by simp [pPreds] at h
  | f+1, acc, b, ets, rest, h => by
    unfold pPreds at h
    split at h
    · cases h
    · cases ‹f + 1 = Nat.succ _›
      split at h
      · have := pPreds_nest f h
        simp only [nesting_filter] at this
        omega
      · cases h
    · cases h; exact Nat.le_refl _

theorem pStep_nest {ns : Option NsMap} {f : Nat} {inp b : Ast} {ets rest : List ETok}
    (h : pStep ns f inp ets = some (b, rest)) : nesting inp ≤ nesting b := by
  unfold pStep at h
  split at h
  · cases h
  · cases h; simp
  · cases h; simp
  · split at h
    · split at h
      · have := pPreds_nest _ h
        simpa using this
      · cases h
    · cases h

theorem pRelLoop_nest {ns : Option NsMap} : ∀ (f : Nat) {acc b : Ast} {ets rest : List ETok},
    pRelLoop ns f acc ets = some (b, rest) → nesting acc ≤ nesting b
  | 0, _, _, _, _, h => by simp [pRelLoop] at h
  | f+1, acc, b, ets, rest, h => by
    unfold pRelLoop at h
    split at h
    · cases h
    · cases ‹f + 1 = Nat.succ _›
      split at h
      · rename_i hst
        have h1 := pStep_nest hst
        have h2 := pRelLoop_nest f h
        omega
      · cases h
    · cases ‹f + 1 = Nat.succ _›
      split at h
      · rename_i hst
        have h1 := pStep_nest hst
        have h2 := pRelLoop_nest f h
        simp only [nesting_dos] at h1
        omega
      · cases h
    · cases h; exact Nat.le_refl _

theorem pRel_nest {ns : Option NsMap} {f : Nat} {inp b : Ast} {ets rest : List ETok}
    (h : pRel ns f inp ets = some (b, rest)) : nesting inp ≤ nesting b := by
  cases f with
  | zero => simp [pRel] at h
  | succ f =>
    simp only [pRel] at h
    split at h
    · rename_i hst
      have h1 := pStep_nest hst
      have h2 := pRelLoop_nest f h
      omega
    · cases h

theorem pTierLoop_nest {ns : Option NsMap} : ∀ (f : Nat) {ops : List (ETok × String)}
    {more : List (List (ETok × String))} {acc b : Ast} {ets rest : List ETok},
    pTierLoop ns f ops more acc ets = some (b, rest) → nesting acc ≤ nesting b
  | 0, _, _, _, _, _, _, h => by simp [pTierLoop] at h
  | f+1, ops, more, acc, b, ets, rest, h => by
    cases ets with
    | nil =>
      simp only [pTierLoop, Option.some.injEq, Prod.mk.injEq] at h
      rw [h.1]; exact Nat.le_refl _
    | cons t r =>
      simp only [pTierLoop] at h
      split at h
      · split at h
        · have := pTierLoop_nest f h
          simp only [nesting_oper] at this
          omega
        · cases h
      · cases h; exact Nat.le_refl _

/-- the right operand of a step of the tier loop is below the result too -/
theorem pTierLoop_nest_r {ns : Option NsMap} {f : Nat} {ops : List (ETok × String)}
    {more : List (List (ETok × String))} {op : String} {acc x b : Ast} {ets rest : List ETok}
    (h : pTierLoop ns f ops more (.oper op acc x) ets = some (b, rest)) : nesting x ≤ nesting b := by
  have := pTierLoop_nest f h
  simp only [nesting_oper] at this
  omega

theorem pUnionLoop_nest {ns : Option NsMap} : ∀ (f : Nat) {acc b : Ast} {ets rest : List ETok},
    pUnionLoop ns f acc ets = some (b, rest) → nesting acc ≤ nesting b
  | 0, _, _, _, _, h => by simp [pUnionLoop] at h
  | f+1, acc, b, ets, rest, h => by
    unfold pUnionLoop at h
    split at h
    · cases h
    · cases ‹f + 1 = Nat.succ _›
      split at h
      · have := pUnionLoop_nest f h
        simp only [nesting_oper] at this
        omega
      · cases h
    · cases h; exact Nat.le_refl _

theorem pUnionLoop_nest_r {ns : Option NsMap} {f : Nat} {acc x b : Ast} {ets rest : List ETok}
    (h : pUnionLoop ns f (.oper "|" acc x) ets = some (b, rest)) : nesting x ≤ nesting b := by
  have := pUnionLoop_nest f h
  simp only [nesting_oper] at this
  omega

theorem pPreds_nest_c {ns : Option NsMap} {f : Nat} {acc c b : Ast} {ets rest : List ETok}
    (h : pPreds ns f (.filter acc c) ets = some (b, rest)) : nesting c + 1 ≤ nesting b := by
  have := pPreds_nest f h
  simp only [nesting_filter] at this
  omega

end XPathV.Lemmas.ParserFull
