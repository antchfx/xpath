import XPathV.Lemmas.ParserFull.Tokens
/-!
# Facts about the reference parser alone

What stands right after a sub-expression that a loop of the reference parser continues from can
follow an operand (`follow`), and two dead ends of `pRel`.
-/
namespace XPathV.Lemmas.ParserFull
open XPathV XPathV.Model XPathV.Bridge XPathV.Spec.Full

theorem pTierLoop_follow {ns : Option NsMap} {rf : Nat} {ops : List (ETok × String)} {more : List (List (ETok × String))}
    {acc b : Ast} {ets rest : List ETok} (hops : ops ∈ upperTiers)
    (h : pTierLoop ns rf ops more acc ets = some (b, rest)) (hf : follow rest = true) : follow ets = true := by
  cases rf with
  | zero => simp [pTierLoop] at h
  | succ rf =>
    cases ets with
    | nil => rfl
    | cons t r =>
      simp only [pTierLoop] at h
      split at h
      · rename_i op hop
        have := tier_key_isOperator hops (mem_of_lookup hop)
        simp [follow, this]
      · simp only [Option.some.injEq, Prod.mk.injEq] at h
        rw [h.2]; exact hf

theorem pUnionLoop_follow {ns : Option NsMap} {rf : Nat} {acc b : Ast} {ets rest : List ETok}
    (h : pUnionLoop ns rf acc ets = some (b, rest)) (hf : follow rest = true) : follow ets = true := by
  unfold pUnionLoop at h
  split at h
  · cases h
  · rfl
  · simp only [Option.some.injEq, Prod.mk.injEq] at h
    rw [h.2]; exact hf

theorem pRelLoop_follow {ns : Option NsMap} {rf : Nat} {acc b : Ast} {ets rest : List ETok}
    (h : pRelLoop ns rf acc ets = some (b, rest)) (hf : follow rest = true) : follow ets = true := by
  unfold pRelLoop at h
  split at h
  · cases h
  · rfl
  · rfl
  · simp only [Option.some.injEq, Prod.mk.injEq] at h
    rw [h.2]; exact hf

/-- no relative path starts with a token that is neither a step abbreviation, an axis, nor a node test -/
theorem pRel_dead {ns : Option NsMap} {rf : Nat} {inp : Ast} {e : ETok} {r : List ETok}
    (he : e = .invalid ∨ ∃ w, e = .opName w) : pRel ns rf inp (e :: r) = none := by
  cases rf with
  | zero => simp [pRel]
  | succ rf =>
    simp only [pRel]
    have : pStep ns rf inp (e :: r) = none := by
      cases rf with
      | zero => simp [pStep]
      | succ rf =>
        rcases he with rfl | ⟨w, rfl⟩ <;> simp [pStep, pAxisSpec, pNodeTest]
    rw [this]

/-- `p:*` followed by `(`: the path ends before the parenthesis -/
theorem pRel_nsWild_lparen {ns : Option NsMap} {rf : Nat} {inp b : Ast} {p : String} {r rest : List ETok}
    (h : pRel ns rf inp (.nsWild p :: .lparen :: r) = some (b, rest)) : rest = .lparen :: r := by
  cases rf with
  | zero => simp [pRel] at h
  | succ rf =>
    simp only [pRel] at h
    split at h
    · rename_i t rest1 hst
      have h1 : rest1 = .lparen :: r := by
        cases rf with
        | zero => simp [pStep] at hst
        | succ rf =>
          simp only [pStep, pAxisSpec, pNodeTest] at hst
          split at hst
          · rename_i info rest' heq
            have hr : rest' = .lparen :: r := by
              split at heq
              · simp only [Option.some.injEq, Prod.mk.injEq] at heq
                exact heq.2.symm
              · cases heq
            subst hr
            cases rf with
            | zero => simp [pPreds] at hst
            | succ rf =>
              unfold pPreds at hst
              simp only [Option.some.injEq, Prod.mk.injEq] at hst
              exact hst.2.symm
          · cases hst
      subst h1
      cases rf with
      | zero => simp [pRelLoop] at h
      | succ rf =>
        unfold pRelLoop at h
        simp only [Option.some.injEq, Prod.mk.injEq] at h
        exact h.2.symm
    · cases h

end XPathV.Lemmas.ParserFull
