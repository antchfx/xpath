import XPathV.Lemmas.ParserFull.Tokens
import XPathV.Lemmas.ParserFull.Norm
import XPathV.Lemmas.ParserFull.Depth
import XPathV.Model.Chain
/-!
# The simulation relation, and the model parser's equations in the form the proof uses

`Sim` with its introduction rules and `Sim.bind`; `stagesOf`: the model's stage list for a tail of
`upperTiers`; `relTail` and `unaryTail`: the part of `parseRelLoc` after its first step and the unary stage
after some minus signs, named so that the loops `pRelLoop` and `pUnary` have a model counterpart
(`parseRelLoc_succ`, `parseChain_unary`).
-/
namespace XPathV.Lemmas.ParserFull
open XPathV XPathV.Model XPathV.Bridge XPathV.Spec.Full

/-- the model call `x`, started at depth counter `d` under the limit `L`, runs out of fuel, or
exceeds the depth limit — which happens only if `L < d + k` — or returns a tree equal to the reference
tree `b` up to `normConv`, in a scanner state satisfying `P`, with the depth counter back at `d` -/
def Sim (x : PRes) (b : Ast) (P : Scan → Prop) (d L k : Nat) : Prop :=
  x = .error .fuel ∨ (x = .error .tooComplex ∧ L < d + k) ∨
    ∃ a st', x = .ok (a, st') ∧ normConv a = normConv b ∧ P st'.s ∧ st'.d = d

section
variable {b b' : Ast} {P Q : Scan → Prop} {d d' L k k' : Nat}

theorem Sim.fuel : Sim (.error .fuel) b P d L k := .inl rfl
theorem Sim.deep (h : L < d + k) : Sim (.error .tooComplex) b P d L k := .inr (.inl ⟨rfl, h⟩)

theorem Sim.ok {a : Ast} {st' : PState} (h : normConv a = normConv b) (hp : P st'.s) (hd : st'.d = d) :
    Sim (.ok (a, st')) b P d L k := .inr (.inr ⟨a, st', rfl, h, hp, hd⟩)

theorem Sim.pure {a : Ast} {st' : PState} (h : normConv a = normConv b) (hp : P st'.s) (hd : st'.d = d) :
    Sim (Pure.pure (a, st')) b P d L k := Sim.ok h hp hd

theorem Sim.bind {x : PRes} {kk : Ast × PState → PRes} (hx : Sim x b P d L k) (hle : k ≤ k')
    (hk : ∀ a st', normConv a = normConv b → P st'.s → st'.d = d → Sim (kk (a, st')) b' Q d L k') :
    Sim (x >>= kk) b' Q d L k' := by
  rcases hx with e | ⟨e, hl⟩ | ⟨a, st', e, h1, h2, h3⟩
  · subst e; exact .inl rfl
  · subst e; exact .inr (.inl ⟨rfl, by omega⟩)
  · subst e; exact hk a st' h1 h2 h3

theorem Sim.cast {x : PRes} (hx : Sim x b P d L k) (e : d = d') : Sim x b P d' L k := e ▸ hx

end

theorem next_ok {st : PState} {s1 : Scan} (h : st.s.nextItem = .ok s1) : st.next = .ok { st with s := s1 } := by
  simp [PState.next, h]

theorem skipItem_ok {st : PState} {s1 : Scan} {t : Tok} (ht : st.s.typ = t) (h : st.s.nextItem = .ok s1) :
    st.skipItem t = .ok { st with s := s1 } := by
  simp [PState.skipItem, ht, next_ok h]

theorem ok_bind {α β : Type} (a : α) (k : α → Except PErr β) : ((.ok a : Except PErr α) >>= k) = k a := rfl

/-! ## the stage list that corresponds to a tail of `upperTiers` -/

def stagesOf (tiers : List (List (ETok × String))) : List Stage :=
  tiers.map (fun ops => Stage.tier (ops.map Prod.snd)) ++ [.unary, .tier ["|"]]

theorem stagesOf_upper : stagesOf upperTiers = stages := by decide +kernel

/-! ## the model parser's equations -/

/-- what `parseRelLoc` does after its first step -/
def relTail (f : Nat) (cfg : PCfg) (opnd : Ast) (st : PState) : PRes :=
  match st.s.typ with
  | .slashslash => do
    let st ← st.next
    parseRelLoc f cfg (dosNode opnd) st
  | .slash => do
    let st ← st.next
    parseRelLoc f cfg opnd st
  | _ => pure (opnd, st)

theorem parseRelLoc_succ (f : Nat) (cfg : PCfg) (inp : Ast) (st : PState) :
    parseRelLoc (f+1) cfg inp st = (parseStep f cfg inp st >>= fun p => relTail f cfg p.1 p.2) := by
  simp only [parseRelLoc, relTail]
  rfl

/-- the unary stage after some minus signs (`signed`: at least one was seen; `m`: an odd number) -/
def unaryTail (g f : Nat) (cfg : PCfg) (rest : List Stage) (signed m : Bool) (st : PState) : PRes := do
  let (minus, st) ← skipMinus g st m
  let (opnd, st) ← parseChain f cfg rest st
  pure (if minus then .oper "*" opnd (.num "-1")
        else if signed then .oper "*" (.oper "*" opnd (.num "-1")) (.num "-1") else opnd, st)

theorem parseChain_unary (f : Nat) (cfg : PCfg) (rest : List Stage) (st : PState) :
    parseChain (f+1) cfg (.unary :: rest) st = unaryTail (f+1) f cfg rest (st.s.typ == .minus) false st := by
  simp only [parseChain, unaryTail]

theorem parseChain_tier (f : Nat) (cfg : PCfg) (ops : List String) (rest : List Stage) (st : PState) :
    parseChain (f+1) cfg (.tier ops :: rest) st =
      (parseChain f cfg rest st >>= fun p => tierLoop f cfg ops rest p.1 p.2) := by
  simp only [parseChain]

theorem parseChain_nil (f : Nat) (cfg : PCfg) (st : PState) :
    parseChain (f+1) cfg [] st = parsePathExpr f cfg st := by
  simp only [parseChain]

end XPathV.Lemmas.ParserFull
