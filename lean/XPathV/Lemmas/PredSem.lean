import XPathV.Lemmas.PredSem.Frag
import XPathV.Lemmas.PredSem2
/-!
# C02 — boolean predicates keep exactly the nodes for which the predicate is true

Extends `PathSem.C01_main` (predicate-free paths) to paths whose steps carry boolean-valued
predicates — first for *naive* plans (`predPlan`: no builder rewrite), then for the plans `build`
makes (all rewrites, including the merge rewrite of `processFilter`).

Helper files under `XPathV/Lemmas/PredSem/`:

* `Filter`   — `sel_filter_bool` (model `.filter` arm of `sel`), `filterPos_bool` (oracle `filterPos`)
* `Truth`    — `PathOK`, `PredOK` and the per-constructor truth lemmas `predOK_*`
* `Path`     — `pathOK_axis`, `filter_sem`, `pathOK_filter`, `holds`; the fragments `PredB` (predicates over predicate-free paths) and `Frag` (predicates on every step,
               stacked, nested), `predPlan`
* `BuildSem` — inversion of `build` on the constructors of the fragment (`build_filter_inv`, …:
               instances of `Lemmas/BuildInv.lean`), `rel_filter`, `merge_sem` (the merge rewrite
               preserves the node set), plan shapes, `axis_core`

The inductions over the fragment are made once, for the larger fragment `PredSem2.Frag2`
(`XPathV/Lemmas/PredSem2/`, which builds on the helper files above; hence this file and `PredSem/Frag`
come after `PredSem2.lean` in the import order); read on `Frag` they give

* `Frag`     — `frag_sem`, `pred_truth`, `filtered_step_sem`, `C02_naive`, `C02_filter_keeps_true`,
               `build_frag`

This file: the end-to-end statements for `build` (`C02_main`, `C02_evalTop`).

Standing assumptions as for C01: `WF d`, `cfg.nsIface = true`, `HashInj d cfg`; the builder runs with
the `//name` shortcut guarded by the node test and `smartDescThroughFilter = false` (both are the
values read off the source, `Lemmas.SourceConfig`).
-/
namespace XPathV.PredSem
open XPathV XPathV.Model XPathV.PathSem

variable {F : Type} [NumAlg F]

/-- **C02 for `build`** (`PredSem2.C02_main2` on the fragment `Frag`): for every well-formed document,
every valid context node and every path of `Frag` — location paths over the twelve axes whose steps carry any number of
boolean-valued predicates (existence tests, comparisons of a path with a string or number literal,
`not`, `and`, `or`, nested arbitrarily) — the plan the builder produces, with all its rewrites,
yields exactly the XPath 1.0 node-set of the path; neither side fails -/
theorem C02_main {d : Doc} (wf : WF d) (cfg : ECfg) (hns : cfg.nsIface = true)
    (hinj : HashInj d cfg) (regexOk : RegexOk) (limit : Nat) (p : Ast) (hp : Frag true p)
    (st : BState) (o : BOut) (hb : build regexOk limit true false p {} st = .ok o)
    (c : Ref) (hc : validRef d c = true) :
    ∃ out ns g, sel (F := F) d cfg o.q c = .ok out ∧
      Spec.eval (F := F) d p ⟨c, 1, 1⟩ = .ok (.val (.nodes ns) g) ∧
      ∀ x, x ∈ refs out ↔ x ∈ ns :=
  PredSem2.C02_main_of_main2 wf cfg hns hinj regexOk limit p hp st o hb c hc

/-- C02 against the top-level oracle `evalTop` -/
theorem C02_evalTop {d : Doc} (wf : WF d) (cfg : ECfg) (hns : cfg.nsIface = true)
    (hinj : HashInj d cfg) (regexOk : RegexOk) (limit : Nat) (p : Ast) (hp : Frag true p)
    (st : BState) (o : BOut) (hb : build regexOk limit true false p {} st = .ok o)
    (c : Ref) (hc : validRef d c = true) :
    ∃ out ns, sel (F := F) d cfg o.q c = .ok out ∧
      Spec.evalTop (F := F) d p c = .ok (.nodes ns) ∧ ∀ x, x ∈ refs out ↔ x ∈ ns :=
  PredSem2.C02_evalTop2 wf cfg hns hinj regexOk limit p (PredSem2.frag2_of_frag true p hp) st o hb c hc

/-! ## Instances of this file's statements (non-vacuity): the builder succeeds on the fragment, and the merge rewrite does fire -/

section Examples

private def ch (n : String) : AxisInfo := ⟨"child", .elem, "", n, "", false, ""⟩

/-- `/a/b[not(c)]` as the parser produces it -/
def exNot : Ast :=
  .filter (.axis (ch "b") (.axis (ch "a") (.root "/")))
    (.call "not" "" (.acons (.axis (ch "c") .none) .anil))

theorem exNot_frag : Frag true exNot :=
  .filter _ _ (.axis _ _ (.axis _ _ (.root _) (by simp [axes12, ch])) (by simp [axes12, ch]))
    (.not _ _ (.exist _ (.axis _ _ .none (by simp [axes12, ch]))))

/-- the builder turns it into the merge form -/
theorem exNot_build : (build (fun _ => true) 100 true false exNot {} {}).map (·.q) =
    .ok (.merge (.child (ch "a") .absolute)
      (.filter (.child (ch "b") .context)
        (.func "not" .nil (.pcons (.child (ch "c") .context) .pnil)))) := rfl

/-- `a[b = 'x'][c or 3 < @d]/e` -/
def exStack : Ast :=
  .axis (ch "e") (.filter (.filter (.axis (ch "a") .none)
      (.oper "=" (.axis (ch "b") .none) (.str "x")))
    (.oper "or" (.axis (ch "c") .none)
      (.oper "<" (.num "3") (.axis ⟨"attribute", .attr, "", "d", "", false, ""⟩ .none))))

theorem exStack_frag : Frag true exStack :=
  .axis _ _ (.filter _ _ (.filter _ _ (.axis _ _ .none (by simp [axes12, ch]))
      (.eqStr _ _ (.axis _ _ .none (by simp [axes12, ch]))))
    (.or _ _ (.exist _ (.axis _ _ .none (by simp [axes12, ch])))
      (.cmpNumL _ _ _ (by simp [cmpOps]) (.axis _ _ .none (by simp [axes12])))))
    (by simp [axes12, ch])

theorem exStack_build : ∃ o, build (fun _ => true) 100 true false exStack {} {} = .ok o := ⟨_, rfl⟩

/-- the main theorem applied: no hypothesis left but the standing ones -/
example {d : Doc} (wf : WF d) (cfg : ECfg) (hns : cfg.nsIface = true) (hinj : HashInj d cfg)
    (c : Ref) (hc : validRef d c = true) :
    ∃ out ns, sel (F := F) d cfg (.merge (.child (ch "a") .absolute)
        (.filter (.child (ch "b") .context)
          (.func "not" .nil (.pcons (.child (ch "c") .context) .pnil)))) c = .ok out ∧
      Spec.evalTop (F := F) d exNot c = .ok (.nodes ns) ∧ ∀ x, x ∈ refs out ↔ x ∈ ns := by
  cases hb : build (fun _ => true) 100 true false exNot {} {} with
  | error e => have := exNot_build; rw [hb] at this; cases this
  | ok o =>
    have hq := exNot_build; rw [hb] at hq
    simp only [Except.map, Except.ok.injEq] at hq
    rw [← hq]
    exact C02_evalTop wf cfg hns hinj _ 100 exNot exNot_frag {} o hb c hc

end Examples

end XPathV.PredSem
