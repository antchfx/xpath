import XPathV.Lemmas.Pull2Gen.DecOK
/-!
# `sel_full2'`: the reset machine's stream is `sel` of the plan, under `DecOK'`

`full2 c q` (the stream of the reset machine, `Pull2/Spec.lean`) equals `sel d cfg q.plan c` of
`Model/Engine.lean`.  Fifteen of the sixteen cases do not look at the decision function at all; in
the filter case the hypothesis is used exactly once, to replace the engine's verdict for a candidate
item of the input sequence by `dec pred item.r`; in the merge case the child's hypothesis is needed
at the roots the input supplies.  The instance for `DecOK` is `sel_full2_from_gen` (`Pull2Gen.lean`).
-/
namespace XPathV.Model
open XPathV XPathV.PredSem

section
variable {F : Type} [NumAlg F] (d : Doc) (cfg : ECfg) (dec : Plan → Ref → Bool)

/-- **The reset machine's stream is the sequence model's sequence** — for filters whose predicates
are boolean-, string-, node-list- (existence tests) or number-valued alike, provided `dec` is the
engine's verdict on the candidates offered (`DecOK'`). -/
theorem sel_full2' : ∀ (q : PQ2) (c : Ref), q.DecOK' (F := F) d cfg dec c →
    sel (F := F) d cfg q.plan c = .ok (full2 d cfg dec c q) := by
  intro q
  induction q with
  | context n => intro c _; simp only [PQ2.plan, sel, full2]
  | absolute n => intro c _; simp only [PQ2.plan, sel, full2]
  | child a inp it pos ih | cachedChild a inp it pos ih | attr a inp it ih =>
    intro c h; simp only [PQ2.plan, sel, ih c h, full2]; rfl
  | self a inp ih =>
    intro c h; simp only [PQ2.plan, sel, ih c h, full2]; exact congrArg Except.ok (fmapR_self _ _).symm
  | parent a inp ih =>
    intro c h; simp only [PQ2.plan, sel, ih c h, full2]; exact congrArg Except.ok (fmapR_parent d _ _).symm
  | descendant a s inp it pos level ih =>
    intro c h; simp only [PQ2.plan, sel, ih c h, full2, descItems]; rfl
  | ancestor a s inp it tb ih =>
    intro c h; simp only [PQ2.plan, sel, ih c h, full2, ancCands, Bool.true_and]; rfl
  | following a sib inp it pos ih | preceding a sib inp it pos ih =>
    intro c h; simp only [PQ2.plan, sel, ih c h, full2]; rfl
  | descOverDesc a ms inp level pos cn ih =>
    intro c h; simp only [PQ2.plan, sel, ih c h, full2]; rfl
  | group inp pos ih =>
    intro c h; simp only [PQ2.plan, sel, ih c h, full2, fmapR_group, numbered_eq]; rfl
  | union l r it ihl ihr =>
    intro c h; simp only [PQ2.plan, sel, ihl c h.1, ihr c h.2, full2]; rfl
  | merge inp ch it ih ihc =>
    intro c h
    simp only [PQ2.plan, sel, ih c h.1, full2, bind, Except.bind]
    rw [mapM_eq_ok_map _ (fun it => full2 d cfg dec it.r ch) _ (fun x hx => ihc x.r (h.2 _ (ih c h.1) x hx))]
    exact congrArg _ (flatMap_plain_flatten _ (fun r => full2 d cfg dec r ch))
  | filter inp pred pos pm ih =>
    intro c h
    rw [PQ2.plan, sel_filter_keepM]
    simp only [ih c h.1, full2, bind, Except.bind]
    rw [mapM_eq_ok_map _ (fun it => dec pred it.r) _ (fun it hit => h.2 _ (ih c h.1) it hit)]
    simp only [zip_map_filterMap, filterPositions_eq]

/-- the candidates a filter is offered are the stream of its input machine: `DecOK'` of a filter,
stated on the machine side -/
theorem decOK'_filter_iff_full2 (inp : PQ2) (pred : Plan) (pos : Nat) (pm : Option (List (Nat × Nat))) (c : Ref) :
    (PQ2.filter inp pred pos pm).DecOK' (F := F) d cfg dec c ↔
      inp.DecOK' (F := F) d cfg dec c ∧
        ∀ it ∈ full2 d cfg dec c inp, keepM (F := F) d cfg pred it = .ok (dec pred it.r) := by
  constructor
  · intro h; exact ⟨h.1, fun it hit => h.2 _ (sel_full2' d cfg dec inp c h.1) it hit⟩
  · intro h
    refine ⟨h.1, fun l hl it hit => h.2 it ?_⟩
    rw [sel_full2' d cfg dec inp c h.1] at hl
    cases hl; exact hit

end

end XPathV.Model
