import XPathV.Lemmas.Pull2Gen
import XPathV.Theorems.C02
import XPathV.Theorems.C04
import XPathV.Theorems.C12
import XPathV.Theorems.NonVacuity.Common
/-!
# Non-vacuity of `DecOK'` and of the theorems that assume it

On the document `d0` of `Theorems/NonVacuity/Common.lean`
(`<r><a x="1">t</a><b x="2" y="3">u</b><a/><!--c--></r>`), with the plans `compile` produces:

* `/r/*[@y]` — existence test (node-list-valued predicate): `DecOK'` holds for every context node
  although `DecOK` is unsatisfiable; `drain2_eq_sel'`, `reach_evaluate_restarts'` (from a
  mid-iteration state, for another context node), `clone_is_fresh_all_iterators_any_predicate` applied; result `[b]`.
* `/r/*[string(@y)]` — string-valued predicate (the builder's merge plan); result `[b]`.
* `/r/*[2]` — number-valued predicate (the builder's merge plan); result `[b]`.
* `/r/*[@x][2]` — an existence test below a numeric predicate (two nested filter machines; the
  candidate positions the number is compared with are the ones the inner filter's `positmap`
  produces); result `[b]`.
* `/r/*/following-sibling::*[1]` — the limit: the last `a` is offered at position 2 (from the first
  `a`) and at position 1 (from `b`); the engine keeps it once; no `dec : Plan → Ref → Bool` is the
  engine's verdict (`decOK'_unsat_repeated_candidate`).

The instances are stated next to `Pull2Gen` because they apply the property-level statements of
`Theorems/C02`, `C04`, `C12` (hence those imports); the per-property non-vacuity files
`Theorems/NonVacuity/C02`, `C04`, `C12` quote them from here.
-/
namespace XPathV.Theorems.NonVacuity.Pull2Gen
open XPathV XPathV.Model XPathV.Theorems.NonVacuity XPathV.PosSem XPathV.PredSem

attribute [local instance] toyAlg

/-- unfold the engine (and the verdict `keepM`) with its equations, then let the kernel decide -/
local macro "keep_decide" : tactic =>
  `(tactic| (simp only [keepM, sel, evalP, argVals, bind, Except.bind, pure, Except.pure]; decide +kernel))

/-- `compile {}` on a literal text, with scanner, parser and builder run once by the kernel (on the
character list and the written-out stage list, see `runOnce`) -/
theorem compile_eq_of_runOnce {l : List Char} {p : Plan}
    (h : runOnce none l (fun _ => true) (fun q => decide (q = p)) = true) :
    compile {} none (String.ofList l).toList = .ok p := by
  obtain ⟨_, q, _, _, hc, hq⟩ := runOnce_spec h
  rw [String.toList_ofList, hc, of_decide_eq_true hq]

theorem good0 (i : Nat) (h : i < 8 := by decide) : Good d0 (.node i) := by
  simp only [Good, Ref.idx, d0, List.length_cons, List.length_nil]; omega

/-- `/r/*` -/
def inpC : Plan := .child (chE "") (.child (chE "r") .absolute)
/-- the machine of `/r/*` -/
def qC : PQ2 := .child (chE "") (.child (chE "r") (.absolute 0) none 0) none 0

/-- the candidates: `a[1]`, `b`, `a[2]` at positions 1, 2, 3 — whatever the context node -/
theorem inpC_sel (c : Ref) : sel (F := Int) d0 {} inpC c =
    .ok [⟨.node 2, 1, 0⟩, ⟨.node 4, 2, 0⟩, ⟨.node 6, 3, 0⟩] := by
  simp only [inpC, sel, bind, Except.bind]; decide +kernel

/-! ## `/r/*[@y]`: an existence test -/

def predE : Plan := .attr (atA "y") .context
def planE : Plan := .filter inpC predE

theorem planE_compiled : compile {} none "/r/*[@y]".toList = .ok planE := compile_eq_of_runOnce (by decide +kernel)

/-- the machine the builder creates -/
def qE : PQ2 := .filter qC predE 0 none
theorem qE_ofPlan : PQ2.ofPlan planE = some qE := rfl

/-- the decision function: "has an attribute `y`" -/
def decE (_ : Plan) (r : Ref) : Bool := !((attrsM d0 r).filter (test d0 {} (atA "y"))).isEmpty

/-- the predicate evaluates to a node list at every node -/
theorem predE_nodes (r : Ref) : evalP (F := Int) d0 {} predE r =
    .ok (.nodes ((plain ((attrsM d0 r).filter (test d0 {} (atA "y")))).map (·.r))) := by
  simp [predE, evalP, sel, bind, Except.bind]

/-- `DecOK` is unsatisfiable for this machine, whatever `dec` -/
theorem qE_not_decOK (dec : Plan → Ref → Bool) : ¬ qE.DecOK (F := Int) d0 {} dec := by
  rintro ⟨_, h⟩
  have := h (.node 0)
  rw [predE_nodes] at this
  cases this

/-- **`DecOK'` is satisfiable for an existence-test filter**, for every context node -/
theorem qE_decOK' (c : Ref) : qE.DecOK' (F := Int) d0 {} decE c := by
  refine decOK'_filter_bsn d0 {} decE _ _ _ _ c trivial ?_
  intro l _ it _
  exact ⟨_, predE_nodes it.r, trivial, by simp [truthM, decE, plain]⟩

theorem planE_decOKP' (c : Ref) : DecOKP' (F := Int) d0 {} decE planE c :=
  (decOK'_iff_plan d0 {} decE qE c).1 (qE_decOK' c)

theorem planE_sel (c : Ref) : sel (F := Int) d0 {} planE c = .ok [⟨.node 4, 1, 0⟩] := by
  simp only [planE, inpC, predE]; sel_decide

/-- **`drain2_eq_sel'` / `C12_all_iterators_refine_sequence_any_predicate`** with every hypothesis discharged:
the pull machine of `/r/*[@y]` reports `[b]` (position 1), as `sel` does -/
theorem drain2_eq_sel'_instance :
    sel (F := Int) d0 {} planE (.node 0) = .ok [⟨.node 4, 1, 0⟩] ∧
    ∃ q' c' f0, (∀ f, f0 ≤ f → drain2 d0 {} decE f qE (.node 0) = some ([⟨.node 4, 1, 0⟩], q', c')) ∧
      (∀ c'', rem2 d0 {} decE c'' q' = []) := by
  obtain ⟨l, h1, h2⟩ := Theorems.C12.C12_all_iterators_refine_sequence_any_predicate (F := Int) d0 {} decE (by decide) planE qE
    qE_ofPlan (fun _ => wf_d0) (.node 0) (qE_decOK' _) (good0 0)
  rw [planE_sel] at h1; cases h1
  exact ⟨planE_sel _, h2⟩

/-- the state after `Evaluate` and one `Select` (which reported `b`) -/
def qE1 : PQ2 := (PQ2.select d0 {} decE 100 qE.evaluate (.node 0)).2.1

/-- that `Select` did report a node: `qE1` is a mid-iteration state (the machine has not yet
answered `nil`) -/
theorem qE1_yield : (PQ2.select d0 {} decE 100 qE.evaluate (.node 0)).1 = .yield (.node 4) := by decide +kernel

example : (PQ2.select d0 {} decE 100 qE.evaluate (.node 0)).1 = .yield (.node 4) := qE1_yield

theorem qE1_reach : Reach d0 {} decE planE qE1 :=
  .select (f := 100) (c := .node 0) (.evaluate qE rfl) (good0 0) rfl
    (show (PQ2.select d0 {} decE 100 qE.evaluate (.node 0)).1 ≠ .fuel from fun h => by cases qE1_yield.symm.trans h)

/-- **`reach_evaluate_restarts'` / `evaluate_restarts_all_iterators_any_predicate`** with `hd`, `hw`, `Reach`,
`DecOK'`, `Good` discharged: re-evaluating the mid-iteration machine for another context node (`b`)
reports the whole sequence `[b]` again, and nothing else at any fuel -/
theorem evaluate_restarts'_instance :
    sel (F := Int) d0 {} planE (.node 4) = .ok [⟨.node 4, 1, 0⟩] ∧
    (∃ q' c' f0, ∀ f, f0 ≤ f → drain2 d0 {} decE f qE1.evaluate (.node 4) = some ([⟨.node 4, 1, 0⟩], q', c')) ∧
    (∀ f l' q' c', drain2 d0 {} decE f qE1.evaluate (.node 4) = some (l', q', c') → l' = [⟨.node 4, 1, 0⟩]) := by
  obtain ⟨l, h1, h2⟩ := Theorems.C02.evaluate_restarts_all_iterators_any_predicate (F := Int) d0 {} decE (by decide)
    planE (fun _ => wf_d0) qE1 qE1_reach (.node 4)
    (reach_decOK' d0 {} decE (by decide) planE (fun _ => wf_d0) _ (planE_decOKP' _) qE1 qE1_reach) (good0 4)
  rw [planE_sel] at h1; cases h1
  exact ⟨planE_sel _, h2⟩

/-- **`clone_is_fresh_all_iterators_any_predicate`**: the clone of the mid-iteration machine
streams `[b]` -/
theorem clone_fresh'_instance :
    qE1.clone.evaluate = qE1.clone ∧ qE1.clone.Inv d0 ∧ rem2 d0 {} decE (.node 0) qE1.clone = [⟨.node 4, 1, 0⟩] := by
  have hd : qE1.DecOK' (F := Int) d0 {} decE (.node 0) :=
    reach_decOK' d0 {} decE (by decide) planE (fun _ => wf_d0) _ (planE_decOKP' _) qE1 qE1_reach
  obtain ⟨h1, h2, h3⟩ := Theorems.C04.clone_is_fresh_all_iterators_any_predicate (F := Int) d0 {} decE qE1 (.node 0) hd
  rw [(reach_inv d0 {} decE (by decide) planE (fun _ => wf_d0) qE1 qE1_reach).1, planE_sel] at h3
  cases h3
  exact ⟨h1, h2, rfl⟩

/-! ## `/r/*[string(@y)]`: a string-valued predicate (merge plan) -/

def predS : Plan := .func "string" .nil (.pcons (.attr (atA "y") .context) .pnil)
def planS : Plan := .merge (.child (chE "r") .absolute) (.filter (.child (chE "") .context) predS)

theorem planS_compiled : compile {} none "/r/*[string(@y)]".toList = .ok planS := compile_eq_of_runOnce (by decide +kernel)

def qS : PQ2 := .merge (.child (chE "r") (.absolute 0) none 0) (.filter (.child (chE "") (.context 0) none 0) predS 0 none) none
theorem qS_ofPlan : PQ2.ofPlan planS = some qS := rfl

theorem rootS_sel (c : Ref) : sel (F := Int) d0 {} (.child (chE "r") .absolute) c = .ok [⟨.node 1, 1, 0⟩] := by
  simp only [sel, bind, Except.bind]; decide +kernel

theorem kidsS_sel : sel (F := Int) d0 {} (.child (chE "") .context) (.node 1) =
    .ok [⟨.node 2, 1, 0⟩, ⟨.node 4, 2, 0⟩, ⟨.node 6, 3, 0⟩] := by sel_decide

/-- the predicate's values at the three candidates are the strings `""`, `"3"`, `""` -/
example : evalP (F := Int) d0 {} predS (.node 4) = .ok (.str "3") := by simp only [predS]; sel_decide

theorem qS_decOK' (c : Ref) : qS.DecOK' (F := Int) d0 {} (fun _ r => r == .node 4) c := by
  refine ⟨trivial, fun l hl it hit => ?_⟩
  rw [PQ2.plan, PQ2.plan, rootS_sel] at hl
  cases hl
  simp only [List.mem_singleton] at hit
  subst hit
  refine ⟨trivial, fun l hl it hit => ?_⟩
  rw [PQ2.plan, PQ2.plan, kidsS_sel] at hl
  cases hl
  simp only [List.mem_cons, List.not_mem_nil, or_false] at hit
  rcases hit with rfl | rfl | rfl <;> (simp only [predS]; keep_decide)

theorem planS_sel (c : Ref) : sel (F := Int) d0 {} planS c = .ok [⟨.node 4, 1, 0⟩] := by
  simp only [planS, predS]; sel_decide

theorem drain2_eq_sel'_string_instance :
    ∃ q' c' f0, (∀ f, f0 ≤ f → drain2 d0 {} (fun _ r => r == .node 4) f qS (.node 0) = some ([⟨.node 4, 1, 0⟩], q', c')) := by
  obtain ⟨l, h1, q', c', f0, h2, _⟩ := drain2_eq_sel' (F := Int) d0 {} (fun _ r => r == .node 4) (by decide) planS qS
    qS_ofPlan (fun _ => wf_d0) (.node 0) (qS_decOK' _) (good0 0)
  rw [planS_sel] at h1; cases h1
  exact ⟨q', c', f0, h2⟩

/-! ## `/r/*[2]`: a number-valued predicate (merge plan) -/

def planN : Plan := .merge (.child (chE "r") .absolute) (.filter (.child (chE "") .context) (.constNum "2"))

theorem planN_compiled : compile {} none "/r/*[2]".toList = .ok planN := compile_eq_of_runOnce (by decide +kernel)

def qN : PQ2 :=
  .merge (.child (chE "r") (.absolute 0) none 0) (.filter (.child (chE "") (.context 0) none 0) (.constNum "2") 0 none) none
theorem qN_ofPlan : PQ2.ofPlan planN = some qN := rfl

/-- the decision function: "is the element `b`" — the second child of `r` -/
def decN (_ : Plan) (r : Ref) : Bool := r == .node 4

/-- **`DecOK'` is satisfiable for a numeric (positional) predicate**: among the candidates the filter
is offered (the children of `r`, once each) the verdict "position = 2" is a function of the node -/
theorem qN_decOK' (c : Ref) : qN.DecOK' (F := Int) d0 {} decN c := by
  refine ⟨trivial, fun l hl it hit => ?_⟩
  rw [PQ2.plan, PQ2.plan, rootS_sel] at hl
  cases hl
  simp only [List.mem_singleton] at hit
  subst hit
  refine ⟨trivial, fun l hl it hit => ?_⟩
  rw [PQ2.plan, PQ2.plan, kidsS_sel] at hl
  cases hl
  simp only [List.mem_cons, List.not_mem_nil, or_false] at hit
  rcases hit with rfl | rfl | rfl <;> keep_decide

theorem planN_decOKP' (c : Ref) : DecOKP' (F := Int) d0 {} decN planN c :=
  (decOK'_iff_plan d0 {} decN qN c).1 (qN_decOK' c)

theorem planN_sel (c : Ref) : sel (F := Int) d0 {} planN c = .ok [⟨.node 4, 1, 0⟩] := by
  simp only [planN]; sel_decide

/-- `drain2_eq_sel'` for `/r/*[2]`: the machine reports `[b]` -/
theorem drain2_eq_sel'_numeric_instance :
    ∃ q' c' f0, (∀ f, f0 ≤ f → drain2 d0 {} decN f qN (.node 0) = some ([⟨.node 4, 1, 0⟩], q', c')) ∧
      (∀ c'', rem2 d0 {} decN c'' q' = []) := by
  obtain ⟨l, h1, h2⟩ := drain2_eq_sel' (F := Int) d0 {} decN (by decide) planN qN
    qN_ofPlan (fun _ => wf_d0) (.node 0) (qN_decOK' _) (good0 0)
  rw [planN_sel] at h1; cases h1
  exact h2

def qN1 : PQ2 := (PQ2.select d0 {} decN 100 qN.evaluate (.node 0)).2.1

theorem qN1_yield : (PQ2.select d0 {} decN 100 qN.evaluate (.node 0)).1 = .yield (.node 4) := by decide +kernel

example : (PQ2.select d0 {} decN 100 qN.evaluate (.node 0)).1 = .yield (.node 4) := qN1_yield

theorem qN1_reach : Reach d0 {} decN planN qN1 :=
  .select (f := 100) (c := .node 0) (.evaluate qN rfl) (good0 0) rfl
    (show (PQ2.select d0 {} decN 100 qN.evaluate (.node 0)).1 ≠ .fuel from fun h => by cases qN1_yield.symm.trans h)

/-- `reach_evaluate_restarts'` for `/r/*[2]` from the state after one `Select` -/
theorem evaluate_restarts'_numeric_instance :
    (∃ q' c' f0, ∀ f, f0 ≤ f → drain2 d0 {} decN f qN1.evaluate (.node 6) = some ([⟨.node 4, 1, 0⟩], q', c')) ∧
    (∀ f l' q' c', drain2 d0 {} decN f qN1.evaluate (.node 6) = some (l', q', c') → l' = [⟨.node 4, 1, 0⟩]) := by
  obtain ⟨l, h1, h2⟩ := reach_evaluate_restarts' (F := Int) d0 {} decN (by decide)
    planN (fun _ => wf_d0) qN1 qN1_reach (.node 6)
    (reach_decOK' d0 {} decN (by decide) planN (fun _ => wf_d0) _ (planN_decOKP' _) qN1 qN1_reach) (good0 6)
  rw [planN_sel] at h1; cases h1
  exact h2

/-! ## `/r/*[@x][2]`: a numeric predicate over the output of an existence-test filter -/

def predX : Plan := .attr (atA "x") .context
def planX : Plan := .filter (.filter inpC predX) (.constNum "2")

theorem planX_compiled : compile {} none "/r/*[@x][2]".toList = .ok planX := compile_eq_of_runOnce (by decide +kernel)

def qX : PQ2 := .filter (.filter qC predX 0 none) (.constNum "2") 0 none
theorem qX_ofPlan : PQ2.ofPlan planX = some qX := rfl

/-- "has an attribute `x`" for the inner predicate, "is `b`" for the numeric one -/
def decX (p : Plan) (r : Ref) : Bool :=
  match p with
  | .constNum _ => r == .node 4
  | _ => !((attrsM d0 r).filter (test d0 {} (atA "x"))).isEmpty

theorem predX_nodes (r : Ref) : evalP (F := Int) d0 {} predX r =
    .ok (.nodes ((plain ((attrsM d0 r).filter (test d0 {} (atA "x")))).map (·.r))) := by
  simp [predX, evalP, sel, bind, Except.bind]

/-- what the numeric filter is offered: `a[1]` at position 1, `b` at position 2 — the positions are
those the inner filter machine's `positmap` produces -/
theorem innerX_sel (c : Ref) : sel (F := Int) d0 {} (.filter inpC predX) c = .ok [⟨.node 2, 1, 0⟩, ⟨.node 4, 2, 0⟩] := by
  simp only [inpC, predX]; sel_decide

theorem qX_decOK' (c : Ref) : qX.DecOK' (F := Int) d0 {} decX c := by
  refine ⟨decOK'_filter_bsn d0 {} decX _ _ _ _ c trivial ?_, fun l hl it hit => ?_⟩
  · intro l _ it _
    exact ⟨_, predX_nodes it.r, trivial, by simp [truthM, decX, predX, plain]⟩
  · have : (PQ2.filter qC predX 0 none).plan = .filter inpC predX := rfl
    rw [this, innerX_sel] at hl
    cases hl
    simp only [List.mem_cons, List.not_mem_nil, or_false] at hit
    rcases hit with rfl | rfl <;> keep_decide

theorem planX_sel (c : Ref) : sel (F := Int) d0 {} planX c = .ok [⟨.node 4, 1, 0⟩] := by
  simp only [planX, inpC, predX]; sel_decide

theorem drain2_eq_sel'_nested_instance :
    ∃ q' c' f0, (∀ f, f0 ≤ f → drain2 d0 {} decX f qX (.node 0) = some ([⟨.node 4, 1, 0⟩], q', c')) := by
  obtain ⟨l, h1, q', c', f0, h2, _⟩ := drain2_eq_sel' (F := Int) d0 {} decX (by decide) planX qX
    qX_ofPlan (fun _ => wf_d0) (.node 0) (qX_decOK' _) (good0 0)
  rw [planX_sel] at h1; cases h1
  exact ⟨q', c', f0, h2⟩

/-! ## the limit: `/r/*/following-sibling::*[1]` -/

def planU : Plan :=
  .merge inpC (.filter (.following (axE "following-sibling" "") true .context) (.constNum "1"))

theorem planU_compiled : compile {} none "/r/*/following-sibling::*[1]".toList = .ok planU := compile_eq_of_runOnce (by decide +kernel)

def qU : PQ2 :=
  .merge qC (.filter (.following (axE "following-sibling" "") true (.context 0) none 0) (.constNum "1") 0 none) none
theorem qU_ofPlan : PQ2.ofPlan planU = some qU := rfl

/-- the engine keeps `b` (first following sibling of `a[1]`) and `a[2]` (first following sibling of `b`) -/
theorem planU_sel : sel (F := Int) d0 {} planU (.node 0) = .ok [⟨.node 4, 1, 0⟩, ⟨.node 6, 1, 0⟩] := by
  simp only [planU, inpC]; sel_decide

/-- **a numeric predicate `DecOK'` cannot cover**: `a[2]` is offered to the filter `[1]` twice — at
position 2 (root `a[1]`: rejected) and at position 1 (root `b`: kept).  `Model/Pull2.lean` hands
`dec` the plan `constNum "1"` and the node `a[2]` both times; no function of these two is the
engine's verdict.  To cover this plan the filter machine would have to pass the input machine's
`position()` to `dec`. -/
theorem decOK'_unsat_repeated_candidate (dec : Plan → Ref → Bool) :
    ¬ qU.DecOK' (F := Int) d0 {} dec (.node 0) := by
  rintro ⟨_, h⟩
  have hq : qC.plan = inpC := rfl
  rw [hq] at h
  have h2 := (h _ (inpC_sel _) ⟨.node 2, 1, 0⟩ (by simp)).2
  have h4 := (h _ (inpC_sel _) ⟨.node 4, 2, 0⟩ (by simp)).2
  have s2 : sel (F := Int) d0 {} (PQ2.following (axE "following-sibling" "") true (.context 0) none 0).plan (.node 2)
      = .ok [⟨.node 4, 1, 0⟩, ⟨.node 6, 2, 0⟩] := by simp only [PQ2.plan]; sel_decide
  have s4 : sel (F := Int) d0 {} (PQ2.following (axE "following-sibling" "") true (.context 0) none 0).plan (.node 4)
      = .ok [⟨.node 6, 1, 0⟩] := by simp only [PQ2.plan]; sel_decide
  have k2 := h2 _ s2 ⟨.node 6, 2, 0⟩ (by simp)
  have k4 := h4 _ s4 ⟨.node 6, 1, 0⟩ (by simp)
  have e2 : keepM (F := Int) d0 {} (.constNum "1") ⟨.node 6, 2, 0⟩ = .ok false := by keep_decide
  have e4 : keepM (F := Int) d0 {} (.constNum "1") ⟨.node 6, 1, 0⟩ = .ok true := by keep_decide
  rw [e2] at k2
  rw [e4] at k4
  injection k2 with k2
  injection k4 with k4
  rw [← k2] at k4
  cases k4

end XPathV.Theorems.NonVacuity.Pull2Gen

