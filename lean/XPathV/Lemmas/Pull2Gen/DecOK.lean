import XPathV.Lemmas.Pull2.SelFull
/-!
# `DecOK'`: the decision function is the engine's *verdict*, whatever kind of value the predicate has

`PQ2.DecOK` (Pull2/SelFull.lean) asks every filter predicate of a machine to evaluate to the
*boolean* `dec pred r`.  That excludes existence tests (`a[b]`: the predicate plan is a path plan,
its value a node list), string-valued and number-valued predicates.

`PQ2.DecOK'` asks only that `dec pred r` is the keep/drop verdict the sequence model `sel`
(`Model/Engine.lean`, `.filter` arm) reaches for the candidate — `keepM`, literally the body of the
`mapM` in that arm: evaluate the predicate at the candidate, then `predDecision` (boolean: itself,
string: non-empty, node list: non-empty, number: equals the candidate's position; the two remaining
value kinds `int`/`nilv` fall back on `sel pred` being non-empty).  The requirement ranges over the
candidates the filter is actually offered: the items of `sel` of the filter's input for the context
node `c` the machine is run with (and, for a merge, the child's requirement ranges over the roots
the input supplies).
-/
namespace XPathV.Model
open XPathV XPathV.PredSem

section
variable {F : Type} [NumAlg F] (d : Doc) (cfg : ECfg) (dec : Plan → Ref → Bool)

/-- the verdict of the `.filter` arm of `sel` for one candidate item: the body of its `mapM` -/
def keepM (pred : Plan) (it : Item) : Except EErr Bool := do
  let v ← evalP (F := F) d cfg pred it.r
  match v with
  | .bool _ | .str _ | .num _ | .nodes _ => pure (predDecision v it false)
  | _ => do
    let s ← sel (F := F) d cfg pred it.r
    pure (predDecision v it (!s.isEmpty))

/-- the `.filter` arm of `sel`, with `keepM` named -/
theorem sel_filter_keepM (inp pred : Plan) (c : Ref) :
    sel (F := F) d cfg (.filter inp pred) c = (do
      let ins ← sel (F := F) d cfg inp c
      let flags ← ins.mapM (keepM (F := F) d cfg pred)
      .ok (filterPositions ((ins.zip flags).filterMap (fun (it, b) => if b then some it else none)))) := by
  simp only [sel]; rfl

/-! ### the verdict by value kind -/

theorem keepM_bool {pred : Plan} {it : Item} {b : Bool}
    (h : evalP (F := F) d cfg pred it.r = .ok (.bool b)) : keepM (F := F) d cfg pred it = .ok b := by
  simp only [keepM, h, bind, Except.bind, pure, Except.pure, predDecision]

theorem keepM_str {pred : Plan} {it : Item} {s : String}
    (h : evalP (F := F) d cfg pred it.r = .ok (.str s)) : keepM (F := F) d cfg pred it = .ok (s != "") := by
  simp only [keepM, h, bind, Except.bind, pure, Except.pure, predDecision]

theorem keepM_nodes {pred : Plan} {it : Item} {l : List Ref}
    (h : evalP (F := F) d cfg pred it.r = .ok (.nodes l)) : keepM (F := F) d cfg pred it = .ok (!l.isEmpty) := by
  simp only [keepM, h, bind, Except.bind, pure, Except.pure, predDecision]

/-- a number-valued predicate keeps the candidate iff the number is the candidate's position *in the
filter's input sequence* (`it.pos`) -/
theorem keepM_num {pred : Plan} {it : Item} {x : F}
    (h : evalP (F := F) d cfg pred it.r = .ok (.num x)) :
    keepM (F := F) d cfg pred it = .ok (NumAlg.toInt x == some (it.pos : Int)) := by
  simp only [keepM, h, bind, Except.bind, pure, Except.pure, predDecision]

/-- boolean, string, node list: the verdict is `truthM` of the value and does not look at the position -/
theorem keepM_bsn {pred : Plan} {it : Item} {v : MVal F}
    (h : evalP (F := F) d cfg pred it.r = .ok v) (hv : IsBSN v) : keepM (F := F) d cfg pred it = .ok (truthM v) := by
  cases v with
  | bool b => exact keepM_bool d cfg h
  | str s => exact keepM_str d cfg h
  | nodes l => exact keepM_nodes d cfg h
  | num x => exact absurd hv (by simp [IsBSN])
  | int i => exact absurd hv (by simp [IsBSN])
  | nilv => exact absurd hv (by simp [IsBSN])

/-- the verdict depends on the item only through its node and its position -/
theorem keepM_congr (pred : Plan) {it it' : Item} (hr : it.r = it'.r) (hp : it.pos = it'.pos) :
    keepM (F := F) d cfg pred it = keepM (F := F) d cfg pred it' := by
  simp only [keepM, hr, predDecision, hp]

/-! ### `DecOK'` -/

/-- `dec` is the engine's verdict for every filter in `q`, on every candidate that filter is offered
when the machine is run with context node `c` -/
def PQ2.DecOK' : PQ2 → Ref → Prop
  | .context _, _ => True
  | .absolute _, _ => True
  | .child _ inp _ _, c | .cachedChild _ inp _ _, c | .attr _ inp _, c | .self _ inp, c | .parent _ inp, c
  | .descendant _ _ inp _ _ _, c | .ancestor _ _ inp _ _, c | .following _ _ inp _ _, c
  | .preceding _ _ inp _ _, c | .group inp _, c | .descOverDesc _ _ inp _ _ _, c => PQ2.DecOK' inp c
  | .filter inp pred _ _, c =>
    PQ2.DecOK' inp c ∧
      ∀ l, sel (F := F) d cfg inp.plan c = .ok l → ∀ it ∈ l, keepM (F := F) d cfg pred it = .ok (dec pred it.r)
  | .union l r _, c => PQ2.DecOK' l c ∧ PQ2.DecOK' r c
  | .merge inp ch _, c =>
    PQ2.DecOK' inp c ∧ ∀ l, sel (F := F) d cfg inp.plan c = .ok l → ∀ it ∈ l, PQ2.DecOK' ch it.r

/-- `DecOK'`, read off the plan: it is a property of the configuration, not of the iteration state -/
def DecOKP' : Plan → Ref → Prop
  | .child _ i, c | .cachedChild _ i, c | .attr _ i, c | .self _ i, c | .parent _ i, c | .descendant _ _ i, c
  | .ancestor _ _ i, c | .following _ _ i, c | .preceding _ _ i, c | .group i, c | .descOverDesc _ _ i, c =>
    DecOKP' i c
  | .filter i pred, c =>
    DecOKP' i c ∧ ∀ l, sel (F := F) d cfg i c = .ok l → ∀ it ∈ l, keepM (F := F) d cfg pred it = .ok (dec pred it.r)
  | .union l r, c => DecOKP' l c ∧ DecOKP' r c
  | .merge i ch, c => DecOKP' i c ∧ ∀ l, sel (F := F) d cfg i c = .ok l → ∀ it ∈ l, DecOKP' ch it.r
  | _, _ => True

theorem decOK'_iff_plan (q : PQ2) : ∀ c, q.DecOK' (F := F) d cfg dec c ↔ DecOKP' (F := F) d cfg dec q.plan c := by
  induction q <;> intro c <;> simp_all [PQ2.DecOK', PQ2.plan, DecOKP']

/-- two states of the same configuration satisfy `DecOK'` together -/
theorem decOK'_plan_congr {q q' : PQ2} (h : q'.plan = q.plan) (c : Ref) :
    q'.DecOK' (F := F) d cfg dec c ↔ q.DecOK' (F := F) d cfg dec c := by
  rw [decOK'_iff_plan, decOK'_iff_plan, h]

/-- **`DecOK` is an instance**: a boolean-valued predicate whose value is `dec pred r`
everywhere satisfies the verdict requirement for every context node -/
theorem PQ2.DecOK.toGen : ∀ (q : PQ2), q.DecOK (F := F) d cfg dec → ∀ c, q.DecOK' (F := F) d cfg dec c := by
  intro q
  induction q with
  | context n => intro _ c; trivial
  | absolute n => intro _ c; trivial
  | child a inp it pos ih | cachedChild a inp it pos ih | attr a inp it ih | self a inp ih | parent a inp ih
  | descendant a s inp it pos level ih | ancestor a s inp it tb ih | following a sib inp it pos ih
  | preceding a sib inp it pos ih | descOverDesc a ms inp level pos cn ih | group inp pos ih =>
    intro h c; exact ih h c
  | union l r it ihl ihr => intro h c; exact ⟨ihl h.1 c, ihr h.2 c⟩
  | merge inp ch it ih ihc => intro h c; exact ⟨ih h.1 c, fun _ _ x _ => ihc h.2 x.r⟩
  | filter inp pred pos pm ih =>
    intro h c
    exact ⟨ih h.1 c, fun _ _ x _ => keepM_bool d cfg (h.2 x.r)⟩

/-! ### sufficient conditions for one filter -/

/-- position-independent value kinds (boolean, string, node list — existence tests): it is enough
that `dec` is the truth of the predicate's value at every candidate -/
theorem decOK'_filter_bsn (inp : PQ2) (pred : Plan) (pos : Nat) (pm : Option (List (Nat × Nat))) (c : Ref)
    (hi : inp.DecOK' (F := F) d cfg dec c)
    (hv : ∀ l, sel (F := F) d cfg inp.plan c = .ok l → ∀ it ∈ l,
      ∃ v, evalP (F := F) d cfg pred it.r = .ok v ∧ IsBSN v ∧ truthM v = dec pred it.r) :
    (PQ2.filter inp pred pos pm).DecOK' (F := F) d cfg dec c := by
  refine ⟨hi, fun l hl it hit => ?_⟩
  obtain ⟨v, h1, h2, h3⟩ := hv l hl it hit
  rw [keepM_bsn d cfg h1 h2, h3]

/-- number-valued predicates: `dec` has to answer "the number is this candidate's position in the
input sequence" -/
theorem decOK'_filter_num (inp : PQ2) (pred : Plan) (pos : Nat) (pm : Option (List (Nat × Nat))) (c : Ref)
    (hi : inp.DecOK' (F := F) d cfg dec c)
    (hv : ∀ l, sel (F := F) d cfg inp.plan c = .ok l → ∀ it ∈ l,
      ∃ x, evalP (F := F) d cfg pred it.r = .ok (.num x) ∧
        (NumAlg.toInt x == some (it.pos : Int)) = dec pred it.r) :
    (PQ2.filter inp pred pos pm).DecOK' (F := F) d cfg dec c := by
  refine ⟨hi, fun l hl it hit => ?_⟩
  obtain ⟨x, h1, h2⟩ := hv l hl it hit
  rw [keepM_num d cfg h1, h2]

/-- **the limit of `dec : Plan → Ref → Bool`**: the machine hands `dec` the predicate plan and the
candidate node, not the candidate's position.  If `DecOK'` holds for a filter, the engine's verdict
is the same for any two candidates of its input sequence that are the same node. -/
theorem decOK'_verdict_by_node (inp : PQ2) (pred : Plan) (pos : Nat) (pm : Option (List (Nat × Nat))) (c : Ref)
    (h : (PQ2.filter inp pred pos pm).DecOK' (F := F) d cfg dec c) (l : List Item)
    (hl : sel (F := F) d cfg inp.plan c = .ok l) (it it' : Item) (hit : it ∈ l) (hit' : it' ∈ l)
    (hr : it.r = it'.r) : keepM (F := F) d cfg pred it = keepM (F := F) d cfg pred it' := by
  rw [h.2 l hl it hit, h.2 l hl it' hit', hr]

end

end XPathV.Model
