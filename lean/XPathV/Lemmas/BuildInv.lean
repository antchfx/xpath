import XPathV.Model.Engine
/-!
# What a successful `build` returns, constructor by constructor

One inversion per constructor of the parse tree: from `build … e fl st = .ok o` the sub-builds that
happened — with the builder states they started from — and the plan, properties and state that were
assembled.  The lemmas of the semantic developments about particular shapes (`count(P)`, `not(b)`,
`P op 'lit'`, a child step under a filter, …) are instances.  `axisPlan` is analysed once: `builtStep` is the
query it puts over a built input, `builtStep_facts` what the developments use of that query.
-/
namespace XPathV.Model
open XPathV

protected theorem bind_ok {ε α β : Type} {x : Except ε α} {f : α → Except ε β} {r : β}
    (h : x >>= f = .ok r) : ∃ a, x = .ok a ∧ f a = .ok r := by
  cases x with
  | error e => cases h
  | ok a => exact ⟨a, rfl, h⟩

theorem ite_error_ok {α : Type} {c : Prop} [Decidable c] {e : BErr} {x : Except BErr α} {o : α}
    (h : (if c then .error e else x) = .ok o) : x = .ok o := by
  split at h
  · cases h
  · exact h

protected theorem enter_ok {lim : Nat} {st : BState} {k : BState → Except BErr BOut} {o : BOut}
    (h : build.enter lim st k = .ok o) : k { st with depth := st.depth + 1 } = .ok o :=
  ite_error_ok h

section
variable {rx : RegexOk} {lim : Nat} {sn sd : Bool} {fl : Flags} {st : BState} {o : BOut}

/-! ## leaves -/

theorem build_none_error : build rx lim sn sd .none fl st = .error .nilDeref := by rw [build]

/-- a variable reference is never built (within the depth limit the error is this one) -/
theorem build_var_error {p n : String} (hlim : st.depth + 1 ≤ lim) :
    build rx lim sn sd (.var p n) fl st = .error .undeclaredVariable := by
  rw [build, build.enter, if_neg (Nat.not_lt.2 hlim)]

theorem build_root_ok {s : String} (h : build rx lim sn sd (.root s) fl st = .ok o) :
    o = ⟨.absolute, {}, build.leave { st with depth := st.depth + 1 }⟩ := by
  rw [build] at h
  cases Model.enter_ok h; rfl

theorem build_str_ok {s : String} (h : build rx lim sn sd (.str s) fl st = .ok o) :
    o = ⟨.constStr s, {}, build.leave { st with depth := st.depth + 1 }⟩ := by
  rw [build] at h
  cases Model.enter_ok h; rfl

theorem build_num_ok {l : String} (h : build rx lim sn sd (.num l) fl st = .ok o) :
    o = ⟨.constNum l, {}, build.leave { st with depth := st.depth + 1 }⟩ := by
  rw [build] at h
  cases Model.enter_ok h; rfl

/-! ## `(P)` -/

theorem build_group_ok {x : Ast} (h : build rx lim sn sd (.group x) fl st = .ok o) :
    ∃ xo, build rx lim sn sd x {} { st with depth := st.depth + 1 } = .ok xo ∧
      o.q = .group xo.q ∧ o.props = xo.props ∧
      o.st = build.leave { xo.st with firstInput := some (xo.st.firstInput.getD (.group xo.q)) } := by
  rw [build] at h
  obtain ⟨xo, hxo, h⟩ := Model.bind_ok (Model.enter_ok h)
  cases h
  refine ⟨xo, hxo, rfl, rfl, ?_⟩
  cases xo.st.firstInput <;> rfl

/-! ## operators -/

/-- the plan and properties `processOperator` makes of the operands' plans and joined properties -/
def operOut (op : String) (lq rq : Plan) (props : Props) : Plan × Props :=
  if op == "+" || op == "-" || op == "*" || op == "div" || op == "mod" then (.numeric op lq rq, props)
  else if op == "=" || op == ">" || op == ">=" || op == "<" || op == "<=" || op == "!=" then (.logical op lq rq, props)
  else if op == "or" then (.boolean true lq rq, props)
  else if op == "and" then (.boolean false lq rq, props)
  else if op == "|" then (.union lq rq, { props with nonFlat := true })
  else (.nil, props)

/-- **every operator**: both operands are built with empty flags, the right one from the state the
left one leaves -/
theorem build_oper_ok {op : String} {l r : Ast} (h : build rx lim sn sd (.oper op l r) fl st = .ok o) :
    ∃ lo ro, build rx lim sn sd l {} { st with depth := st.depth + 1 } = .ok lo ∧
      build rx lim sn sd r {} lo.st = .ok ro ∧
      o = ⟨(operOut op lo.q ro.q (lo.props.or ro.props)).1, (operOut op lo.q ro.q (lo.props.or ro.props)).2,
        build.leave ro.st⟩ := by
  rw [build] at h
  obtain ⟨lo, hlo, h⟩ := Model.bind_ok (Model.enter_ok h)
  obtain ⟨ro, hro, h⟩ := Model.bind_ok h
  cases h
  exact ⟨lo, ro, hlo, hro, rfl⟩

theorem operOut_cmp {op : String} (hop : op ∈ ["=", "!=", "<", "<=", ">", ">="]) (lq rq : Plan) (p : Props) :
    operOut op lq rq p = (.logical op lq rq, p) := by
  simp only [List.mem_cons, List.not_mem_nil, or_false] at hop
  rcases hop with rfl | rfl | rfl | rfl | rfl | rfl <;> rfl

theorem operOut_arith {op : String} (hop : op ∈ ["+", "-", "*", "div", "mod"]) (lq rq : Plan) (p : Props) :
    operOut op lq rq p = (.numeric op lq rq, p) := by
  simp only [List.mem_cons, List.not_mem_nil, or_false] at hop
  rcases hop with rfl | rfl | rfl | rfl | rfl <;> rfl

theorem operOut_and (lq rq : Plan) (p : Props) : operOut "and" lq rq p = (.boolean false lq rq, p) := rfl
theorem operOut_or (lq rq : Plan) (p : Props) : operOut "or" lq rq p = (.boolean true lq rq, p) := rfl
theorem operOut_union (lq rq : Plan) (p : Props) :
    operOut "|" lq rq p = (.union lq rq, { p with nonFlat := true }) := rfl

/-! ## function calls -/

/-- the zero-argument calls for which `processFunction` synthesises a `self::node()` argument -/
def synthSelf (name : String) (n : Nat) : Bool :=
  (name == "normalize-space" || name == "string" || name == "number") && n == 0

/-- the plan `processFunction` makes of a call with `n` arguments, given the outcome `ao` of building
the arguments it reads -/
def callPlan (name : String) (n : Nat) (ao : BOut) : Plan :=
  let argsQ := if synthSelf name n then Plan.pcons (.self selfNodeAxis .context) .pnil else ao.q
  if name == "reverse" then Plan.transform name (argsQ.argList.getD 0 .nil)
  else Plan.func name (if name == "last" || name == "position" then ao.st.positionInput else .nil) argsQ

/-- its properties -/
def callProps (name : String) (n : Nat) (ao : BOut) : Props :=
  let props0 : Props := if fnUsed name n == 0 then {} else ao.props
  if name == "last" then { props0 with hasLast := true }
  else if name == "position" then { props0 with hasPosition := true } else props0

/-- the builder state `processFunction` leaves behind -/
def callState (name : String) (n : Nat) (ao : BOut) : BState :=
  build.leave (if synthSelf name n then { ao.st with firstInput := some (.self selfNodeAxis .context) } else ao.st)

/-- **every call**: the arity is known and respected, the arguments the function reads are built as
a chain, and (whatever the `matches` precheck did) the result is `callPlan`/`callProps`/`callState` -/
theorem build_call_ok {name pfx : String} {args : Ast}
    (h : build rx lim sn sd (.call name pfx args) fl st = .ok o) :
    ∃ mn mx idx ao, fnArity name = some (mn, mx, idx) ∧ mn ≤ args.argList.length ∧
      build rx lim sn sd args { take := fnUsed name args.argList.length }
        { st with depth := st.depth + 1 } = .ok ao ∧
      o.q = callPlan name args.argList.length ao ∧ o.st = callState name args.argList.length ao ∧
      o.props = callProps name args.argList.length ao := by
  simp -zeta only [build] at h
  replace h := Model.enter_ok h
  extract_lets n at h
  cases harity : fnArity name with
  | none => rw [harity] at h; cases h
  | some x =>
    obtain ⟨mn, mx, idx⟩ := x
    rw [harity] at h
    dsimp -zeta only at h
    by_cases hmn : n < mn
    · rw [if_pos hmn] at h; cases h
    rw [if_neg hmn] at h
    obtain ⟨ao, hao, h⟩ := Model.bind_ok (ite_error_ok h)
    refine ⟨mn, mx, idx, ao, rfl, Nat.le_of_not_lt hmn, hao, ?_⟩
    -- what is left is the `matches` precheck, every surviving branch of which ends in the join point `jp`
    extract_lets argsQ props0 fi props q src jp at h
    have hjp : ∀ u, jp u = .ok o → o.q = callPlan name n ao ∧ o.st = callState name n ao ∧
        o.props = callProps name n ao := fun u hu => by
      cases ite_error_ok hu; exact ⟨rfl, rfl, rfl⟩
    clear_value jp
    repeat' split at h
    all_goals first | cases h | exact hjp _ h

/-- an ordinary function: its plan is `func` over the argument chain -/
theorem callPlan_func {name : String} {n : Nat} (ao : BOut) (hr : name ≠ "reverse") (hl : name ≠ "last")
    (hp : name ≠ "position") (hs : synthSelf name n = false) : callPlan name n ao = .func name .nil ao.q := by
  simp only [callPlan, hs, beq_eq_false_iff_ne.2 hr, beq_eq_false_iff_ne.2 hl, beq_eq_false_iff_ne.2 hp,
    Bool.false_eq_true, ↓reduceIte, Bool.or_self]

theorem callProps_plain {name : String} {n : Nat} (ao : BOut) (hl : name ≠ "last") (hp : name ≠ "position") :
    callProps name n ao = if fnUsed name n == 0 then {} else ao.props := by
  simp only [callProps, beq_eq_false_iff_ne.2 hl, beq_eq_false_iff_ne.2 hp, Bool.false_eq_true, ↓reduceIte]

theorem callState_plain {name : String} {n : Nat} (ao : BOut) (hs : synthSelf name n = false) :
    callState name n ao = build.leave ao.st := by
  simp only [callState, hs, Bool.false_eq_true, ↓reduceIte]

theorem synthSelf_succ (name : String) (n : Nat) : synthSelf name (n + 1) = false := by
  simp [synthSelf]

/-! ### argument chains -/

theorem build_anil_ok (h : build rx lim sn sd .anil fl st = .ok o) : o = ⟨.pnil, {}, st⟩ := by
  rw [build] at h
  cases h; rfl

theorem build_acons_ok {a t : Ast} {k : Nat} {ao : BOut}
    (h : build rx lim sn sd (.acons a t) { take := k + 1 } st = .ok ao) :
    ∃ ho to, build rx lim sn sd a {} st = .ok ho ∧ build rx lim sn sd t { take := k } ho.st = .ok to ∧
      ao = ⟨.pcons ho.q to.q, (if to.q == .pnil then ho.props else to.props), to.st⟩ := by
  rw [build] at h
  have hk : ¬ ((({ take := k + 1 } : Flags).take == 0) = true) := by simp
  rw [if_neg hk] at h
  obtain ⟨ho, hho, h⟩ := Model.bind_ok h
  obtain ⟨to, hto, h⟩ := Model.bind_ok h
  cases h
  exact ⟨ho, to, hho, hto, rfl⟩

/-- a chain of one argument, read -/
theorem build_args1_ok {a : Ast} {k : Nat} {ao : BOut}
    (h : build rx lim sn sd (.acons a .anil) { take := k + 1 } st = .ok ao) :
    ∃ ho, build rx lim sn sd a {} st = .ok ho ∧ ao = ⟨.pcons ho.q .pnil, ho.props, ho.st⟩ := by
  obtain ⟨ho, to, hho, hto, rfl⟩ := build_acons_ok h
  cases build_anil_ok hto
  exact ⟨ho, hho, rfl⟩

/-- a chain of two arguments, both read: the properties are those of the *last* one -/
theorem build_args2_ok {a b : Ast} {k : Nat} {ao : BOut}
    (h : build rx lim sn sd (.acons a (.acons b .anil)) { take := k + 2 } st = .ok ao) :
    ∃ ho ho2, build rx lim sn sd a {} st = .ok ho ∧ build rx lim sn sd b {} ho.st = .ok ho2 ∧
      ao = ⟨.pcons ho.q (.pcons ho2.q .pnil), ho2.props, ho2.st⟩ := by
  obtain ⟨ho, to, hho, hto, rfl⟩ := build_acons_ok h
  obtain ⟨ho2, hho2, rfl⟩ := build_args1_ok hto
  exact ⟨ho, ho2, hho, hho2, rfl⟩

/-! ### the usual arities -/

/-- a call without arguments to a function that synthesises none -/
theorem build_call0_ok {name pfx : String} (hr : name ≠ "reverse") (hs : synthSelf name 0 = false)
    (h : build rx lim sn sd (.call name pfx .anil) fl st = .ok o) :
    o.q = .func name (if name == "last" || name == "position" then st.positionInput else .nil) .pnil ∧
      o.st = st ∧
      o.props = (if name == "last" then { hasLast := true } else if name == "position" then { hasPosition := true }
        else {}) := by
  obtain ⟨_, _, _, ao, _, _, hao, hq, hst, hpr⟩ := build_call_ok h
  cases build_anil_ok hao
  refine ⟨?_, ?_, ?_⟩
  · rw [hq]
    simp only [callPlan, Ast.argList, List.length_nil, hs, beq_eq_false_iff_ne.2 hr, Bool.false_eq_true,
      ↓reduceIte]
    rfl
  · rw [hst]
    simp only [callState, Ast.argList, List.length_nil, hs, Bool.false_eq_true, ↓reduceIte, build.leave]
    rfl
  · rw [hpr]
    simp only [callProps, ite_self]

/-- … that is not `last`/`position` either -/
theorem build_call0_plain {name pfx : String} (hr : name ≠ "reverse") (hl : name ≠ "last")
    (hp : name ≠ "position") (hs : synthSelf name 0 = false)
    (h : build rx lim sn sd (.call name pfx .anil) fl st = .ok o) :
    o.q = .func name .nil .pnil ∧ o.st = st ∧ o.props = {} := by
  obtain ⟨hq, hst, hpr⟩ := build_call0_ok hr hs h
  simp only [beq_eq_false_iff_ne.2 hl, beq_eq_false_iff_ne.2 hp, Bool.or_self, Bool.false_eq_true,
    ↓reduceIte] at hq hpr
  exact ⟨hq, hst, hpr⟩

/-- a one-argument call to an ordinary function that reads its argument -/
theorem build_call1_ok {name pfx : String} {a : Ast} (hU : fnUsed name 1 = 1) (hr : name ≠ "reverse")
    (hl : name ≠ "last") (hp : name ≠ "position")
    (h : build rx lim sn sd (.call name pfx (.acons a .anil)) fl st = .ok o) :
    ∃ ho, build rx lim sn sd a {} { st with depth := st.depth + 1 } = .ok ho ∧
      o.q = .func name .nil (.pcons ho.q .pnil) ∧ o.props = ho.props ∧ o.st = build.leave ho.st := by
  obtain ⟨_, _, _, ao, _, _, hao, hq, hst, hpr⟩ := build_call_ok h
  simp only [Ast.argList, List.length_cons, List.length_nil, Nat.zero_add, hU] at hao hq hst hpr
  obtain ⟨ho, hho, rfl⟩ := build_args1_ok hao
  rw [callPlan_func _ hr hl hp (synthSelf_succ name 0)] at hq
  rw [callProps_plain _ hl hp, hU] at hpr
  rw [callState_plain _ (synthSelf_succ name 0)] at hst
  exact ⟨ho, hho, hq, hpr, hst⟩

/-- a two-argument call to an ordinary function that reads both arguments -/
theorem build_call2_ok {name pfx : String} {a b : Ast} (hU : fnUsed name 2 = 2) (hr : name ≠ "reverse")
    (hl : name ≠ "last") (hp : name ≠ "position")
    (h : build rx lim sn sd (.call name pfx (.acons a (.acons b .anil))) fl st = .ok o) :
    ∃ ho ho2, build rx lim sn sd a {} { st with depth := st.depth + 1 } = .ok ho ∧
      build rx lim sn sd b {} ho.st = .ok ho2 ∧
      o.q = .func name .nil (.pcons ho.q (.pcons ho2.q .pnil)) ∧ o.props = ho2.props ∧
      o.st = build.leave ho2.st := by
  obtain ⟨_, _, _, ao, _, _, hao, hq, hst, hpr⟩ := build_call_ok h
  simp only [Ast.argList, List.length_cons, List.length_nil, Nat.zero_add, hU] at hao hq hst hpr
  obtain ⟨ho, ho2, hho, hho2, rfl⟩ := build_args2_ok hao
  rw [callPlan_func _ hr hl hp (synthSelf_succ name 1)] at hq
  rw [callProps_plain _ hl hp, hU] at hpr
  rw [callState_plain _ (synthSelf_succ name 1)] at hst
  exact ⟨ho, ho2, hho, hho2, hq, hpr, hst⟩

/-! ## a step -/

theorem finAxis_ok {q : Plan} {props : Props} (h : build.finAxis q props st = .ok o) :
    o = ⟨q, props, { st with depth := st.depth - 1, firstInput := if q == .nil then none else some q }⟩ := by
  unfold build.finAxis at h
  cases h
  rfl

/-- **a step, for every input**: `build` on `.axis a inp` ends in `finAxis` — over the descendant
query of the `//name` shortcut (outside a filter, `child` over a plain `descendant-or-self::node()`
step; the grand-input is built with `smartDesc`), or — when the input is not such a step — over
`axisPlan` of the built input.  Inputs are built from the entered state with `firstInput` cleared -/
theorem build_axis_ok {a : AxisInfo} {inp : Ast} (h : build rx lim sn sd (.axis a inp) fl st = .ok o) :
    (∃ b grand gq gprops st',
        inp = .axis b grand ∧ fl.filter = false ∧ a.axis = "child" ∧ isPlainDos sn b = true ∧
        ((grand = .none ∧ gq = .context ∧ gprops = {} ∧ st' = ⟨st.depth + 1, none, st.predInput⟩) ∨
          (grand ≠ .none ∧ ∃ go, build rx lim sn sd grand { smartDesc := true }
              ⟨st.depth + 1, none, st.predInput⟩ = .ok go ∧
            gq = go.q ∧ gprops = go.props ∧ st' = go.st)) ∧
        build.finAxis (.descendant a false gq) { gprops with nonFlat := true } st' = .ok o) ∨
    (∃ qin pin q props st',
        ((inp = .none ∧ qin = .context ∧ pin = {} ∧ st' = ⟨st.depth + 1, none, st.predInput⟩) ∨
          (inp ≠ .none ∧ ∃ io, build rx lim sn sd inp (build.inFlagsOf a fl)
              ⟨st.depth + 1, none, st.predInput⟩ = .ok io ∧
            qin = io.q ∧ pin = io.props ∧ st' = io.st ∧
            ∀ b g, inp = .axis b g → (!fl.filter && a.axis == "child" && isPlainDos sn b) = false)) ∧
        axisPlan a fl pin qin = .ok (q, props) ∧ build.finAxis q props st' = .ok o) := by
  -- the arm over `axisPlan` of a built input
  have general : inp ≠ .none →
      (∀ b g, inp = .axis b g → (!fl.filter && a.axis == "child" && isPlainDos sn b) = false) →
      (do let o ← build rx lim sn sd inp (build.inFlagsOf a fl) ⟨st.depth + 1, none, st.predInput⟩
          let (q, props) ← axisPlan a fl o.props o.q
          build.finAxis q props o.st) = Except.ok o →
      ∃ qin pin q props st',
        ((inp = .none ∧ qin = .context ∧ pin = {} ∧ st' = ⟨st.depth + 1, none, st.predInput⟩) ∨
          (inp ≠ .none ∧ ∃ io, build rx lim sn sd inp (build.inFlagsOf a fl)
              ⟨st.depth + 1, none, st.predInput⟩ = .ok io ∧
            qin = io.q ∧ pin = io.props ∧ st' = io.st ∧
            ∀ b g, inp = .axis b g → (!fl.filter && a.axis == "child" && isPlainDos sn b) = false)) ∧
        axisPlan a fl pin qin = .ok (q, props) ∧ build.finAxis q props st' = .ok o := by
    intro hn hc h
    obtain ⟨io, hio, h⟩ := Model.bind_ok h
    obtain ⟨⟨q, props⟩, hq, hfin⟩ := Model.bind_ok h
    exact ⟨io.q, io.props, q, props, _, Or.inr ⟨hn, io, hio, rfl, rfl, rfl, hc⟩, hq, hfin⟩
  cases inp with
  | none =>
    rw [build] at h
    obtain ⟨⟨q, props⟩, hq, hfin⟩ := Model.bind_ok (Model.enter_ok h)
    exact Or.inr ⟨_, _, q, props, _, Or.inl ⟨rfl, rfl, rfl, rfl⟩, hq, hfin⟩
  | axis b grand =>
    rw [build] at h
    replace h := Model.enter_ok h
    simp only [] at h
    split at h
    · rename_i hcond
      simp only [Bool.and_eq_true, beq_iff_eq, Bool.not_eq_true'] at hcond
      obtain ⟨⟨hflt, hax⟩, hb⟩ := hcond
      refine Or.inl ⟨b, grand, ?_⟩
      split at h
      · simp only [pure, Except.pure, bind, Except.bind] at h
        exact ⟨_, _, _, rfl, hflt, hax, hb, Or.inl ⟨rfl, rfl, rfl, rfl⟩, h⟩
      · rename_i hn
        obtain ⟨go, hgo, h⟩ := Model.bind_ok h
        simp only [pure, Except.pure, bind, Except.bind] at h
        exact ⟨_, _, _, rfl, hflt, hax, hb, Or.inr ⟨fun e => hn e, go, hgo, rfl, rfl, rfl⟩, h⟩
    · rename_i hcond
      exact Or.inr (general (by intro e; cases e)
        (fun b' g' e => by cases e; exact Bool.eq_false_iff.2 hcond) h)
  | _ =>
    rw [build] at h
    · exact Or.inr (general (by intro e; cases e) (by intro b g e; cases e) (Model.enter_ok h))
    · intro e; cases e
    · intro b g e; cases e

/-! ## `processFilter` -/

/-- the predicate plan `processFilter` installs: when the predicate uses `last()` and its plan is a
function over a filter, that filter alone under `lastFunc`; the predicate's own plan otherwise -/
def filterCond (co : BOut) : Plan :=
  if co.props.hasLast = true then
    match co.q with
    | .func _ (.filter fi fp) _ => .lastFunc (.filter fi fp)
    | q => q
  else co.q

theorem filterCond_of_hasLast {co : BOut} (h : co.props.hasLast = false) : filterCond co = co.q := by
  simp only [filterCond, h, Bool.false_eq_true, ↓reduceIte]

theorem filterCond_of_not_func {co : BOut} (h : ∀ n fi fp ar, co.q ≠ .func n (.filter fi fp) ar) :
    filterCond co = co.q := by
  unfold filterCond
  split
  · split
    · rename_i e; exact absurd e (h _ _ _ _)
    · rfl
  · rfl

theorem filterCond_cases (co : BOut) :
    filterCond co = co.q ∨ ∃ n fi fp ar, co.q = .func n (.filter fi fp) ar ∧ filterCond co = .lastFunc (.filter fi fp) := by
  unfold filterCond
  split
  · split
    · exact .inr ⟨_, _, _, _, ‹_›, rfl⟩
    · exact .inl rfl
  · exact .inl rfl

/-- the last step of `processFilter`, with the properties and the predicate plan as variables: every
branch returns the same record, around the plain filter or around the merge rewrite -/
theorem filter_done_inv {first mg isAxis : Bool} {props : Props} {ioq condQ : Plan} {dep : Nat}
    {pin : Option Plan} {o : BOut}
    (h : (if first = true then
            if (mg && props.posFilter) = true then
              if isAxis = true then
                match ioq.inputOf with
                | some .context | none => (.ok ⟨.filter ioq condQ, props,
                    build.leave ⟨dep, some (.filter ioq condQ), pin⟩⟩ : Except BErr BOut)
                | some parent => .ok ⟨.merge parent (.filter (ioq.withInput .context) condQ), props,
                    build.leave ⟨dep, some (.merge parent (.filter (ioq.withInput .context) condQ)), pin⟩⟩
              else .ok ⟨.filter ioq condQ, props, build.leave ⟨dep, some (.filter ioq condQ), pin⟩⟩
            else .ok ⟨.filter ioq condQ, props, build.leave ⟨dep, some (.filter ioq condQ), pin⟩⟩
          else .ok ⟨.filter ioq condQ, props, build.leave ⟨dep, some (.filter ioq condQ), pin⟩⟩) = .ok o) :
    (o.q = .filter ioq condQ ∨ (isAxis = true ∧ ∃ parent, ioq.inputOf = some parent ∧
      o.q = .merge parent (.filter (ioq.withInput .context) condQ))) ∧ o.props = props ∧
      o.st = build.leave ⟨dep, some o.q, pin⟩ := by
  split at h
  · split at h
    · split at h
      · split at h
        · cases h; exact ⟨.inl rfl, rfl, rfl⟩
        · cases h; exact ⟨.inl rfl, rfl, rfl⟩
        · rename_i hax _ parent _ hpar
          cases h; exact ⟨.inr ⟨hax, parent, hpar, rfl⟩, rfl, rfl⟩
      · cases h; exact ⟨.inl rfl, rfl, rfl⟩
    · cases h; exact ⟨.inl rfl, rfl, rfl⟩
  · cases h; exact ⟨.inl rfl, rfl, rfl⟩

/-- the test `processFilter` makes before wrapping the predicate in `lastFunc`: `pc.hasPosition &&
pc.hasLast`, with `pc.hasPosition` forced whenever `hasLast` holds, is just `hasLast` -/
theorem filterCond_cond (cb : Bool) (p : Props) (a b : Plan) :
    (if ((if (cb || p.hasPosition || p.hasLast) = true then { p with hasPosition := true } else p).hasPosition &&
        (if (cb || p.hasPosition || p.hasLast) = true then { p with hasPosition := true } else p).hasLast) = true
      then a else b) = if p.hasLast = true then a else b := by
  obtain ⟨pf, hp, hl, nf⟩ := p
  cases cb <;> cases hp <;> cases hl <;> rfl

/-- the properties of a filter are those of its input but for `posFilter` -/
theorem filterProps_eq (cb b : Bool) (pc p : Props) :
    (if (if (cb || pc.hasPosition || pc.hasLast) = true then { pc with hasPosition := true } else pc).hasPosition = true then
        { (if b = true then p else { p with posFilter := false }) with posFilter := true }
      else if b = true then p else { p with posFilter := false }) =
    { p with posFilter := b && p.posFilter || (cb || pc.hasPosition || pc.hasLast) } := by
  obtain ⟨pf, hp, hl, nf⟩ := pc
  cases cb <;> cases hp <;> cases hl <;> cases b <;> simp

/-- **`processFilter`, for every predicate**: the two sub-builds (the predicate's with the input's
first step as `predInput`), the value type the predicate's plan must have, the resulting plan — the
plain filter, or the merge rewrite over an axis-node input whose plan has an input — the resulting
properties, and the state: the resulting plan is remembered as first input, `predInput` is restored -/
theorem build_filter_ok {inp cond : Ast} (h : build rx lim sn sd (.filter inp cond) fl st = .ok o) :
    ∃ io co vt,
      build rx lim sn sd inp { fl with filter := true, smartDesc := fl.smartDesc && sd }
        { st with depth := st.depth + 1 } = .ok io ∧
      build rx lim sn sd cond fl ⟨io.st.depth, io.st.firstInput, io.st.firstInput⟩ = .ok co ∧
      co.q.valueType = some vt ∧
      (o.q = .filter io.q (filterCond co) ∨
        (inp.isAxis = true ∧ ∃ parent, io.q.inputOf = some parent ∧
          o.q = .merge parent (.filter (io.q.withInput .context) (filterCond co)))) ∧
      o.props = { io.props with posFilter := inp.isFilter && io.props.posFilter ||
        (vt == .any || vt == .number || co.props.hasPosition || co.props.hasLast) } ∧
      o.st = build.leave ⟨co.st.depth, some o.q, io.st.predInput⟩ := by
  rw [build] at h
  obtain ⟨io, hio, h⟩ := Model.bind_ok (Model.enter_ok h)
  obtain ⟨co, hco, h⟩ := Model.bind_ok h
  cases hvt : co.q.valueType with
  | none => simp only [hvt, bind, Except.bind] at h; cases h
  | some vt =>
    refine ⟨io, co, vt, hio, hco, hvt, ?_⟩
    cases hmg : io.q.hasMerge with
    | none => simp only [hvt, hmg, bind, Except.bind, pure, Except.pure] at h; cases h
    | some mg =>
      simp only [hvt, hmg, bind, Except.bind, pure, Except.pure] at h
      obtain ⟨hq, hp, hst⟩ := filter_done_inv h
      rw [filterCond_cond] at hq
      rw [filterProps_eq] at hp
      exact ⟨hq, hp, hst⟩

end

end XPathV.Model

/-! ## `axisPlan`, once

The names the statements below need stand here under the namespaces of the developments that use
them. -/

namespace XPathV.PathSem
open XPathV XPathV.Model

/-- the twelve axis names of the property -/
def axes12 : List String :=
  ["child", "descendant", "descendant-or-self", "parent", "ancestor", "ancestor-or-self",
   "following", "following-sibling", "preceding", "preceding-sibling", "attribute", "self"]

/-- the plain plan of one step (never `descOverDesc`, never `cachedChild`) -/
def stepPlan (a : AxisInfo) (inp : Plan) : Plan :=
  match a.axis with
  | "ancestor" => .ancestor a false inp
  | "ancestor-or-self" => .ancestor a true inp
  | "attribute" => .attr a inp
  | "child" => .child a inp
  | "descendant" => .descendant a false inp
  | "descendant-or-self" => .descendant a true inp
  | "following" => .following a false inp
  | "following-sibling" => .following a true inp
  | "parent" => .parent a inp
  | "preceding" => .preceding a false inp
  | "preceding-sibling" => .preceding a true inp
  | "self" => .self a inp
  | _ => .nil

theorem stepPlan_child {a : AxisInfo} (h : a.axis = "child") (inp : Plan) :
    stepPlan a inp = .child a inp := by simp only [stepPlan, h]

def IsDescAxis (a : AxisInfo) : Prop := a.axis = "descendant" ∨ a.axis = "descendant-or-self"

end XPathV.PathSem

namespace XPathV.PredSem
open XPathV XPathV.Model

/-! ## plans on which `evalP` takes the default arm -/

def PathShape : Plan → Prop
  | .context | .absolute | .ancestor _ _ _ | .attr _ _ | .child _ _ | .cachedChild _ _
  | .descendant _ _ _ | .following _ _ _ | .preceding _ _ _ | .parent _ _ | .self _ _
  | .filter _ _ | .descOverDesc _ _ _ | .merge _ _ => True
  | _ => False

end XPathV.PredSem

namespace XPathV.Model
open XPathV XPathV.PathSem XPathV.PredSem

variable {F : Type} [NumAlg F]

/-- the query `processAxis` puts over a built input `qi` -/
def builtStep (a : AxisInfo) (fl : Flags) (pr : Props) (qi : Plan) : Plan :=
  if a.axis = "child" ∧ pr.nonFlat = true then .cachedChild a qi
  else if (a.axis = "descendant" ∨ a.axis = "descendant-or-self") ∧ fl.smartDesc = true then
    .descOverDesc a (a.axis == "descendant-or-self") qi
  else stepPlan a qi

theorem axisPlan_eq {a : AxisInfo} {fl : Flags} {pr pr' : Props} {qi q : Plan}
    (h : axisPlan a fl pr qi = .ok (q, pr')) :
    a.axis ∈ axes12 ∧ q = builtStep a fl pr qi ∧ pr'.hasPosition = pr.hasPosition ∧ pr'.hasLast = pr.hasLast := by
  -- with the axis name, `nonFlat` and `smartDesc` as variables, each arm of `axisPlan` fixes the name to a
  -- literal, and both sides compute
  obtain ⟨ax, tt, pfx, ln, prop, hasNS, uri⟩ := a
  obtain ⟨pf, hp, hl, nf⟩ := pr
  obtain ⟨sd, fpf, ff, tk⟩ := fl
  unfold axisPlan at h
  dsimp only at h
  split at h <;> cases h
  all_goals
    refine ⟨by dsimp only; decide, ?_, rfl, rfl⟩
    first
      | rfl
      | (cases nf <;> rfl)
      | (cases sd <;> rfl)

/-- the plain step over `qi`: its shape, its input, and that the input can be replaced -/
theorem stepPlan_facts {a : AxisInfo} (ha : a.axis ∈ axes12) (qi : Plan) :
    PathShape (stepPlan a qi) ∧ (stepPlan a qi).inputOf = some qi ∧
      ∀ n, (stepPlan a qi).withInput n = stepPlan a n := by
  obtain ⟨ax, tt, pfx, ln, prop, hasNS, uri⟩ := a
  simp only [axes12, List.mem_cons, List.not_mem_nil, or_false] at ha
  rcases ha with rfl | rfl | rfl | rfl | rfl | rfl | rfl | rfl | rfl | rfl | rfl | rfl <;>
    exact ⟨trivial, rfl, fun _ => rfl⟩

/-- the built step as a plan: a path-shaped query whose input can be read off and replaced; under
`smartDesc` on a descendant axis it is the descendant-over-descendant query -/
theorem builtStep_plan {a : AxisInfo} (ha : a.axis ∈ axes12) (fl : Flags) (pr : Props) (qi : Plan) :
    PathShape (builtStep a fl pr qi) ∧ (builtStep a fl pr qi).inputOf = some qi ∧
    (∀ n, (builtStep a fl pr qi).withInput n = builtStep a fl pr n) ∧
    (IsDescAxis a ∧ fl.smartDesc = true →
      builtStep a fl pr qi = .descOverDesc a (a.axis == "descendant-or-self") qi) := by
  unfold builtStep
  split
  · rename_i h
    refine ⟨trivial, rfl, fun _ => rfl, fun hd => ?_⟩
    rcases hd.1 with h' | h' <;> rw [h.1] at h' <;> exact absurd h' (by decide)
  · split
    · exact ⟨trivial, rfl, fun _ => rfl, fun _ => rfl⟩
    · rename_i h
      exact ⟨(stepPlan_facts ha qi).1, (stepPlan_facts ha qi).2.1, (stepPlan_facts ha qi).2.2,
        fun hd => absurd hd h⟩

/-- what every user of `axisPlan` asks: the input can be read off and replaced; outside
descendant-over-descendant the step selects what the plain `stepPlan` selects -/
theorem builtStep_facts {a : AxisInfo} (ha : a.axis ∈ axes12) (fl : Flags) (pr : Props) (qi : Plan) :
    PathShape (builtStep a fl pr qi) ∧ (builtStep a fl pr qi).inputOf = some qi ∧
    (∀ n, (builtStep a fl pr qi).withInput n = builtStep a fl pr n) ∧
    (¬ (IsDescAxis a ∧ fl.smartDesc = true) → ∀ (n : Plan) (d : Doc) (cfg : ECfg) (c : Ref),
      sel (F := F) d cfg (builtStep a fl pr n) c = sel (F := F) d cfg (stepPlan a n) c) ∧
    (IsDescAxis a ∧ fl.smartDesc = true →
      builtStep a fl pr qi = .descOverDesc a (a.axis == "descendant-or-self") qi) := by
  obtain ⟨h1, h2, h3, h4⟩ := builtStep_plan ha fl pr qi
  refine ⟨h1, h2, h3, fun hn n d cfg c => ?_, h4⟩
  unfold builtStep
  split
  · rename_i h
    -- `cachedChild` and `child` have the same arm in `sel`
    rw [stepPlan_child h.1, sel, sel]
  · rw [if_neg (show ¬ ((a.axis = "descendant" ∨ a.axis = "descendant-or-self") ∧ fl.smartDesc = true) from hn)]

/-- outside the descendant axes the built step is the plain step, or `cachedChild` for `child` -/
theorem builtStep_nondesc {a : AxisInfo} (hn : ¬ IsDescAxis a) (fl : Flags) (pr : Props) (qi : Plan) :
    builtStep a fl pr qi = stepPlan a qi ∨ (a.axis = "child" ∧ builtStep a fl pr qi = .cachedChild a qi) := by
  unfold builtStep
  split
  · rename_i h
    exact .inr ⟨h.1, rfl⟩
  · rw [if_neg (fun h => hn h.1)]
    exact .inl rfl

/-- a successful `axisPlan` does not return the nil query -/
theorem axisPlan_ne_nil {a : AxisInfo} {fl : Flags} {pr pr' : Props} {inp q : Plan}
    (h : axisPlan a fl pr inp = .ok (q, pr')) : q ≠ .nil := by
  obtain ⟨ha, rfl, -⟩ := axisPlan_eq h
  intro e
  have hin := (builtStep_plan ha fl pr inp).2.1
  rw [e] at hin
  cases hin

end XPathV.Model
