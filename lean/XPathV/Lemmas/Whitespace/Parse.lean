import XPathV.Lemmas.Whitespace.Boundary
import XPathV.Lemmas.BuildRejects.Rename
import XPathV.Lemmas.ParserTokens
/-!
# C10, second clause — the parser sees a text only through the scanner's tokens

`parse_eq_of_sync`: two texts whose scanner runs are in step (`Sync`) are accepted by the parser model
with the same tree, or both rejected — for every fuel and every configuration.  The proof re-uses the
two-run simulation of `BuildRejects/Rename.lean` (`all_sim`: renaming the calls of one function `g` to
`g'` in the text renames them in the tree) with two names that occur nowhere — `freshName`, longer
(`bound`) than every node type, operator word of the configuration (`chainOps`) and function name of the
tree (`callNames`): a tree without a call of `g` is unchanged by the renaming (`ren_eq`).
-/
namespace XPathV.Whitespace
open XPathV XPathV.Model XPathV.Bridge
open XPathV.BuildRejects
open XPathV.Lemmas.ParserTokens (Toks TextToks parse_ok_grammar)

theorem Fields.obsEq {s s' : Scan} (h : Fields s s') : obsEq s s' :=
  ⟨h.typ, fun _ => ⟨h.name, h.pfx, h.canBeFunc⟩, fun _ => h.name, fun _ => h.strval, fun _ => h.numlex⟩

/-- two runs in step, one of which reaches the end of the text: both do, showing the same tokens -/
theorem after_of_sync {s : Scan} {ts : List Tok} (ht : Toks s ts) : ∀ s', Sync s s' → After s s' := by
  induction ht with
  | eof he =>
    intro s' h
    exact .eof he (by rw [← h.fields.typ]; exact he)
  | cons hne hn _ ih =>
    intro s' h
    obtain ⟨b, hb, hab⟩ := h.next hn
    exact .step hne h.fields.obsEq hn hb (ih b hab)

/-- the function names in a tree -/
def callNames : Ast → List String
  | .call n _ args => n :: callNames args
  | .axis _ i => callNames i
  | .filter i c => callNames i ++ callNames c
  | .acons h t => callNames h ++ callNames t
  | .oper _ l r => callNames l ++ callNames r
  | .group x => callNames x
  | _ => []

theorem ren_eq {g g' : String} {t t' : Ast} (h : Ren g g' t t') : g ∉ callNames t → t = t' := by
  induction h with
  | refl t => intro _; rfl
  | call p _ _ => intro hn; exact absurd (List.mem_cons_self ..) hn
  | call_args n p _ ih =>
    intro hn
    rw [ih (fun h => hn (List.mem_cons_of_mem _ h))]
  | axis a _ ih => intro hn; rw [ih hn]
  | filter _ _ ihi ihc =>
    intro hn
    rw [ihi (fun h => hn (List.mem_append_left _ h)), ihc (fun h => hn (List.mem_append_right _ h))]
  | acons _ _ ihh iht =>
    intro hn
    rw [ihh (fun h => hn (List.mem_append_left _ h)), iht (fun h => hn (List.mem_append_right _ h))]
  | oper op _ _ ihl ihr =>
    intro hn
    rw [ihl (fun h => hn (List.mem_append_left _ h)), ihr (fun h => hn (List.mem_append_right _ h))]
  | group _ ih => intro hn; rw [ih hn]

/-- longer than every string of the list -/
def bound : List String → Nat
  | [] => 0
  | s :: l => s.toList.length + 1 + bound l

theorem lt_bound {l : List String} {s : String} (h : s ∈ l) : s.toList.length < bound l := by
  induction l with
  | nil => cases h
  | cons a l ih =>
    rcases List.mem_cons.mp h with rfl | h
    · simp only [bound]; omega
    · have := ih h; simp only [bound]; omega

def freshName (n : Nat) : String := String.ofList (List.replicate n 'x')

theorem freshName_not_mem {l : List String} {n : Nat} (h : bound l ≤ n) : freshName n ∉ l := by
  intro hm
  have := lt_bound hm
  simp only [freshName, String.toList_ofList, List.length_replicate] at this
  omega

theorem freshName_ne {n m : Nat} (h : n ≠ m) : freshName n ≠ freshName m := by
  intro e
  have := congrArg (fun s => s.toList.length) e
  simp only [freshName, String.toList_ofList, List.length_replicate] at this
  exact h this

/-- the operator words of a precedence chain -/
def chainOps : List Stage → List String
  | [] => []
  | .tier ops :: l => ops ++ chainOps l
  | .unary :: l => chainOps l

theorem mem_chainOps {l : List Stage} {ops : List String} {x : String} (h : Stage.tier ops ∈ l) (hx : x ∈ ops) :
    x ∈ chainOps l := by
  induction l with
  | nil => cases h
  | cons a l ih =>
    rcases List.mem_cons.mp h with rfl | h2
    · exact List.mem_append_left _ hx
    · cases a with
      | tier o => exact List.mem_append_right _ (ih h2)
      | unary => exact ih h2

/-- one direction: what the parser accepts on the first text it accepts, with the same tree, on the second -/
theorem parse_le_of_sync (fuel : Nat) (cfg : PCfg) {t1 t2 : List Char} (h : Sync (start t1) (start t2)) {a : Ast}
    (hp : parse fuel cfg t1 = .ok a) : parse fuel cfg t2 = .ok a := by
  obtain ⟨u, ⟨s, hs, hts⟩, _⟩ := parse_ok_grammar hp
  have hs' := hs
  rw [init_eq] at hs'
  obtain ⟨s', hi', hsync⟩ := h.next hs'
  rw [← init_eq] at hi'
  have hA : After s s' := after_of_sync hts s' hsync
  let L := nodeTypes ++ chainOps cfg.chain ++ callNames a
  let g := freshName (bound L)
  let g' := freshName (bound L + 1)
  have hgL : g ∉ L := freshName_not_mem (Nat.le_refl _)
  have hg'L : g' ∉ L := freshName_not_mem (Nat.le_succ _)
  have hne : g ≠ g' := freshName_ne (by omega)
  have hg : g ∉ nodeTypes := fun h => hgL (List.mem_append_left _ (List.mem_append_left _ h))
  have hg' : g' ∉ nodeTypes := fun h => hg'L (List.mem_append_left _ (List.mem_append_left _ h))
  have hK : okStages g g' cfg.chain := fun ops hops =>
    ⟨fun h => hgL (List.mem_append_left _ (List.mem_append_right _ (mem_chainOps hops h))),
     fun h => hg'L (List.mem_append_left _ (List.mem_append_right _ (mem_chainOps hops h)))⟩
  have hga : g ∉ callNames a := fun h => hgL (List.mem_append_right _ h)
  obtain ⟨s0, st1, hs0, e1, heof⟩ := Lemmas.ParserRun.parse_ok.mp hp
  rw [hs] at hs0
  cases hs0
  have hSR : SR g g' none { s := s, d := 0 } { s := s', d := 0 } := ⟨rfl, hA⟩
  rcases all_sim hne hg hg' hK fuel .expr none _ _ hSR a st1 e1 with hs | ⟨a', st1', φ', k1, k2, k3, k4, _⟩
  · rw [heof] at hs
    cases hs
  · have hφ : φ' = none := k4 rfl
    subst hφ
    have haa : a = a' := ren_eq k3 hga
    subst haa
    exact Lemmas.ParserRun.parse_ok.mpr ⟨s', st1', hi', k1, by rw [k2.typ_eq, heof]⟩

/-- **The parser model sees a text only through the scanner's tokens**: two texts whose scanner runs are
in step are accepted with the same tree or both rejected, for every fuel and every configuration. -/
theorem parse_eq_of_sync (fuel : Nat) (cfg : PCfg) {t1 t2 : List Char} (h : Sync (start t1) (start t2)) (a : Ast) :
    parse fuel cfg t1 = .ok a ↔ parse fuel cfg t2 = .ok a :=
  ⟨parse_le_of_sync fuel cfg h, parse_le_of_sync fuel cfg h.symm⟩

end XPathV.Whitespace
