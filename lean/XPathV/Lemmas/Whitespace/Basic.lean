import XPathV.Lemmas.BuildRejects.ScanName
import XPathV.Lemmas.BuildRejects.Text
import XPathV.Lemmas.ParserFull.Stream
import XPathV.Lemmas.ParserFuel
/-!
# C10, second clause — optional whitespace: basic notions

* `Blank ws`: every character of `ws` is one `Scan.skipSpace` skips (`isSpace`, Go's `unicode.IsSpace`);
  `AsciiHead ws`: the first of them, if any, is ASCII.
* `Head w`: the scanner's look-ahead character on the unread input `w`.
* `setPos s w`: the scanner state `s` with the unread input replaced by `w`.
* `Fields s s'`: the two states carry the same token (all fields but the position).
* `Sync s s'`: the two scanner runs show the same tokens for some steps and then continue from
  states that differ at most in leading blanks (hence are identical from the next `nextItem` on);
  `tokVs_eq_of_sync`: two texts whose runs are in step have the same token stream.
-/
namespace XPathV.Whitespace
open XPathV XPathV.Model XPathV.Bridge
open XPathV.Lemmas.ScanTail (At mkCR Done)
open XPathV.BuildRejects (skipSpace_at nextChar_eq mkCR_eta mkTok itemBody nextItem_body start init_eq start_at)

theorem Head_cons (c : Char) (w : List Char) : Head (c :: w) = c := rfl

theorem Head_append_of_ne {a : List Char} (h : a ≠ []) (t : List Char) : Head (a ++ t) = Head a := by
  cases a with
  | nil => exact absurd rfl h
  | cons c a => rfl

theorem dropWhile_append_of_ne {a : List Char} (p : Char → Bool) (h : a.dropWhile p ≠ []) (t : List Char) :
    (a ++ t).dropWhile p = a.dropWhile p ++ t := by
  induction a with
  | nil => exact absurd rfl h
  | cons c a ih =>
    by_cases hc : p c = true
    · simp only [List.cons_append, List.dropWhile_cons, hc, ↓reduceIte] at h ⊢
      exact ih h
    · simp [hc]

theorem dropWhile_eq_nil_blank {a : List Char} (h : a.dropWhile isSpace = []) : Blank a := by
  induction a with
  | nil => exact Blank.nil
  | cons x a ih =>
    by_cases hx : isSpace x = true
    · simp only [List.dropWhile_cons, hx, ↓reduceIte] at h
      intro c hc
      rcases List.mem_cons.mp hc with rfl | hc
      · exact hx
      · exact ih h c hc
    · simp [hx] at h

/-- inserting blanks never changes the first non-blank character ahead -/
theorem head_dropWhile_insert {ws : List Char} (hws : Blank ws) (a v : List Char) :
    Head ((a ++ ws ++ v).dropWhile isSpace) = Head ((a ++ v).dropWhile isSpace) := by
  by_cases h : a.dropWhile isSpace = []
  · have ha := dropWhile_eq_nil_blank h
    rw [List.append_assoc, ha.dropWhile, hws.dropWhile, ha.dropWhile]
  · rw [List.append_assoc, dropWhile_append_of_ne _ h, dropWhile_append_of_ne _ h,
      Head_append_of_ne h, Head_append_of_ne h]

@[simp] theorem setPos_setPos (s : Scan) (w w' : List Char) : setPos (setPos s w) w' = setPos s w' := rfl

theorem setPos_nextChar (s : Scan) (c : Char) (w : List Char) : (setPos s (c :: w)).nextChar.1 = setPos s w := by
  rw [nextChar_eq]
  rfl

theorem setPos_curr (s : Scan) (w : List Char) : (setPos s w).curr = Head w := rfl

/-- the two states carry the same token: they agree on everything but the position in the text -/
def Fields (s s' : Scan) : Prop := setPos s [] = setPos s' []

theorem Fields.refl (s : Scan) : Fields s s := rfl
theorem Fields.symm {s s' : Scan} (h : Fields s s') : Fields s' s := Eq.symm h
theorem Fields.trans {a b c : Scan} (h : Fields a b) (h' : Fields b c) : Fields a c := Eq.trans h h'

theorem Fields.setPos {s s' : Scan} (h : Fields s s') (w : List Char) : setPos s w = setPos s' w :=
  (congrArg (Whitespace.setPos · w) h :)

theorem fields_setPos (s : Scan) (w : List Char) : Fields s (setPos s w) := rfl

theorem Fields.typ {s s' : Scan} (h : Fields s s') : s.typ = s'.typ := (congrArg Scan.typ h :)
theorem Fields.name {s s' : Scan} (h : Fields s s') : s.name = s'.name := (congrArg Scan.name h :)
theorem Fields.pfx {s s' : Scan} (h : Fields s s') : s.pfx = s'.pfx := (congrArg Scan.pfx h :)
theorem Fields.strval {s s' : Scan} (h : Fields s s') : s.strval = s'.strval := (congrArg Scan.strval h :)
theorem Fields.numlex {s s' : Scan} (h : Fields s s') : s.numlex = s'.numlex := (congrArg Scan.numlex h :)
theorem Fields.canBeFunc {s s' : Scan} (h : Fields s s') : s.canBeFunc = s'.canBeFunc := (congrArg Scan.canBeFunc h :)

theorem Fields.convTok {s s' : Scan} (h : Fields s s') : convTok s = convTok s' := by
  unfold Bridge.convTok
  rw [h.typ, h.name, h.pfx, h.strval, h.numlex, h.canBeFunc]

theorem fields_skipSpace (s : Scan) : Fields s s.skipSpace := rfl

theorem fields_of_skipSpace {s s' : Scan} (h : s.skipSpace = s'.skipSpace) : Fields s s' :=
  (fields_skipSpace s).trans (h ▸ (fields_skipSpace s').symm)

theorem nextItem_of_skipSpace {s s' : Scan} (h : s.skipSpace = s'.skipSpace) : s.nextItem = s'.nextItem := by
  rw [nextItem_body, nextItem_body, h]

/-- the two scanner runs show the same tokens for some steps and then reach states that differ at most
in blanks still to be skipped (so that every later `nextItem` returns the same state in both runs) -/
inductive Sync : Scan → Scan → Prop
  | merge {s s' : Scan} : s.skipSpace = s'.skipSpace → Sync s s'
  | step {s s' a b : Scan} : Fields s s' → s.nextItem = .ok a → s'.nextItem = .ok b → Sync a b → Sync s s'

theorem Sync.refl (s : Scan) : Sync s s := .merge rfl

theorem Sync.symm {s s' : Scan} (h : Sync s s') : Sync s' s := by
  induction h with
  | merge h => exact .merge h.symm
  | step hf ha hb _ ih => exact .step hf.symm hb ha ih

theorem Sync.fields {s s' : Scan} (h : Sync s s') : Fields s s' := by
  cases h with
  | merge h => exact fields_of_skipSpace h
  | step hf _ _ _ => exact hf

theorem Sync.next {s s' a : Scan} (h : Sync s s') (ha : s.nextItem = .ok a) :
    ∃ b, s'.nextItem = .ok b ∧ Sync a b := by
  cases h with
  | merge h => exact ⟨a, by rw [← nextItem_of_skipSpace h]; exact ha, .refl a⟩
  | step _ ha' hb hab =>
    rw [ha] at ha'; cases ha'
    exact ⟨_, hb, hab⟩

theorem Sync.next_err {s s' : Scan} {e : ScanErr} (h : Sync s s') (ha : s.nextItem = .error e) :
    s'.nextItem = .error e := by
  cases h with
  | merge h => rw [← nextItem_of_skipSpace h]; exact ha
  | step _ ha' hb hab => rw [ha] at ha'; cases ha'

open XPathV.Lemmas.ParserFuel (meas nextItem_meas_lt init_meas)

/-- with fuel enough on both sides; for `s' = s` this says that the result does not depend on the fuel -/
theorem Sync.tokVsGo : ∀ (f f' : Nat) {s s' : Scan}, Sync s s' → ∀ acc : List Spec.Full.TokV,
    meas s < f → meas s' < f' → tokVsGo f s acc = tokVsGo f' s' acc
  | 0, _, _, _, _, _, h, _ => by omega
  | _, 0, _, _, _, _, _, h => by omega
  | f+1, f'+1, s, s', h, acc, hf, hf' => by
    have hF := h.fields
    unfold Bridge.tokVsGo
    rw [← hF.typ, ← hF.convTok]
    split
    · rfl
    · rename_i hne
      cases hn : s.nextItem with
      | error e =>
        rw [h.next_err hn]
        cases Bridge.convTok s <;> rfl
      | ok a =>
        obtain ⟨b, hb, hab⟩ := h.next hn
        rw [hb]
        cases Bridge.convTok s with
        | none => rfl
        | some t =>
          have hlt := nextItem_meas_lt (by simpa using hne) hn
          have hlt' := nextItem_meas_lt (by rw [← hF.typ]; simpa using hne) hb
          exact Sync.tokVsGo f f' hab (t :: acc) (by omega) (by omega)

/-- two texts whose scanner runs are in step have the same token stream (`some` with the same list, or
both `none`) -/
theorem tokVs_eq_of_sync {t t' : List Char} (h : Sync (start t) (start t')) : tokVs t = tokVs t' := by
  unfold Bridge.tokVs
  cases hi : Scan.init t with
  | error e =>
    rw [init_eq] at hi
    have := h.next_err hi
    rw [← init_eq] at this
    rw [this]
  | ok a =>
    have hm := init_meas hi
    rw [init_eq] at hi
    obtain ⟨b, hb, hab⟩ := h.next hi
    rw [← init_eq] at hb
    have hm' := init_meas hb
    rw [hb]
    exact hab.tokVsGo _ _ [] (by omega) (by omega)

end XPathV.Whitespace
