import XPathV.Lemmas.Whitespace.Complete
/-!
# C10, second clause — examples

1. Concrete texts (kernel evaluation of the scanner model; `rw [String.toList_ofList]` first turns each
   `"…".toList` into the list of characters: a literal is `String.ofList` of them by definition, whereas
   evaluating `toList` in the kernel goes through the UTF-8 encoding and costs more than the scan).
2. The boundary hypothesis is needed: a blank inside a token changes the token stream.
3. Boundaries established with `LexPrefix.start / snoc / axisGap`, and `tokVs_insert_blanks`
   used for *every* run of blanks at that boundary.
-/
namespace XPathV.Whitespace.Examples
open XPathV XPathV.Model XPathV.Bridge XPathV.Spec.Full
open XPathV.BuildRejects (plainName)

/-! ## 1. optional blanks -/

example : tokVs "a[ 1 ]".toList = tokVs "a[1]".toList := by
  rw [String.toList_ofList, String.toList_ofList]
  decide +kernel
example : tokVs "child :: a".toList = tokVs "child::a".toList := by
  rw [String.toList_ofList, String.toList_ofList]
  decide +kernel
example : tokVs "count ( a )".toList = tokVs "count(a)".toList := by
  rw [String.toList_ofList, String.toList_ofList]
  decide +kernel
example : tokVs "a and b".toList = tokVs "a  and\tb".toList := by
  rw [String.toList_ofList, String.toList_ofList]
  decide +kernel
example : tokVs "- 1".toList = tokVs "-1".toList := by
  rw [String.toList_ofList, String.toList_ofList]
  decide +kernel
example : tokVs " \t\n a / b \r\n".toList = tokVs "a/b".toList := by
  rw [String.toList_ofList, String.toList_ofList]
  decide +kernel
example : tokVs "a[ 1 ]".toList = some [.name "" "a" false, .lbracket, .num "1", .rbracket] := by
  rw [String.toList_ofList]
  decide +kernel
example : tokVs "count ( a )".toList = some [.name "" "count" true, .lparen, .name "" "a" false, .rparen] := by
  rw [String.toList_ofList]
  decide +kernel
example : tokVs "child :: a".toList = some [.axis "child", .name "" "a" false] := by
  rw [String.toList_ofList]
  decide +kernel
/-- the parser model returns the same tree -/
example : (parse 100 (defaultCfg none) "count ( a ) > - 1".toList).toOption =
      (parse 100 (defaultCfg none) "count(a)>-1".toList).toOption ∧
    (parse 100 (defaultCfg none) "count(a)>-1".toList).isOk = true := by
  rw [String.toList_ofList, String.toList_ofList]
  decide +kernel

/-! ## 2. blanks that are not optional: the position is inside a token -/

/-- inside a name -/
example : tokVs "a b".toList ≠ tokVs "ab".toList := by
  rw [String.toList_ofList, String.toList_ofList]
  decide +kernel
/-- inside `//` -/
example : tokVs "/ /".toList ≠ tokVs "//".toList := by
  rw [String.toList_ofList, String.toList_ofList]
  decide +kernel
/-- inside a number -/
example : tokVs "1 .5".toList ≠ tokVs "1.5".toList := by
  rw [String.toList_ofList, String.toList_ofList]
  decide +kernel
example : tokVs "1. 5".toList ≠ tokVs "1.5".toList := by
  rw [String.toList_ofList, String.toList_ofList]
  decide +kernel
/-- inside `!=`, `<=`, `>=` (`! =` is rejected: a lone `!` is no token of the grammar) -/
example : tokVs "a ! = b".toList = none ∧ (tokVs "a != b".toList).isSome = true := by
  rw [String.toList_ofList, String.toList_ofList]
  decide +kernel
example : tokVs "a < = b".toList ≠ tokVs "a <= b".toList := by
  rw [String.toList_ofList, String.toList_ofList]
  decide +kernel
/-- inside `..` -/
example : tokVs ". .".toList ≠ tokVs "..".toList := by
  rw [String.toList_ofList, String.toList_ofList]
  decide +kernel
/-- inside `::` -/
example : tokVs "child : : a".toList = none ∧ (tokVs "child::a".toList).isSome = true := by
  rw [String.toList_ofList, String.toList_ofList]
  decide +kernel
/-- inside a string literal -/
example : tokVs "'a b'".toList ≠ tokVs "'ab'".toList := by
  rw [String.toList_ofList, String.toList_ofList]
  decide +kernel
/-- a qualified name is one token: no blank before or after its colon -/
example : tokVs "p :a".toList = none ∧ tokVs "p: a".toList = none ∧
    tokVs "p:a".toList = some [.name "p" "a" false] := by
  rw [String.toList_ofList, String.toList_ofList, String.toList_ofList]
  decide +kernel
/-- `-` is a name character: the blank before a minus sign that follows a name is *not* optional
(`a -b` and `a - b` subtract, `a-b` is one name); after the minus sign it is -/
example : tokVs "a -b".toList = tokVs "a - b".toList ∧ tokVs "a-b".toList ≠ tokVs "a - b".toList ∧
    tokVs "a-b".toList = some [.name "" "a-b" false] := by
  rw [String.toList_ofList, String.toList_ofList, String.toList_ofList]
  decide +kernel
/-- likewise `.` and digits are name characters -/
example : tokVs "a .".toList ≠ tokVs "a.".toList := by
  rw [String.toList_ofList, String.toList_ofList]
  decide +kernel
/-- the first inserted character must be ASCII when it comes directly behind a name: the scanner
(model and Go code alike) then puts a piece of the multi-byte character into the name -/
theorem nbsp_after_name : tokVs "count\u00a0(a)".toList ≠ tokVs "count(a)".toList ∧
    isSpace '\u00a0' = true ∧ tokVs "count \u00a0(a)".toList = tokVs "count(a)".toList := by
  rw [String.toList_ofList, String.toList_ofList, String.toList_ofList]
  decide +kernel

/-! ## 3. boundaries, and every run of blanks -/

/-- `a[` | `1]`: after `[` -/
theorem boundary_after_bracket : LexPrefix ['a', '['] ['1', ']'] := by
  have h0 := LexPrefix.start ['a', '[', '1', ']']
  have h1 := h0.snoc (lex := ['a']) (v := ['[', '1', ']'])
    (.name (by decide) (by decide) (by decide) (by decide))
  exact h1.snoc (lex := ['[']) (v := ['1', ']']) (.single (c := '[') (t := .lbracket) _ (by decide))

example (ws : List Char) (hws : Blank ws) (ha : AsciiHead ws) :
    tokVs (['a', '['] ++ ws ++ ['1', ']']) = tokVs ['a', '[', '1', ']'] :=
  tokVs_insert_blanks boundary_after_bracket hws ha

/-- `count` | `(a)`: between a function name and its parenthesis — the scanner's look-ahead for `(`
goes over the blanks (`canBeFunc`) -/
theorem boundary_before_paren : LexPrefix "count".toList ['(', 'a', ')'] := by
  rw [String.toList_ofList]
  exact (LexPrefix.start _).snoc (pre := []) (.name (by decide) (by decide) (by decide) (by decide))

example (ws : List Char) (hws : Blank ws) (ha : AsciiHead ws) :
    tokVs ("count".toList ++ ws ++ ['(', 'a', ')']) = some [.name "" "count" true, .lparen, .name "" "a" false, .rparen] := by
  rw [tokVs_insert_blanks boundary_before_paren hws ha, String.toList_ofList]
  decide +kernel

theorem plainName_child : plainName "child".toList = true := by
  rw [String.toList_ofList]
  decide

/-- `child` | `::a`: between an axis name and `::` -/
theorem boundary_before_coloncolon : LexPrefix "child".toList [':', ':', 'a'] := by
  have := LexPrefix.axisGap (b := []) (w := "child".toList) (b1 := []) (b2 := []) ['a'] Blank.nil plainName_child
    Blank.nil Blank.nil (fun _ h => by cases h)
  simpa using this

/-- … and `child::` | `a`: after it -/
theorem boundary_after_coloncolon : LexPrefix ("child".toList ++ [':', ':']) ['a'] := by
  have h0 := LexPrefix.start ("child".toList ++ [':', ':'] ++ ['a'])
  have := h0.snoc (lex := "child".toList ++ ([] ++ [':', ':'])) (v := ['a'])
    (.axis (w := "child".toList) (b := []) _ plainName_child Blank.nil (fun _ h => by cases h))
  simpa using this

example (ws ws' : List Char) (hws : Blank ws) (ha : AsciiHead ws) (hws' : Blank ws') (ha' : AsciiHead ws') :
    tokVs ("child".toList ++ ws ++ [':', ':'] ++ ws' ++ ['a']) = some [.axis "child", .name "" "a" false] := by
  -- first remove `ws'` (a boundary of the text that still contains `ws`), then `ws`
  have hb1 : LexPrefix ("child".toList ++ ws ++ [':', ':']) ['a'] := by
    have h0 := LexPrefix.start ("child".toList ++ (ws ++ [':', ':']) ++ ['a'])
    have := h0.snoc (lex := "child".toList ++ (ws ++ [':', ':'])) (v := ['a'])
      (.axis (w := "child".toList) (b := ws) _ plainName_child hws ha)
    simpa using this
  rw [tokVs_insert_blanks hb1 hws' ha']
  have := tokVs_insert_blanks boundary_before_coloncolon hws ha
  simp only [List.append_assoc, List.cons_append, List.nil_append] at this ⊢
  rw [this, String.toList_ofList]
  decide +kernel

/-- no boundary inside the qualified name `p:a`: the hypothesis of the theorem cannot be met, and the
conclusion is false -/
example : tokVs (['p'] ++ [' '] ++ [':', 'a']) ≠ tokVs (['p'] ++ [':', 'a']) := by decide +kernel

end XPathV.Whitespace.Examples
