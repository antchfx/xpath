import XPathV.Lemmas.Whitespace.Lexeme
/-!
# C10, second clause — token boundaries, and blanks inserted at a boundary

`LexPrefix u v`: `(u, v)` is a token boundary of the text `u ++ v` — `u` consists of complete items
of the scanner (each complete with respect to the text that follows it, `v` included) with blanks
before, between and after them; or `u` ends inside the optional blanks between the name of an axis
specifier and its `::`.

`tokVs_insert_blanks`: blanks inserted at a boundary do not change the token stream.
-/
namespace XPathV.Whitespace
open XPathV XPathV.Model XPathV.Bridge
open XPathV.Lemmas.ScanTail (At mkCR Done)
open XPathV.BuildRejects

/-- `(u, v)` is a token boundary of `u ++ v` -/
inductive LexPrefix : List Char → List Char → Prop
  /-- before the first token; or, as the last step of `cons`, in the blanks after a token -/
  | blank {b : List Char} (v : List Char) : Blank b → LexPrefix b v
  /-- between the name of an axis specifier and its `::` -/
  | axisGap {b w b1 b2 : List Char} (rest : List Char) : Blank b → plainName w = true → Blank b1 → Blank b2 →
      AsciiHead (b1 ++ b2) → LexPrefix (b ++ (w ++ b1)) (b2 ++ ':' :: ':' :: rest)
  /-- blanks, one complete item, and a boundary of what follows -/
  | cons {b lex u' v : List Char} {k : Kind} : Blank b → Lexeme lex (u' ++ v) k → LexPrefix u' v →
      LexPrefix (b ++ (lex ++ u')) v

theorem AsciiHead.insert {b1 b2 ws : List Char} (h : AsciiHead (b1 ++ b2)) (hws : AsciiHead ws) :
    AsciiHead (b1 ++ (ws ++ b2)) := by
  cases b1 with
  | cons c b1 => exact h
  | nil =>
    cases ws with
    | cons c ws => exact hws
    | nil => exact h

theorem followOK_insert {ws : List Char} (hws : Blank ws) (ha : AsciiHead ws) (a v : List Char) :
    FollowOK (a ++ v) (a ++ (ws ++ v)) := by
  refine ⟨?_, ?_⟩
  · cases a with
    | cons c a => exact Or.inl rfl
    | nil =>
      cases ws with
      | nil => exact Or.inl rfl
      | cons c ws => exact Or.inr ⟨hws c (List.mem_cons_self ..), ha c rfl⟩
  · have := head_dropWhile_insert hws a v
    rwa [List.append_assoc] at this

theorem mkTok_fields {s s' : Scan} (h : Fields s s') (t : List Char) (typ : Tok) (name pfx : String) :
    mkTok s t typ name pfx = mkTok s' t typ name pfx := by
  rw [← mkTok_setPos s [] t, ← mkTok_setPos s' [] t, h]

theorem Kind.out_fields {s s' : Scan} (h : Fields s s') (k : Kind) {r r' : List Char}
    (hr : Head (r'.dropWhile isSpace) = Head (r.dropWhile isSpace)) : Fields (k.out s r) (k.out s' r') := by
  have h' : setPos s [] = setPos s' [] := h
  cases k with
  | plain t => exact congrArg (fun x : Scan => ({ x with typ := t } : Scan)) h'
  | num l => exact congrArg (fun x : Scan => ({ x with typ := .number, numlex := l } : Scan)) h'
  | str v => exact congrArg (fun x : Scan => ({ x with typ := .string, strval := v } : Scan)) h'
  | nameLike t n p =>
    show setPos (mkTok s r t n p) [] = setPos (mkTok s' r' t n p) []
    rw [mkTok_fields h]
    simp only [mkTok, setPos]
    rw [show (mkCR (List.dropWhile isSpace r)).1 = Head (r.dropWhile isSpace) from rfl,
      show (mkCR (List.dropWhile isSpace r')).1 = Head (r'.dropWhile isSpace) from rfl, hr]

theorem Kind.out_skipSpace (k : Kind) (s : Scan) (r : List Char) :
    (k.out s r).skipSpace = setPos (k.out s r) (r.dropWhile isSpace) := by
  cases k with
  | plain t => exact setPos_skipSpace _ _
  | num l => exact setPos_skipSpace _ _
  | str v => exact setPos_skipSpace _ _
  | nameLike t n p =>
    show (mkTok s r t n p).skipSpace = _
    rw [skipSpace_at (mkTok_at s r t n p), dropWhile_idem]
    rfl

/-- **the two scanner runs stay in step**: from two states that show the same token and stand in front
of `u ++ v` and of `u ++ ws ++ v` (up to blanks still to be skipped) -/
theorem LexPrefix.sync {ws : List Char} (hws : Blank ws) (ha : AsciiHead ws) {u v : List Char} (h : LexPrefix u v) :
    ∀ s s' : Scan, Fields s s' → s.skipSpace = setPos s ((u ++ v).dropWhile isSpace) →
      s'.skipSpace = setPos s' ((u ++ (ws ++ v)).dropWhile isSpace) → Sync s s' := by
  induction h with
  | @blank b v hb =>
    intro s s' hF h1 h2
    refine .merge ?_
    rw [h1, h2, hb.dropWhile, hb.dropWhile, hws.dropWhile, hF.setPos]
  | @axisGap b w b1 b2 rest hb hw hb1 hb2 hasc =>
    intro s s' hF h1 h2
    have e (x : List Char) : (b ++ (w ++ b1) ++ (x ++ ':' :: ':' :: rest)).dropWhile isSpace =
        w ++ ((b1 ++ x) ++ ':' :: ':' :: rest) := by
      rw [List.append_assoc, hb.dropWhile]
      simp only [List.append_assoc]
      exact dropWhile_plain hw _
    have n1 : s.nextItem = .ok (mkTok s rest .axe (String.ofList w) "") := by
      rw [nextItem_body, h1, e]
      exact axis_run s rest hw (hb1.append hb2) hasc
    have n2 : s'.nextItem = .ok (mkTok s' rest .axe (String.ofList w) "") := by
      rw [nextItem_body, h2, ← List.append_assoc ws, e]
      exact axis_run s' rest hw (hb1.append (hws.append hb2)) (hasc.insert ha)
    rw [← mkTok_fields hF] at n2
    exact .step hF n1 n2 (.refl _)
  | @cons b lex u' v k hb hlex _ ih =>
    intro s s' hF h1 h2
    have hlex' : Lexeme lex (u' ++ (ws ++ v)) k := hlex.transfer (followOK_insert hws ha u' v)
    have e (x : List Char) : (b ++ (lex ++ u') ++ x).dropWhile isSpace = lex ++ (u' ++ x) := by
      rw [List.append_assoc, hb.dropWhile, List.append_assoc]
      exact hlex.dropWhile _
    have n1 : s.nextItem = .ok (k.out s (u' ++ v)) := by
      rw [nextItem_body, h1, e]; exact hlex.run s
    have n2 : s'.nextItem = .ok (k.out s' (u' ++ (ws ++ v))) := by
      rw [nextItem_body, h2, e]; exact hlex'.run s'
    refine .step hF n1 n2 (ih _ _ (Kind.out_fields hF k (followOK_insert hws ha u' v).2) ?_ ?_)
    · exact Kind.out_skipSpace k s _
    · exact Kind.out_skipSpace k s' _

/-- … from the start of the two texts -/
theorem LexPrefix.sync_start {ws : List Char} (hws : Blank ws) (ha : AsciiHead ws) {u v : List Char}
    (h : LexPrefix u v) : Sync (start (u ++ v)) (start (u ++ (ws ++ v))) :=
  h.sync hws ha _ _ rfl (skipSpace_at (start_at _)) (skipSpace_at (start_at _))

/-- **Blanks inserted at a token boundary do not change the scanner's token stream.**
`ws` consists of characters `skipSpace` skips; if it is put directly behind a name, its first character
must be an ASCII one (see `nbsp_after_name`). Both sides are `some` of the same list, or both `none`. -/
theorem tokVs_insert_blanks {u v ws : List Char} (hb : LexPrefix u v) (hws : Blank ws) (ha : AsciiHead ws) :
    tokVs (u ++ ws ++ v) = tokVs (u ++ v) := by
  rw [List.append_assoc]
  exact (tokVs_eq_of_sync (hb.sync_start hws ha)).symm

/-- after the insertion, the position in front of the inserted blanks is a boundary of the new text -/
theorem LexPrefix.insert_right {ws : List Char} (hws : Blank ws) (ha : AsciiHead ws) {u v : List Char}
    (h : LexPrefix u v) : LexPrefix u (ws ++ v) := by
  induction h with
  | @blank b v hb => exact .blank _ hb
  | @axisGap b w b1 b2 rest hb hw hb1 hb2 hasc =>
    have := LexPrefix.axisGap (b2 := ws ++ b2) rest hb hw hb1 (hws.append hb2) (hasc.insert ha)
    rwa [List.append_assoc] at this
  | @cons b lex u' v k hb hlex _ ih =>
    exact .cons hb (hlex.transfer (followOK_insert hws ha u' v)) ih

/-- … and so is the position behind them -/
theorem LexPrefix.insert_left {ws : List Char} (hws : Blank ws) (ha : AsciiHead ws) {u v : List Char}
    (h : LexPrefix u v) : LexPrefix (u ++ ws) v := by
  induction h with
  | @blank b v hb => exact .blank _ (hb.append hws)
  | @axisGap b w b1 b2 rest hb hw hb1 hb2 hasc =>
    have hasc' : AsciiHead (b1 ++ ws ++ b2) := by
      have := hasc.insert ha
      rwa [← List.append_assoc] at this
    have := LexPrefix.axisGap (b1 := b1 ++ ws) rest hb hw (hb1.append hws) hb2 hasc'
    simpa [List.append_assoc] using this
  | @cons b lex u' v k hb hlex _ ih =>
    have hl : Lexeme lex (u' ++ ws ++ v) k := by
      rw [List.append_assoc]; exact hlex.transfer (followOK_insert hws ha u' v)
    have := LexPrefix.cons hb hl ih
    simpa [List.append_assoc] using this

theorem LexPrefix.start (text : List Char) : LexPrefix [] text := .blank text Blank.nil

/-- a boundary in front of a complete lexeme: the position behind the lexeme is a boundary too -/
theorem LexPrefix.snoc {pre lex v : List Char} {k : Kind} (h : LexPrefix pre (lex ++ v)) (hl : Lexeme lex v k) :
    LexPrefix (pre ++ lex) v := by
  generalize hv : lex ++ v = v0 at h
  induction h with
  | @blank b _ hb =>
    have := LexPrefix.cons (u' := []) hb (by simpa using hl) (.blank v Blank.nil)
    simpa using this
  | @axisGap b w b1 b2 rest hb hw hb1 hb2 hasc =>
    exfalso
    obtain ⟨c, l, rfl, hc⟩ := hl.head_ne_colon
    obtain ⟨c', l', e, hs⟩ := hl.head
    simp only [List.cons.injEq] at e
    obtain ⟨rfl, rfl⟩ := e
    cases b2 with
    | nil =>
      simp only [List.cons_append, List.nil_append, List.cons.injEq] at hv
      exact hc hv.1
    | cons x b2 =>
      simp only [List.cons_append, List.cons.injEq] at hv
      have := hb2 x (List.mem_cons_self ..)
      rw [← hv.1, hs] at this
      cases this
  | @cons b lex0 u' _ k0 hb hlex0 _ ih =>
    subst hv
    have hl0 : Lexeme lex0 ((u' ++ lex) ++ v) k0 := by rw [List.append_assoc]; exact hlex0
    have := LexPrefix.cons hb hl0 (ih rfl)
    simpa [List.append_assoc] using this

theorem blank_prefix_split {b : List Char} (hb : Blank b) : ∀ {b2 v t : List Char}, Blank b2 →
    b ++ v = b2 ++ ':' :: t → ∃ b2', b2 = b ++ b2' ∧ v = b2' ++ ':' :: t := by
  induction b with
  | nil => intro b2 v t _ h; exact ⟨b2, rfl, h⟩
  | cons x b ih =>
    intro b2 v t hb2 h
    cases b2 with
    | nil =>
      simp only [List.cons_append, List.nil_append, List.cons.injEq] at h
      have := hb x (List.mem_cons_self ..)
      rw [h.1, isSpace_colon] at this
      cases this
    | cons y b2 =>
      simp only [List.cons_append, List.cons.injEq] at h
      obtain ⟨b2', e1, e2⟩ := ih (fun c hc => hb c (List.mem_cons_of_mem _ hc))
        (fun c hc => hb2 c (List.mem_cons_of_mem _ hc)) h.2
      exact ⟨b2', by rw [h.1, e1]; rfl, e2⟩

/-- a boundary may be moved to the right over blanks -/
theorem LexPrefix.shift {u b v : List Char} (h : LexPrefix u (b ++ v)) (hb : Blank b) : LexPrefix (u ++ b) v := by
  generalize hv : b ++ v = v0 at h
  induction h with
  | @blank b0 _ hb0 => exact .blank _ (hb0.append hb)
  | @axisGap b0 w b1 b2 rest hb0 hw hb1 hb2 hasc =>
    obtain ⟨b2', rfl, rfl⟩ := blank_prefix_split hb hb2 hv
    have hb2' : Blank b2' := fun c hc => hb2 c (List.mem_append_right _ hc)
    have := LexPrefix.axisGap (b1 := b1 ++ b) (b2 := b2') rest hb0 hw (hb1.append hb) hb2'
      (by rw [List.append_assoc]; exact hasc)
    simpa [List.append_assoc] using this
  | @cons b0 lex u' _ k hb0 hlex _ ih =>
    subst hv
    have hl : Lexeme lex ((u' ++ b) ++ v) k := by rw [List.append_assoc]; exact hlex
    have := LexPrefix.cons hb0 hl (ih rfl)
    simpa [List.append_assoc] using this

end XPathV.Whitespace
