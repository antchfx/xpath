import XPathV.Lemmas.PosSem.Cond
/-!
# C03 — a child step with a positional first predicate: model = oracle = proximity semantics

The positional forms are conditions in the sense of `Cond`: the plan `f.plan fi`, with `fi` testing
what the step tests, decides at every candidate what the oracle decides (`form_condDec`, from
`position_is_proximity` and `PosForm.Agree`), and since a form ignores the node, what the oracle
keeps is `keepOf` — the candidates whose proximity position satisfies `specKeep`.  So the plans the
builder makes of `q/child::a[f]` yield, for each input node in turn, `keepOf` of that node, and this
is the node set the oracle assigns to the expression (`PosStepOK`, `posStep_built`).
-/
namespace XPathV.PosSem
open XPathV XPathV.Model XPathV.PathSem XPathV.PredSem NumAlg

variable {F : Type} [NumAlg F]

/-- the candidates of `child::a` below `o` whose proximity position satisfies the predicate `f`
(the oracle's reading `specKeep`), in document order -/
def keepOf (F : Type) [NumAlg F] (d : Doc) (cfg : ECfg) (a : AxisInfo) (f : PosForm) (o : Ref) :
    List Ref :=
  keepIdx (fun pos => PosForm.specKeep F f pos (childCands d cfg a o).length) (childCands d cfg a o)

/-- what the oracle keeps under a positional form -/
theorem keepOfC_form (d : Doc) (cfg : ECfg) (a : AxisInfo) (f : PosForm) :
    keepOfC F d cfg a f.ast = keepOf F d cfg a f := by
  funext o
  simp only [keepOfC, condTruth_form]
  rfl

theorem keepOf_valid (d : Doc) (cfg : ECfg) (a : AxisInfo) (f : PosForm) (o x : Ref)
    (h : x ∈ keepOf F d cfg a f o) : validRef d x = true :=
  keepOfC_valid d cfg a f.ast o x (keepOfC_form (F := F) d cfg a f ▸ h)

/-- the predicate plan of a form, counting in a plan that tests what the step tests, decides at
every candidate what the oracle decides -/
theorem form_condDec {d : Doc} (wf : WF d) (cfg : ECfg) (a : AxisInfo) (f : PosForm) (fi : Plan)
    (hfi : planTest d cfg fi = nodeTestM d cfg a) (hag : f.Agree F d.length) :
    CondDec F d cfg a (f.plan fi) f.ast := by
  intro p x k hk
  obtain ⟨h1, _, h3⟩ := position_is_proximity wf cfg a fi hfi p x k hk
  have hlen := (List.getElem?_eq_some_iff.1 hk).1
  refine ⟨_, _, evalP_form d cfg f fi x, modelVal_direct f _ _, eval_form d f x _ _, ?_⟩
  rw [h1, h3]
  exact hag (k + 1) _ (by omega) (by omega) (childCands_length_le d cfg a p)

/-! ## the statement -/

/-- plan `pl` implements `q/child::a[f]` over the input plan `qi` at context `c`: it yields, for each
node of `qi` in turn, the candidates whose proximity position satisfies the predicate, and the
oracle's node set is the document-ordered union of the same per-parent lists -/
def PosStepOK (F : Type) [NumAlg F] (d : Doc) (cfg : ECfg) (a : AxisInfo) (f : PosForm)
    (pl qi : Plan) (q : Ast) (c : Spec.Ctx) : Prop :=
  ∃ ins origins g0 out,
    sel (F := F) d cfg qi c.node = .ok ins ∧
    Spec.eval (F := F) d q c = .ok (.val (.nodes origins) g0) ∧
    (∀ x, x ∈ refs ins ↔ x ∈ origins) ∧
    sel (F := F) d cfg pl c.node = .ok out ∧
    refs out = (refs ins).flatMap (keepOf F d cfg a f) ∧
    Spec.eval (F := F) d (.filter (.axis a q) f.ast) c =
      .ok (.val (.nodes (Spec.docOrder d (origins.map (keepOf F d cfg a f)).flatten))
        (some (origins.map (keepOf F d cfg a f))))

/-- `PosStepOK` is `CondStepOK` of the form's parse tree -/
theorem posStepOK_iff {d : Doc} {cfg : ECfg} {a : AxisInfo} {f : PosForm} {pl qi : Plan}
    {q : Ast} {c : Spec.Ctx} :
    PosStepOK F d cfg a f pl qi q c ↔ CondStepOK F d cfg a f.ast pl qi q c := by
  unfold PosStepOK CondStepOK
  rw [keepOfC_form]

/-- node-set agreement, packaged as `PathOK` (so that further boolean predicates and steps can be
put on top with the lemmas of `PredSem`) -/
theorem PosStepOK.pathOK {d : Doc} {cfg : ECfg} {a : AxisInfo} {f : PosForm} {pl qi : Plan}
    {q : Ast} {c : Spec.Ctx} (h : PosStepOK F d cfg a f pl qi q c) (hs : PathShape pl) :
    PathOK (F := F) d cfg pl (.filter (.axis a q) f.ast) c :=
  (posStepOK_iff.1 h).pathOK hs

/-- **the property, node-set level**: the nodes returned are exactly the candidates `x` of some
input node `o` whose 1-based position among the candidates of `o` satisfies the predicate -/
theorem PosStepOK.mem_iff {d : Doc} {cfg : ECfg} {a : AxisInfo} {f : PosForm} {pl qi : Plan}
    {q : Ast} {c : Spec.Ctx} (h : PosStepOK F d cfg a f pl qi q c) :
    ∃ out ns g origins g0, sel (F := F) d cfg pl c.node = .ok out ∧
      Spec.eval (F := F) d (.filter (.axis a q) f.ast) c = .ok (.val (.nodes ns) g) ∧
      Spec.eval (F := F) d q c = .ok (.val (.nodes origins) g0) ∧
      (∀ x, x ∈ refs out ↔ x ∈ ns) ∧
      (∀ x, x ∈ ns ↔ ∃ o ∈ origins, ∃ k, (childCands d cfg a o)[k]? = some x ∧
        PosForm.specKeep F f (k + 1) (childCands d cfg a o).length = true) :=
  (posStepOK_iff.1 h).mem_iff_of (fun _ => PosForm.specKeep F f) fun _ x _ _ => condTruth_form d f x _ _

/-- **the natural-number reading**: under the side conditions `NumOK`, the position `k` of a
returned node satisfies `natKeep` -/
theorem PosStepOK.mem_iff_nat {d : Doc} {cfg : ECfg} {a : AxisInfo} {f : PosForm} {pl qi : Plan}
    {q : Ast} {c : Spec.Ctx} (h : PosStepOK F d cfg a f pl qi q c) (n : Nat)
    (hnum : f.NumOK F n d.length) :
    ∃ out ns g origins g0, sel (F := F) d cfg pl c.node = .ok out ∧
      Spec.eval (F := F) d (.filter (.axis a q) f.ast) c = .ok (.val (.nodes ns) g) ∧
      Spec.eval (F := F) d q c = .ok (.val (.nodes origins) g0) ∧
      (∀ x, x ∈ refs out ↔ x ∈ ns) ∧
      (∀ x, x ∈ ns ↔ ∃ o ∈ origins, ∃ k, (childCands d cfg a o)[k]? = some x ∧
        f.natKeep n (k + 1) (childCands d cfg a o).length = true) :=
  (posStepOK_iff.1 h).mem_iff_of (fun _ => f.natKeep n) fun p x k hk => by
    have hlt := (List.getElem?_eq_some_iff.1 hk).1
    rw [condTruth_form]
    exact specKeep_nat f n d.length hnum (k + 1) _ (by omega) (by omega)
      (childCands_length_le d cfg a p)

/-! ## the plans -/

/-- **`q/child::a[f]` in the shapes `processFilter` gives it** (`condStep_built` for a form): the
predicate plan counts in `fi`, a plan that tests what the step tests -/
theorem posStep_built {d : Doc} (wf : WF d) (cfg : ECfg) (hns : cfg.nsIface = true) (a : AxisInfo)
    (ha : a.axis = "child") (f : PosForm) (fi : Plan) (hfi : planTest d cfg fi = nodeTestM d cfg a)
    (hag : f.Agree F d.length) (st pl qi : Plan) (hst : st = .child a qi ∨ st = .cachedChild a qi)
    (hpl : pl = .filter st (f.plan fi) ∨ ∃ parent, st.inputOf = some parent ∧
      pl = .merge parent (.filter (st.withInput .context) (f.plan fi)))
    (q : Ast) (c : Spec.Ctx) (hq : PathOK (F := F) d cfg qi q c) :
    PosStepOK F d cfg a f pl qi q c :=
  posStepOK_iff.2 (condStep_built wf cfg hns a ha _ _ (form_condDec wf cfg a f fi hfi hag)
    st pl qi hst hpl q c hq)

end XPathV.PosSem
