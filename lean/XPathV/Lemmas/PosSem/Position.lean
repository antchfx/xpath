import XPathV.Lemmas.FlatOrder
import XPathV.Lemmas.PathSem
/-!
# C03 helpers — `position()` / `last()` of the engine are the XPath proximity position / context size

`positionM` walks the preceding siblings of the candidate and counts those passing the node test of
the builder's `firstInput`; `lastM` moves to the first sibling and counts all siblings passing it.
For a candidate of a child step these are 1 + the number of earlier candidates of the same parent,
and the number of candidates of that parent.
-/
namespace XPathV.PosSem
open XPathV XPathV.Model XPathV.PathSem

/-! ## document order on sibling lists -/

theorem allNodes_sorted (d : Doc) : (allNodes d).Pairwise (fun a b => Ref.lt a b = true) := by
  unfold allNodes
  rw [List.pairwise_map]
  exact List.Pairwise.imp (fun {a b} h => (lt_node a b).2 h) List.pairwise_lt_range

theorem children_lt_sorted (d : Doc) (p : Ref) :
    (Spec.children d p).Pairwise (fun a b => Ref.lt a b = true) :=
  List.Pairwise.filter _ (allNodes_sorted d)

theorem childCands_sorted (d : Doc) (cfg : ECfg) (a : AxisInfo) (p : Ref) :
    (childCands d cfg a p).Pairwise (fun a b => Ref.lt a b = true) :=
  List.Pairwise.filter _ (children_lt_sorted d p)

/-- in a strictly increasing list, the elements smaller than a member are those before it -/
theorem sorted_filter_lt (A B : List Ref) (x : Ref)
    (h : (A ++ x :: B).Pairwise (fun a b => Ref.lt a b = true)) :
    (A ++ x :: B).filter (fun y => Ref.lt y x) = A := by
  rw [List.pairwise_append] at h
  obtain ⟨_, hxB, hAx⟩ := h
  rw [List.pairwise_cons] at hxB
  rw [List.filter_append]
  have h1 : A.filter (fun y => Ref.lt y x) = A := by
    rw [List.filter_eq_self]
    intro y hy
    exact hAx y hy x List.mem_cons_self
  have h2 : (x :: B).filter (fun y => Ref.lt y x) = [] := by
    rw [List.filter_eq_nil_iff]
    intro y hy
    rcases List.mem_cons.1 hy with e | e
    · rw [e, ref_lt_irrefl]; simp
    · rw [DocOrder.lt_asymm x y (hxB.1 y e)]; simp
  rw [h1, h2, List.append_nil]

theorem child_is_node (d : Doc) (p x : Ref) (hx : x ∈ Spec.children d p) :
    ∃ i, i < d.length ∧ x = .node i ∧ Spec.parent? d x = some p := by
  unfold Spec.children at hx
  obtain ⟨hx1, hx2⟩ := List.mem_filter.1 hx
  obtain ⟨i, hi, rfl⟩ := (mem_allNodes d x).1 hx1
  exact ⟨i, hi, rfl, beq_iff_eq.1 hx2⟩

/-- the preceding siblings of a child of `p` are the children of `p` before it -/
theorem precedingSiblings_child (d : Doc) (p : Ref) (i : Nat)
    (hp : Spec.parent? d (.node i) = some p) :
    Spec.precedingSiblings d (.node i) = (Spec.children d p).filter (fun y => Ref.lt y (.node i)) := by
  unfold Spec.precedingSiblings Spec.children
  simp only [Ref.isAttr, Bool.false_eq_true, ↓reduceIte, hp, Option.isSome_some, Bool.and_true,
    List.filter_filter]

/-! ## `position()` -/

/-- **`position()` is the proximity position**: for a candidate `x` of the step `child::a` below `p`
and any plan `fi` whose test is the step's node test, the engine's `positionM` is 1 + the number of
candidates before `x` -/
theorem positionM_split {d : Doc} (wf : WF d) (cfg : ECfg) (a : AxisInfo) (fi : Plan)
    (hfi : planTest d cfg fi = nodeTestM d cfg a) (p x : Ref) (A B : List Ref)
    (h : childCands d cfg a p = A ++ x :: B) :
    positionM d cfg fi x = A.length + 1 := by
  have hxc : x ∈ childCands d cfg a p := by rw [h]; simp
  obtain ⟨i, hi, rfl, hpar⟩ := child_is_node d p x (List.mem_filter.1 hxc).1
  unfold positionM
  rw [hfi]
  have e1 : ((prevSibsM d (.node i)).filter (nodeTestM d cfg a)).length =
      ((Spec.precedingSiblings d (.node i)).filter (nodeTestM d cfg a)).length := by
    rw [← prevSibs_spec wf i hi, List.filter_reverse, List.length_reverse]
  rw [e1, precedingSiblings_child d p i hpar]
  have e2 : ((Spec.children d p).filter (fun y => Ref.lt y (.node i))).filter (nodeTestM d cfg a) =
      (childCands d cfg a p).filter (fun y => Ref.lt y (.node i)) := by
    unfold childCands
    rw [List.filter_filter, List.filter_filter]
    congr 1; funext y
    exact Bool.and_comm _ _
  rw [e2, h, sorted_filter_lt A B (.node i) (h ▸ childCands_sorted d cfg a p)]
  omega

/-- index form: the `k`-th candidate (0-based) has `position() = k + 1` -/
theorem positionM_getElem {d : Doc} (wf : WF d) (cfg : ECfg) (a : AxisInfo) (fi : Plan)
    (hfi : planTest d cfg fi = nodeTestM d cfg a) (p x : Ref) (k : Nat)
    (h : (childCands d cfg a p)[k]? = some x) :
    positionM d cfg fi x = k + 1 := by
  obtain ⟨hk, hx⟩ := List.getElem?_eq_some_iff.1 h
  have hsplit : childCands d cfg a p =
      (childCands d cfg a p).take k ++ x :: (childCands d cfg a p).drop (k+1) := by
    rw [← hx, ← List.drop_eq_getElem_cons hk, List.take_append_drop]
  rw [positionM_split wf cfg a fi hfi p x _ _ hsplit, List.length_take]
  omega

/-! ## `last()` -/

/-- the previous sibling has the same parent -/
theorem prev_same_parent {d : Doc} (c q p' : Nat)
    (hp : parentFrom d (dep d c) c = some q) (hprev : prevFrom d (dep d c) c = some p') :
    parentFrom d (dep d p') p' = some q := by
  obtain ⟨hqc, hqd, hqb⟩ := parentFrom_some d _ _ _ hp
  obtain ⟨hpc, hpd, hpb⟩ := prevFrom_some d _ _ _ hprev
  have hqp : q < p' := by
    rcases Nat.lt_trichotomy q p' with h | h | h
    · exact h
    · subst h; omega
    · have := hpb q h hqc; omega
  apply parentFrom_eq d _ p' q hqp (by omega)
  intro k h1 h2
  have := hqb k h1 (by omega)
  omega

theorem firstFrom_child {d : Doc} (wf : WF d) : ∀ (f c q : Nat), c ≤ f → c < d.length →
    parentFrom d (dep d c) c = some q → Nav.firstFrom d f (.node c) = .node (q + 1) := by
  intro f
  induction f with
  | zero =>
    intro c q hcf _ hp
    have : c = 0 := by omega
    subst this
    rw [parentFrom_zero] at hp; cases hp
  | succ f ih =>
    intro c q hcf hc hp
    simp only [Nav.firstFrom, movePrev_node]
    cases hprev : prevFrom d (dep d c) c with
    | none =>
      simp only [Option.map_none]
      rw [first_child_of_prev_none wf c q hc hprev hp]
    | some p' =>
      simp only [Option.map_some]
      have hlt := (prevFrom_some d _ _ _ hprev).1
      exact ih p' q (by omega) (by omega) (prev_same_parent c q p' hp hprev)

/-- `MoveToFirst` (or staying put when it fails) lands on the first child of the parent -/
theorem moveFirst_child {d : Doc} (wf : WF d) (c q : Nat) (hc : c < d.length)
    (hp : parentFrom d (dep d c) c = some q) :
    (Nav.moveFirst d (.node c)).getD (.node c) = .node (q + 1) := by
  unfold Nav.moveFirst
  rw [movePrev_node]
  cases hprev : prevFrom d (dep d c) c with
  | none =>
    simp only [Option.map_none, Option.getD_none]
    rw [first_child_of_prev_none wf c q hc hprev hp]
  | some p' =>
    simp only [Option.map_some, Option.getD_some]
    have hlt := (prevFrom_some d _ _ _ hprev).1
    exact firstFrom_child wf d.length p' q (by omega) (by omega) (prev_same_parent c q p' hp hprev)

/-- the sibling chain from the first child, with any sufficient fuel, is the child list -/
theorem sibs_from_first {d : Doc} (wf : WF d) (c q : Nat) (hc : c < d.length)
    (hp : parentFrom d (dep d c) c = some q) (f : Nat) (hf : d.length ≤ f) :
    sibsFrom d f (.node (q + 1)) = Spec.children d (.node q) := by
  obtain ⟨hqc, hce, _⟩ := parent_endOf wf q c hc hp
  have hq : q < d.length := by omega
  have hcm : c ∈ childIdx d q :=
    (childIdx_mem wf q hq c).2 ⟨hqc, hce, (parent_depth wf c q hc hp).symm⟩
  obtain ⟨f, rfl⟩ : ∃ f', f = f' + 1 := ⟨f - 1, by omega⟩
  rw [← children_spec wf q hq, childrenM_node, sibsFrom_chain]
  unfold childIdx at hcm ⊢
  split at hcm
  · rename_i hcond
    rw [if_pos hcond, List.map_cons, ← nextSibsM_node, nextSibsM_chain]
    -- the fuel `f` of the caller against the fuel `|d|` of `nextSibsM`
    exact congrArg (_ :: ·) (chain_stable (fun r : Ref => d.length - r.idx) moveNext_lt _ _ _
      (by simp only [Ref.idx]; omega) (Nat.sub_le _ _))
  · cases hcm

/-- **`last()` is the context size**: for a candidate `x` of the step `child::a` below `p`, the
engine's `lastM` is the number of candidates of `p` -/
theorem lastM_child {d : Doc} (wf : WF d) (cfg : ECfg) (a : AxisInfo) (fi : Plan)
    (hfi : planTest d cfg fi = nodeTestM d cfg a) (p x : Ref)
    (hx : x ∈ childCands d cfg a p) :
    lastM d cfg fi x = (childCands d cfg a p).length := by
  obtain ⟨i, hi, rfl, hpar⟩ := child_is_node d p x (List.mem_filter.1 hx).1
  obtain ⟨q, rfl⟩ := parent?_is_node d _ _ hpar
  have hp : parentFrom d (dep d i) i = some q := (parent?_node_eq d i q).1 hpar
  unfold lastM
  simp only [moveFirst_child wf i q hi hp, sibs_from_first wf i q hi hp (d.length + 1) (by omega), hfi]
  rfl

/-! ## `position()` is the proximity position -/

/-- **`position()` / `last()` on a child step are the XPath proximity position / context size**:
for a candidate `x` of the step `child::a` from parent `p`, with `fi` a plan whose test is the step's
node test (the child plan the builder records as `firstInput`), `positionM` is 1 + the number of
candidates before `x` among the children of `p` — the index the oracle's `filterPos` gives `x` in
`childCands d cfg a p` (the second conjunct says the same as the first, with the candidates before
`x` written as `take k`) — and `lastM` is the number of candidates -/
theorem position_is_proximity {d : Doc} (wf : WF d) (cfg : ECfg) (a : AxisInfo) (fi : Plan)
    (hfi : planTest d cfg fi = nodeTestM d cfg a) (p x : Ref) (k : Nat)
    (h : (childCands d cfg a p)[k]? = some x) :
    positionM d cfg fi x = k + 1 ∧
    positionM d cfg fi x = 1 + (((childCands d cfg a p).take k).length) ∧
    lastM d cfg fi x = (childCands d cfg a p).length := by
  have hk := (List.getElem?_eq_some_iff.1 h).1
  refine ⟨positionM_getElem wf cfg a fi hfi p x k h, ?_, lastM_child wf cfg a fi hfi p x
    (List.mem_of_getElem? h)⟩
  rw [positionM_getElem wf cfg a fi hfi p x k h, List.length_take]
  omega

/-- the builder's `firstInput` for a child step is the child plan itself: its test is the node test -/
theorem planTest_child (d : Doc) (cfg : ECfg) (a : AxisInfo) (inp : Plan) :
    planTest d cfg (.child a inp) = nodeTestM d cfg a := rfl

theorem planTest_cachedChild (d : Doc) (cfg : ECfg) (a : AxisInfo) (inp : Plan) :
    planTest d cfg (.cachedChild a inp) = nodeTestM d cfg a := rfl

theorem childCands_length_le (d : Doc) (cfg : ECfg) (a : AxisInfo) (p : Ref) :
    (childCands d cfg a p).length ≤ d.length := by
  unfold childCands Spec.children
  refine Nat.le_trans (List.length_filter_le _ _) (Nat.le_trans (List.length_filter_le _ _) ?_)
  simp [allNodes]

end XPathV.PosSem
