import XPathV.Lemmas.PosSem.Stack
import XPathV.Lemmas.ArithSem
/-!
# C03 — through the builder

Inversion of `build` on `child::t[P]` (`processFilter` with a positional predicate: the plain
`.filter` form or the merge form, the predicate plan `PosForm.plan` of the filtered step — the
builder's `predInput`, read through `positionInput`),
then the semantic statements of `Step`/`Stack` for the plan `build` returns.
-/
namespace XPathV.PosSem
open XPathV XPathV.Model XPathV.PathSem XPathV.PredSem NumAlg

/-! ## inversion -/

section Inv
variable (regexOk : RegexOk) (limit : Nat) (snt sdf : Bool)

/-- a call without arguments of a function that counts in `positionInput` -/
theorem build_posFn_inv (name pfx : String)
    (h1 : (name == "normalize-space" || name == "string" || name == "number") = false)
    (h2 : (name == "last" || name == "position") = true) (h3 : (name == "reverse") = false)
    (fl : Flags) (st : BState) (o : BOut)
    (h : build regexOk limit snt sdf (.call name pfx .anil) fl st = .ok o) :
    o.q = .func name st.positionInput .pnil ∧ o.st.firstInput = st.firstInput ∧
      o.st.predInput = st.predInput := by
  obtain ⟨hq, hst, _⟩ := build_call0_ok (beq_eq_false_iff_ne.1 h3)
    (by simp only [synthSelf, h1, Bool.false_and]) h
  rw [hq, hst, h2]
  exact ⟨rfl, rfl, rfl⟩

theorem build_position_inv (pfx : String) (fl : Flags) (st : BState) (o : BOut)
    (h : build regexOk limit snt sdf (.call "position" pfx .anil) fl st = .ok o) :
    o.q = .func "position" st.positionInput .pnil ∧ o.st.firstInput = st.firstInput ∧
      o.st.predInput = st.predInput :=
  build_posFn_inv regexOk limit snt sdf "position" pfx (by decide) (by decide) (by decide) fl st o h

theorem build_last_inv (pfx : String) (fl : Flags) (st : BState) (o : BOut)
    (h : build regexOk limit snt sdf (.call "last" pfx .anil) fl st = .ok o) :
    o.q = .func "last" st.positionInput .pnil ∧ o.st.firstInput = st.firstInput ∧
      o.st.predInput = st.predInput :=
  build_posFn_inv regexOk limit snt sdf "last" pfx (by decide) (by decide) (by decide) fl st o h

theorem build_cmp_inv' (op : String) (hop : op ∈ cmpOps) (l r : Ast) (fl : Flags)
    (st : BState) (o : BOut) (h : build regexOk limit snt sdf (.oper op l r) fl st = .ok o) :
    ∃ lo ro, build regexOk limit snt sdf l {} ⟨st.depth + 1, st.firstInput, st.predInput⟩ = .ok lo ∧
      build regexOk limit snt sdf r {} lo.st = .ok ro ∧
      o.q = .logical op lo.q ro.q := by
  obtain ⟨lo, ro, hlo, hro, rfl⟩ := build_oper_ok h
  rw [operOut_cmp hop]
  exact ⟨lo, ro, hlo, hro, rfl⟩

theorem build_minus_inv' (l r : Ast) (fl : Flags)
    (st : BState) (o : BOut) (h : build regexOk limit snt sdf (.oper "-" l r) fl st = .ok o) :
    ∃ lo ro, build regexOk limit snt sdf l {} ⟨st.depth + 1, st.firstInput, st.predInput⟩ = .ok lo ∧
      build regexOk limit snt sdf r {} lo.st = .ok ro ∧
      o.q = .numeric "-" lo.q ro.q := by
  obtain ⟨lo, ro, hlo, hro, rfl⟩ := build_oper_ok h
  exact ⟨lo, ro, hlo, hro, rfl⟩

/-- the builder turns a positional predicate into `PosForm.plan` of the current `positionInput`
(inside a predicate: the step being filtered) -/
theorem build_form_inv (f : PosForm) (fl : Flags) (st : BState) (o : BOut)
    (h : build regexOk limit snt sdf f.ast fl st = .ok o) :
    o.q = f.plan st.positionInput := by
  cases f with
  | lit lex => exact (build_num_inv regexOk limit snt sdf lex fl st o h).1
  | posCmp cop pfx lex =>
    obtain ⟨lo, ro, hlo, hro, hq⟩ := build_cmp_inv' regexOk limit snt sdf _ (opStr_mem cop) _ _ fl st o h
    obtain ⟨h1, _⟩ := build_position_inv regexOk limit snt sdf pfx _ _ lo hlo
    obtain ⟨h2, _⟩ := build_num_inv regexOk limit snt sdf lex _ _ ro hro
    rw [hq, h1, h2]; rfl
  | posEqLast p1 p2 =>
    obtain ⟨lo, ro, hlo, hro, hq⟩ := build_cmp_inv' regexOk limit snt sdf "=" (by simp [cmpOps]) _ _ fl st o h
    obtain ⟨h1, h1', h1''⟩ := build_position_inv regexOk limit snt sdf p1 _ _ lo hlo
    obtain ⟨h2, _⟩ := build_last_inv regexOk limit snt sdf p2 _ _ ro hro
    rw [hq, h1, h2]
    simp only [BState.positionInput, h1', h1'']; rfl
  | last pfx => exact (build_last_inv regexOk limit snt sdf pfx fl st o h).1
  | lastMinus pfx lex =>
    obtain ⟨lo, ro, hlo, hro, hq⟩ := build_minus_inv' regexOk limit snt sdf _ _ fl st o h
    obtain ⟨h1, _⟩ := build_last_inv regexOk limit snt sdf pfx _ _ lo hlo
    obtain ⟨h2, _⟩ := build_num_inv regexOk limit snt sdf lex _ _ ro hro
    rw [hq, h1, h2]; rfl

theorem form_plan_not_filterfunc (f : PosForm) (fi : Plan) (hfi : ∀ a b, fi ≠ .filter a b) :
    ∀ n fi' fp ar, f.plan fi ≠ .func n (.filter fi' fp) ar := by
  intro n fi' fp ar h
  cases f <;> simp only [PosForm.plan] at h <;> cases h
  exact hfi _ _ rfl

/-- the plan of a successfully built axis node is recorded as `firstInput` -/
theorem build_axis_firstInput (a : AxisInfo) (q : Ast) (fl : Flags) (st : BState) (o : BOut)
    (h : build regexOk limit snt sdf (.axis a q) fl st = .ok o) : o.st.firstInput = some o.q := by
  rcases build_axis_ok h with ⟨_, _, _, _, _, _, _, _, _, _, hfin⟩ | ⟨_, _, _, _, _, _, hq, hfin⟩
  · cases finAxis_ok hfin
    rfl
  · cases finAxis_ok hfin
    simp [axisPlan_ne_nil hq]

/-- a child step built as the input of a filter (`fl.filter = true`: no `//` shortcut): the child (or
cachedChild) constructor over the context or over the plan built for the input path with empty flags;
it is recorded as `firstInput` -/
theorem build_child_step_inv (a : AxisInfo) (ha : a.axis = "child") (q : Ast) (fl : Flags)
    (hfl : fl.filter = true) (st : BState) (o : BOut)
    (h : build regexOk limit snt sdf (.axis a q) fl st = .ok o) :
    ∃ qi, (o.q = .child a qi ∨ o.q = .cachedChild a qi) ∧ o.st.firstInput = some o.q ∧
      ((q = .none ∧ qi = .context) ∨
        (q ≠ .none ∧ ∃ st' o1, build regexOk limit snt sdf q {} st' = .ok o1 ∧ qi = o1.q)) := by
  have hfirst := build_axis_firstInput regexOk limit snt sdf a q fl st o h
  rcases build_axis_ok h with ⟨_, _, _, _, _, _, hflt, _⟩ | ⟨qin, pin, q', pr', st', hin, hq, hfin⟩
  · rw [hfl] at hflt
    cases hflt
  · obtain ⟨-, rfl, -⟩ := axisPlan_eq hq
    cases finAxis_ok hfin
    refine ⟨qin, ?_, hfirst, ?_⟩
    · rcases builtStep_nondesc (ArithSem.flatAxes_not_desc (by rw [ha]; decide)) fl pin qin with e | ⟨_, e⟩
      · exact .inl (e.trans (stepPlan_child ha qin))
      · exact .inr e
    · rcases hin with ⟨rfl, rfl, _⟩ | ⟨hn, io, hio, rfl, _⟩
      · exact .inl ⟨rfl, rfl⟩
      · have hfl0 : build.inFlagsOf a fl = {} := by simp [build.inFlagsOf, hfl]
        rw [hfl0] at hio
        exact .inr ⟨hn, _, io, hio, rfl⟩

theorem stackAst_not_axis (x y : Ast) (t : List Ast) : (stackAst (.filter x y) t).isAxis = false := by
  cases t <;> rfl

theorem positionInput_of_pred (st : BState) (step : Plan) (h : st.predInput = some step) :
    st.positionInput = step := by
  simp [BState.positionInput, h]

end Inv

/-! ## semantics of the built plans -/

variable {F : Type} [NumAlg F]

/-- `qi` is the plan the builder makes of the input path `q` of a step: the context node for no
path, else what `build` returns for `q` with empty flags -/
def InputPlan (regexOk : RegexOk) (limit : Nat) (q : Ast) (qi : Plan) : Prop :=
  (q = .none ∧ qi = .context) ∨
    (q ≠ .none ∧ ∃ st' o1, build regexOk limit true false q {} st' = .ok o1 ∧ qi = o1.q)

/-- what the theorems on `q/child::a[P]` use of the input path `q`: whatever plan the builder makes
of it agrees with it -/
def InputOK (F : Type) [NumAlg F] (d : Doc) (cfg : ECfg) (regexOk : RegexOk) (limit : Nat) (q : Ast) :
    Prop :=
  ∀ qi, InputPlan regexOk limit q qi →
    ∀ c : Spec.Ctx, validRef d c.node = true → PathOK (F := F) d cfg qi q c

section Sem
variable {d : Doc} (wf : WF d) (cfg : ECfg) (hns : cfg.nsIface = true) (hinj : HashInj d cfg)
  (regexOk : RegexOk) (limit : Nat)
include wf hns

include hinj in
/-- the plan built for an input path of `Frag2` agrees with the path -/
theorem input_pathOK2 (q : Ast) (hq : PredSem2.Frag2 true q) : InputOK F d cfg regexOk limit q := by
  rintro qi (⟨rfl, rfl⟩ | ⟨_, st', o1, ho1, rfl⟩) c hc
  · exact pathOK_none d cfg c hc
  · exact (PredSem2.operand_pathOK2 (F := F) wf cfg hns hinj regexOk limit q hq
      ((PredSem2.build_frag2 (F := F) wf cfg hns hinj regexOk limit true q hq).1 rfl).1 st' o1 ho1 c hc).2

include hinj in
/-- … and so for an input path of the smaller fragment `Frag` -/
theorem input_pathOK (q : Ast) (hq : Frag true q) : InputOK F d cfg regexOk limit q :=
  input_pathOK2 wf cfg hns hinj regexOk limit q (PredSem2.frag2_of_frag true q hq)

/-- **`q/child::a[cond]` through `build`** (any flags), for any input path whose plans agree with
it and any condition that the builder — with `predInput` the filtered child step — turns into a
plan deciding as the oracle does at the candidates (and that `processFilter` installs as it is,
`filterCond`): the
built plan is the plain filter or the merge form over the plan `qi` built for the input path, and it
keeps, for each input node in turn, the candidates the oracle keeps -/
theorem build_condStep_of (a : AxisInfo) (ha : a.axis = "child") (q : Ast)
    (hin : InputOK F d cfg regexOk limit q) (cond : Ast)
    (hcond : ∀ step qi, (step = .child a qi ∨ step = .cachedChild a qi) →
      ∀ (fl : Flags) (st : BState) (co : BOut), st.predInput = some step →
        build regexOk limit true false cond fl st = .ok co →
        CondDec F d cfg a co.q cond ∧ filterCond co = co.q)
    (fl : Flags) (st : BState) (o : BOut)
    (hb : build regexOk limit true false (.filter (.axis a q) cond) fl st = .ok o) :
    ∃ qi, InputPlan regexOk limit q qi ∧ PathShape o.q ∧
      ∀ c : Spec.Ctx, validRef d c.node = true → CondStepOK F d cfg a cond o.q qi q c := by
  obtain ⟨io, co, _, hio, hco, _, hres, _⟩ := build_filter_ok hb
  obtain ⟨qi, hshape, hfirst, hqi⟩ := build_child_step_inv regexOk limit true false a ha q _ rfl _ io hio
  obtain ⟨hdec, hfc⟩ := hcond io.q qi hshape fl _ co hfirst hco
  rw [hfc] at hres
  have hpl : o.q = .filter io.q co.q ∨ ∃ parent, io.q.inputOf = some parent ∧
      o.q = .merge parent (.filter (io.q.withInput .context) co.q) := hres.imp id And.right
  refine ⟨qi, hqi, ?_, fun c hc =>
    condStep_built wf cfg hns a ha co.q cond hdec io.q o.q qi hshape hpl q c (hin qi hqi c hc)⟩
  rcases hpl with h | ⟨_, _, h⟩ <;> rw [h] <;> trivial

omit hns in
/-- a positional form, built while `predInput` is the filtered child step, counts in that step -/
theorem build_form_condDec (a : AxisInfo) (f : PosForm) (hag : f.Agree F d.length) (step qi : Plan)
    (hstep : step = .child a qi ∨ step = .cachedChild a qi) (fl : Flags) (st : BState) (co : BOut)
    (hst : st.predInput = some step) (hco : build regexOk limit true false f.ast fl st = .ok co) :
    CondDec F d cfg a co.q f.ast ∧ filterCond co = co.q := by
  have hcq : co.q = f.plan step := by
    rw [build_form_inv regexOk limit true false f fl st co hco, positionInput_of_pred st step hst]
  have hfi : planTest d cfg step = nodeTestM d cfg a := by rcases hstep with rfl | rfl <;> rfl
  refine ⟨hcq ▸ form_condDec wf cfg a f step hfi hag, filterCond_of_not_func ?_⟩
  rw [hcq]
  refine form_plan_not_filterfunc f step ?_
  rintro x y rfl
  rcases hstep with h | h <;> cases h

/-- **`child::t[P]` through `build`** (any flags): the built plan is the plain filter or the merge
form over the plan `qi` built for the input path, and it implements the proximity semantics -/
theorem build_posStep_of (a : AxisInfo) (ha : a.axis = "child") (q : Ast)
    (hin : InputOK F d cfg regexOk limit q) (f : PosForm) (hag : f.Agree F d.length)
    (fl : Flags) (st : BState) (o : BOut)
    (hb : build regexOk limit true false (.filter (.axis a q) f.ast) fl st = .ok o) :
    ∃ qi, InputPlan regexOk limit q qi ∧ PathShape o.q ∧
      ∀ c : Spec.Ctx, validRef d c.node = true → PosStepOK F d cfg a f o.q qi q c := by
  obtain ⟨qi, h1, h2, h3⟩ := build_condStep_of (F := F) wf cfg hns regexOk limit a ha q hin f.ast
    (build_form_condDec wf cfg regexOk limit a f hag) fl st o hb
  exact ⟨qi, h1, h2, fun c hc => posStepOK_iff.2 (h3 c hc)⟩

include hinj in
/-- over a flat input path (or the context node) the built input plan is a flat plan -/
theorem build_posStep_flat (a : AxisInfo) (ha : a.axis = "child") (q : Ast)
    (hq : q = .none ∨ ArithSem.FlatPath q)
    (f : PosForm) (hag : f.Agree F d.length) (fl : Flags) (st : BState) (o : BOut)
    (hb : build regexOk limit true false (.filter (.axis a q) f.ast) fl st = .ok o) :
    ∃ qi, FlatPlan qi ∧
      ∀ c : Spec.Ctx, validRef d c.node = true → PosStepOK F d cfg a f o.q qi q c := by
  have hfrag : Frag true q := by
    rcases hq with rfl | hq
    · exact .none
    · exact frag_of_pathPF q hq.pathPF
  obtain ⟨qi, hqi, _, h2⟩ := build_posStep_of (F := F) wf cfg hns regexOk limit a ha q
    (input_pathOK wf cfg hns hinj regexOk limit q hfrag) f hag fl st o hb
  refine ⟨qi, ?_, h2⟩
  rcases hqi with ⟨_, rfl⟩ | ⟨hne, st', o1, ho1, rfl⟩
  · exact .context
  · rcases hq with rfl | hq
    · exact absurd rfl hne
    · exact ArithSem.build_flat regexOk limit true false hq _ _ _ ho1

/-- **`child::t[P][b1]…[bk]` through `build`**: the later boolean filters (each built into a plan
with the oracle's truth, `BuildB`) are plain filters on top -/
theorem build_posChain_shape (a : AxisInfo) (ha : a.axis = "child") (q : Ast)
    (hin : InputOK F d cfg regexOk limit q) (f : PosForm) (hag : f.Agree F d.length) :
    ∀ (bs : List Ast), (∀ b ∈ bs, BuildB (F := F) d cfg regexOk limit b) →
      ∀ (fl : Flags) (st : BState) (o : BOut),
      build regexOk limit true false (stackAst (.filter (.axis a q) f.ast) bs) fl st = .ok o →
      ∃ qi pl0 ps, o.q = stackPlan pl0 ps ∧ PathShape pl0 ∧ PredsOK F d cfg ps bs ∧
        ∀ c : Spec.Ctx, validRef d c.node = true → PosStepOK F d cfg a f pl0 qi q c := by
  intro bs
  induction bs with
  | nil =>
    intro _ fl st o hb
    obtain ⟨qi, _, hs, hok⟩ := build_posStep_of (F := F) wf cfg hns regexOk limit a ha q hin f hag fl st o hb
    exact ⟨qi, o.q, [], rfl, hs, trivial, hok⟩
  | cons b t ih =>
    intro hbs fl st o hb
    obtain ⟨st1, io, co, hio, hco, hres⟩ :=
      build_filter_inv regexOk limit true false _ b fl st o hb
    obtain ⟨qi, pl0, ps, hq0, hs, hps, hok⟩ :=
      ih (fun b' hb' => hbs b' (List.mem_cons_of_mem _ hb')) _ st1 io hio
    obtain ⟨hcop, hcor⟩ := hbs b List.mem_cons_self fl _ co hco
    obtain ⟨hshape, _⟩ := hres hcop.2
    refine ⟨qi, pl0, co.q :: ps, ?_, hs, ⟨fun x hx pos size => hcor ⟨x, pos, size⟩ hx, hps⟩, hok⟩
    rcases hshape with h | ⟨hax, _⟩
    · rw [h, hq0]; rfl
    · rw [stackAst_not_axis] at hax; cases hax

/-- **`child::t[P][b1]…[bk]` through `build`**: the built plan satisfies `PosChainOK` -/
theorem build_posChain (a : AxisInfo) (ha : a.axis = "child") (q : Ast)
    (hin : InputOK F d cfg regexOk limit q) (f : PosForm) (hag : f.Agree F d.length)
    (bs : List Ast) (hbs : ∀ b ∈ bs, BuildB (F := F) d cfg regexOk limit b)
    (fl : Flags) (st : BState) (o : BOut)
    (hb : build regexOk limit true false (stackAst (.filter (.axis a q) f.ast) bs) fl st = .ok o) :
    ∃ qi, ∀ c : Spec.Ctx, validRef d c.node = true → PosChainOK F d cfg a f bs o.q qi q c := by
  obtain ⟨qi, pl0, ps, hq0, hs, hps, hok⟩ :=
    build_posChain_shape (F := F) wf cfg hns regexOk limit a ha q hin f hag bs hbs fl st o hb
  refine ⟨qi, fun c hc => ?_⟩
  rw [hq0]
  exact posChain_of_step (hok c hc) hs ps bs hps

end Sem

end XPathV.PosSem
