import XPathV.Lemmas.PosSem.Cond
import XPathV.Lemmas.PosSem.PredInput
import XPathV.Lemmas.PredSem2
/-!
# C03 — `position()` / `last()` after other location steps, through the builder

The fragments `PosCond` ⊆ `PosCond2` of first predicates: comparisons among `position()`, `last()`
and number literals (`NumAtom`), comparisons of a path with one of those (`. = last()`,
`position() >= @k`), every boolean predicate of the C02 fragment, closed under `and`, `or`,
`not(…)` — in any order, so that the positional test may come *after* any number of location steps
(`[b and position() = 2]`, `[@k or position() = 1]`, `[not(c) and . = last()]`).  The embedded paths
and predicates are those of `PredSem.Frag` in `PosCond`, of `PredSem2.Frag2` in `PosCond2`.
The two inductives have the same constructors; everything is proved of `PosCond2`, and of `PosCond`
only the embedding `posCond2_of_posCond`.  `PosCond2` and the lemmas about it are in the namespace
`XPathV.PosSem3` (which has no module of its own), the rest of this file in `XPathV.PosSem`.

`build_posCond2`: built while `predInput` is the filtered child step, such a condition becomes a plan
that agrees with the oracle at every candidate (`CondOK`) — `position()` / `last()` count in the
filtered step whatever steps were built before them (`build_predInput`).
`build_condStep3`: `q/child::a[cond]` through `build`, plain or merge form (`CondStepOK`).
-/
namespace XPathV.PosSem
open XPathV XPathV.Model XPathV.PathSem XPathV.PredSem NumAlg

variable {F : Type} [NumAlg F]

/-! ## numeric atoms: `position()`, `last()`, a literal -/

inductive NumAtom
  | position (pfx : String)
  | last (pfx : String)
  | lit (lex : String)

namespace NumAtom

def ast : NumAtom → Ast
  | position pfx => .call "position" pfx .anil
  | last pfx => .call "last" pfx .anil
  | lit lex => .num lex

/-- the plan the builder makes when `position()` / `last()` count in `fi` -/
def plan (fi : Plan) : NumAtom → Plan
  | position _ => .func "position" fi .pnil
  | last _ => .func "last" fi .pnil
  | lit lex => .constNum lex

/-- the value at context position `pos` of `size` -/
def val (F : Type) [NumAlg F] : NumAtom → Nat → Nat → F
  | position _, pos, _ => ofNat pos
  | last _, _, size => ofNat size
  | lit lex, _, _ => Spec.strToNum lex

end NumAtom

theorem evalP_numAtom (d : Doc) (cfg : ECfg) (n : NumAtom) (fi : Plan) (x : Ref) :
    evalP (F := F) d cfg (n.plan fi) x =
      .ok (.num (n.val F (positionM d cfg fi x) (lastM d cfg fi x))) := by
  cases n with
  | position pfx => exact evalP_position d cfg fi x
  | last pfx => exact evalP_last d cfg fi x
  | lit lex => exact evalP_constNum d cfg lex x

theorem eval_numAtom (d : Doc) (n : NumAtom) (x : Ref) (pos size : Nat) :
    Spec.eval (F := F) d n.ast ⟨x, pos, size⟩ = .ok (.val (.num (n.val F pos size)) none) := by
  cases n with
  | position pfx => exact eval_position d pfx _
  | last pfx => exact eval_last d pfx _
  | lit lex => exact eval_num d lex _

theorem build_numAtom_inv (regexOk : RegexOk) (limit : Nat) (snt sdf : Bool) (n : NumAtom)
    (fl : Flags) (st : BState) (o : BOut) (step : Plan) (hst : st.predInput = some step)
    (h : build regexOk limit snt sdf n.ast fl st = .ok o) :
    o.q = n.plan step ∧ o.st.predInput = some step := by
  refine ⟨?_, (build_predInput regexOk limit snt sdf _ fl st o h).trans hst⟩
  cases n with
  | position pfx =>
    rw [(build_position_inv regexOk limit snt sdf pfx fl st o h).1, positionInput_of_pred st step hst]
    rfl
  | last pfx =>
    rw [(build_last_inv regexOk limit snt sdf pfx fl st o h).1, positionInput_of_pred st step hst]
    rfl
  | lit lex => exact (build_num_inv regexOk limit snt sdf lex fl st o h).1

/-! ## the fragment -/

/-- first predicates in which positional tests and tests on the node are freely combined -/
inductive PosCond : Ast → Prop
  /-- `position() op n`, `position() = last()`, `2 >= position()`, … -/
  | cmpNN (op : String) (l r : NumAtom) : op ∈ cmpOps → PosCond (.oper op l.ast r.ast)
  /-- `p op position()`, `. = last()`, … for a path `p` of the C02 fragment -/
  | cmpPN (op : String) (p : Ast) (n : NumAtom) : op ∈ cmpOps → Frag true p →
      PosCond (.oper op p n.ast)
  | cmpNP (op : String) (n : NumAtom) (p : Ast) : op ∈ cmpOps → Frag true p →
      PosCond (.oper op n.ast p)
  /-- a boolean predicate of the C02 fragment -/
  | frag (b : Ast) : Frag false b → PosCond b
  | and (c1 c2 : Ast) : PosCond c1 → PosCond c2 → PosCond (.oper "and" c1 c2)
  | or (c1 c2 : Ast) : PosCond c1 → PosCond c2 → PosCond (.oper "or" c1 c2)
  | not (pfx : String) (c : Ast) : PosCond c → PosCond (.call "not" pfx (.acons c .anil))

theorem posCond_posCmp (cop : Spec.CmpOp) (pfx lex : String) :
    PosCond (PosForm.posCmp cop pfx lex).ast :=
  .cmpNN (opStr cop) (.position pfx) (.lit lex) (opStr_mem cop)

theorem posCond_posEqLast (p1 p2 : String) : PosCond (PosForm.posEqLast p1 p2).ast :=
  .cmpNN "=" (.position p1) (.last p2) (by simp [cmpOps])

/-- `[b and position() op n]`, `[position() op n and b]`, `[b or position() op n]`,
`[position() op n or b]` -/
inductive MixShape
  | andPos | posAnd | orPos | posOr

/-- the parse tree of the combination of the boolean predicate `b` with the positional test `f` -/
def MixShape.ast : MixShape → Ast → Ast → Ast
  | .andPos, b, f => .oper "and" b f
  | .posAnd, b, f => .oper "and" f b
  | .orPos, b, f => .oper "or" b f
  | .posOr, b, f => .oper "or" f b

/-- the verdict: from the truth of `b` at the node and the truth of the positional test -/
def MixShape.comb : MixShape → Bool → Bool → Bool
  | .andPos, tb, tf | .posAnd, tb, tf => tb && tf
  | .orPos, tb, tf | .posOr, tb, tf => tb || tf

theorem posCond_mix (s : MixShape) (b f : Ast) (hb : Frag false b) (hf : PosCond f) :
    PosCond (s.ast b f) := by
  cases s
  · exact .and _ _ (.frag b hb) hf
  · exact .and _ _ hf (.frag b hb)
  · exact .or _ _ (.frag b hb) hf
  · exact .or _ _ hf (.frag b hb)

/-! ## comparisons with a number, at one context -/

theorem predOK_cmpNumNum (d : Doc) (cfg : ECfg) (op : String) (hop : op ∈ cmpOps) (pl pr : Plan)
    (l r : Ast) (c : Spec.Ctx) (y z : F)
    (hEl : evalP (F := F) d cfg pl c.node = .ok (.num y))
    (hEr : evalP (F := F) d cfg pr c.node = .ok (.num z))
    (hSl : Spec.eval (F := F) d l c = .ok (.val (.num y) none))
    (hSr : Spec.eval (F := F) d r c = .ok (.val (.num z) none)) :
    PredOK (F := F) d cfg (.logical op pl pr) (.oper op l r) c :=
  predOK_cmp hop ⟨_, .num y, none, hEl, hSl, rfl⟩ ⟨_, .num z, none, hEr, hSr, rfl⟩

/-- path `op` number-valued operand -/
theorem predOK_cmpPathNum (d : Doc) (cfg : ECfg) (op : String) (hop : op ∈ cmpOps) (pl pr : Plan)
    (p r : Ast) (c : Spec.Ctx) (z : F) (h : PathOK (F := F) d cfg pl p c)
    (hEr : evalP (F := F) d cfg pr c.node = .ok (.num z))
    (hSr : Spec.eval (F := F) d r c = .ok (.val (.num z) none)) :
    PredOK (F := F) d cfg (.logical op pl pr) (.oper op p r) c :=
  predOK_cmp hop h.vrel ⟨_, .num z, none, hEr, hSr, rfl⟩

/-- number-valued operand `op` path -/
theorem predOK_cmpNumPath (d : Doc) (cfg : ECfg) (op : String) (hop : op ∈ cmpOps) (pl pr : Plan)
    (l p : Ast) (c : Spec.Ctx) (y : F) (h : PathOK (F := F) d cfg pr p c)
    (hEl : evalP (F := F) d cfg pl c.node = .ok (.num y))
    (hSl : Spec.eval (F := F) d l c = .ok (.val (.num y) none)) :
    PredOK (F := F) d cfg (.logical op pl pr) (.oper op l p) c :=
  predOK_cmp hop ⟨_, .num y, none, hEl, hSl, rfl⟩ h.vrel

/-! ## inversion of `build` with the state the operands are built in -/

section Inv
variable (regexOk : RegexOk) (limit : Nat) (snt sdf : Bool)

theorem build_not_inv' (pfx : String) (b : Ast) (fl : Flags) (st : BState) (o : BOut)
    (h : build regexOk limit snt sdf (.call "not" pfx (.acons b .anil)) fl st = .ok o) :
    ∃ ho, build regexOk limit snt sdf b {} ⟨st.depth + 1, st.firstInput, st.predInput⟩ = .ok ho ∧
      o.q = .func "not" .nil (.pcons ho.q .pnil) := by
  obtain ⟨ho, hho, hq, _⟩ := build_call1_ok rfl (by decide) (by decide) (by decide) h
  exact ⟨ho, hho, hq⟩

end Inv

end XPathV.PosSem

namespace XPathV.PosSem3
open XPathV XPathV.Model XPathV.PathSem XPathV.PredSem XPathV.PredSem2 XPathV.PosSem NumAlg

variable {F : Type} [NumAlg F]

/-! ## the fragment -/

/-- first predicates in which positional tests and tests on the node are freely combined; the tests
on the node are those of the whole C02 fragment `Frag2` -/
inductive PosCond2 : Ast → Prop
  /-- `position() op n`, `position() = last()`, `2 >= position()`, … -/
  | cmpNN (op : String) (l r : NumAtom) : op ∈ cmpOps → PosCond2 (.oper op l.ast r.ast)
  /-- `p op position()`, `. = last()`, … for a path `p` of `Frag2` -/
  | cmpPN (op : String) (p : Ast) (n : NumAtom) : op ∈ cmpOps → Frag2 true p →
      PosCond2 (.oper op p n.ast)
  | cmpNP (op : String) (n : NumAtom) (p : Ast) : op ∈ cmpOps → Frag2 true p →
      PosCond2 (.oper op n.ast p)
  /-- a boolean predicate of `Frag2` -/
  | frag (b : Ast) : Frag2 false b → PosCond2 b
  | and (c1 c2 : Ast) : PosCond2 c1 → PosCond2 c2 → PosCond2 (.oper "and" c1 c2)
  | or (c1 c2 : Ast) : PosCond2 c1 → PosCond2 c2 → PosCond2 (.oper "or" c1 c2)
  | not (pfx : String) (c : Ast) : PosCond2 c → PosCond2 (.call "not" pfx (.acons c .anil))

/-- the extension contains `PosCond` -/
theorem posCond2_of_posCond (c : Ast) (h : PosCond c) : PosCond2 c := by
  induction h with
  | cmpNN op l r hop => exact .cmpNN op l r hop
  | cmpPN op p n hop hp => exact .cmpPN op p n hop (frag2_of_frag true p hp)
  | cmpNP op n p hop hp => exact .cmpNP op n p hop (frag2_of_frag true p hp)
  | frag b hb => exact .frag b (frag2_of_frag false b hb)
  | and c1 c2 _ _ ih1 ih2 => exact .and c1 c2 ih1 ih2
  | or c1 c2 _ _ ih1 ih2 => exact .or c1 c2 ih1 ih2
  | not pfx c _ ih => exact .not pfx c ih

theorem posCond2_posCmp (cop : Spec.CmpOp) (pfx lex : String) :
    PosCond2 (PosForm.posCmp cop pfx lex).ast :=
  posCond2_of_posCond _ (posCond_posCmp cop pfx lex)

theorem posCond2_posEqLast (p1 p2 : String) : PosCond2 (PosForm.posEqLast p1 p2).ast :=
  posCond2_of_posCond _ (posCond_posEqLast p1 p2)

theorem posCond2_mix (s : MixShape) (b f : Ast) (hb : Frag2 false b) (hf : PosCond2 f) :
    PosCond2 (s.ast b f) := by
  cases s
  · exact .and _ _ (.frag b hb) hf
  · exact .and _ _ hf (.frag b hb)
  · exact .or _ _ (.frag b hb) hf
  · exact .or _ _ hf (.frag b hb)

section Sem
variable {d : Doc} (wf : WF d) (cfg : ECfg) (hns : cfg.nsIface = true) (hinj : HashInj d cfg)
  (regexOk : RegexOk) (limit : Nat)
include wf hns hinj

/-! ## through the builder -/

/-- **conditions of `PosCond2`, built under `predInput = some step`**: wherever in the condition
`position()` / `last()` stand — behind `and` / `or` / `not`, next to any predicate of `Frag2`, after
any number of location steps — they count in `step`; when `step` tests what the child step `a`
tests, the plan agrees with the oracle at every candidate of the step, in the oracle's context
(proximity position, number of candidates of the same parent) -/
theorem build_posCond2 (a : AxisInfo) (step : Plan) (hstep : planTest d cfg step = nodeTestM d cfg a)
    (cond : Ast) (hc : PosCond2 cond) :
    ∀ (fl : Flags) (st : BState) (o : BOut), st.predInput = some step →
      build regexOk limit true false cond fl st = .ok o →
      CondOK F d cfg a o.q cond ∧ filterCond o = o.q := by
  -- at a candidate, a numeric atom counting in `step` has the oracle's value
  have hnum : ∀ (n : NumAtom) p x k, (childCands d cfg a p)[k]? = some x →
      evalP (F := F) d cfg (n.plan step) x =
        .ok (.num (n.val F (k + 1) (childCands d cfg a p).length)) := by
    intro n p x k hk
    obtain ⟨h1, _, h3⟩ := position_is_proximity wf cfg a step hstep p x k hk
    rw [evalP_numAtom, h1, h3]
  -- a path of `Frag2` built as an operand agrees with the oracle at every candidate
  have hpath : ∀ p, Frag2 true p → ∀ st lo, build regexOk limit true false p {} st = .ok lo →
      ∀ pp x k, (childCands d cfg a pp)[k]? = some x →
        PathOK (F := F) d cfg lo.q p ⟨x, k + 1, (childCands d cfg a pp).length⟩ :=
    fun p hp st lo hlo pp x k hk =>
      (operand_pathOK2 (F := F) wf cfg hns hinj regexOk limit p hp
        ((build_frag2 (F := F) wf cfg hns hinj regexOk limit true p hp).1 rfl).1 st lo hlo _
        (childCands_valid d cfg a pp x (List.mem_of_getElem? hk))).2
  -- `and` / `or`: the operator `op` makes `.boolean isOr`, which has the truth `predOK_and` / `predOK_or` give
  have hbool : ∀ (op : String) (isOr : Bool) (c1 c2 : Ast),
      (∀ lq rq p, operOut op lq rq p = (.boolean isOr lq rq, p)) →
      (∀ pl1 pl2 c, PredOK (F := F) d cfg pl1 c1 c → PredOK (F := F) d cfg pl2 c2 c →
        PredOK (F := F) d cfg (.boolean isOr pl1 pl2) (.oper op c1 c2) c) →
      (∀ fl st o, st.predInput = some step → build regexOk limit true false c1 fl st = .ok o →
        CondOK F d cfg a o.q c1 ∧ filterCond o = o.q) →
      (∀ fl st o, st.predInput = some step → build regexOk limit true false c2 fl st = .ok o →
        CondOK F d cfg a o.q c2 ∧ filterCond o = o.q) →
      ∀ fl st o, st.predInput = some step → build regexOk limit true false (.oper op c1 c2) fl st = .ok o →
        CondOK F d cfg a o.q (.oper op c1 c2) ∧ filterCond o = o.q := by
    intro op isOr c1 c2 hop hpred ih1 ih2 fl st o hst hb
    obtain ⟨lo, ro, hlo, hro, rfl⟩ := build_oper_ok hb
    obtain ⟨h1, _⟩ := ih1 _ ⟨st.depth + 1, _, _⟩ lo hst hlo
    obtain ⟨h2, _⟩ := ih2 _ _ ro ((build_predInput regexOk limit true false _ _ _ lo hlo).trans hst) hro
    simp only [hop]
    exact ⟨fun pp x k hk => hpred _ _ _ (h1 pp x k hk) (h2 pp x k hk),
      filterCond_of_not_func fun n fi fp ar e => by cases e⟩
  induction hc with
  | cmpNN op l r hop =>
    intro fl st o hst hb
    obtain ⟨lo, ro, hlo, hro, hq⟩ := build_cmp_inv' regexOk limit true false op hop _ _ fl st o hb
    obtain ⟨hl, hlp⟩ := build_numAtom_inv regexOk limit true false l _ ⟨st.depth + 1, _, _⟩ lo step hst hlo
    obtain ⟨hr, _⟩ := build_numAtom_inv regexOk limit true false r _ _ ro step hlp hro
    refine ⟨fun p x k hk => ?_, filterCond_of_not_func fun n fi fp ar e => by rw [hq] at e; cases e⟩
    rw [hq, hl, hr]
    exact predOK_cmpNumNum d cfg op hop _ _ _ _ _ _ _ (hnum l p x k hk) (hnum r p x k hk)
      (eval_numAtom d l x _ _) (eval_numAtom d r x _ _)
  | cmpPN op p n hop hp =>
    intro fl st o hst hb
    obtain ⟨lo, ro, hlo, hro, hq⟩ := build_cmp_inv' regexOk limit true false op hop _ _ fl st o hb
    have hlp : lo.st.predInput = some step :=
      (build_predInput regexOk limit true false _ _ _ lo hlo).trans hst
    obtain ⟨hr, _⟩ := build_numAtom_inv regexOk limit true false n _ _ ro step hlp hro
    refine ⟨fun pp x k hk => ?_, filterCond_of_not_func fun n fi fp ar e => by rw [hq] at e; cases e⟩
    rw [hq, hr]
    exact predOK_cmpPathNum d cfg op hop _ _ _ _ _ _ (hpath p hp _ lo hlo pp x k hk)
      (hnum n pp x k hk) (eval_numAtom d n x _ _)
  | cmpNP op n p hop hp =>
    intro fl st o hst hb
    obtain ⟨lo, ro, hlo, hro, hq⟩ := build_cmp_inv' regexOk limit true false op hop _ _ fl st o hb
    obtain ⟨hl, hlp⟩ := build_numAtom_inv regexOk limit true false n _ ⟨st.depth + 1, _, _⟩ lo step hst hlo
    refine ⟨fun pp x k hk => ?_, filterCond_of_not_func fun n fi fp ar e => by rw [hq] at e; cases e⟩
    rw [hq, hl]
    exact predOK_cmpNumPath d cfg op hop _ _ _ _ _ _ (hpath p hp _ ro hro pp x k hk)
      (hnum n pp x k hk) (eval_numAtom d n x _ _)
  | frag b hb =>
    intro fl st o _ hbld
    obtain ⟨hpr, hok⟩ := ((build_frag2 (F := F) wf cfg hns hinj regexOk limit false b hb).2 rfl) fl st o hbld
    exact ⟨fun pp x k hk => hok ⟨x, k + 1, _⟩ (childCands_valid d cfg a pp x (List.mem_of_getElem? hk)),
      filterCond_of_hasLast hpr.2⟩
  | and c1 c2 _ _ ih1 ih2 =>
    exact hbool "and" false c1 c2 operOut_and (fun pl1 pl2 c => predOK_and d cfg pl1 pl2 c1 c2 c) ih1 ih2
  | or c1 c2 _ _ ih1 ih2 =>
    exact hbool "or" true c1 c2 operOut_or (fun pl1 pl2 c => predOK_or d cfg pl1 pl2 c1 c2 c) ih1 ih2
  | not pfx c _ ih =>
    intro fl st o hst hb
    obtain ⟨ho, hho, hq⟩ := build_not_inv' regexOk limit true false pfx c fl st o hb
    obtain ⟨h1, _⟩ := ih _ ⟨st.depth + 1, _, _⟩ ho hst hho
    refine ⟨fun pp x k hk => ?_, filterCond_of_not_func fun n fi fp ar e => by rw [hq] at e; cases e⟩
    rw [hq]
    exact predOK_not d cfg ho.q c pfx _ (h1 pp x k hk)

/-- **`q/child::a[cond]` through `build`** (any flags), `cond` in `PosCond2`, for any input path
whose plans agree with it: the built plan is the plain filter or the merge form over the plan `qi`
built for the input path, and it keeps, for each input node in turn, the candidates on which the
oracle's reading of `cond` — at the candidate, with its proximity position and the number of
candidates of the same parent — is true -/
theorem build_condStep3 (a : AxisInfo) (ha : a.axis = "child") (q : Ast)
    (hin : InputOK F d cfg regexOk limit q) (cond : Ast) (hc : PosCond2 cond)
    (fl : Flags) (st : BState) (o : BOut)
    (hb : build regexOk limit true false (.filter (.axis a q) cond) fl st = .ok o) :
    ∃ qi, InputPlan regexOk limit q qi ∧ PathShape o.q ∧
      ∀ c : Spec.Ctx, validRef d c.node = true → CondStepOK F d cfg a cond o.q qi q c :=
  build_condStep_of (F := F) wf cfg hns regexOk limit a ha q hin cond
    (fun step qi hstep fl st co hst hco =>
      (build_posCond2 (F := F) wf cfg hns hinj regexOk limit a step
        (by rcases hstep with rfl | rfl <;> rfl) cond hc fl st co hst hco).imp CondOK.dec id)
    fl st o hb

end Sem

end XPathV.PosSem3

namespace XPathV.PosSem
open XPathV XPathV.Model XPathV.PathSem XPathV.PredSem NumAlg

variable {F : Type} [NumAlg F]

section Sem
variable {d : Doc} (wf : WF d) (cfg : ECfg) (hns : cfg.nsIface = true) (hinj : HashInj d cfg)
include wf hns hinj

/-! ## the oracle's verdict, spelled out -/

omit wf hns hinj in
theorem condTruth_of_eval (cond : Ast) (x : Ref) (pos size : Nat) (sv : Spec.Value F)
    (g : Option (List (List Ref)))
    (h : Spec.eval (F := F) d cond ⟨x, pos, size⟩ = .ok (.val sv g)) (hnn : NotNum sv) :
    condTruth F d cond x pos size = Spec.toBool sv := by
  simp only [condTruth, h, Spec.Res.value, predTruth_notNum _ hnn]

omit wf hns hinj in
/-- `position() op n`: the comparison of the position with the literal -/
theorem condTruth_posCmp (cop : Spec.CmpOp) (pfx lex : String) (x : Ref) (pos size : Nat) :
    condTruth F d (PosForm.posCmp cop pfx lex).ast x pos size =
      Spec.cmpNum cop (ofNat pos : F) (Spec.strToNum lex) :=
  condTruth_form d (.posCmp cop pfx lex) x pos size

omit wf hns hinj in
/-- a predicate whose plan `pl` agrees with it at the node whatever position and size: its truth at
the node -/
theorem condTruth_of_predOK (pl : Plan) (b : Ast) (x : Ref)
    (hp : ∀ pos size, PredOK (F := F) d cfg pl b ⟨x, pos, size⟩) (pos size : Nat) :
    condTruth F d b x pos size = holds (F := F) d b x := by
  obtain ⟨_, sv, g, _, hS, _, hnn, _⟩ := hp pos size
  obtain ⟨_, res, _, hS', _, _, _, htr⟩ := predOK_holds (F := F) d cfg pl b x hp pos size
  rw [hS] at hS'
  cases hS'
  rw [condTruth_of_eval (F := F) b x pos size sv g hS hnn]
  exact htr

/-- a boolean predicate of the C02 fragment: its truth at the node, whatever position and size -/
theorem condTruth_frag (b : Ast) (hb : Frag false b) (x : Ref) (hx : validRef d x = true)
    (pos size : Nat) : condTruth F d b x pos size = holds (F := F) d b x :=
  condTruth_of_predOK cfg (predPlan b) b x
    (fun pos size => (frag_sem (F := F) wf cfg hns hinj false b hb ⟨x, pos, size⟩ hx).2 rfl) pos size

omit wf hns hinj in
theorem condTruth_and (c1 c2 : Ast) (x : Ref) (pos size : Nat) (r1 r2 : Spec.Res F)
    (h1 : Spec.eval (F := F) d c1 ⟨x, pos, size⟩ = .ok r1) (h2 : Spec.eval (F := F) d c2 ⟨x, pos, size⟩ = .ok r2) :
    condTruth F d (.oper "and" c1 c2) x pos size = (Spec.toBool r1.value && Spec.toBool r2.value) := by
  simp only [condTruth, eval_and d c1 c2 _ r1 r2 h1 h2, Spec.Res.value, Spec.predTruth, Spec.toBool]

omit wf hns hinj in
theorem condTruth_or (c1 c2 : Ast) (x : Ref) (pos size : Nat) (r1 r2 : Spec.Res F)
    (h1 : Spec.eval (F := F) d c1 ⟨x, pos, size⟩ = .ok r1) (h2 : Spec.eval (F := F) d c2 ⟨x, pos, size⟩ = .ok r2) :
    condTruth F d (.oper "or" c1 c2) x pos size = (Spec.toBool r1.value || Spec.toBool r2.value) := by
  simp only [condTruth, eval_or d c1 c2 _ r1 r2 h1 h2, Spec.Res.value, Spec.predTruth, Spec.toBool]

omit wf hns hinj in
/-- the oracle's verdict on `b and position() op n` (and the three other arrangements) at a
candidate, for a predicate `b` whose plan `pl` agrees with it at the node: `b` holds at the node,
and/or the candidate's position compares with `n` -/
theorem condTruth_mix (s : MixShape) (pl : Plan) (b : Ast) (cop : Spec.CmpOp) (pfx lex : String)
    (x : Ref) (hp : ∀ pos size, PredOK (F := F) d cfg pl b ⟨x, pos, size⟩) (pos size : Nat) :
    condTruth F d (s.ast b (PosForm.posCmp cop pfx lex).ast) x pos size =
      s.comb (holds (F := F) d b x) (Spec.cmpNum cop (ofNat pos : F) (Spec.strToNum lex)) := by
  obtain ⟨_, r1, _, h1, _, _, _, ht1⟩ := predOK_holds (F := F) d cfg pl b x hp pos size
  have h2 := eval_form (F := F) d (.posCmp cop pfx lex) x pos size
  have ht2 : Spec.toBool (Spec.Res.val ((PosForm.posCmp cop pfx lex).specVal (F := F) pos size) none).value =
      Spec.cmpNum cop (ofNat pos : F) (Spec.strToNum lex) := rfl
  cases s
  · rw [MixShape.ast, condTruth_and (F := F) _ _ x pos size _ _ h1 h2, ht1, ht2]; rfl
  · rw [MixShape.ast, condTruth_and (F := F) _ _ x pos size _ _ h2 h1, ht1, ht2, Bool.and_comm]; rfl
  · rw [MixShape.ast, condTruth_or (F := F) _ _ x pos size _ _ h1 h2, ht1, ht2]; rfl
  · rw [MixShape.ast, condTruth_or (F := F) _ _ x pos size _ _ h2 h1, ht1, ht2, Bool.or_comm]; rfl

omit wf hns hinj in
/-- **`[b and position() op n]`, `[position() op n and b]`, `[b or position() op n]`,
`[position() op n or b]`**, node-set level, for a predicate `b` whose plan `pl` agrees with it at
every valid node: the nodes returned are the candidates `x` of an input node such that `b` holds at
`x` and (resp. or) the 1-based position of `x` among the candidates compares with the literal -/
theorem CondStepOK.mem_iff_mix {a : AxisInfo} {s : MixShape} {b : Ast} {cop : Spec.CmpOp}
    {pfx lex : String} {pl qi : Plan} {q : Ast} {c : Spec.Ctx}
    (h : CondStepOK F d cfg a (s.ast b (PosForm.posCmp cop pfx lex).ast) pl qi q c) (plb : Plan)
    (hp : ∀ x, validRef d x = true → ∀ pos size, PredOK (F := F) d cfg plb b ⟨x, pos, size⟩) :
    ∃ out ns g origins g0, sel (F := F) d cfg pl c.node = .ok out ∧
      Spec.eval (F := F) d (.filter (.axis a q) (s.ast b (PosForm.posCmp cop pfx lex).ast)) c =
        .ok (.val (.nodes ns) g) ∧
      Spec.eval (F := F) d q c = .ok (.val (.nodes origins) g0) ∧
      (∀ x, x ∈ refs out ↔ x ∈ ns) ∧
      (∀ x, x ∈ ns ↔ ∃ p ∈ origins, ∃ k, (childCands d cfg a p)[k]? = some x ∧
        s.comb (holds (F := F) d b x)
          (Spec.cmpNum cop (ofNat (k + 1) : F) (Spec.strToNum lex)) = true) :=
  h.mem_iff_of (fun x pos _ => s.comb (holds (F := F) d b x) (Spec.cmpNum cop (ofNat pos : F) (Spec.strToNum lex)))
    fun p x _ hk => condTruth_mix cfg s plb b cop pfx lex x
      (hp x (childCands_valid d cfg a p x (List.mem_of_getElem? hk))) _ _

end Sem

end XPathV.PosSem
