import XPathV.Lemmas.PosSem.Step
/-!
# C03 — boolean predicates after the positional one: `child::t[P][b1]…[bk]`

The later filters do not look at positions (`PredSem.filter_sem`): they keep, of what the
positional step yields, the nodes on which every `bi` holds.
-/
namespace XPathV.PosSem
open XPathV XPathV.Model XPathV.PathSem XPathV.PredSem NumAlg

variable {F : Type} [NumAlg F]

/-- `s[b1]…[bk]` for the list `[bk, …, b1]`, predicates given **outermost first**:
`stackAst s [b2, b1] = s[b1][b2]` -/
def stackAst (s : Ast) : List Ast → Ast
  | [] => s
  | b :: t => .filter (stackAst s t) b

/-- the corresponding stack of filters over plan `pl`, predicate plans outermost first -/
def stackPlan (pl : Plan) : List Plan → Plan
  | [] => pl
  | p :: t => .filter (stackPlan pl t) p

/-- all the predicates hold at `x` (oracle truth) -/
def allHold (F : Type) [NumAlg F] (d : Doc) (bs : List Ast) (x : Ref) : Bool :=
  bs.all (fun b => holds (F := F) d b x)

/-- predicate plans and predicates agree pairwise, on every valid node, whatever position/size -/
def PredsOK (F : Type) [NumAlg F] (d : Doc) (cfg : ECfg) : List Plan → List Ast → Prop
  | [], [] => True
  | p :: ps, b :: bs =>
    (∀ x, validRef d x = true → ∀ pos size, PredOK (F := F) d cfg p b ⟨x, pos, size⟩) ∧
      PredsOK F d cfg ps bs
  | _, _ => False

/-- the plans `pl b` of predicates `b` that agree with them at every valid node, whatever position
and size -/
theorem predsOK_map {d : Doc} (cfg : ECfg) (pl : Ast → Plan) : ∀ (bs : List Ast),
    (∀ b ∈ bs, ∀ x, validRef d x = true → ∀ pos size,
      PredOK (F := F) d cfg (pl b) b ⟨x, pos, size⟩) → PredsOK F d cfg (bs.map pl) bs
  | [], _ => trivial
  | b :: t, h => ⟨h b List.mem_cons_self,
      predsOK_map cfg pl t fun b' hb' => h b' (List.mem_cons_of_mem _ hb')⟩

/-- **stacked boolean predicates**: on top of an agreeing path (`sel`/`eval` with the same node
set), the stack keeps exactly the nodes on which all the predicates hold — the model as the
sub-sequence of its input sequence -/
theorem stack_sem (d : Doc) (cfg : ECfg) (pl : Plan) (s : Ast) (c : Spec.Ctx)
    (out0 : List Item) (ns0 : List Ref) :
    ∀ (ps : List Plan) (bs : List Ast) (g0 : Option (List (List Ref))),
    PredsOK F d cfg ps bs →
    sel (F := F) d cfg pl c.node = .ok out0 →
    Spec.eval (F := F) d s c = .ok (.val (.nodes ns0) g0) →
    (∀ x, x ∈ refs out0 ↔ x ∈ ns0) → (∀ x ∈ ns0, validRef d x = true) →
    (∀ gs, g0 = some gs → ∀ x, x ∈ gs.flatten ↔ x ∈ ns0) →
    ∃ out ns g, sel (F := F) d cfg (stackPlan pl ps) c.node = .ok out ∧
      Spec.eval (F := F) d (stackAst s bs) c = .ok (.val (.nodes ns) g) ∧
      refs out = (refs out0).filter (allHold F d bs) ∧
      (∀ x, x ∈ ns ↔ x ∈ ns0 ∧ allHold F d bs x = true) ∧
      (∀ x ∈ ns, validRef d x = true) ∧
      (∀ gs, g = some gs → ∀ x, x ∈ gs.flatten ↔ x ∈ ns) := by
  intro ps
  induction ps with
  | nil =>
    intro bs g0 hok hsel hev hm hv hg
    cases bs with
    | cons b t => exact False.elim hok
    | nil =>
      have hnil : allHold F d [] = fun _ => true := by funext x; rfl
      refine ⟨out0, ns0, g0, hsel, hev, ?_, fun x => ?_, hv, hg⟩
      · rw [hnil]; symm; rw [List.filter_eq_self]; intro _ _; rfl
      · rw [hnil]; simp
  | cons p t ih =>
    intro bs g0 hok hsel hev hm hv hg
    cases bs with
    | nil => exact False.elim hok
    | cons b bt =>
      obtain ⟨hp, hrest⟩ := hok
      obtain ⟨out1, ns1, g1, h1, h2, h3, h4, h5, h6⟩ := ih bt g0 hrest hsel hev hm hv hg
      have hm1 : ∀ x, x ∈ refs out1 ↔ x ∈ ns1 := by
        intro x
        rw [h3, List.mem_filter, h4, hm]
      obtain ⟨out, ns, g, k1, k2, k3, k4, k5⟩ :=
        filter_sem (F := F) d cfg (stackPlan pl t) p (stackAst s bt) b c out1 ns1 g1 h1 h2 hm1 h5 h6 hp
      refine ⟨out, ns, g, k1, k2, ?_, fun x => ?_, fun x hx => h5 x ((k4 x).1 hx).1, k5⟩
      · rw [k3, h3, List.filter_filter]
        congr 1
      · rw [k4, h4]
        simp only [allHold, List.all_cons, Bool.and_eq_true]
        constructor
        · rintro ⟨⟨a1, a2⟩, a3⟩; exact ⟨a1, a3, a2⟩
        · rintro ⟨a1, a3, a2⟩; exact ⟨⟨a1, a2⟩, a3⟩

/-- plan `pl` implements `q/child::a[f][b1]…[bk]` (`bs` outermost first) over the input plan `qi`:
it yields, for each node of `qi` in turn, the candidates whose proximity position satisfies `f`
and on which all `bi` hold; the oracle's node set consists of exactly these nodes -/
def PosChainOK (F : Type) [NumAlg F] (d : Doc) (cfg : ECfg) (a : AxisInfo) (f : PosForm)
    (bs : List Ast) (pl qi : Plan) (q : Ast) (c : Spec.Ctx) : Prop :=
  ∃ ins origins g0 out ns g,
    sel (F := F) d cfg qi c.node = .ok ins ∧
    Spec.eval (F := F) d q c = .ok (.val (.nodes origins) g0) ∧
    (∀ x, x ∈ refs ins ↔ x ∈ origins) ∧
    sel (F := F) d cfg pl c.node = .ok out ∧
    Spec.eval (F := F) d (stackAst (.filter (.axis a q) f.ast) bs) c = .ok (.val (.nodes ns) g) ∧
    refs out = ((refs ins).flatMap (keepOf F d cfg a f)).filter (allHold F d bs) ∧
    (∀ x, x ∈ ns ↔ (∃ o ∈ origins, x ∈ keepOf F d cfg a f o) ∧ allHold F d bs x = true) ∧
    (∀ x, x ∈ refs out ↔ x ∈ ns)

theorem posChain_of_step {d : Doc} {cfg : ECfg} {a : AxisInfo} {f : PosForm} {pl qi : Plan}
    {q : Ast} {c : Spec.Ctx} (h : PosStepOK F d cfg a f pl qi q c) (hs : PathShape pl)
    (ps : List Plan) (bs : List Ast) (hok : PredsOK F d cfg ps bs) :
    PosChainOK F d cfg a f bs (stackPlan pl ps) qi q c := by
  obtain ⟨out0, ns0, g1, hsel0, _, hev0, hm0, hv0, hg0⟩ := h.pathOK hs
  obtain ⟨ins, origins, g0, out0', hins, hevq, hm, hout0', hrefs0, hev0'⟩ := h
  rw [hsel0] at hout0'; cases hout0'
  rw [hev0] at hev0'; cases hev0'
  obtain ⟨out, ns, g, k1, k2, k3, k4, _, _⟩ :=
    stack_sem (F := F) d cfg pl _ c out0 _ ps bs _ hok hsel0 hev0 hm0 hv0 hg0
  have hns0 : ∀ x, x ∈ Spec.docOrder d (origins.map (keepOf F d cfg a f)).flatten ↔
      ∃ o ∈ origins, x ∈ keepOf F d cfg a f o := by
    intro x
    rw [mem_docOrder, mem_flatten_map']
    exact ⟨fun hx => hx.1, fun ⟨o, ho, hx⟩ => ⟨⟨o, ho, hx⟩, keepOf_valid d cfg a f o x hx⟩⟩
  refine ⟨ins, origins, g0, out, ns, g, hins, hevq, hm, k1, k2, ?_, fun x => ?_, fun x => ?_⟩
  · rw [k3, hrefs0]
  · rw [k4, hns0]
  · rw [k3, List.mem_filter, k4, hm0]

end XPathV.PosSem
