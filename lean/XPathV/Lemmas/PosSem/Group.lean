import XPathV.Lemmas.PosSem.Step
import XPathV.Lemmas.ArithSem
/-!
# C03 — `(P)[n]`: a parenthesised path filtered by a number keeps the n-th node in document order

`groupQuery` numbers the nodes of its input 1, 2, … over the whole sequence
(`Theorems.C03.group_positions_global`).  When that sequence is strictly increasing in document
order (flat paths: `flat_sorted`; a single descendant step: `desc_sorted`) it *is* the oracle's
document-ordered node-set, so the engine's `[n]` and the oracle's `filterPos` keep the same node.
-/
namespace XPathV.PosSem
open XPathV XPathV.Model XPathV.PathSem XPathV.PredSem XPathV.ArithSem NumAlg

variable {F : Type} [NumAlg F]

/-! ## the engine's `(p)[n]` -/

theorem modelKeep_lit (lex : String) (ipos pm lm pm' lm' : Nat) :
    PosForm.modelKeep F (.lit lex) ipos pm lm = PosForm.modelKeep F (.lit lex) ipos pm' lm' := rfl

/-- a numeric predicate on a parenthesised plan keeps the members of the whole sequence whose
1-based index is the number -/
theorem sel_group_lit (d : Doc) (cfg : ECfg) (p : Plan) (lex : String) (c : Ref) (ins : List Item)
    (hsel : sel (F := F) d cfg p c = .ok ins) :
    ∃ out, sel (F := F) d cfg (.filter (.group p) (.constNum lex)) c = .ok out ∧
      refs out = keepIdx (fun pos => PosForm.modelKeep F (.lit lex) pos pos (refs ins).length)
        (refs ins) := by
  have hg : sel (F := F) d cfg (.group p) c = .ok (numbered (refs ins)) := by
    simp only [sel, hsel, bind, Except.bind, refs]
  refine ⟨_, sel_filter_dec d cfg (.group p) (.constNum lex) c _
    (fun it => PosForm.modelKeep F (.lit lex) it.pos it.pos (refs ins).length) hg
    (fun it _ => ⟨_, PredSem.evalP_constNum d cfg lex it.r, trivial, predDecision_pos _ _ _⟩), ?_⟩
  rw [filterPositions_refs]
  exact numbered_filter_refsR (fun _ pos => PosForm.modelKeep F (.lit lex) pos pos (refs ins).length) _

theorem eval_filter_form_nogroups (d : Doc) (inp : Ast) (f : PosForm) (c : Spec.Ctx)
    (l : List Ref) (hev : Spec.eval (F := F) d inp c = .ok (.val (.nodes l) none)) :
    Spec.eval (F := F) d (.filter inp f.ast) c =
      .ok (.val (.nodes (keepIdx (fun pos => PosForm.specKeep F f pos l.length) l)) none) := by
  rw [Spec.eval]
  simp only [hev, bind, Except.bind, Spec.asNodes, filterPos_form]

/-- **`(P)[n]`, core**: if the plan `p` yields a strictly increasing sequence with the members of
the oracle's (document-ordered) node-set of `pa`, then that sequence *is* the node-set, and the
engine's `.filter (.group p) n` and the oracle's `(pa)[n]` keep the same nodes -/
theorem group_lit_core (d : Doc) (cfg : ECfg) (p : Plan) (pa : Ast) (lex : String) (c : Spec.Ctx)
    (ins : List Item) (ns : List Ref) (g : Option (List (List Ref)))
    (hsel : sel (F := F) d cfg p c.node = .ok ins)
    (hsorted : (refs ins).Pairwise (fun a b => Ref.lt a b = true))
    (hev : Spec.eval (F := F) d pa c = .ok (.val (.nodes ns) g))
    (hdo : ∃ l, ns = Spec.docOrder d l) (hm : ∀ x, x ∈ refs ins ↔ x ∈ ns)
    (N : Nat) (hN : ns.length ≤ N) (hag : (PosForm.lit lex).Agree F N) :
    refs ins = ns ∧
    ∃ out, sel (F := F) d cfg (.filter (.group p) (.constNum lex)) c.node = .ok out ∧
      refs out = keepIdx (fun pos => PosForm.specKeep F (.lit lex) pos ns.length) ns ∧
      Spec.eval (F := F) d (.filter (.group pa) (.num lex)) c =
        .ok (.val (.nodes (keepIdx (fun pos => PosForm.specKeep F (.lit lex) pos ns.length) ns)) none) := by
  have heq : refs ins = ns := by
    obtain ⟨l, rfl⟩ := hdo
    exact DocOrder.sorted_ext _ _ hsorted (DocOrder.docOrder_sorted d l) hm
  refine ⟨heq, ?_⟩
  obtain ⟨out, hout, hrefs⟩ := sel_group_lit (F := F) d cfg p lex c.node ins hsel
  refine ⟨out, hout, ?_, ?_⟩
  · rw [hrefs, heq]
    apply keepIdx_congr
    intro pos h1 h2
    exact hag pos ns.length h1 h2 hN
  · have hgr : Spec.eval (F := F) d (.group pa) c = .ok (.val (.nodes ns) none) :=
      eval_group d pa c _ g hev
    exact eval_filter_form_nogroups d (.group pa) (.lit lex) c ns hgr

/-- the natural-number reading: the `n`-th node of the sequence -/
theorem keepIdx_lit_nat (lex : String) (n N : Nat) (hn : 1 ≤ n) (hlit : LitIsNat F lex n N)
    (l : List Ref) (hl : l.length ≤ N) :
    keepIdx (fun pos => PosForm.specKeep F (.lit lex) pos l.length) l = (l[n - 1]?).toList := by
  rw [← keepIdx_eq_nth l n hn]
  apply keepIdx_congr
  intro pos h1 h2
  exact specKeep_nat (.lit lex) n N hlit pos l.length h1 h2 hl

/-! ## through the builder -/

theorem build_group_lit_inv (regexOk : RegexOk) (limit : Nat) (snt sdf : Bool) (pa : Ast)
    (lex : String) (fl : Flags) (st : BState) (o : BOut)
    (h : build regexOk limit snt sdf (.filter (.group pa) (.num lex)) fl st = .ok o) :
    ∃ st' o1, build regexOk limit snt sdf pa {} st' = .ok o1 ∧
      o.q = .filter (.group o1.q) (.constNum lex) := by
  obtain ⟨st1, io, co, hio, hco, hres⟩ := build_filter_inv regexOk limit snt sdf _ _ fl st o h
  obtain ⟨hcq, hcp⟩ := build_num_inv regexOk limit snt sdf lex _ _ co hco
  obtain ⟨st', o1, ho1, hiq⟩ := build_group regexOk limit snt sdf pa _ _ io hio
  obtain ⟨hq, _⟩ := hres (by rw [hcp])
  refine ⟨st', o1, ho1, ?_⟩
  rcases hq with hq | ⟨hax, _⟩
  · rw [hq, hiq, hcq]
  · cases hax

/-- **`(descendant::t)[n]`** (single descendant step from a node context, naive plan): the `n`-th
descendant candidate in document order -/
theorem paren_desc_nth {d : Doc} (wf : WF d) (cfg : ECfg) (hns : cfg.nsIface = true)
    (hinj : HashInj d cfg) (a : AxisInfo) (self : Bool)
    (ha : a.axis = if self then "descendant-or-self" else "descendant")
    (lex : String) (n N : Nat) (hn : 1 ≤ n) (hlit : LitIsNat F lex n N)
    (i : Nat) (hi : i < d.length) :
    ∃ out ns g, sel (F := F) d cfg (.filter (.group (.descendant a self .context)) (.constNum lex))
        (.node i) = .ok out ∧
      Spec.eval (F := F) d (.axis a .none) ⟨.node i, 1, 1⟩ = .ok (.val (.nodes ns) g) ∧
      (ns.length ≤ N →
        refs out = (ns[n - 1]?).toList ∧
        Spec.eval (F := F) d (.filter (.group (.axis a .none)) (.num lex)) ⟨.node i, 1, 1⟩ =
          .ok (.val (.nodes (ns[n - 1]?).toList) none)) := by
  have hax : a.axis ∈ axes12 := by
    rw [ha]; cases self <;> simp [axes12]
  have hpf : PathPF (.axis a .none) := .axis a .none .none hax
  have hc : validRef d (.node i) = true := (validRef_node d i).2 hi
  obtain ⟨ins, ns, g, hsel, hev, hm, _⟩ := naive_sem (F := F) wf cfg hns hinj _ hpf (.node i) hc
  have hpl : naivePlan (.axis a .none) = .descendant a self .context := by
    cases self
    · show stepPlan a .context = _
      unfold stepPlan
      rw [ha]
      rfl
    · show stepPlan a .context = _
      unfold stepPlan
      rw [ha]
      rfl
  rw [hpl] at hsel
  obtain ⟨out, hout, _⟩ := sel_group_lit (F := F) d cfg _ lex (.node i) ins hsel
  refine ⟨out, ns, g, hout, hev, fun hN => ?_⟩
  obtain ⟨_, out', hout', hrefs, hev'⟩ := group_lit_core (F := F) d cfg _ (.axis a .none) lex
    ⟨.node i, 1, 1⟩ ins ns g hsel (desc_sorted wf cfg a self i hi ins hsel) hev
    (eval_axis_inv d a _ _ ns g hev) hm N hN (agree_of_numOK (.lit lex) n N hlit)
  rw [hout] at hout'; cases hout'
  rw [keepIdx_lit_nat lex n N hn hlit ns hN] at hrefs hev'
  exact ⟨hrefs, hev'⟩

/-! ## flat input paths: the engine's sequence *is* the oracle's node-set -/

theorem flatMap_sublist {α β : Type} (l : List α) (f g : α → List β)
    (h : ∀ x, (f x).Sublist (g x)) : (l.flatMap f).Sublist (l.flatMap g) := by
  induction l with
  | nil => exact List.Sublist.slnil
  | cons a t ih =>
    rw [List.flatMap_cons, List.flatMap_cons]
    exact List.Sublist.append (h a) ih

/-- **order on the model side**: over a flat input plan (child / attribute / self steps from the
context node) the sequence the positional step yields is strictly increasing in document order,
hence equal — as a list — to the oracle's node-set -/
theorem PosStepOK.exact_of_flat {d : Doc} (wf : WF d) {cfg : ECfg} {a : AxisInfo} {f : PosForm}
    {pl qi : Plan} {q : Ast} {c : Spec.Ctx} (h : PosStepOK F d cfg a f pl qi q c)
    (hflat : FlatPlan qi) :
    ∃ out ns g, sel (F := F) d cfg pl c.node = .ok out ∧
      Spec.eval (F := F) d (.filter (.axis a q) f.ast) c = .ok (.val (.nodes ns) g) ∧
      refs out = ns := by
  obtain ⟨out, ns, g, _, _, hout, hev, _, hm, _⟩ := h.mem_iff
  obtain ⟨ins, origins, g0, out', hins, _, _, hout', hrefs, hev'⟩ := h
  rw [hout] at hout'; cases hout'
  rw [hev] at hev'
  refine ⟨out, ns, g, hout, hev, ?_⟩
  have hsorted : (refs out).Pairwise (fun a b => Ref.lt a b = true) := by
    rw [hrefs]
    have hfl := flat_children_step wf (nodeTestM d cfg a) (refs ins) (flat_inv (F := F) wf cfg c.node hflat ins hins)
    have hsub : ((refs ins).flatMap (keepOf F d cfg a f)).Sublist
        ((refs ins).flatMap (fun r => (childrenM d r).filter (nodeTestM d cfg a))) := by
      apply flatMap_sublist
      intro o
      rw [children_spec_all wf]
      exact keepIdx_sublist _ _
    exact List.Pairwise.sublist hsub hfl.sorted
  have hns : ns = Spec.docOrder d (origins.map (keepOf F d cfg a f)).flatten := by
    cases hev'; rfl
  exact DocOrder.sorted_ext _ _ hsorted (hns ▸ DocOrder.docOrder_sorted d _) hm

theorem keepIdx_false (l : List Ref) : keepIdx (fun _ => false) l = [] := by
  unfold keepIdx
  rw [List.filterMap_eq_nil_iff]
  intro p _
  rfl

end XPathV.PosSem

/-! ## `child::a[n]`: the literal form on a child step from the context node -/
namespace XPathV
open XPathV.Model NumAlg

variable {F : Type} [NumAlg F]

/-- `child::a` from the context node: its matching children, numbered -/
theorem child_context_eq {d : Doc} (wf : WF d) (cfg : ECfg) (a : AxisInfo) (c : Ref) :
    sel (F := F) d cfg (.child a .context) c = .ok (numbered (childCands d cfg a c)) := by
  rw [child_step_eq wf cfg a .context c [⟨c, 1, 0⟩] (by rw [sel])]
  simp only [List.flatMap_cons, List.flatMap_nil, List.append_nil]

/-- what the engine's `child::a[lit]` keeps when the literal denotes the integer `n`: the candidates
whose 1-based index, as an integer, is `n` -/
theorem nth_child_keep {d : Doc} (wf : WF d) (cfg : ECfg) (a : AxisInfo) (lex : String) (c : Ref)
    (n : Int) (hn : toInt (Spec.strToNum lex : F) = some n) :
    (sel (F := F) d cfg (.filter (.child a .context) (.constNum lex)) c).map (fun l => l.map (·.r)) =
      .ok (PosSem.keepIdx (fun pos => some n == some (pos : Int)) (childCands d cfg a c)) := by
  rw [PosSem.sel_filter_dec d cfg _ (.constNum lex) c _ (fun it => some n == some (it.pos : Int))
    (child_context_eq wf cfg a c)
    (fun it _ => ⟨_, PredSem.evalP_constNum d cfg lex it.r, trivial, by simp only [predDecision, hn]⟩)]
  exact congrArg Except.ok ((PredSem.filterPositions_refs _).trans
    (PosSem.numbered_filter_refsR (fun _ pos => some n == some (pos : Int)) _))

/-- **C03**: for a numeric literal that denotes the integer `n ≥ 1` (engine side: `int(x) = n`;
specification side: `x = m` exactly for `m = n`), the engine's `child::a[n]` and the specification's
positional filter on the matching children keep the same nodes: the n-th candidate -/
theorem nth_child_agrees {d : Doc} (wf : WF d) (cfg : ECfg) (a : AxisInfo) (lex : String) (c : Ref)
    (n : Nat) (hn1 : 1 ≤ n) (hn : toInt (Spec.strToNum lex : F) = some (n : Int))
    (hx : ∀ m, 1 ≤ m → (NumAlg.eq (Spec.strToNum lex : F) (ofNat m) = true ↔ m = n)) :
    ∃ keep, Spec.filterPos (F := F) (childCands d cfg a c) (Spec.eval d (.num lex)) = .ok keep ∧
      (sel (F := F) d cfg (.filter (.child a .context) (.constNum lex)) c).map
        (fun l => l.map (·.r)) = .ok keep ∧
      keep = ((childCands d cfg a c)[n - 1]?).toList := by
  refine ⟨_, ?_, ?_, rfl⟩
  · rw [← PosSem.keepIdx_eq_nth _ n hn1]
    refine (PosSem.filterPos_form (F := F) d (PosSem.PosForm.lit lex) _).trans (congrArg Except.ok (PosSem.keepIdx_congr _ _ _ ?_))
    intro pos h1 _
    rw [Bool.eq_iff_iff, beq_iff_eq]
    exact hx pos h1
  · rw [nth_child_keep wf cfg a lex c n hn, ← PosSem.keepIdx_eq_nth _ n hn1]
    exact congrArg Except.ok (PosSem.keepIdx_congr _ _ _ fun pos _ _ => by
      rw [Bool.eq_iff_iff, beq_iff_eq, beq_iff_eq, Option.some.injEq, Int.ofNat_inj, eq_comm])

/-- a literal that denotes an integer below 1 selects nothing -/
theorem nth_child_none {d : Doc} (wf : WF d) (cfg : ECfg) (a : AxisInfo) (lex : String) (c : Ref)
    (n : Int) (hn0 : n ≤ 0) (hn : toInt (Spec.strToNum lex : F) = some n) :
    sel (F := F) d cfg (.filter (.child a .context) (.constNum lex)) c = .ok [] := by
  have h := nth_child_keep wf cfg a lex c n hn
  -- no 1-based index is `n ≤ 0`
  rw [PosSem.keepIdx_congr _ (fun _ => false) _ (fun pos _ _ => by
    rw [beq_eq_false_iff_ne, Ne, Option.some.injEq]; omega), PosSem.keepIdx_false] at h
  cases hs : sel (F := F) d cfg (.filter (.child a .context) (.constNum lex)) c with
  | error e => rw [hs] at h; cases h
  | ok l =>
    rw [hs] at h
    simp only [Except.map, Except.ok.injEq, List.map_eq_nil_iff] at h
    rw [h]

end XPathV

section AxiomAudit
open XPathV
#print axioms nth_child_none
#print axioms nth_child_agrees
end AxiomAudit
