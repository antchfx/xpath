import XPathV.Lemmas.PosSem.Position
import XPathV.Lemmas.PredSem
/-!
# C03 helpers — the positional predicate forms: parse tree, plan, value on both sides

`PosForm` enumerates the forms of the property; `PosForm.ast` is the parse tree the parser
produces, `PosForm.plan fi` the plan the builder makes of it (with `fi` the builder's
`positionInput`: inside a predicate the step being filtered, `predInput`).
`specKeep` / `modelKeep` are the verdicts the oracle (`predTruth`) / the engine (`predDecision`)
reach from position and size; `natKeep` is their reading on natural numbers, available under the
side conditions `LitIsNat` / `NatEmb` on the abstract number algebra.
-/
namespace XPathV.PosSem
open XPathV XPathV.Model XPathV.PathSem XPathV.PredSem NumAlg

variable {F : Type} [NumAlg F]

/-! ## the forms -/

def opStr : Spec.CmpOp → String
  | .eq => "=" | .ne => "!=" | .lt => "<" | .le => "<=" | .gt => ">" | .ge => ">="

theorem ofString_opStr (cop : Spec.CmpOp) : Spec.CmpOp.ofString (opStr cop) = some cop := by
  cases cop <;> rfl

theorem opStr_mem (cop : Spec.CmpOp) : opStr cop ∈ cmpOps := by
  cases cop <;> simp [opStr, cmpOps]

/-- the positional predicate forms of the property -/
inductive PosForm
  /-- `[n]` -/
  | lit (lex : String)
  /-- `[position() op n]` -/
  | posCmp (cop : Spec.CmpOp) (pfx lex : String)
  /-- `[position() = last()]` -/
  | posEqLast (pfx1 pfx2 : String)
  /-- `[last()]` -/
  | last (pfx : String)
  /-- `[last() - n]` -/
  | lastMinus (pfx lex : String)

namespace PosForm

/-- the parse tree -/
def ast : PosForm → Ast
  | lit lex => .num lex
  | posCmp cop pfx lex => .oper (opStr cop) (.call "position" pfx .anil) (.num lex)
  | posEqLast p1 p2 => .oper "=" (.call "position" p1 .anil) (.call "last" p2 .anil)
  | last pfx => .call "last" pfx .anil
  | lastMinus pfx lex => .oper "-" (.call "last" pfx .anil) (.num lex)

/-- the plan the builder makes of the predicate when `positionInput` (`predInput`, else `firstInput`) is `fi` -/
def plan (fi : Plan) : PosForm → Plan
  | lit lex => .constNum lex
  | posCmp cop _ lex => .logical (opStr cop) (.func "position" fi .pnil) (.constNum lex)
  | posEqLast _ _ => .logical "=" (.func "position" fi .pnil) (.func "last" fi .pnil)
  | last _ => .func "last" fi .pnil
  | lastMinus _ lex => .numeric "-" (.func "last" fi .pnil) (.constNum lex)

/-- the oracle's value at context position `pos` of `size` -/
def specVal : PosForm → Nat → Nat → Spec.Value F
  | lit lex, _, _ => .num (Spec.strToNum lex)
  | posCmp cop _ lex, pos, _ => .bool (Spec.cmpNum cop (ofNat pos : F) (Spec.strToNum lex))
  | posEqLast _ _, pos, size => .bool (Spec.cmpNum .eq (ofNat pos : F) (ofNat size))
  | last _, _, size => .num (ofNat size)
  | lastMinus _ lex, _, size => .num (sub (ofNat size) (Spec.strToNum lex))

/-- the engine's value when `position()` yields `pm` and `last()` yields `lm` -/
def modelVal : PosForm → Nat → Nat → MVal F
  | lit lex, _, _ => .num (Spec.strToNum lex)
  | posCmp cop _ lex, pm, _ => .bool (Spec.cmpNum cop (ofNat pm : F) (Spec.strToNum lex))
  | posEqLast _ _, pm, lm => .bool (Spec.cmpNum .eq (ofNat pm : F) (ofNat lm))
  | last _, _, lm => .num (ofNat lm)
  | lastMinus _ lex, _, lm => .num (sub (ofNat lm) (Spec.strToNum lex))

/-- the oracle's verdict (`predTruth`) for the candidate at position `pos` of `size` -/
def specKeep (F : Type) [NumAlg F] (f : PosForm) (pos size : Nat) : Bool :=
  Spec.predTruth (f.specVal (F := F) pos size) pos

/-- the engine's verdict (`predDecision`) for a candidate whose item position is `ipos` -/
def modelKeep (F : Type) [NumAlg F] (f : PosForm) (ipos pm lm : Nat) : Bool :=
  predDecision (f.modelVal (F := F) pm lm) ⟨default, ipos, 0⟩ false

/-- the two verdicts coincide on every position `1 ≤ pos ≤ size ≤ N` -/
def Agree (F : Type) [NumAlg F] (f : PosForm) (N : Nat) : Prop :=
  ∀ pos size, 1 ≤ pos → pos ≤ size → size ≤ N → modelKeep F f pos pos size = specKeep F f pos size

end PosForm

/-- the fragment as a predicate on parse trees -/
inductive PosPred : Ast → Prop
  | lit (lex : String) : PosPred (.num lex)
  | posCmp (cop : Spec.CmpOp) (pfx lex : String) :
      PosPred (.oper (opStr cop) (.call "position" pfx .anil) (.num lex))
  | posEqLast (p1 p2 : String) :
      PosPred (.oper "=" (.call "position" p1 .anil) (.call "last" p2 .anil))
  | last (pfx : String) : PosPred (.call "last" pfx .anil)
  | lastMinus (pfx lex : String) : PosPred (.oper "-" (.call "last" pfx .anil) (.num lex))

theorem posPred_iff (P : Ast) : PosPred P ↔ ∃ f : PosForm, P = f.ast := by
  constructor
  · intro h
    cases h with
    | lit lex => exact ⟨.lit lex, rfl⟩
    | posCmp cop pfx lex => exact ⟨.posCmp cop pfx lex, rfl⟩
    | posEqLast p1 p2 => exact ⟨.posEqLast p1 p2, rfl⟩
    | last pfx => exact ⟨.last pfx, rfl⟩
    | lastMinus pfx lex => exact ⟨.lastMinus pfx lex, rfl⟩
  · rintro ⟨f, rfl⟩
    cases f with
    | lit lex => exact .lit lex
    | posCmp cop pfx lex => exact .posCmp cop pfx lex
    | posEqLast p1 p2 => exact .posEqLast p1 p2
    | last pfx => exact .last pfx
    | lastMinus pfx lex => exact .lastMinus pfx lex

/-! ## side conditions on the abstract numbers -/

/-- comparison of natural numbers by a comparison operator -/
def natCmp : Spec.CmpOp → Nat → Nat → Bool
  | .eq, a, b => a == b
  | .ne, a, b => a != b
  | .lt, a, b => decide (a < b)
  | .le, a, b => decide (a ≤ b)
  | .gt, a, b => decide (b < a)
  | .ge, a, b => decide (b ≤ a)

/-- the natural numbers up to `N` are embedded faithfully (true of IEEE doubles for `N < 2^53`) -/
structure NatEmb (F : Type) [NumAlg F] (N : Nat) : Prop where
  toInt_ofNat : ∀ m, m ≤ N → toInt (ofNat m : F) = some (m : Int)
  eq_ofNat : ∀ a b, a ≤ N → b ≤ N → (NumAlg.eq (ofNat a : F) (ofNat b) = true ↔ a = b)

/-- the number literal `lex` denotes the natural number `n`, as far as positions up to `N` can tell:
Go's `int(x)` yields `n`; IEEE comparison with the positions `1..N` is comparison with `n`;
`s - x` for a size `s ≤ N` is the integer `s - n` -/
structure LitIsNat (F : Type) [NumAlg F] (lex : String) (n N : Nat) : Prop where
  toInt_lit : toInt (Spec.strToNum lex : F) = some (n : Int)
  lit_eq : ∀ m, 1 ≤ m → m ≤ N → (NumAlg.eq (Spec.strToNum lex : F) (ofNat m) = true ↔ m = n)
  cmp : ∀ cop m, 1 ≤ m → m ≤ N →
    Spec.cmpNum cop (ofNat m : F) (Spec.strToNum lex) = natCmp cop m n
  sub_toInt : ∀ s, s ≤ N → toInt (sub (ofNat s : F) (Spec.strToNum lex)) = some ((s : Int) - n)
  sub_eq : ∀ s m, s ≤ N → 1 ≤ m → m ≤ N →
    (NumAlg.eq (sub (ofNat s : F) (Spec.strToNum lex)) (ofNat m) = true ↔ (s : Int) - n = m)

/-- the verdict on natural numbers: `n` is the value of the literal (ignored if there is none) -/
def PosForm.natKeep : PosForm → Nat → Nat → Nat → Bool
  | .lit _, n, pos, _ => pos == n
  | .posCmp cop _ _, n, pos, _ => natCmp cop pos n
  | .posEqLast _ _, _, pos, size => pos == size
  | .last _, _, pos, size => pos == size
  | .lastMinus _ _, n, pos, size => pos + n == size

/-- what a form needs from the abstract numbers, for positions up to `N`: the forms with a literal
need `LitIsNat` of that literal, the forms with `last()` alone the embedding of the naturals -/
def PosForm.NumOK (F : Type) [NumAlg F] (f : PosForm) (n N : Nat) : Prop :=
  match f with
  | .lit lex | .posCmp _ _ lex | .lastMinus _ lex => LitIsNat F lex n N
  | .posEqLast _ _ | .last _ => NatEmb F N

theorem beq_int_ofNat (a b : Nat) : ((some (a : Int)) == some (b : Int)) = (a == b) := by
  rw [Bool.eq_iff_iff]
  simp only [beq_iff_eq, Option.some.injEq]
  exact Int.ofNat_inj

/-- under the side conditions the engine's verdict is the verdict on natural numbers -/
theorem modelKeep_nat (f : PosForm) (n N : Nat) (h : f.NumOK F n N) (pos size : Nat)
    (h1 : 1 ≤ pos) (h2 : pos ≤ size) (h3 : size ≤ N) :
    PosForm.modelKeep F f pos pos size = f.natKeep n pos size := by
  cases f with
  | lit lex =>
    have hl : LitIsNat F lex n N := h
    simp only [PosForm.modelKeep, PosForm.modelVal, predDecision, hl.toInt_lit, PosForm.natKeep]
    rw [beq_int_ofNat, Bool.eq_iff_iff]
    simp only [beq_iff_eq]
    exact eq_comm
  | posCmp cop pfx lex =>
    have hl : LitIsNat F lex n N := h
    simp only [PosForm.modelKeep, PosForm.modelVal, predDecision, PosForm.natKeep]
    exact hl.cmp cop pos h1 (by omega)
  | posEqLast p1 p2 =>
    have hemb : NatEmb F N := h
    simp only [PosForm.modelKeep, PosForm.modelVal, predDecision, PosForm.natKeep, Spec.cmpNum]
    rw [Bool.eq_iff_iff, hemb.eq_ofNat pos size (by omega) h3]
    simp only [beq_iff_eq]
  | last pfx =>
    have hemb : NatEmb F N := h
    simp only [PosForm.modelKeep, PosForm.modelVal, predDecision, PosForm.natKeep,
      hemb.toInt_ofNat size h3]
    rw [beq_int_ofNat, Bool.eq_iff_iff]
    simp only [beq_iff_eq]
    exact eq_comm
  | lastMinus pfx lex =>
    have hl : LitIsNat F lex n N := h
    simp only [PosForm.modelKeep, PosForm.modelVal, predDecision, PosForm.natKeep,
      hl.sub_toInt size h3]
    rw [Bool.eq_iff_iff]
    simp only [beq_iff_eq, Option.some.injEq]
    omega

/-- under the side conditions the oracle's verdict is the verdict on natural numbers -/
theorem specKeep_nat (f : PosForm) (n N : Nat) (h : f.NumOK F n N) (pos size : Nat)
    (h1 : 1 ≤ pos) (h2 : pos ≤ size) (h3 : size ≤ N) :
    PosForm.specKeep F f pos size = f.natKeep n pos size := by
  cases f with
  | lit lex =>
    have hl : LitIsNat F lex n N := h
    simp only [PosForm.specKeep, PosForm.specVal, Spec.predTruth, PosForm.natKeep]
    rw [Bool.eq_iff_iff, hl.lit_eq pos h1 (by omega)]
    simp only [beq_iff_eq]
  | posCmp cop pfx lex =>
    have hl : LitIsNat F lex n N := h
    simp only [PosForm.specKeep, PosForm.specVal, Spec.predTruth, Spec.toBool, PosForm.natKeep]
    exact hl.cmp cop pos h1 (by omega)
  | posEqLast p1 p2 =>
    have hemb : NatEmb F N := h
    simp only [PosForm.specKeep, PosForm.specVal, Spec.predTruth, Spec.toBool, PosForm.natKeep,
      Spec.cmpNum]
    rw [Bool.eq_iff_iff, hemb.eq_ofNat pos size (by omega) h3]
    simp only [beq_iff_eq]
  | last pfx =>
    have hemb : NatEmb F N := h
    simp only [PosForm.specKeep, PosForm.specVal, Spec.predTruth, PosForm.natKeep]
    rw [Bool.eq_iff_iff, hemb.eq_ofNat size pos h3 (by omega)]
    simp only [beq_iff_eq]
    exact eq_comm
  | lastMinus pfx lex =>
    have hl : LitIsNat F lex n N := h
    simp only [PosForm.specKeep, PosForm.specVal, Spec.predTruth, PosForm.natKeep]
    rw [Bool.eq_iff_iff, hl.sub_eq size pos h3 h1 (by omega)]
    simp only [beq_iff_eq]
    omega

/-- the side conditions make the two verdicts agree; the forms `position() op n` and
`position() = last()` agree unconditionally (both sides compute the same comparison) -/
theorem agree_of_numOK (f : PosForm) (n N : Nat) (h : f.NumOK F n N) : f.Agree F N := by
  intro pos size h1 h2 h3
  rw [modelKeep_nat f n N h pos size h1 h2 h3, specKeep_nat f n N h pos size h1 h2 h3]

theorem agree_posCmp (cop : Spec.CmpOp) (pfx lex : String) (N : Nat) :
    (PosForm.posCmp cop pfx lex).Agree F N := fun _ _ _ _ _ => rfl

theorem agree_posEqLast (p1 p2 : String) (N : Nat) : (PosForm.posEqLast p1 p2).Agree F N :=
  fun _ _ _ _ _ => rfl

/-! ## the engine's value of a form at a candidate -/

section Model
variable (d : Doc) (cfg : ECfg)

theorem evalP_position (fi : Plan) (x : Ref) :
    evalP (F := F) d cfg (.func "position" fi .pnil) x = .ok (.num (ofNat (positionM d cfg fi x))) := by
  rw [evalP_func0, callFn_position]

theorem evalP_last (fi : Plan) (x : Ref) :
    evalP (F := F) d cfg (.func "last" fi .pnil) x = .ok (.num (ofNat (lastM d cfg fi x))) := by
  rw [evalP_func0, callFn_last]

theorem cmpM_num_num (cop : Spec.CmpOp) (a b : F) :
    cmpM d cop (.num a) (.num b) = .ok (Spec.cmpNum cop a b) := by
  cases cop <;> simp [cmpM, xtypeOf, bind, Except.bind, pure, Except.pure]

/-- the value of the predicate plan at a candidate, in terms of `positionM` and `lastM` -/
theorem evalP_form (f : PosForm) (fi : Plan) (x : Ref) :
    evalP (F := F) d cfg (f.plan fi) x =
      .ok (f.modelVal (positionM d cfg fi x) (lastM d cfg fi x)) := by
  cases f with
  | lit lex => simp only [PosForm.plan, PosForm.modelVal, evalP]
  | posCmp cop pfx lex =>
    exact evalP_logical d cfg _ cop (ofString_opStr cop) _ _ x _ _ _ (evalP_position d cfg fi x)
      (evalP_constNum d cfg lex x) (cmpM_num_num d cop _ _)
  | posEqLast p1 p2 =>
    exact evalP_logical d cfg "=" .eq rfl _ _ x _ _ _ (evalP_position d cfg fi x)
      (evalP_last d cfg fi x) (cmpM_num_num d .eq _ _)
  | last pfx => exact evalP_last d cfg fi x
  | lastMinus pfx lex =>
    simp only [PosForm.plan, PosForm.modelVal]
    rw [evalP]
    simp only [evalP_last, evalP_constNum, bind, Except.bind, asNumberM]

/-- the predicate values on which `filterQuery.do` decides at once, without a second `Select` -/
def Direct : MVal F → Prop
  | .bool _ | .str _ | .num _ | .nodes _ => True
  | _ => False

/-- the value of a form is a boolean or a number -/
theorem modelVal_direct (f : PosForm) (pm lm : Nat) : Direct (f.modelVal (F := F) pm lm) := by
  cases f <;> trivial

end Model

/-! ## the oracle's value of a form at a context -/

section Spec
variable (d : Doc)

theorem eval_position (pfx : String) (c : Spec.Ctx) :
    Spec.eval (F := F) d (.call "position" pfx .anil) c = .ok (.val (.num (ofNat c.pos)) none) := by
  simp only [Spec.eval, bind, Except.bind, Spec.Res.argList]
  rfl

theorem eval_last (pfx : String) (c : Spec.Ctx) :
    Spec.eval (F := F) d (.call "last" pfx .anil) c = .ok (.val (.num (ofNat c.size)) none) := by
  simp only [Spec.eval, bind, Except.bind, Spec.Res.argList]
  rfl

theorem compare_num_num (cop : Spec.CmpOp) (a b : F) :
    Spec.compare d cop (.num a) (.num b) = Spec.cmpNum cop a b := by
  cases cop <;> simp [Spec.compare, Spec.cmpAtom, Spec.CmpOp.isRel, Spec.toNum, Spec.cmpNum]

theorem eval_form (f : PosForm) (x : Ref) (pos size : Nat) :
    Spec.eval (F := F) d f.ast ⟨x, pos, size⟩ = .ok (.val (f.specVal pos size) none) := by
  cases f with
  | lit lex => simp only [PosForm.ast, PosForm.specVal, Spec.eval]
  | posCmp cop pfx lex =>
    simp only [PosForm.ast, PosForm.specVal]
    rw [eval_cmp d _ cop (ofString_opStr cop) _ _ _ _ _ (eval_position d pfx _) (eval_num d lex _)]
    simp only [Spec.Res.value, compare_num_num]
  | posEqLast p1 p2 =>
    simp only [PosForm.ast, PosForm.specVal]
    rw [eval_cmp d "=" .eq rfl _ _ _ _ _ (eval_position d p1 _) (eval_last d p2 _)]
    simp only [Spec.Res.value, compare_num_num]
  | last pfx => exact eval_last d pfx _
  | lastMinus pfx lex =>
    simp only [PosForm.ast, PosForm.specVal]
    rw [Spec.eval]
    simp [eval_last, eval_num, Spec.arith, Spec.toNum, Spec.CmpOp.ofString, Spec.Res.value, bind,
      Except.bind]

end Spec

end XPathV.PosSem
