import XPathV.Lemmas.PosSem.Filter
/-!
# C03 — a child step whose first predicate looks at the node *and* at its proximity position

The predicate is any condition `cond` whose plan `cq` decides, at every candidate of the step, what
the oracle decides there — at the candidate node, with the candidate's proximity position and the
number of candidates of the same parent as context position and size (`CondDec`).  Two sources of
such pairs: the positional forms (`PosForm`, whose value may be a number: `Step`), and the
conditions that agree in the sense of `PredOK` (`CondOK`: closed under `and` / `or` / `not`,
containing the boolean predicates of the C02 fragment and the comparisons of `position()` /
`last()`: `CondBuild`).

* `keepOfC` — what the oracle keeps of the candidates of one parent (by `condTruth`, `Filter`);
* `eval_child_cond` — oracle side;
* `sel_filter_child_cond`, `sel_merge_flat` — model side (plain and merge form);
* `CondStepOK`, `.mem_iff`, `.pathOK` — the statement; `condStep_built` — the plan shapes the
  builder produces.
-/
namespace XPathV.PosSem
open XPathV XPathV.Model XPathV.PathSem XPathV.PredSem NumAlg

variable {F : Type} [NumAlg F]

/-! ## the oracle's verdict -/

/-- the candidates of `child::a` below `o` that the oracle keeps under `[cond]`, document order -/
def keepOfC (F : Type) [NumAlg F] (d : Doc) (cfg : ECfg) (a : AxisInfo) (cond : Ast) (o : Ref) :
    List Ref :=
  keepIdxR (fun x pos => condTruth F d cond x pos (childCands d cfg a o).length) (childCands d cfg a o)

theorem mem_keepOfC (d : Doc) (cfg : ECfg) (a : AxisInfo) (cond : Ast) (o x : Ref) :
    x ∈ keepOfC F d cfg a cond o ↔ ∃ k, (childCands d cfg a o)[k]? = some x ∧
      condTruth F d cond x (k + 1) (childCands d cfg a o).length = true :=
  mem_keepIdxR _ _ x

theorem childCands_valid (d : Doc) (cfg : ECfg) (a : AxisInfo) (o x : Ref)
    (h : x ∈ childCands d cfg a o) : validRef d x = true := by
  unfold childCands Spec.children at h
  exact allNodes_valid d x (List.mem_filter.1 (List.mem_filter.1 h).1).1

theorem keepOfC_valid (d : Doc) (cfg : ECfg) (a : AxisInfo) (cond : Ast) (o x : Ref)
    (h : x ∈ keepOfC F d cfg a cond o) : validRef d x = true :=
  childCands_valid d cfg a o x (mem_of_mem_keepIdxR _ _ x h)

/-! ## the agreement of a condition plan with the oracle at the candidates -/

/-- plan `cq` decides as the oracle does at every candidate `x` of `child::a` (below any parent `p`):
its value there decides at once, and `filterQuery.do` reads off it, for a candidate at the proximity
position of `x`, what `predTruth` reads off the oracle's value of `cond` in the context the oracle
evaluates the predicate in — node `x`, the proximity position of `x`, the number of candidates of `p` -/
def CondDec (F : Type) [NumAlg F] (d : Doc) (cfg : ECfg) (a : AxisInfo) (cq : Plan) (cond : Ast) :
    Prop :=
  ∀ p x k, (childCands d cfg a p)[k]? = some x →
    ∃ v r, evalP (F := F) d cfg cq x = .ok v ∧ Direct v ∧
      Spec.eval (F := F) d cond ⟨x, k + 1, (childCands d cfg a p).length⟩ = .ok r ∧
      predDecision v ⟨default, k + 1, 0⟩ false = Spec.predTruth r.value (k + 1)

/-- plan `cq` and condition `cond` agree (`PredOK`: same truth, no number) at every candidate, in
the oracle's context -/
def CondOK (F : Type) [NumAlg F] (d : Doc) (cfg : ECfg) (a : AxisInfo) (cq : Plan) (cond : Ast) :
    Prop :=
  ∀ p x k, (childCands d cfg a p)[k]? = some x →
    PredOK (F := F) d cfg cq cond ⟨x, k + 1, (childCands d cfg a p).length⟩

theorem CondOK.dec {d : Doc} {cfg : ECfg} {a : AxisInfo} {cq : Plan} {cond : Ast}
    (h : CondOK F d cfg a cq cond) : CondDec F d cfg a cq cond := by
  intro p x k hk
  obtain ⟨v, sv, g, hE, hS, hbn, hnn, htr⟩ := h p x k hk
  refine ⟨v, _, hE, ?_, hS, ?_⟩
  · cases v <;> first | trivial | exact hbn.elim
  · rw [Spec.Res.value, predTruth_notNum _ hnn, ← htr]
    cases v <;> first | rfl | exact hbn.elim

/-! ## oracle side -/

theorem eval_filter_cond_groups (d : Doc) (inp cond : Ast) (c : Spec.Ctx)
    (v : Spec.Value F) (groups : List (List Ref))
    (hev : Spec.eval (F := F) d inp c = .ok (.val v (some groups)))
    (h : ∀ g ∈ groups, ∀ k x, g[k]? = some x →
      ∃ r, Spec.eval (F := F) d cond ⟨x, k + 1, g.length⟩ = .ok r) :
    Spec.eval (F := F) d (.filter inp cond) c =
      .ok (.val (.nodes (Spec.docOrder d (groups.map (fun g =>
          keepIdxR (fun x pos => condTruth F d cond x pos g.length) g)).flatten))
        (some (groups.map (fun g => keepIdxR (fun x pos => condTruth F d cond x pos g.length) g)))) := by
  have hmap : groups.mapM (fun g => Spec.filterPos g (Spec.eval (F := F) d cond)) =
      .ok (groups.map (fun g => keepIdxR (fun x pos => condTruth F d cond x pos g.length) g)) :=
    mapM_eq_ok_map _ _ groups (fun g hg => filterPos_cond d cond g (h g hg))
  rw [Spec.eval]
  simp only [hev, bind, Except.bind, hmap]

theorem child_in_axes12 (a : AxisInfo) (ha : a.axis = "child") : a.axis ∈ axes12 := by
  rw [ha]; simp [axes12]

/-- the oracle's candidate groups of a child step are `childCands` of the origins -/
theorem child_groups (d : Doc) (cfg : ECfg) (hns : cfg.nsIface = true) (a : AxisInfo)
    (ha : a.axis = "child") (origins : List Ref) :
    origins.map (fun o => ((Spec.axisProx d a.axis o).getD []).filter (Spec.nodeTest d a)) =
      origins.map (childCands d cfg a) := by
  congr 1
  funext o
  have e : (Spec.axisProx d a.axis o).getD [] = Spec.children d o := by
    rw [ha]
    simp [Spec.axisProx, Spec.axisNodes, Spec.isReverseAxis]
  rw [e]
  unfold childCands
  congr 1
  funext r
  exact (nodeTest_eq d cfg hns a r).symm

/-- the oracle's value of `q/child::a[cond]` over an evaluated input `q` -/
theorem eval_child_cond (d : Doc) (cfg : ECfg) (hns : cfg.nsIface = true) (a : AxisInfo)
    (ha : a.axis = "child") (q cond : Ast) (c : Spec.Ctx) (origins : List Ref)
    (g : Option (List (List Ref)))
    (hev : Spec.eval (F := F) d q c = .ok (.val (.nodes origins) g))
    (hc : ∀ p x k, (childCands d cfg a p)[k]? = some x →
      ∃ r, Spec.eval (F := F) d cond ⟨x, k + 1, (childCands d cfg a p).length⟩ = .ok r) :
    Spec.eval (F := F) d (.filter (.axis a q) cond) c =
      .ok (.val (.nodes (Spec.docOrder d (origins.map (keepOfC F d cfg a cond)).flatten))
        (some (origins.map (keepOfC F d cfg a cond)))) := by
  have h1 := eval_axis_groups (F := F) d a (child_in_axes12 a ha) q c origins g hev
  rw [child_groups d cfg hns a ha origins] at h1
  rw [eval_filter_cond_groups d (.axis a q) cond c _ _ h1 ?_, List.map_map]
  · rfl
  · intro gr hgr k x hk
    obtain ⟨p, _, rfl⟩ := List.mem_map.1 hgr
    exact hc p x k hk

/-! ## model side -/

/-- the engine's verdict on an item: what `filterQuery.do` reads off the condition plan's value -/
def decC (F : Type) [NumAlg F] (d : Doc) (cfg : ECfg) (cq : Plan) (it : Item) : Bool :=
  match evalP (F := F) d cfg cq it.r with
  | .ok v => predDecision v it false
  | .error _ => false

section
variable {d : Doc} (cfg : ECfg) (a : AxisInfo) (cq : Plan) (cond : Ast)
  (hcond : CondDec F d cfg a cq cond)
include hcond

theorem condDec_evalOK (p x : Ref) (k : Nat) (hk : (childCands d cfg a p)[k]? = some x) :
    ∃ r, Spec.eval (F := F) d cond ⟨x, k + 1, (childCands d cfg a p).length⟩ = .ok r := by
  obtain ⟨_, r, _, _, hS, _⟩ := hcond p x k hk
  exact ⟨r, hS⟩

theorem decC_eq (p : Ref) (k : Nat) (it : Item) (hk : (childCands d cfg a p)[k]? = some it.r)
    (hp : it.pos = k + 1) :
    ∃ v, evalP (F := F) d cfg cq it.r = .ok v ∧ Direct v ∧
      predDecision v it false = decC F d cfg cq it ∧
      decC F d cfg cq it = condTruth F d cond it.r (k + 1) (childCands d cfg a p).length := by
  obtain ⟨v, r, hE, hdir, hS, hdec⟩ := hcond p it.r k hk
  refine ⟨v, hE, hdir, ?_, ?_⟩
  · simp only [decC, hE]
  · simp only [decC, hE, condTruth, hS]
    rw [predDecision_pos, hp]
    exact hdec

/-- **one parent**: among the numbered candidates below `o` the engine keeps what the oracle keeps -/
theorem block_keepC (o : Ref) :
    refs ((numbered (childCands d cfg a o)).filter (decC F d cfg cq)) = keepOfC F d cfg a cond o := by
  unfold keepOfC
  rw [← numbered_filter_refsR]
  congr 1
  apply List.filter_congr
  intro it hit
  obtain ⟨k, hk, hp, _⟩ := (mem_numbered_iff _ it).1 hit
  obtain ⟨_, _, _, _, h4⟩ := decC_eq cfg a cq cond hcond o k it hk hp
  rw [h4, hp]

/-- **several parents**: a filter with condition plan `cq` over a child step keeps, for each input
node in turn, the candidates the oracle keeps -/
theorem sel_filter_child_cond (wf : WF d) (inp : Plan) (c : Ref) (ins : List Item)
    (hins : sel (F := F) d cfg inp c = .ok ins) :
    ∃ out, sel (F := F) d cfg (.filter (.child a inp) cq) c = .ok out ∧
      refs out = (refs ins).flatMap (keepOfC F d cfg a cond) := by
  refine ⟨_, sel_filter_dec d cfg _ cq c _ (decC F d cfg cq) (child_step_eq wf cfg a inp c ins hins)
    ?_, ?_⟩
  · intro it hit
    obtain ⟨it', _, hit'⟩ := List.mem_flatMap.1 hit
    obtain ⟨k, hk, hp, _⟩ := (mem_numbered_iff _ it).1 hit'
    obtain ⟨v, h1, h2, h3, _⟩ := decC_eq cfg a cq cond hcond it'.r k it hk hp
    exact ⟨v, h1, h2, h3⟩
  · rw [filterPositions_refs, List.filter_flatMap, refs_flatMap, refs, List.flatMap_map]
    congr 1
    funext it
    exact block_keepC cfg a cq cond hcond it.r

end

/-- the merge rewrite evaluates the filtered step once per input node and concatenates -/
theorem sel_merge_flat (d : Doc) (cfg : ECfg) (kf : Ref → List Ref) (qi child : Plan) (c : Ref)
    (ins : List Item) (hins : sel (F := F) d cfg qi c = .ok ins)
    (hchild : ∀ x : Ref, ∃ out, sel (F := F) d cfg child x = .ok out ∧ refs out = kf x) :
    ∃ out, sel (F := F) d cfg (.merge qi child) c = .ok out ∧ refs out = (refs ins).flatMap kf := by
  let g : Item → List Item := fun it =>
    match sel (F := F) d cfg child it.r with
    | .ok l => l
    | .error _ => []
  have hg : ∀ it ∈ ins, sel (F := F) d cfg child it.r = .ok (g it) ∧ refs (g it) = kf it.r := by
    intro it _
    obtain ⟨l, hl, hr⟩ := hchild it.r
    have : g it = l := by simp only [g, hl]
    rw [this]; exact ⟨hl, hr⟩
  refine ⟨_, sel_merge d cfg qi child c ins g hins (fun it hit => (hg it hit).1), ?_⟩
  rw [plain_refs]
  clear hins
  induction ins with
  | nil => rfl
  | cons it t ih =>
    simp only [List.map_cons, List.flatten_cons, List.map_append, refs, List.flatMap_cons]
    rw [← ih (fun it' h' => hg it' (List.mem_cons_of_mem _ h'))]
    congr 1
    exact (hg it List.mem_cons_self).2

/-! ## the statement -/

/-- plan `pl` implements `q/child::a[cond]` over the input plan `qi` at context `c`: it yields, for
each node of `qi` in turn, the candidates the oracle keeps, and the oracle's node set is the
document-ordered union of the same per-parent lists -/
def CondStepOK (F : Type) [NumAlg F] (d : Doc) (cfg : ECfg) (a : AxisInfo) (cond : Ast)
    (pl qi : Plan) (q : Ast) (c : Spec.Ctx) : Prop :=
  ∃ ins origins g0 out,
    sel (F := F) d cfg qi c.node = .ok ins ∧
    Spec.eval (F := F) d q c = .ok (.val (.nodes origins) g0) ∧
    (∀ x, x ∈ refs ins ↔ x ∈ origins) ∧
    sel (F := F) d cfg pl c.node = .ok out ∧
    refs out = (refs ins).flatMap (keepOfC F d cfg a cond) ∧
    Spec.eval (F := F) d (.filter (.axis a q) cond) c =
      .ok (.val (.nodes (Spec.docOrder d (origins.map (keepOfC F d cfg a cond)).flatten))
        (some (origins.map (keepOfC F d cfg a cond))))

theorem mem_flatten_map' (origins : List Ref) (k : Ref → List Ref) (x : Ref) :
    x ∈ (origins.map k).flatten ↔ ∃ o ∈ origins, x ∈ k o := by
  simp only [List.mem_flatten, List.mem_map]
  constructor
  · rintro ⟨l, ⟨o, ho, rfl⟩, hx⟩; exact ⟨o, ho, hx⟩
  · rintro ⟨o, ho, hx⟩; exact ⟨_, ⟨o, ho, rfl⟩, hx⟩

/-- the per-parent lists of the engine (over its input sequence) and of the oracle (over the input
node set, document-ordered) have the same members -/
theorem mem_flatMap_iff_docOrder (d : Doc) (kf : Ref → List Ref)
    (hv : ∀ o x, x ∈ kf o → validRef d x = true) (l origins : List Ref)
    (hm : ∀ x, x ∈ l ↔ x ∈ origins) (x : Ref) :
    x ∈ l.flatMap kf ↔ x ∈ Spec.docOrder d (origins.map kf).flatten := by
  rw [mem_docOrder, mem_flatten_map', List.mem_flatMap]
  constructor
  · rintro ⟨o, ho, hx⟩
    exact ⟨⟨o, (hm o).1 ho, hx⟩, hv o x hx⟩
  · rintro ⟨⟨o, ho, hx⟩, _⟩
    exact ⟨o, (hm o).2 ho, hx⟩

/-- **the property, node-set level**, for any reading `T` of the oracle's verdict at the candidates:
the nodes returned are exactly the candidates `x` of some input node `o` on which `T`, at `x` with
the 1-based position of `x` among the candidates of `o` and their number, is true -/
theorem CondStepOK.mem_iff_of {d : Doc} {cfg : ECfg} {a : AxisInfo} {cond : Ast} {pl qi : Plan}
    {q : Ast} {c : Spec.Ctx} (h : CondStepOK F d cfg a cond pl qi q c) (T : Ref → Nat → Nat → Bool)
    (hT : ∀ p x k, (childCands d cfg a p)[k]? = some x →
      condTruth F d cond x (k + 1) (childCands d cfg a p).length =
        T x (k + 1) (childCands d cfg a p).length) :
    ∃ out ns g origins g0, sel (F := F) d cfg pl c.node = .ok out ∧
      Spec.eval (F := F) d (.filter (.axis a q) cond) c = .ok (.val (.nodes ns) g) ∧
      Spec.eval (F := F) d q c = .ok (.val (.nodes origins) g0) ∧
      (∀ x, x ∈ refs out ↔ x ∈ ns) ∧
      (∀ x, x ∈ ns ↔ ∃ o ∈ origins, ∃ k, (childCands d cfg a o)[k]? = some x ∧
        T x (k + 1) (childCands d cfg a o).length = true) := by
  obtain ⟨ins, origins, g0, out, _, hevq, hm, hout, hrefs, hev⟩ := h
  refine ⟨out, _, _, origins, g0, hout, hev, hevq, fun x => ?_, fun x => ?_⟩
  · rw [hrefs]
    exact mem_flatMap_iff_docOrder d _ (keepOfC_valid d cfg a cond) _ _ hm x
  · rw [mem_docOrder, mem_flatten_map']
    constructor
    · rintro ⟨⟨o, ho, hx⟩, _⟩
      obtain ⟨k, hk, ht⟩ := (mem_keepOfC d cfg a cond o x).1 hx
      exact ⟨o, ho, k, hk, (hT o x k hk).symm.trans ht⟩
    · rintro ⟨o, ho, k, hk, ht⟩
      have hx := (mem_keepOfC (F := F) d cfg a cond o x).2 ⟨k, hk, (hT o x k hk).trans ht⟩
      exact ⟨⟨o, ho, hx⟩, keepOfC_valid d cfg a cond o x hx⟩

/-- **the property, node-set level**: the nodes returned are exactly the candidates `x` of some
input node `o` on which the condition, evaluated at `x` with the 1-based position of `x` among the
candidates of `o` and their number, is true -/
theorem CondStepOK.mem_iff {d : Doc} {cfg : ECfg} {a : AxisInfo} {cond : Ast} {pl qi : Plan}
    {q : Ast} {c : Spec.Ctx} (h : CondStepOK F d cfg a cond pl qi q c) :
    ∃ out ns g origins g0, sel (F := F) d cfg pl c.node = .ok out ∧
      Spec.eval (F := F) d (.filter (.axis a q) cond) c = .ok (.val (.nodes ns) g) ∧
      Spec.eval (F := F) d q c = .ok (.val (.nodes origins) g0) ∧
      (∀ x, x ∈ refs out ↔ x ∈ ns) ∧
      (∀ x, x ∈ ns ↔ ∃ o ∈ origins, ∃ k, (childCands d cfg a o)[k]? = some x ∧
        condTruth F d cond x (k + 1) (childCands d cfg a o).length = true) :=
  h.mem_iff_of (condTruth F d cond) fun _ _ _ _ => rfl

/-- node-set agreement, packaged as `PathOK` (further boolean predicates and steps can be put on
top with the lemmas of `PredSem`) -/
theorem CondStepOK.pathOK {d : Doc} {cfg : ECfg} {a : AxisInfo} {cond : Ast} {pl qi : Plan}
    {q : Ast} {c : Spec.Ctx} (h : CondStepOK F d cfg a cond pl qi q c) (hs : PathShape pl) :
    PathOK (F := F) d cfg pl (.filter (.axis a q) cond) c := by
  obtain ⟨ins, origins, g0, out, _, _, hm, hout, hrefs, hev⟩ := h
  refine ⟨out, _, _, hout, evalP_pathShape d cfg pl hs c.node out hout, hev, fun x => ?_,
    fun x hx => ((mem_docOrder d _ x).1 hx).2, ?_⟩
  · rw [hrefs]
    exact mem_flatMap_iff_docOrder d _ (keepOfC_valid d cfg a cond) _ _ hm x
  · intro gs hgs x
    cases hgs
    rw [mem_docOrder]
    refine ⟨fun hx => ⟨hx, ?_⟩, fun hx => hx.1⟩
    obtain ⟨o, _, hxo⟩ := (mem_flatten_map' origins _ x).1 hx
    exact keepOfC_valid d cfg a cond o x hxo

/-! ## the plan shapes the builder produces -/

/-- **`q/child::a[cond]` in the shapes `processFilter` gives it**: over the child step `st` (plain or
cached) on the input plan `qi`, the plain filter `.filter st cq`, or the merge rewrite that runs the
filtered step from each node of `qi` in turn -/
theorem condStep_built {d : Doc} (wf : WF d) (cfg : ECfg) (hns : cfg.nsIface = true) (a : AxisInfo)
    (ha : a.axis = "child") (cq : Plan) (cond : Ast) (hcond : CondDec F d cfg a cq cond)
    (st pl qi : Plan) (hst : st = .child a qi ∨ st = .cachedChild a qi)
    (hpl : pl = .filter st cq ∨
      ∃ parent, st.inputOf = some parent ∧ pl = .merge parent (.filter (st.withInput .context) cq))
    (q : Ast) (c : Spec.Ctx) (hq : PathOK (F := F) d cfg qi q c) :
    CondStepOK F d cfg a cond pl qi q c := by
  obtain ⟨ins, origins, g0, hsel, _, hev, hm, _, _⟩ := hq
  have hstep : ∀ (inp : Plan) (x : Ref) (ins' : List Item), sel (F := F) d cfg inp x = .ok ins' →
      ∃ out, sel (F := F) d cfg (.filter (st.withInput inp) cq) x = .ok out ∧
        refs out = (refs ins').flatMap (keepOfC F d cfg a cond) := by
    intro inp x ins' h
    rcases hst with rfl | rfl
    · exact sel_filter_child_cond cfg a cq cond hcond wf inp x ins' h
    · show ∃ out, sel (F := F) d cfg (.filter (.cachedChild a inp) cq) x = .ok out ∧ _
      rw [sel_filter_congr d cfg _ (.child a inp) _ x (sel_cachedChild d cfg a inp x)]
      exact sel_filter_child_cond cfg a cq cond hcond wf inp x ins' h
  have hout : ∃ out, sel (F := F) d cfg pl c.node = .ok out ∧
      refs out = (refs ins).flatMap (keepOfC F d cfg a cond) := by
    rcases hpl with rfl | ⟨parent, hpar, rfl⟩
    · have e : st.withInput qi = st := by rcases hst with rfl | rfl <;> rfl
      rw [← e]
      exact hstep qi c.node ins hsel
    · have e : parent = qi := by rcases hst with rfl | rfl <;> cases hpar <;> rfl
      subst e
      refine sel_merge_flat d cfg _ parent _ c.node ins hsel fun x => ?_
      obtain ⟨o, h1, h2⟩ := hstep .context x [⟨x, 1, 0⟩] (sel_context d cfg x)
      refine ⟨o, h1, ?_⟩
      rw [h2]
      simp only [refs, List.map_cons, List.map_nil, List.flatMap_cons, List.flatMap_nil,
        List.append_nil]
  obtain ⟨out, hout, hrefs⟩ := hout
  exact ⟨ins, origins, g0, out, hsel, hev, hm, hout, hrefs,
    eval_child_cond d cfg hns a ha q cond c origins g0 hev (condDec_evalOK cfg a cq cond hcond)⟩

end XPathV.PosSem
