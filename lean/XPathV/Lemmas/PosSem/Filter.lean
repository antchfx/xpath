import XPathV.Lemmas.PosSem.Forms
/-!
# C03 helpers — what a filter with a positional predicate keeps

`keepIdxR K l`: the members `x` of `l` with `K x (1-based index of x)`; `keepIdx` is the case of a
verdict that ignores the node.  Model side: the `.filter` arm of `sel` when the predicate value
decides at once (`sel_filter_dec`), over numbered candidates (`numbered_filter_refsR`); oracle side:
`Spec.filterPos` keeps by `condTruth` (`filterPos_cond`).
-/
namespace XPathV.PosSem
open XPathV XPathV.Model XPathV.PathSem XPathV.PredSem NumAlg

variable {F : Type} [NumAlg F]

/-! ## `keepIdxR`, `keepIdx` -/

/-- the members `x` of `l` with `K x (1-based index of x)`, in the order of `l` -/
def keepIdxR (K : Ref → Nat → Bool) (l : List Ref) : List Ref :=
  l.zipIdx.filterMap (fun p => if K p.1 (p.2 + 1) then some p.1 else none)

/-- the members of `l` whose 1-based index satisfies `K`, in the order of `l` -/
def keepIdx (K : Nat → Bool) (l : List Ref) : List Ref :=
  l.zipIdx.filterMap (fun p => if K (p.2 + 1) then some p.1 else none)

theorem mem_keepIdxR (K : Ref → Nat → Bool) (l : List Ref) (x : Ref) :
    x ∈ keepIdxR K l ↔ ∃ k, l[k]? = some x ∧ K x (k + 1) = true := by
  unfold keepIdxR
  rw [List.mem_filterMap]
  constructor
  · rintro ⟨⟨r, i⟩, hp, hk⟩
    rw [List.mem_zipIdx_iff_getElem?] at hp
    simp only at hp hk
    split at hk
    · rename_i hK
      cases hk
      exact ⟨i, hp, hK⟩
    · cases hk
  · rintro ⟨k, hk, hK⟩
    refine ⟨(x, k), ?_, ?_⟩
    · rw [List.mem_zipIdx_iff_getElem?]; exact hk
    · simp only [hK, ↓reduceIte]

theorem mem_keepIdx (K : Nat → Bool) (l : List Ref) (x : Ref) :
    x ∈ keepIdx K l ↔ ∃ k, l[k]? = some x ∧ K (k + 1) = true :=
  mem_keepIdxR (fun _ => K) l x

theorem mem_of_mem_keepIdxR (K : Ref → Nat → Bool) (l : List Ref) (x : Ref) (h : x ∈ keepIdxR K l) :
    x ∈ l := by
  obtain ⟨k, hk, _⟩ := (mem_keepIdxR K l x).1 h
  exact List.mem_of_getElem? hk

theorem filterMap_congr_mem {α β : Type} (f g : α → Option β) :
    ∀ l : List α, (∀ x ∈ l, f x = g x) → l.filterMap f = l.filterMap g
  | [], _ => rfl
  | a :: t, h => by
    rw [List.filterMap_cons, List.filterMap_cons, h a List.mem_cons_self,
      filterMap_congr_mem f g t fun x hx => h x (List.mem_cons_of_mem _ hx)]

/-- `keepIdxR` only looks at `K` on the members of `l` at their own indices -/
theorem keepIdxR_congr (K K' : Ref → Nat → Bool) (l : List Ref)
    (h : ∀ k x, l[k]? = some x → K x (k + 1) = K' x (k + 1)) : keepIdxR K l = keepIdxR K' l := by
  apply filterMap_congr_mem
  rintro ⟨x, k⟩ hp
  rw [h k x (List.mem_zipIdx_iff_getElem?.1 hp)]

/-- `keepIdx` only looks at `K` on the indices `1..l.length` -/
theorem keepIdx_congr (K K' : Nat → Bool) (l : List Ref)
    (h : ∀ pos, 1 ≤ pos → pos ≤ l.length → K pos = K' pos) : keepIdx K l = keepIdx K' l :=
  keepIdxR_congr _ _ l fun k _ hk =>
    h (k + 1) (by omega) (by have := (List.getElem?_eq_some_iff.1 hk).1; omega)

theorem keepIdxR_from_sublist (K : Ref → Nat → Bool) : ∀ (l : List Ref) (s : Nat),
    ((l.zipIdx s).filterMap (fun p => if K p.1 (p.2 + 1) then some p.1 else none)).Sublist l := by
  intro l
  induction l with
  | nil => intro s; exact List.Sublist.slnil
  | cons a t ih =>
    intro s
    by_cases hK : K a (s + 1) = true
    · simp only [List.zipIdx_cons, List.filterMap_cons, hK, ↓reduceIte]
      exact (ih (s + 1)).cons_cons a
    · simp only [List.zipIdx_cons, List.filterMap_cons, hK]
      exact (ih (s + 1)).cons a

theorem keepIdx_sublist (K : Nat → Bool) (l : List Ref) : (keepIdx K l).Sublist l :=
  keepIdxR_from_sublist (fun _ => K) l 0

/-- the literal form on natural numbers: the `n`-th member -/
theorem keepIdx_eq_nth (l : List Ref) (n : Nat) (hn : 1 ≤ n) :
    keepIdx (fun pos => pos == n) l = (l[n - 1]?).toList := by
  have := specKeep_nth (fun m => m == n) n (fun m _ => by simp) l 0 (by omega)
  rw [Nat.sub_zero] at this
  rw [← this]
  unfold keepIdx
  have gen : ∀ (l : List Ref) (s : Nat),
      (l.zipIdx s).filterMap (fun p => if (p.2 + 1 == n) = true then some p.1 else none) =
      (l.zip ((l.zipIdx s).map (fun p => (fun m => m == n) (p.2 + 1)))).filterMap keepFlag := by
    intro l
    induction l with
    | nil => intro s; rfl
    | cons a t ih =>
      intro s
      simp only [List.zipIdx_cons, List.map_cons, List.zip_cons_cons, List.filterMap_cons, keepFlag]
      rw [ih (s + 1)]
  exact gen l 0

/-! ## model side -/

/-- what the verdict of a filter depends on: the value and the candidate's position -/
theorem predDecision_pos (v : MVal F) (it : Item) (b : Bool) :
    predDecision v it b = predDecision v ⟨default, it.pos, 0⟩ b := by
  cases v <;> rfl

/-- **filter semantics, model side**: when the predicate plan evaluates on every candidate to a
value that decides at once, the filter keeps the candidates on which `predDecision` says so — same
order -/
theorem sel_filter_dec (d : Doc) (cfg : ECfg) (inp pred : Plan) (c : Ref) (ins : List Item)
    (dec : Item → Bool)
    (h : sel (F := F) d cfg inp c = .ok ins)
    (hp : ∀ it ∈ ins, ∃ v, evalP (F := F) d cfg pred it.r = .ok v ∧ Direct v ∧
      predDecision v it false = dec it) :
    sel (F := F) d cfg (.filter inp pred) c = .ok (filterPositions (ins.filter dec)) := by
  simp only [sel, h, bind, Except.bind]
  rw [mapM_eq_ok_map _ dec ins ?_]
  · simp only [zip_map_filterMap]
  · intro it hit
    obtain ⟨v, hv, hdir, hdec⟩ := hp it hit
    rw [hv]
    cases v with
    | bool b | str s | num x | nodes l => simp only [pure, Except.pure, hdec]
    | int i | nilv => exact hdir.elim

theorem mem_numbered_iff (cs : List Ref) (it : Item) :
    it ∈ numbered cs ↔ ∃ k, cs[k]? = some it.r ∧ it.pos = k + 1 ∧ it.lvl = 0 := by
  rw [List.mem_iff_getElem?]
  constructor
  · rintro ⟨k, hk⟩
    rw [numbered_getElem?] at hk
    cases hc : cs[k]? with
    | none => rw [hc] at hk; cases hk
    | some r =>
      rw [hc] at hk
      simp only [Option.map_some, Option.some.injEq] at hk
      subst hk
      exact ⟨k, hc, rfl, rfl⟩
  · rintro ⟨k, hk, hp, hl⟩
    refine ⟨k, ?_⟩
    rw [numbered_getElem?, hk]
    simp only [Option.map_some, Option.some.injEq]
    cases it
    simp only at hp hl
    rw [hp, hl]

theorem numbered_filter_refsR (K : Ref → Nat → Bool) (l : List Ref) :
    refs ((numbered l).filter (fun it => K it.r it.pos)) = keepIdxR K l := by
  unfold keepIdxR
  rw [numbered_eq]
  have gen : ∀ (l : List Ref) (s : Nat),
      refs (((l.zipIdx s).map mkItem).filter (fun it => K it.r it.pos)) =
        (l.zipIdx s).filterMap (fun p => if K p.1 (p.2 + 1) then some p.1 else none) := by
    intro l
    induction l with
    | nil => intro s; rfl
    | cons a t ih =>
      intro s
      by_cases hK : K a (s + 1) = true
      · simp only [List.zipIdx_cons, List.map_cons, List.filter_cons, List.filterMap_cons, mkItem,
          hK, ↓reduceIte, refs, List.map_cons]
        rw [← ih (s + 1)]
      · simp only [List.zipIdx_cons, List.map_cons, List.filter_cons, List.filterMap_cons, mkItem,
          hK]
        exact ih (s + 1)
  exact gen l 0

/-! ## oracle side -/

/-- the oracle's verdict on the candidate `x` at proximity position `pos` of `size`: `predTruth` of
the value of the condition in that context -/
def condTruth (F : Type) [NumAlg F] (d : Doc) (cond : Ast) (x : Ref) (pos size : Nat) : Bool :=
  match Spec.eval (F := F) d cond ⟨x, pos, size⟩ with
  | .ok r => Spec.predTruth r.value pos
  | .error _ => false

/-- a positional form ignores the node: its verdict is `specKeep` -/
theorem condTruth_form (d : Doc) (f : PosForm) (x : Ref) (pos size : Nat) :
    condTruth F d f.ast x pos size = PosForm.specKeep F f pos size := by
  simp only [condTruth, eval_form, Spec.Res.value, PosForm.specKeep]

theorem zip_flags_zipIdx (g : Ref × Nat → Bool) : ∀ (l : List Ref) (s : Nat),
    (l.zip ((l.zipIdx s).map g)).filterMap (fun (p : Ref × Bool) => if p.2 then some p.1 else none) =
      (l.zipIdx s).filterMap (fun p => if g p then some p.1 else none) := by
  intro l
  induction l with
  | nil => intro s; rfl
  | cons a t ih =>
    intro s
    simp only [List.zipIdx_cons, List.map_cons, List.zip_cons_cons, List.filterMap_cons]
    rw [ih (s + 1)]

/-- **filter semantics, oracle side, positional version**: `filterPos` with a condition that
evaluates at every candidate keeps the candidates on which `condTruth` says so -/
theorem filterPos_cond (d : Doc) (cond : Ast) (l : List Ref)
    (h : ∀ k x, l[k]? = some x → ∃ r, Spec.eval (F := F) d cond ⟨x, k + 1, l.length⟩ = .ok r) :
    Spec.filterPos l (Spec.eval (F := F) d cond) =
      .ok (keepIdxR (fun x pos => condTruth F d cond x pos l.length) l) := by
  unfold Spec.filterPos
  have hflags : l.zipIdx.mapM (fun (p : Ref × Nat) => do
      let v ← Spec.eval (F := F) d cond ⟨p.1, p.2 + 1, l.length⟩
      pure (Spec.predTruth v.value (p.2 + 1))) =
      .ok (l.zipIdx.map (fun p => condTruth F d cond p.1 (p.2 + 1) l.length)) := by
    apply mapM_eq_ok_map
    rintro ⟨x, i⟩ hp
    rw [List.mem_zipIdx_iff_getElem?] at hp
    obtain ⟨r, hr⟩ := h i x hp
    simp only [hr, condTruth, bind, Except.bind, pure, Except.pure]
  simp only [bind, Except.bind, pure, Except.pure] at hflags ⊢
  rw [hflags]
  simp only
  rw [zip_flags_zipIdx]
  rfl

theorem filterPos_form (d : Doc) (f : PosForm) (l : List Ref) :
    Spec.filterPos l (Spec.eval (F := F) d f.ast) =
      .ok (keepIdx (fun pos => PosForm.specKeep F f pos l.length) l) := by
  rw [filterPos_cond d f.ast l fun k x _ => ⟨_, eval_form d f x _ _⟩]
  simp only [condTruth_form]
  rfl

end XPathV.PosSem
