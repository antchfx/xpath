import XPathV.Lemmas.PosSem.Build
import XPathV.Lemmas.Sem.PredInput
/-!
# C03 — `position()` / `last()` are bound to the step being filtered (`predInput`)

From `build_posBound` (`Lemmas/Sem/PredInput`: a plan built while `predInput = some t` is `posBound t`):
`build_position_fi_is_filtered_step` — the condition of `X[cond]` is `posBound` to the step recorded
when `X` was built (for an axis step `X`: the plan of `X` itself).
-/
namespace XPathV.PosSem
open XPathV XPathV.Model XPathV.PathSem XPathV.PredSem

section
variable (regexOk : RegexOk) (limit : Nat) (snt sdf : Bool)

/-- **`position()` / `last()` inside a predicate count in the filtered step**: in the
plan `build` makes of `X[cond]`, every `position()` / `last()` call of the condition
— at any depth: behind `and` / `or` / comparisons / arithmetic, inside function arguments, after any
number of location steps, but not inside a nested filter's condition (which counts in its own
step) — has as `firstInput` the step `b.firstInput` recorded right after `X` was built; for an axis
step `X` that is the plan of `X` itself -/
theorem build_position_fi_is_filtered_step (inp cond : Ast) (fl : Flags) (st : BState) (o : BOut)
    (h : build regexOk limit snt sdf (.filter inp cond) fl st = .ok o) :
    ∃ st1 io co,
      build regexOk limit snt sdf inp { fl with filter := true, smartDesc := fl.smartDesc && sdf } st1 = .ok io ∧
      build regexOk limit snt sdf cond fl ⟨io.st.depth, io.st.firstInput, io.st.firstInput⟩ = .ok co ∧
      (∀ step, io.st.firstInput = some step → posBound step co.q = true) ∧
      (∀ a q, inp = .axis a q → posBound io.q co.q = true) := by
  obtain ⟨io, co, _, hio, hco, _⟩ := build_filter_ok h
  have h1 : ∀ step, io.st.firstInput = some step → posBound step co.q = true :=
    fun step hs => build_posBound regexOk limit snt sdf cond fl _ co step hs hco
  refine ⟨_, io, co, hio, hco, h1, fun a q e => ?_⟩
  subst e
  exact h1 _ (build_axis_firstInput regexOk limit snt sdf a q _ _ io hio)

end

end XPathV.PosSem
