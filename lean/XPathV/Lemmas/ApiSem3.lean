import XPathV.Lemmas.ApiSem2
import XPathV.Lemmas.PosSem2
/-!
# C03 at the public API: positional steps from the expression text

`ApiSem2` restates C02 against `Model.compile` / `Model.selectAll` / `Model.evaluate` for texts that
parse into `PredSem2.Frag2`.  Here the same for the positional steps of C03: a text that parses into
`q/child::a[f][b1]…[bk]` — `stackAst (.filter (.axis a q) f.ast) bs`, `q` in `Frag2 true`, `f` a
`PosForm`, the `bi` (outermost first) boolean predicates of `Frag2 false`; `bs = []` is the plain
positional step `.filter (.axis a q) f.ast`.

* `stackAst_filter_form`, `build_posStack_pathShape` — the plan `build` makes of such a tree is
  path-shaped (a filter or a merge), with no numeric side condition (`PosSem2.build_posStep2` gives
  the shape only under `f.Agree F d.length`, which mentions a number algebra and a document; the
  shape is needed before either is chosen, to know that `compile` does not answer "nil query").
* `C03_sel_chain`, `C03_compile_chain_total`, `C03_compile_total`
-/
namespace XPathV.ApiSem
open XPathV XPathV.Model XPathV.PathSem XPathV.PredSem XPathV.PredSem2 XPathV.PosSem

variable {F : Type} [NumAlg F]

/-- a stack of predicates over a filter is a filter -/
theorem stackAst_filter_form (inp cond : Ast) (bs : List Ast) :
    ∃ i b, stackAst (.filter inp cond) bs = .filter i b := by
  cases bs with
  | nil => exact ⟨inp, cond, rfl⟩
  | cons b t => exact ⟨stackAst (.filter inp cond) t, b, rfl⟩

/-- **the plan `build` makes of a positional step followed by predicates is path-shaped**; no
numeric side condition, no hypothesis on the parts -/
theorem build_posStack_pathShape (regexOk : RegexOk) (limit : Nat) (snt sdf : Bool) (inp cond : Ast)
    (bs : List Ast) (fl : Flags) (st : BState) (o : BOut)
    (h : build regexOk limit snt sdf (stackAst (.filter inp cond) bs) fl st = .ok o) :
    PathShape o.q := by
  obtain ⟨i, b, e⟩ := stackAst_filter_form inp cond bs
  rw [e] at h
  exact build_filter_pathShape regexOk limit snt sdf i b fl st o h

/-- C03 with following boolean predicates against the top-level oracle: `sel` of the built plan
succeeds with exactly the members of the node-set `Spec.evalTop` assigns to the tree -/
theorem C03_sel_chain {d : Doc} (wf : WF d) (cfg : ECfg) (hns : cfg.nsIface = true)
    (hinj : HashInj d cfg) (regexOk : RegexOk) (limit : Nat)
    (a : AxisInfo) (ha : a.axis = "child") (q : Ast) (hq : Frag2 true q)
    (f : PosForm) (hag : f.Agree F d.length) (bs : List Ast) (hbs : ∀ b ∈ bs, Frag2 false b)
    (st : BState) (o : BOut)
    (hb : build regexOk limit true false (stackAst (.filter (.axis a q) f.ast) bs) {} st = .ok o)
    (c : Ref) (hc : validRef d c = true) :
    ∃ out nsl, sel (F := F) d cfg o.q c = .ok out ∧
      Spec.evalTop (F := F) d (stackAst (.filter (.axis a q) f.ast) bs) c = .ok (.nodes nsl) ∧
      ∀ x, x ∈ refs out ↔ x ∈ nsl := by
  obtain ⟨qi, hok⟩ :=
    PosSem2.C03_chain2 (F := F) wf cfg hns hinj regexOk limit a ha q hq f hag bs hbs st o hb
  obtain ⟨ins, origins, g0, out, nsl, g, _, _, _, hout, hev, _, _, hm⟩ := hok c hc
  refine ⟨out, nsl, hout, ?_, hm⟩
  simp [Spec.evalTop, hev, bind, Except.bind, pure, Except.pure, Spec.Res.value]

/-- **the whole pipeline on a text that parses into `q/child::a[f][b1]…[bk]`** (`q` in `Frag2 true`,
`f : PosForm`, the `bi` in `Frag2 false`, listed outermost first): `compile` (source configuration)
either reports a *builder* error (never "empty", a parse error, lack of fuel or the nil query), or
returns a path-shaped plan on which `selectAll` and `evaluate` agree with the oracle at every valid
context node of every well-formed document, for every number algebra in which the positional form
is read as the oracle reads it (`f.Agree F d.length`, the side condition of `C03_main2`) -/
theorem C03_compile_chain_total (regexOk : RegexOk) (ns : Option (List (String × String)))
    (text : List Char) (a : AxisInfo) (ha : a.axis = "child") (q : Ast) (hq : Frag2 true q)
    (f : PosForm) (bs : List Ast) (hbs : ∀ b ∈ bs, Frag2 false b)
    (hparse : parse (fuelFor text) (defaultCfg ns) text =
      .ok (stackAst (.filter (.axis a q) f.ast) bs)) :
    (∃ e, compile { regexOk := regexOk } ns text = .error (.build e)) ∨
    (∃ p, compile { regexOk := regexOk } ns text = .ok p ∧ PathShape p ∧
      ∀ (F : Type) [NumAlg F] (d : Doc), WF d → ∀ cfg : ECfg, cfg.nsIface = true → HashInj d cfg →
        f.Agree F d.length → ∀ c, validRef d c = true →
          ∃ l nsl, selectAll (F := F) d cfg p c = .ok l ∧ evaluate (F := F) d cfg p c = .ok (.nodes l) ∧
            Spec.evalTop (F := F) d (stackAst (.filter (.axis a q) f.ast) bs) c = .ok (.nodes nsl) ∧
            ∀ x, x ∈ l ↔ x ∈ nsl) := by
  refine (compile_lift { regexOk := regexOk } ns text _ hparse (fun o hb => ?_)).2
  have hsh := build_posStack_pathShape _ _ _ _ _ _ bs _ _ o hb
  rw [srcCfg_snt, srcCfg_sdf] at hb
  refine ⟨pathShape_ne_nil _ hsh, hsh, fun F _ d wf cfg hns hinj hag c hc => ?_⟩
  obtain ⟨out, nsl, h1, h2, h3⟩ :=
    C03_sel_chain (F := F) wf cfg hns hinj regexOk apiLimit a ha q hq f hag bs hbs {} o hb c hc
  exact ⟨refs out, nsl, selectAll_of_sel d cfg o.q c out h1, evaluate_of_sel d cfg o.q hsh c out h1,
    h2, h3⟩

/-- **the whole pipeline on a text that parses into a positional step `q/child::a[f]`** — the
instance `bs = []` of `C03_compile_chain_total` -/
theorem C03_compile_total (regexOk : RegexOk) (ns : Option (List (String × String)))
    (text : List Char) (a : AxisInfo) (ha : a.axis = "child") (q : Ast) (hq : Frag2 true q)
    (f : PosForm)
    (hparse : parse (fuelFor text) (defaultCfg ns) text = .ok (.filter (.axis a q) f.ast)) :
    (∃ e, compile { regexOk := regexOk } ns text = .error (.build e)) ∨
    (∃ p, compile { regexOk := regexOk } ns text = .ok p ∧ PathShape p ∧
      ∀ (F : Type) [NumAlg F] (d : Doc), WF d → ∀ cfg : ECfg, cfg.nsIface = true → HashInj d cfg →
        f.Agree F d.length → ∀ c, validRef d c = true →
          ∃ l nsl, selectAll (F := F) d cfg p c = .ok l ∧ evaluate (F := F) d cfg p c = .ok (.nodes l) ∧
            Spec.evalTop (F := F) d (.filter (.axis a q) f.ast) c = .ok (.nodes nsl) ∧
            ∀ x, x ∈ l ↔ x ∈ nsl) :=
  C03_compile_chain_total regexOk ns text a ha q hq f [] (fun _ h => nomatch h) hparse

end XPathV.ApiSem
