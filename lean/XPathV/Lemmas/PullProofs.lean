import XPathV.Lemmas.Pull2.Generic
import XPathV.Lemmas.AxesLemmas
/-!
# The pull machine refines the sequence model

For the seven core iterator types of `Model/Pull.lean` (`PQ`), with `t.Current()` fixed at `cur`:

* one-step unfoldings of the candidate lists `sibCands`, `attrCands` (from the recursion equations of the
  walks in `Lemmas/Walks.lean`)
* `scan_spec`, `scan_mono`: the shape shared by the closure loops; `childIter_spec`, `attrIter_spec`,
  `descLoop_spec` and their `_mono` lemmas are instances
* the closure calls `sibCall`, `attrCall`, `descCall` with their specifications and `_mono` lemmas (used here and by
  the machine of `Model/Pull2.lean` in `Pull2/SelectArms.lean`, `Pull2/Steps.lean`)
* `machP`: the machine as an abstract machine of `Pull2/Generic.lean`; the five arms of `PQ.select` (`childArmP` …)
  as instances of the two shapes there.  `machP_mono`, `select_mono`, `select_sound`: more fuel never changes an
  answer; `select_step`: the one-pull lemma, from the schemes
* P1–P5, the statements about the iterator protocol: P1 `drain_eq_sel` (draining the builder's machine
  yields `sel`), P2 `exhausted_stays` (exhausted stays exhausted), P3 `evaluate_resets`, `drain_evaluate`
  (`Evaluate` restarts the whole sequence), P4 `clone_fresh` (`Clone` is fresh and state-independent),
  P5 `select_position` (`position()`/`depth()` are those of the reported item)
-/
namespace XPathV.Model
open XPathV

section
-- Asks for the equations of the model's recursive functions once, at command level: requested first
-- from inside a proof they are generated again for every such proof.
attribute [local simp] childIter attrIter pclimb descLoop PQ.select drain rem
end

/-! ## One-step unfoldings of the candidate lists -/

theorem sibCands_unfold (d : Doc) (n : Ref) (first : Bool) :
    sibCands d n first =
      match (if first then Nav.moveChild d n else Nav.moveNext d n) with
      | none => []
      | some c => c :: sibCands d c false := by
  cases first with
  | false =>
    simp only [sibCands, Bool.false_eq_true, if_false]
    rw [nextSibsM_unfold]
    cases Nav.moveNext d n <;> rfl
  | true =>
    simp only [sibCands, if_true, Bool.false_eq_true, if_false]
    rw [childrenM_unfold]
    cases Nav.moveChild d n <;> rfl

theorem attrCands_unfold (d : Doc) (n : Ref) (isAttr : Bool) :
    attrCands d n isAttr =
      if isAttr then []
      else match Nav.moveNextAttr d n with
        | none => []
        | some c => c :: attrCands d c isAttr := by
  cases isAttr with
  | true => rfl
  | false =>
    simp only [attrCands, Bool.false_eq_true, if_false]
    exact attrChain_unfold d n

theorem attrCands_fresh (d : Doc) (n : Ref) : attrCands d n n.isAttr = attrsM d n := rfl

/-! ## The literal climbing loop agrees with the sequence model's `climb` -/

theorem pclimb_stuck {d : Doc} {r : Ref} (h1 : Nav.moveNext d r = none) (h2 : Nav.moveParent d r = none) :
    ∀ level, pclimb d level r = none
  | 0 => rfl
  | level+1 => by simp only [pclimb, h1, h2, Option.getD]; exact pclimb_stuck h1 h2 level

theorem pclimb_eq (d : Doc) : ∀ (level : Nat) (r : Ref), pclimb d level r = climb d level r
  | 0, _ => rfl
  | level+1, r => by
    simp only [pclimb, climb]
    cases h1 : Nav.moveNext d r with
    | some n => rfl
    | none =>
      cases h2 : Nav.moveParent d r with
      | some p => simp only [Option.getD]; exact pclimb_eq d level p
      | none => simp only [Option.getD]; exact pclimb_stuck h1 h2 level

theorem pstep_eq (d : Doc) (r : Ref) (level : Nat) : pstep d r level = stepD d r level := by
  cases h : Nav.moveChild d r <;> simp [pstep, stepD, pclimb_eq, h]

/-! ## The closure bodies return the head of their filtered candidate list -/

/-- head of a list as a loop outcome -/
def hdR {α : Type} : List α → Res α
  | [] => .done
  | x :: _ => .yield x

/-- The shape of the closure loops (`childIter`, `attrIter`, `descLoop`, `ancUp`, `precSibIter`):
`for { if !move() { return nil }; if test() { return cursor } }`.  With the states that `move` visits
listed by `cands` (under an invariant `G` that `move` preserves), the loop answers the first listed
state passing the test, and from there the rest of the list is still to come. -/
theorem scan_spec {σ : Type} (L : Nat → σ → Res σ) (nxt : σ → Option σ) (t : σ → Bool) (cands : σ → List σ)
    (G : σ → Prop)
    (hL : ∀ f s, L (f+1) s = match nxt s with | none => .done | some c => if t c then .yield c else L f c)
    (hc : ∀ s, G s → cands s = match nxt s with | none => [] | some c => c :: cands c)
    (hG : ∀ s c, G s → nxt s = some c → G c) :
    ∀ (k : Nat) (s : σ), G s → (cands s).length < k →
      ∃ f0, (∀ f, f0 ≤ f → L f s = hdR ((cands s).filter t)) ∧
        (∀ j rest, (cands s).filter t = j :: rest → (cands j).filter t = rest ∧ G j) := by
  intro k
  induction k with
  | zero => intro s _ h; omega
  | succ k ih =>
    intro s hg hlen
    have hu := hc s hg
    cases hm : nxt s with
    | none =>
      rw [hm] at hu
      refine ⟨1, fun f hf => ?_, fun j rest h => by rw [hu] at h; cases h⟩
      obtain ⟨f', rfl⟩ : ∃ f', f = f' + 1 := ⟨f - 1, by omega⟩
      rw [hL, hm, hu]; rfl
    | some c =>
      rw [hm] at hu
      have hgc := hG s c hg hm
      by_cases htc : t c = true
      · refine ⟨1, fun f hf => ?_, fun j rest h => ?_⟩
        · obtain ⟨f', rfl⟩ : ∃ f', f = f' + 1 := ⟨f - 1, by omega⟩
          rw [hL, hm, hu, List.filter_cons, if_pos htc]; simp only [htc, if_true, hdR]
        · rw [hu, List.filter_cons, if_pos htc] at h
          injection h with h1 h2
          subst h1; exact ⟨h2, hgc⟩
      · obtain ⟨f0, h1, h2⟩ := ih c hgc (by rw [hu] at hlen; simp only [List.length_cons] at hlen; omega)
        refine ⟨f0 + 1, fun f hf => ?_, fun j rest h => ?_⟩
        · obtain ⟨f', rfl⟩ : ∃ f', f = f' + 1 := ⟨f - 1, by omega⟩
          rw [hL, hm, hu, List.filter_cons, if_neg htc]; simp only [htc, if_false, Bool.false_eq_true]
          exact h1 f' (by omega)
        · rw [hu, List.filter_cons, if_neg htc] at h
          exact h2 j rest h

/-- … and more fuel does not change its answer (`out`: what the loop reports of the state it stops in) -/
theorem scan_mono {σ β : Type} (L : Nat → σ → Res β) (nxt : σ → Option σ) (t : σ → Bool) (out : σ → β)
    (hL0 : ∀ s, L 0 s = .fuel)
    (hL : ∀ f s, L (f+1) s = match nxt s with | none => .done | some c => if t c then .yield (out c) else L f c) :
    ∀ (f : Nat) (s : σ) (r : Res β), L f s = r → r ≠ .fuel → L (f+1) s = r
  | 0, s, r, h, hne => absurd ((hL0 s).symm.trans h).symm hne
  | f+1, s, r, h, hne => by
    rw [hL] at h ⊢
    cases hm : nxt s with
    | none => rw [hm] at h; exact h
    | some c =>
      rw [hm] at h
      by_cases htc : t c = true
      · simp only [htc, if_true] at h ⊢; exact h
      · simp only [htc, if_false, Bool.false_eq_true] at h ⊢
        exact scan_mono L nxt t out hL0 hL f c r h hne

theorem childIter_spec (d : Doc) (t : Ref → Bool) : ∀ (k : Nat) (n : Ref) (first : Bool),
    (sibCands d n first).length ≤ k →
    ∃ f0, (∀ f, f0 ≤ f → childIter d t f n first = hdR ((sibCands d n first).filter t)) ∧
      (∀ j rest, (sibCands d n first).filter t = j :: rest → (sibCands d j false).filter t = rest) := by
  -- after the first move the closure walks the following siblings
  have hsib : ∀ n, ∃ f0, (∀ f, f0 ≤ f → childIter d t f n false = hdR ((sibCands d n false).filter t)) ∧
      (∀ j rest, (sibCands d n false).filter t = j :: rest → (sibCands d j false).filter t = rest) := fun n => by
    obtain ⟨f0, h1, h2⟩ := scan_spec (fun f n => childIter d t f n false) (Nav.moveNext d) t
      (fun n => sibCands d n false) (fun _ => True) (fun f n => by rw [childIter]; cases Nav.moveNext d n <;> rfl)
      (fun n _ => by rw [sibCands_unfold]; cases Nav.moveNext d n <;> rfl) (fun _ _ _ _ => trivial) _ n trivial (Nat.lt_succ_self _)
    exact ⟨f0, h1, fun j rest h => (h2 j rest h).1⟩
  intro k n first _
  cases first with
  | false => exact hsib n
  | true =>
    have hu := sibCands_unfold d n true
    cases hm : Nav.moveChild d n with
    | none =>
      rw [if_pos rfl, hm] at hu
      refine ⟨1, fun f hf => ?_, fun j rest h => by rw [hu] at h; cases h⟩
      obtain ⟨f', rfl⟩ : ∃ f', f = f' + 1 := ⟨f - 1, by omega⟩
      rw [childIter, if_pos rfl, hm, hu]; rfl
    | some c =>
      rw [if_pos rfl, hm] at hu
      obtain ⟨f0, h1, h2⟩ := hsib c
      refine ⟨f0 + 1, fun f hf => ?_, fun j rest h => ?_⟩
      · obtain ⟨f', rfl⟩ : ∃ f', f = f' + 1 := ⟨f - 1, by omega⟩
        rw [childIter, if_pos rfl, hm, hu, List.filter_cons]
        by_cases htc : t c = true
        · simp only [htc, if_true, hdR]
        · simp only [htc, if_false, Bool.false_eq_true]; exact h1 f' (by omega)
      · rw [hu, List.filter_cons] at h
        by_cases htc : t c = true
        · rw [if_pos htc] at h; injection h with e1 e2; subst e1; exact e2
        · rw [if_neg htc] at h; exact h2 j rest h

theorem attrIter_spec (d : Doc) (t : Ref → Bool) : ∀ (k : Nat) (n : Ref) (isAttr : Bool),
    (attrCands d n isAttr).length ≤ k →
    ∃ f0, (∀ f, f0 ≤ f → attrIter d t f n isAttr = hdR ((attrCands d n isAttr).filter t)) ∧
      (∀ j rest, (attrCands d n isAttr).filter t = j :: rest → (attrCands d j isAttr).filter t = rest) := by
  intro k n isAttr _
  cases isAttr with
  | true =>
    -- on an attribute the closure returns `nil` at once
    refine ⟨1, fun f hf => ?_, fun j rest h => by cases h⟩
    obtain ⟨f', rfl⟩ : ∃ f', f = f' + 1 := ⟨f - 1, by omega⟩
    rfl
  | false =>
    obtain ⟨f0, h1, h2⟩ := scan_spec (fun f n => attrIter d t f n false) (Nav.moveNextAttr d) t
      (fun n => attrCands d n false) (fun _ => True)
      (fun f n => by rw [attrIter]; cases Nav.moveNextAttr d n <;> rfl)
      (fun n _ => by rw [attrCands_unfold]; cases Nav.moveNextAttr d n <;> rfl) (fun _ _ _ _ => trivial) _ n trivial (Nat.lt_succ_self _)
    exact ⟨f0, h1, fun j rest h => (h2 j rest h).1⟩

theorem descLoop_spec (d : Doc) (t : Ref → Bool) : ∀ (k : Nat) (n : Ref) (level : Nat),
    (walkD d d.length n level).length ≤ k →
    ∃ f0, (∀ f, f0 ≤ f →
        descLoop d t f n level = hdR ((walkD d d.length n level).filter (fun p => t p.1))) ∧
      (∀ j l rest, (walkD d d.length n level).filter (fun p => t p.1) = (j, l) :: rest →
        (walkD d d.length j l).filter (fun p => t p.1) = rest) := by
  intro k n level _
  obtain ⟨f0, h1, h2⟩ := scan_spec (fun f (s : Ref × Nat) => descLoop d t f s.1 s.2) (fun s => pstep d s.1 s.2)
    (fun s => t s.1) (fun s => walkD d d.length s.1 s.2) (fun _ => True)
    (fun f s => by rw [descLoop]; cases pstep d s.1 s.2 <;> rfl)
    (fun s _ => by rw [walkD_unfold, pstep_eq]; cases stepD d s.1 s.2 <;> rfl) (fun _ _ _ _ => trivial)
    _ (n, level) trivial (Nat.lt_succ_self _)
  exact ⟨f0, h1, fun j l rest h => (h2 (j, l) rest h).1⟩

/-! ## Numbering -/

theorem zipIdx_numFrom : ∀ (l : List Ref) (k : Nat),
    (l.zipIdx k).map (fun (r, i) => (⟨r, i + 1, 0⟩ : Item)) = numFrom k l
  | [], _ => rfl
  | r :: rs, k => by simp only [List.zipIdx_cons, List.map_cons, numFrom, zipIdx_numFrom rs (k+1)]

theorem numbered_eq (l : List Ref) : numbered l = numFrom 0 l := zipIdx_numFrom l 0

theorem zipIdx_numFromL : ∀ (l : List (Ref × Nat)) (k : Nat),
    (l.zipIdx k).map (fun (p, i) => (⟨p.1, i + 1, p.2⟩ : Item)) = numFromL k l
  | [], _ => rfl
  | r :: rs, k => by simp only [List.zipIdx_cons, List.map_cons, numFromL, zipIdx_numFromL rs (k+1)]

theorem descItems_eq (d : Doc) (cfg : ECfg) (a : AxisInfo) (s : Bool) (r : Ref) :
    descItems d cfg a s r =
      numFromL 0 ((if s && test d cfg a r then [(r, 0)] else [])
        ++ (walkD d d.length r 0).filter (fun p => test d cfg a p.1)) := by
  simp only [descItems, descM]
  exact zipIdx_numFromL _ 0

/-! ## The closure calls of `childQuery`, `attributeQuery`, `descendantQuery`

as calls of the closure scheme of `Pull2/Generic.lean`: answer, captured state, new fields.  In the
specifications `G` is any property all candidates have (nothing for the machine of this file, the
document range for the one of `Pull2/Steps.lean`). -/

section
variable (d : Doc)

/-- `c.iterator()` of `childQuery` (and `cachedChildQuery`) with `posit = p` -/
def sibCall (t : Ref → Bool) (f : Nat) (k : Ref × Bool) (p : Nat) : Res (Ref × (Ref × Bool) × Nat) :=
  match childIter d t f k.1 k.2 with
  | .yield j => .yield (j, (j, false), p + 1)
  | .done => .done
  | .fuel => .fuel

theorem sibCall_spec (t : Ref → Bool) (G : Ref → Prop) (k : Ref × Bool) (p : Nat)
    (hG : ∀ x ∈ sibCands d k.1 k.2, G x) :
    (∃ j k' p' f0, (∀ f, f0 ≤ f → sibCall d t f k p = .yield (j, k', p')) ∧ G k'.1 ∧ G j ∧
      numFrom p ((sibCands d k.1 k.2).filter t) = ⟨j, p', 0⟩ :: numFrom p' ((sibCands d k'.1 k'.2).filter t)) ∨
    (∃ f0, (∀ f, f0 ≤ f → sibCall d t f k p = .done) ∧ numFrom p ((sibCands d k.1 k.2).filter t) = []) := by
  obtain ⟨n, first⟩ := k
  obtain ⟨f0, h1, h2⟩ := childIter_spec d t _ n first (Nat.le_refl _)
  cases hc : (sibCands d n first).filter t with
  | nil => exact Or.inr ⟨f0, fun f hf => by simp only [sibCall, h1 f hf, hc, hdR], rfl⟩
  | cons j rest =>
    have hgj : G j := hG j (List.mem_filter.mp (hc ▸ List.mem_cons_self)).1
    exact Or.inl ⟨j, (j, false), p + 1, f0, fun f hf => by simp only [sibCall, h1 f hf, hc, hdR], hgj, hgj,
      by simp only [numFrom, h2 j rest hc]⟩

/-- `a.iterator()` of `attributeQuery` -/
def attrCall (t : Ref → Bool) (f : Nat) (k : Ref × Bool) (p : Unit) : Res (Ref × (Ref × Bool) × Unit) :=
  match attrIter d t f k.1 k.2 with
  | .yield j => .yield (j, (j, k.2), p)
  | .done => .done
  | .fuel => .fuel

theorem attrCall_spec (t : Ref → Bool) (G : Ref → Prop) (k : Ref × Bool) (p : Unit)
    (hG : ∀ x ∈ attrCands d k.1 k.2, G x) :
    (∃ j k' p' f0, (∀ f, f0 ≤ f → attrCall d t f k p = .yield (j, k', p')) ∧ G k'.1 ∧ G j ∧
      plain ((attrCands d k.1 k.2).filter t) = ⟨j, 1, 0⟩ :: plain ((attrCands d k'.1 k'.2).filter t)) ∨
    (∃ f0, (∀ f, f0 ≤ f → attrCall d t f k p = .done) ∧ plain ((attrCands d k.1 k.2).filter t) = []) := by
  obtain ⟨n, ia⟩ := k
  obtain ⟨f0, h1, h2⟩ := attrIter_spec d t _ n ia (Nat.le_refl _)
  cases hc : (attrCands d n ia).filter t with
  | nil => exact Or.inr ⟨f0, fun f hf => by simp only [attrCall, h1 f hf, hc, hdR], rfl⟩
  | cons j rest =>
    have hgj : G j := hG j (List.mem_filter.mp (hc ▸ List.mem_cons_self)).1
    exact Or.inl ⟨j, (j, ia), (), f0, fun f hf => by simp only [attrCall, h1 f hf, hc, hdR], hgj, hgj,
      by simp only [plain, List.map_cons, h2 j rest hc]⟩

/-- `d.iterator()` of `descendantQuery` with `(posit, level) = p` -/
def descCall (t : Ref → Bool) (s : Bool) (f : Nat) (k : Ref × Bool) (p : Nat × Nat) :
    Res (Ref × (Ref × Bool) × (Nat × Nat)) :=
  match descIter d t s f k.1 k.2 p.2 with
  | .yield (j, l) => .yield (j, (j, false), (p.1 + 1, l))
  | .done => .done
  | .fuel => .fuel

/-- what a `descendantQuery` closure in state `k` with `(posit, level) = p` still yields -/
def descCur (t : Ref → Bool) (s : Bool) (k : Ref × Bool) (p : Nat × Nat) : List Item :=
  numFromL p.1 ((if k.2 && s && t k.1 then [(k.1, p.2)] else [])
    ++ (walkD d d.length k.1 p.2).filter (fun x => t x.1))

theorem descCall_spec (t : Ref → Bool) (s : Bool) (G : Ref → Prop) (k : Ref × Bool) (p : Nat × Nat) (hk : G k.1)
    (hG : ∀ x ∈ walkD d d.length k.1 p.2, G x.1) :
    (∃ j k' p' f0, (∀ f, f0 ≤ f → descCall d t s f k p = .yield (j, k', p')) ∧ G k'.1 ∧ G j ∧
      descCur d t s k p = ⟨j, p'.1, p'.2⟩ :: descCur d t s k' p') ∨
    (∃ f0, (∀ f, f0 ≤ f → descCall d t s f k p = .done) ∧ descCur d t s k p = []) := by
  obtain ⟨n, first⟩ := k
  obtain ⟨pos, level⟩ := p
  by_cases hown : (first && s && t n) = true
  · refine Or.inl ⟨n, (n, false), (pos + 1, level), 0, fun f _ => ?_, hk, hk, ?_⟩
    · simp only [descCall, descIter, hown, if_true]
    · simp [descCur, hown, numFromL]
  · obtain ⟨f0, h1, h2⟩ := descLoop_spec d t _ n level (Nat.le_refl _)
    cases hc : (walkD d d.length n level).filter (fun x => t x.1) with
    | nil =>
      refine Or.inr ⟨f0, fun f hf => ?_, ?_⟩
      · simp only [descCall, descIter, hown, if_false, Bool.false_eq_true, h1 f hf, hc, hdR]
      · simp [descCur, hown, hc, numFromL]
    | cons jl rest =>
      obtain ⟨j, l⟩ := jl
      have hgj : G j := hG (j, l) (List.mem_filter.mp (hc ▸ List.mem_cons_self)).1
      refine Or.inl ⟨j, (j, false), (pos + 1, l), f0, fun f hf => ?_, hgj, hgj, ?_⟩
      · simp only [descCall, descIter, hown, if_false, Bool.false_eq_true, h1 f hf, hc, hdR]
      · simp [descCur, hown, hc, numFromL, h2 j l rest hc]

end

/-! ## More fuel never changes the answer of a closure call -/

section
variable (d : Doc)

theorem childIter_mono {t : Ref → Bool} (f : Nat) (n : Ref) (first : Bool) (r : Res Ref) :
    childIter d t f n first = r → r ≠ .fuel → childIter d t (f+1) n first = r :=
  scan_mono (fun f (s : Ref × Bool) => childIter d t f s.1 s.2)
    (fun s => (if s.2 then Nav.moveChild d s.1 else Nav.moveNext d s.1).map (·, false)) (fun s => t s.1) (·.1)
    (fun _ => rfl) (fun f s => by rw [childIter]; cases (if s.2 then Nav.moveChild d s.1 else Nav.moveNext d s.1) <;> rfl)
    f (n, first) r

theorem attrIter_mono {t : Ref → Bool} (f : Nat) (n : Ref) (isAttr : Bool) (r : Res Ref) :
    attrIter d t f n isAttr = r → r ≠ .fuel → attrIter d t (f+1) n isAttr = r :=
  scan_mono (fun f (s : Ref × Bool) => attrIter d t f s.1 s.2)
    (fun s => if s.2 then none else (Nav.moveNextAttr d s.1).map (·, s.2)) (fun s => t s.1) (·.1)
    (fun _ => rfl) (fun f s => by
      rw [attrIter]
      cases s.2 with
      | true => rfl
      | false => cases Nav.moveNextAttr d s.1 <;> rfl)
    f (n, isAttr) r

theorem descLoop_mono {t : Ref → Bool} (f : Nat) (n : Ref) (level : Nat) (r : Res (Ref × Nat)) :
    descLoop d t f n level = r → r ≠ .fuel → descLoop d t (f+1) n level = r :=
  scan_mono (fun f (s : Ref × Nat) => descLoop d t f s.1 s.2) (fun s => pstep d s.1 s.2) (fun s => t s.1) id
    (fun _ => rfl) (fun f s => by rw [descLoop]; cases pstep d s.1 s.2 <;> rfl) f (n, level) r

theorem descIter_mono {t : Ref → Bool} {s : Bool} (f : Nat) (n : Ref) (first : Bool) (level : Nat)
    (r : Res (Ref × Nat)) (h : descIter d t s f n first level = r) (hne : r ≠ .fuel) :
    descIter d t s (f+1) n first level = r := by
  simp only [descIter] at h ⊢
  split at h
  · rename_i hc; rw [if_pos hc]; exact h
  · rename_i hc; rw [if_neg hc]; exact descLoop_mono d f n level r h hne

/-- a closure call `C` that re-labels the answer of its loop `L` answers the same with more fuel if `L` does -/
theorem call_mono {α β : Type} {L : Nat → Res α} {C : Nat → Res β} (g : α → β)
    (hC : ∀ f, C f = match L f with | .yield a => .yield (g a) | .done => .done | .fuel => .fuel)
    (hL : ∀ f r, L f = r → r ≠ .fuel → L (f+1) = r) (f : Nat) (r : Res β) (h : C f = r) (hne : r ≠ .fuel) :
    C (f+1) = r := by
  rw [hC] at h ⊢
  cases hl : L f with
  | fuel => rw [hl] at h; exact absurd h.symm hne
  | done => rw [hL f _ hl (by simp)]; rw [hl] at h; exact h
  | yield a => rw [hL f _ hl (by simp)]; rw [hl] at h; exact h

theorem sibCall_mono (t : Ref → Bool) (f : Nat) (k : Ref × Bool) (p : Nat) (r : Res (Ref × (Ref × Bool) × Nat)) :
    sibCall d t f k p = r → r ≠ .fuel → sibCall d t (f+1) k p = r :=
  call_mono (L := fun f => childIter d t f k.1 k.2) (C := fun f => sibCall d t f k p) (fun j => (j, (j, false), p + 1))
    (fun f => by rw [sibCall]; cases childIter d t f k.1 k.2 <;> rfl) (fun f r => childIter_mono d f k.1 k.2 r) f r

theorem attrCall_mono (t : Ref → Bool) (f : Nat) (k : Ref × Bool) (p : Unit) (r : Res (Ref × (Ref × Bool) × Unit)) :
    attrCall d t f k p = r → r ≠ .fuel → attrCall d t (f+1) k p = r :=
  call_mono (L := fun f => attrIter d t f k.1 k.2) (C := fun f => attrCall d t f k p) (fun j => (j, (j, k.2), p))
    (fun f => by rw [attrCall]; cases attrIter d t f k.1 k.2 <;> rfl) (fun f r => attrIter_mono d f k.1 k.2 r) f r

theorem descCall_mono (t : Ref → Bool) (s : Bool) (f : Nat) (k : Ref × Bool) (p : Nat × Nat)
    (r : Res (Ref × (Ref × Bool) × (Nat × Nat))) :
    descCall d t s f k p = r → r ≠ .fuel → descCall d t s (f+1) k p = r :=
  call_mono (L := fun f => descIter d t s f k.1 k.2 p.2) (C := fun f => descCall d t s f k p)
    (fun jl => (jl.1, (jl.1, false), (p.1 + 1, jl.2)))
    (fun f => by rw [descCall]; cases descIter d t s f k.1 k.2 p.2 <;> rfl) (fun f r => descIter_mono d f k.1 k.2 p.2 r) f r

end

/-! ## The machine of this file and the arms of its `select` -/

section
variable (d : Doc) (cfg : ECfg) (cur : Ref)

/-- the machine of this file as an abstract machine: `t.Current()` is the parameter `cur`, so the
cursor the schemes thread is passed through; no invariant is needed -/
def machP : Mach PQ where
  sel f q c := ((PQ.select d cfg cur f q).1, (PQ.select d cfg cur f q).2, c)
  rem _ q := rem d cfg cur q
  pos := PQ.position
  lvl := PQ.depth
  Inv _ := True
  Cons _ := True
  Same s s' := s'.plan = s.plan

theorem machP_laws : (machP d cfg cur).Laws where
  cons_inv _ _ := trivial
  cons_indep _ _ _ _ := rfl
  same_refl _ := rfl
  same_trans _ _ _ h1 h2 := Eq.trans h2 h1

theorem machP_sel (f : Nat) (q : PQ) (c : Ref) :
    (machP d cfg cur).sel f q c = ((PQ.select d cfg cur f q).1, (PQ.select d cfg cur f q).2, c) := rfl

def childArmP (a : AxisInfo) : ClosArm PQ (Ref × Bool) Nat (machP d cfg cur).sel where
  st inp it p := .child a inp it p
  start n := (n, true)
  call := sibCall d (test d cfg a)
  init _ := 0
  reset _ := 0
  idle := id
  sel_none f inp p c := by
    simp only [machP_sel]; rw [PQ.select]
    rcases PQ.select d cfg cur f inp with ⟨_ | _ | _, _⟩ <;> rfl
  sel_some f inp k p c := by
    show ((PQ.select d cfg cur (f+1) (.child a inp (some (k.1, k.2)) p)).1, _, c) = _
    simp only [PQ.select, sibCall]
    cases childIter d (test d cfg a) f k.1 k.2 <;> rfl

def attrArmP (a : AxisInfo) : ClosArm PQ (Ref × Bool) Unit (machP d cfg cur).sel where
  st inp it _ := .attr a inp it
  start n := (n, n.isAttr)
  call := attrCall d (test d cfg a)
  init := id
  reset := id
  idle := id
  sel_none f inp p c := by
    simp only [machP_sel]; rw [PQ.select]
    rcases PQ.select d cfg cur f inp with ⟨_ | _ | _, _⟩ <;> rfl
  sel_some f inp k p c := by
    show ((PQ.select d cfg cur (f+1) (.attr a inp (some (k.1, k.2)))).1, _, c) = _
    simp only [PQ.select, attrCall]
    cases attrIter d (test d cfg a) f k.1 k.2 <;> rfl

def descendantArmP (a : AxisInfo) (s : Bool) : ClosArm PQ (Ref × Bool) (Nat × Nat) (machP d cfg cur).sel where
  st inp it p := .descendant a s inp it p.1 p.2
  start n := (n, true)
  call := descCall d (test d cfg a) s
  init _ := (0, 0)
  reset p := (0, p.2)
  idle p := (p.1, 0)
  sel_none f inp p c := by
    simp only [machP_sel]; rw [PQ.select]
    rcases PQ.select d cfg cur f inp with ⟨_ | _ | _, _⟩ <;> rfl
  sel_some f inp k p c := by
    show ((PQ.select d cfg cur (f+1) (.descendant a s inp (some (k.1, k.2)) p.1 p.2)).1, _, c) = _
    simp only [PQ.select, descCall]
    cases descIter d (test d cfg a) s f k.1 k.2 p.2 <;> rfl

def selfArmP (a : AxisInfo) : FMapArm PQ Unit (machP d cfg cur).sel PQ.position PQ.depth where
  st inp _ := .self a inp
  g n _ _ _ := (if test d cfg a n then some n else none, ())
  gcur _ c' := c'
  fin _ x := x
  pdone := id
  sel_eq f inp p c := by
    simp only [machP_sel]; rw [PQ.select]
    rcases PQ.select d cfg cur f inp with ⟨n | _ | _, _⟩
    · simp only []; cases test d cfg a n <;> rfl
    · rfl
    · rfl

def parentArmP (a : AxisInfo) : FMapArm PQ Unit (machP d cfg cur).sel PQ.position PQ.depth where
  st inp _ := .parent a inp
  g n _ _ _ := ((Nav.moveParent d n).filter (test d cfg a), ())
  gcur _ c' := c'
  fin _ x := x
  pdone := id
  sel_eq f inp p c := by
    simp only [machP_sel]; rw [PQ.select]
    rcases PQ.select d cfg cur f inp with ⟨n | _ | _, _⟩
    · simp only []
      cases hp : Nav.moveParent d n with
      | none => rfl
      | some q => simp only [Option.filter]; cases test d cfg a q <;> rfl
    · rfl
    · rfl

/-! ## More fuel never changes an answer -/

theorem machP_mono : (machP d cfg cur).Mono := by
  intro f
  induction f with
  | zero => intro q c o q' c' h hne; exact absurd (congrArg (·.1) h).symm hne
  | succ f ih =>
    intro q c o q' c' h hne
    cases q with
    | context k => exact h
    | absolute k => exact h
    | child a inp it pos => exact (childArmP d cfg cur a).mono (sibCall_mono d _) ih inp it pos c o q' c' h hne
    | attr a inp it => exact (attrArmP d cfg cur a).mono (attrCall_mono d _) ih inp it () c o q' c' h hne
    | descendant a s inp it pos level =>
      exact (descendantArmP d cfg cur a s).mono (descCall_mono d _ s) ih inp it (pos, level) c o q' c' h hne
    | self a inp => exact (selfArmP d cfg cur a).mono ih inp () c o q' c' h hne
    | parent a inp => exact (parentArmP d cfg cur a).mono ih inp () c o q' c' h hne

theorem select_mono (f : Nat) (q : PQ) (o : Res Ref) (q' : PQ)
    (h : PQ.select d cfg cur f q = (o, q')) (hne : o ≠ .fuel) : PQ.select d cfg cur (f+1) q = (o, q') := by
  have := machP_mono d cfg cur f q cur o q' cur (by rw [machP_sel, h]) hne
  exact Prod.ext (congrArg (·.1) this) (congrArg (·.2.1) this)

theorem select_mono_le {f f' : Nat} {q : PQ} {o : Res Ref} {q' : PQ}
    (h : PQ.select d cfg cur f q = (o, q')) (hne : o ≠ .fuel) (hle : f ≤ f') :
    PQ.select d cfg cur f' q = (o, q') := by
  induction hle with
  | refl => exact h
  | step _ ih => exact select_mono d cfg cur _ q o q' ih hne

end

/-! ## The one-pull lemma -/

theorem fmapR_self (t : Ref → Bool) : ∀ l : List Item,
    fmapR (fun n _ _ (_ : Unit) => (if t n then some n else none, ())) (fun _ => 1) (fun _ => 0) () l
      = plain ((l.map (·.r)).filter t)
  | [] => rfl
  | x :: xs => by
    simp only [fmapR, List.map_cons, List.filter_cons, fmapR_self t xs]
    cases t x.r <;> rfl

theorem fmapR_parent (d : Doc) (t : Ref → Bool) : ∀ l : List Item,
    fmapR (fun n _ _ (_ : Unit) => ((Nav.moveParent d n).filter t, ())) (fun _ => 1) (fun _ => 0) () l
      = l.flatMap (fun x => plain (((Nav.moveParent d x.r).toList).filter t))
  | [] => rfl
  | x :: xs => by
    simp only [fmapR, List.flatMap_cons, fmapR_parent d t xs]
    cases hp : Nav.moveParent d x.r with
    | none => rfl
    | some q => simp only [Option.filter, Option.toList, List.filter_cons]; cases t q <;> rfl

section
variable (d : Doc) (cfg : ECfg) (cur : Ref)

/-- One `Select` from state `q`, given enough fuel: it answers the head of `rem q`, the new state's
`rem` is the tail, the configuration is unchanged, and `position()`/`depth()` are those of the item. -/
def Step (q : PQ) : Prop :=
  ∃ q' f0, (∀ f, f0 ≤ f → PQ.select d cfg cur f q = (headRes (rem d cfg cur q), q')) ∧
    rem d cfg cur q' = (rem d cfg cur q).tail ∧ q'.plan = q.plan ∧
    (∀ x xs, rem d cfg cur q = x :: xs → q'.position = x.pos ∧ q'.depth = x.lvl)

/-- the one-pull lemma in the form of the schemes -/
abbrev StepP (q : PQ) (c : Ref) : Prop := (machP d cfg cur).Pull (fun _ => True) q c

/-- induction hypothesis: the one-pull lemma for configurations of size at most `n`, in the form the
schemes take it; the two `True` are `Inv` and `Good` of `machP` written out -/
abbrev StepIHP (n : Nat) : Prop := ∀ s : PQ, sizeOf s.plan ≤ n → True → ∀ c : Ref, True → StepP d cfg cur s c

theorem sizeP_same (n : Nat) (s s' : PQ) (h : sizeOf s.plan ≤ n) (hs : (machP d cfg cur).Same s s') :
    sizeOf s'.plan ≤ n := by
  rw [show s'.plan = s.plan from hs]; exact h

theorem stepP_child (n : Nat) (hin : StepIHP d cfg cur n) (a : AxisInfo) (inp : PQ) (hp : sizeOf inp.plan ≤ n)
    (it : Option (Ref × Bool)) (pos : Nat) (c : Ref) : StepP d cfg cur (.child a inp it pos) c :=
  closure_flat (machP d cfg cur) (machP_laws d cfg cur) (machP_mono d cfg cur) (fun _ => True) (fun s => sizeOf s.plan ≤ n)
    (sizeP_same d cfg cur n) hin (childArmP d cfg cur a) (fun _ => True) (fun _ => True) id (fun _ => 0)
    (fun k p => numFrom p ((sibCands d k.1 k.2).filter (test d cfg a)))
    (fun x => numbered ((childrenM d x).filter (test d cfg a)))
    (fun _ it _ _ => by cases it <;> rfl) (fun _ _ _ _ => Or.inr ⟨trivial, trivial⟩) (fun _ _ _ _ _ => trivial) trivial
    (fun _ _ _ _ _ _ h => congrArg (Plan.child a) h) (fun _ _ _ => rfl) (fun _ _ _ => rfl)
    (fun n p _ => ⟨trivial, by simp only [numbered_eq, sibCands]; rfl⟩)
    (fun k p _ => sibCall_spec d (test d cfg a) _ k p (fun _ _ => trivial))
    inp hp it pos c trivial trivial

theorem stepP_attr (n : Nat) (hin : StepIHP d cfg cur n) (a : AxisInfo) (inp : PQ) (hp : sizeOf inp.plan ≤ n)
    (it : Option (Ref × Bool)) (c : Ref) : StepP d cfg cur (.attr a inp it) c :=
  closure_flat (machP d cfg cur) (machP_laws d cfg cur) (machP_mono d cfg cur) (fun _ => True) (fun s => sizeOf s.plan ≤ n)
    (sizeP_same d cfg cur n) hin (attrArmP d cfg cur a) (fun _ => True) (fun _ => True) (fun _ => 1) (fun _ => 0)
    (fun k _ => plain ((attrCands d k.1 k.2).filter (test d cfg a)))
    (fun x => plain ((attrsM d x).filter (test d cfg a)))
    (fun _ it _ _ => by cases it <;> rfl) (fun _ _ _ _ => Or.inr ⟨trivial, trivial⟩) (fun _ _ _ _ _ => trivial) trivial
    (fun _ _ _ _ _ _ h => congrArg (Plan.attr a) h) (fun _ _ _ => rfl) (fun _ _ _ => rfl)
    (fun _ _ _ => ⟨trivial, rfl⟩)
    (fun k p _ => attrCall_spec d (test d cfg a) _ k p (fun _ _ => trivial)) inp hp it () c trivial trivial

theorem stepP_descendant (n : Nat) (hin : StepIHP d cfg cur n) (a : AxisInfo) (s : Bool) (inp : PQ)
    (hp : sizeOf inp.plan ≤ n) (it : Option (Ref × Bool)) (pos level : Nat) (c : Ref) :
    StepP d cfg cur (.descendant a s inp it pos level) c :=
  closure_flat (machP d cfg cur) (machP_laws d cfg cur) (machP_mono d cfg cur) (fun _ => True) (fun s => sizeOf s.plan ≤ n)
    (sizeP_same d cfg cur n) hin (descendantArmP d cfg cur a s) (fun _ => True) (fun _ => True) (·.1) (·.2)
    (descCur d (test d cfg a) s) (descItems d cfg a s)
    (fun _ it _ _ => by cases it <;> rfl) (fun _ _ _ _ => Or.inr ⟨trivial, trivial⟩) (fun _ _ _ _ _ => trivial) trivial
    (fun _ _ _ _ _ _ h => congrArg (Plan.descendant a s) h) (fun _ _ _ => rfl) (fun _ _ _ => rfl)
    (fun n p _ => ⟨trivial, by simp only [descCur, descItems_eq]; rfl⟩)
    (fun k p _ => descCall_spec d (test d cfg a) s (fun _ => True) k p trivial (fun _ _ => trivial))
    inp hp it (pos, level) c trivial trivial

theorem stepP_self (n : Nat) (hin : StepIHP d cfg cur n) (a : AxisInfo) (inp : PQ) (hp : sizeOf inp.plan ≤ n)
    (c : Ref) : StepP d cfg cur (.self a inp) c :=
  fmap_step (machP d cfg cur) (machP_laws d cfg cur) (machP_mono d cfg cur) (fun _ => True) (fun s => sizeOf s.plan ≤ n)
    (sizeP_same d cfg cur n) hin (selfArmP d cfg cur a) (fun _ => 1) (fun _ => 0)
    (fun inp _ _ => (fmapR_self (test d cfg a) (rem d cfg cur inp)).symm) (fun _ _ _ => trivial) (fun _ _ _ => trivial)
    (fun _ _ _ _ h => congrArg (Plan.self a) h) (fun _ _ => rfl) (fun _ _ => rfl)
    (fun _ _ _ _ _ _ _ _ => trivial) (fun _ _ _ _ => trivial) (fun _ _ _ _ => trivial) inp hp () c trivial trivial

theorem stepP_parent (n : Nat) (hin : StepIHP d cfg cur n) (a : AxisInfo) (inp : PQ) (hp : sizeOf inp.plan ≤ n)
    (c : Ref) : StepP d cfg cur (.parent a inp) c :=
  fmap_step (machP d cfg cur) (machP_laws d cfg cur) (machP_mono d cfg cur) (fun _ => True) (fun s => sizeOf s.plan ≤ n)
    (sizeP_same d cfg cur n) hin (parentArmP d cfg cur a) (fun _ => 1) (fun _ => 0)
    (fun inp _ _ => (fmapR_parent d (test d cfg a) (rem d cfg cur inp)).symm) (fun _ _ _ => trivial)
    (fun _ _ _ => trivial) (fun _ _ _ _ h => congrArg (Plan.parent a) h) (fun _ _ => rfl) (fun _ _ => rfl)
    (fun _ _ _ _ _ _ _ _ => trivial) (fun _ _ _ _ => trivial) (fun _ _ _ _ => trivial) inp hp () c trivial trivial

theorem select_step_aux : ∀ n, StepIHP d cfg cur n := by
  intro n
  induction n with
  | zero => intro q h; cases q <;> simp [PQ.plan] at h
  | succ n ih =>
    intro q h _ c _
    cases q with
    | context k =>
      exact leaf_step (machP d cfg cur) _ .context (fun _ => cur)
        (fun _ _ _ => by simp only [machP_sel, PQ.select]; split <;> rfl) (fun _ _ => rfl) (fun _ _ => trivial)
        (fun _ _ => rfl) (fun _ => rfl) (fun _ => rfl) k c trivial trivial
    | absolute k =>
      exact leaf_step (machP d cfg cur) _ .absolute (fun _ => Nav.root d)
        (fun _ _ _ => by simp only [machP_sel, PQ.select]; split <;> rfl) (fun _ _ => rfl) (fun _ _ => trivial)
        (fun _ _ => rfl) (fun _ => rfl) (fun _ => rfl) k c trivial trivial
    | self a inp => exact stepP_self d cfg cur n ih a inp (by simp [PQ.plan] at h; omega) c
    | parent a inp => exact stepP_parent d cfg cur n ih a inp (by simp [PQ.plan] at h; omega) c
    | child a inp it pos => exact stepP_child d cfg cur n ih a inp (by simp [PQ.plan] at h; omega) it pos c
    | attr a inp it => exact stepP_attr d cfg cur n ih a inp (by simp [PQ.plan] at h; omega) it c
    | descendant a s inp it pos level =>
      exact stepP_descendant d cfg cur n ih a s inp (by simp [PQ.plan] at h; omega) it pos level c

/-- **One-pull lemma.**  From *any* state `q`, with enough fuel, `Select` returns the head of
`rem q` (or `nil` when it is empty) and moves to a state whose `rem` is the tail; the configuration
is unchanged and `position()`/`depth()` are the `pos`/`lvl` of the yielded item. -/
theorem select_step (q : PQ) : Step d cfg cur q := by
  obtain ⟨q', _, f0, hsel, hrem, _, hsame, _, hpos⟩ :=
    (select_step_aux d cfg cur _ q (Nat.le_refl _) trivial cur trivial).step (machP_mono d cfg cur)
  exact ⟨q', f0, fun f hf => Prod.ext (congrArg (·.1) (hsel f hf)) (congrArg (·.2.1) (hsel f hf)), hrem, hsame,
    fun x xs hx => ⟨(hpos x xs hx).1, (hpos x xs hx).2.1⟩⟩

/-- **Determinism up to fuel**: any answer other than "out of fuel" is *the* answer of the
one-pull lemma. -/
theorem select_sound {f : Nat} {q : PQ} {o : Res Ref} {q' : PQ}
    (h : PQ.select d cfg cur f q = (o, q')) (hne : o ≠ .fuel) :
    o = headRes (rem d cfg cur q) ∧ rem d cfg cur q' = (rem d cfg cur q).tail ∧ q'.plan = q.plan ∧
    (∀ x xs, rem d cfg cur q = x :: xs → q'.position = x.pos ∧ q'.depth = x.lvl) := by
  obtain ⟨q'', f0, hsel, hrem, hplan, hpos⟩ := select_step d cfg cur q
  have h1 := select_mono_le d cfg cur h hne (Nat.le_max_left f f0)
  have h2 := hsel (max f f0) (Nat.le_max_right f f0)
  rw [h1] at h2
  injection h2 with h2 h3
  subst h3
  exact ⟨h2, hrem, hplan, hpos⟩

end

/-! ## Fresh machines and the sequence model -/

theorem ofPlan_spec : ∀ (p : Plan) (q : PQ), PQ.ofPlan p = some q → q.plan = p ∧ q.fresh = true := by
  intro p
  induction p with
  | context => intro q h; simp only [PQ.ofPlan] at h; injection h with h; subst h; exact ⟨rfl, rfl⟩
  | absolute => intro q h; simp only [PQ.ofPlan] at h; injection h with h; subst h; exact ⟨rfl, rfl⟩
  | child a inp ih | attr a inp ih | self a inp ih | parent a inp ih =>
    intro q h
    simp only [PQ.ofPlan] at h
    cases hi : PQ.ofPlan inp with
    | none => simp [hi] at h
    | some i =>
      simp only [hi, Option.map] at h
      injection h with h; subst h
      obtain ⟨h1, h2⟩ := ih i hi
      simp [PQ.plan, PQ.fresh, h1, h2]
  | descendant a s inp ih =>
    intro q h
    simp only [PQ.ofPlan] at h
    cases hi : PQ.ofPlan inp with
    | none => simp [hi] at h
    | some i =>
      simp only [hi, Option.map] at h
      injection h with h; subst h
      obtain ⟨h1, h2⟩ := ih i hi
      simp [PQ.plan, PQ.fresh, h1, h2]
  | _ => intro q h; simp [PQ.ofPlan] at h

section
variable {F : Type} [NumAlg F] (d : Doc) (cfg : ECfg) (cur : Ref)

/-- a fresh machine still has to yield exactly the sequence of the sequence-level model -/
theorem rem_fresh : ∀ (q : PQ), q.fresh = true →
    sel (F := F) d cfg q.plan cur = .ok (rem d cfg cur q) := by
  intro q
  induction q with
  | context c => intro h; simp [PQ.fresh] at h; subst h; simp [PQ.plan, sel, rem]
  | absolute c => intro h; simp [PQ.fresh] at h; subst h; simp [PQ.plan, sel, rem]
  | child a inp it pos ih =>
    intro h
    simp [PQ.fresh] at h
    obtain ⟨⟨h1, h2⟩, h3⟩ := h
    subst h1; subst h2
    simp only [PQ.plan, sel, rem, ih h3]; rfl
  | attr a inp it ih =>
    intro h
    simp [PQ.fresh] at h
    obtain ⟨h1, h3⟩ := h
    subst h1
    simp only [PQ.plan, sel, rem, ih h3]; rfl
  | self a inp ih =>
    intro h
    simp [PQ.fresh] at h
    simp only [PQ.plan, sel, rem, ih h]; rfl
  | parent a inp ih =>
    intro h
    simp [PQ.fresh] at h
    simp only [PQ.plan, sel, rem, ih h]; rfl
  | descendant a s inp it pos level ih =>
    intro h
    simp [PQ.fresh] at h
    obtain ⟨⟨⟨h1, h2⟩, h4⟩, h3⟩ := h
    subst h1; subst h2; subst h4
    simp only [PQ.plan, sel, rem, ih h3, descItems]; rfl

end

/-! ## Draining -/

section
variable (d : Doc) (cfg : ECfg) (cur : Ref)

/-- with enough fuel, draining a machine in *any* state yields exactly its remaining stream
(nodes with the `position()`/`depth()` reported after each pull) and ends exhausted -/
theorem drain_complete : ∀ (l : List Item) (q : PQ), rem d cfg cur q = l →
    ∃ q' f0, (∀ f, f0 ≤ f → drain d cfg cur f q = some (l, q')) ∧
      rem d cfg cur q' = [] ∧ q'.plan = q.plan := by
  intro l
  induction l with
  | nil =>
    intro q hr
    obtain ⟨q1, f1, hsel, hrem, hplan, _⟩ := select_step d cfg cur q
    refine ⟨q1, f1 + 1, fun f hf => ?_, by rw [hrem, hr]; rfl, hplan⟩
    obtain ⟨f', rfl⟩ : ∃ f', f = f' + 1 := ⟨f - 1, by omega⟩
    simp only [drain, hsel f' (by omega), hr, headRes]
  | cons x xs ih =>
    intro q hr
    obtain ⟨q1, f1, hsel, hrem, hplan, hpos⟩ := select_step d cfg cur q
    rw [hr] at hrem; simp only [List.tail_cons] at hrem
    obtain ⟨q', f2, hdr, hrem', hplan'⟩ := ih q1 hrem
    obtain ⟨hp1, hp2⟩ := hpos x xs hr
    refine ⟨q', max f1 f2 + 1, fun f hf => ?_, hrem', by rw [hplan', hplan]⟩
    obtain ⟨f', rfl⟩ : ∃ f', f = f' + 1 := ⟨f - 1, by omega⟩
    simp only [drain, hsel f' (by omega), hr, headRes, hdr f' (by omega), Option.map, hp1, hp2]

/-- whatever fuel was given: if draining terminated, it produced exactly the remaining stream -/
theorem drain_sound : ∀ (f : Nat) (q : PQ) (l : List Item) (q' : PQ),
    drain d cfg cur f q = some (l, q') →
    l = rem d cfg cur q ∧ rem d cfg cur q' = [] ∧ q'.plan = q.plan := by
  intro f
  induction f with
  | zero => intro q l q' h; simp [drain] at h
  | succ f ih =>
    intro q l q' h
    simp only [drain] at h
    cases hs : PQ.select d cfg cur f q with
    | mk o q1 =>
      rw [hs] at h
      cases o with
      | fuel => simp at h
      | done =>
        simp only [Option.some.injEq, Prod.mk.injEq] at h
        obtain ⟨h1, h2⟩ := h
        subst h1; subst h2
        obtain ⟨ho, hrem, hplan, _⟩ := select_sound d cfg cur hs (by simp)
        cases hr : rem d cfg cur q with
        | nil => rw [hr] at hrem; exact ⟨rfl, hrem, hplan⟩
        | cons x xs => rw [hr] at ho; simp [headRes] at ho
      | yield n =>
        simp only at h
        cases hd : drain d cfg cur f q1 with
        | none => simp [hd] at h
        | some lq =>
          obtain ⟨l1, q2⟩ := lq
          simp only [hd, Option.map, Option.some.injEq, Prod.mk.injEq] at h
          obtain ⟨h1, h2⟩ := h
          subst h1; subst h2
          obtain ⟨ho, hrem, hplan, hpos⟩ := select_sound d cfg cur hs (by simp)
          obtain ⟨hl1, hrem2, hplan2⟩ := ih q1 l1 q2 hd
          cases hr : rem d cfg cur q with
          | nil => rw [hr] at ho; simp [headRes] at ho
          | cons x xs =>
            rw [hr] at ho hrem
            simp only [headRes, Res.yield.injEq] at ho
            simp only [List.tail_cons] at hrem
            obtain ⟨hp1, hp2⟩ := hpos x xs hr
            refine ⟨?_, hrem2, by rw [hplan2, hplan]⟩
            rw [hl1, hrem, ho, hp1, hp2]

end

/-! ## The theorems P1–P5 -/

section
variable {F : Type} [NumAlg F] (d : Doc) (cfg : ECfg) (cur : Ref)

/-- **P1.**  For every supported plan, the freshly built pull machine and the sequence model agree:
`sel` succeeds with some `l`; draining with enough fuel returns exactly `l` — the same nodes in the
same order, with the same `position()` and `depth()` values (`Item.pos`, `Item.lvl`) — and ends in
an exhausted state; and no amount of fuel makes draining return anything else. -/
theorem drain_eq_sel (p : Plan) (q : PQ) (h : PQ.ofPlan p = some q) :
    ∃ l, sel (F := F) d cfg p cur = .ok l ∧
      (∃ q' f0, (∀ f, f0 ≤ f → drain d cfg cur f q = some (l, q')) ∧ rem d cfg cur q' = []) ∧
      (∀ f l' q', drain d cfg cur f q = some (l', q') → l' = l) := by
  obtain ⟨hp, hf⟩ := ofPlan_spec p q h
  have hsel := rem_fresh (F := F) d cfg cur q hf
  rw [hp] at hsel
  refine ⟨rem d cfg cur q, hsel, ?_, ?_⟩
  · obtain ⟨q', f0, h1, h2, _⟩ := drain_complete d cfg cur _ q rfl
    exact ⟨q', f0, h1, h2⟩
  · intro f l' q' hd
    exact (drain_sound d cfg cur f q l' q' hd).1

/-- P1 projected to node references -/
theorem drain_refs_eq_sel (p : Plan) (q : PQ) (h : PQ.ofPlan p = some q) :
    ∃ l, sel (F := F) d cfg p cur = .ok l ∧
      ∃ f0, ∀ f, f0 ≤ f → (drain d cfg cur f q).map (fun r => r.1.map (·.r)) = some (l.map (·.r)) := by
  obtain ⟨l, h1, ⟨q', f0, h2, _⟩, _⟩ := drain_eq_sel (F := F) d cfg cur p q h
  exact ⟨l, h1, f0, fun f hf => by rw [h2 f hf]; rfl⟩

/-- **P2.**  Exhausted stays exhausted: once `Select` has returned `nil` (from `q` to `q'`), the
remaining stream of `q'` is empty, no later `Select` from `q'` yields a node, and with enough fuel
every later `Select` returns `nil` again, into a state that is again exhausted. -/
theorem exhausted_stays {f : Nat} {q q' : PQ} (h : PQ.select d cfg cur f q = (.done, q')) :
    rem d cfg cur q' = [] ∧
    (∀ f' o q'', PQ.select d cfg cur f' q' = (o, q'') → o ≠ .fuel → o = .done ∧ rem d cfg cur q'' = []) ∧
    (∃ q'' f0, (∀ f', f0 ≤ f' → PQ.select d cfg cur f' q' = (.done, q'')) ∧ rem d cfg cur q'' = []) := by
  obtain ⟨ho, hrem, _, _⟩ := select_sound d cfg cur h (by simp)
  have hq : rem d cfg cur q = [] := by
    cases hr : rem d cfg cur q with
    | nil => rfl
    | cons x xs => rw [hr] at ho; simp [headRes] at ho
  have hq' : rem d cfg cur q' = [] := by rw [hrem, hq]; rfl
  refine ⟨hq', ?_, ?_⟩
  · intro f' o q'' hs hne
    obtain ⟨ho2, hrem2, _, _⟩ := select_sound d cfg cur hs hne
    rw [hq'] at ho2 hrem2
    exact ⟨ho2, hrem2⟩
  · obtain ⟨q'', f0, hsel, hrem2, _, _⟩ := select_step d cfg cur q'
    rw [hq'] at hsel hrem2
    exact ⟨q'', f0, hsel, hrem2⟩

/-- P2, state form: an exhausted state (`rem = []`) can only step to exhausted states -/
theorem exhausted_invariant {f : Nat} {q q' : PQ} {o : Res Ref} (hq : rem d cfg cur q = [])
    (h : PQ.select d cfg cur f q = (o, q')) (hne : o ≠ .fuel) : o = .done ∧ rem d cfg cur q' = [] := by
  obtain ⟨ho, hrem, _, _⟩ := select_sound d cfg cur h hne
  rw [hq] at ho hrem
  exact ⟨ho, hrem⟩

theorem evaluate_plan : ∀ q : PQ, q.evaluate.plan = q.plan := by
  intro q; induction q <;> simp_all [PQ.evaluate, PQ.plan]

theorem clone_plan : ∀ q : PQ, q.clone.plan = q.plan := by
  intro q; induction q <;> simp_all [PQ.clone, PQ.plan]

theorem clone_is_fresh : ∀ q : PQ, q.clone.fresh = true := by
  intro q; induction q <;> simp_all [PQ.clone, PQ.fresh]

theorem clone_idem : ∀ q : PQ, q.clone.clone = q.clone := by
  intro q; induction q <;> simp_all [PQ.clone]

/-- a fresh machine is its own clone: `fresh` pins down the state completely -/
theorem clone_of_fresh : ∀ q : PQ, q.fresh = true → q.clone = q := by
  intro q; induction q <;> simp_all [PQ.clone, PQ.fresh]

/-- **P3.**  The state-reset protocol: in whatever state `q` is (reachable or not), after
`Evaluate` the machine has the same remaining stream as a fresh machine of the same configuration
(`q.clone`) … -/
theorem evaluate_resets : ∀ q : PQ, rem d cfg cur q.evaluate = rem d cfg cur q.clone := by
  intro q
  induction q with
  | context c => rfl
  | absolute c => rfl
  | child a inp it pos ih => simp only [PQ.evaluate, PQ.clone, rem, ih]
  | attr a inp it ih => simp only [PQ.evaluate, PQ.clone, rem, ih]
  | self a inp ih => simp only [PQ.evaluate, PQ.clone, rem, ih]
  | parent a inp ih => simp only [PQ.evaluate, PQ.clone, rem, ih]
  | descendant a s inp it pos level ih => simp only [PQ.evaluate, PQ.clone, rem, ih]

/-- … which is the whole sequence of the sequence model: after `Evaluate` the query yields its
whole sequence again. -/
theorem evaluate_yields_all (q : PQ) :
    sel (F := F) d cfg q.plan cur = .ok (rem d cfg cur q.evaluate) := by
  rw [evaluate_resets, ← clone_plan q]
  exact rem_fresh d cfg cur q.clone (clone_is_fresh q)

/-- P3, operationally: draining after `Evaluate`, from any state, gives the sequence of `sel` -/
theorem drain_evaluate (q : PQ) :
    ∃ l, sel (F := F) d cfg q.plan cur = .ok l ∧
      ∃ q' f0, ∀ f, f0 ≤ f → drain d cfg cur f q.evaluate = some (l, q') := by
  obtain ⟨q', f0, h1, _, _⟩ := drain_complete d cfg cur _ q.evaluate rfl
  exact ⟨_, evaluate_yields_all (F := F) d cfg cur q, q', f0, h1⟩

/-- **P4.**  `Clone` gives a fresh machine of the same configuration, is idempotent, does not depend
on the state of the original, and its stream is the whole sequence of the sequence model. -/
theorem clone_fresh (q : PQ) :
    q.clone.fresh = true ∧ q.clone.plan = q.plan ∧ q.clone.clone = q.clone ∧
    (∀ q2 : PQ, q2.plan = q.plan → q2.clone = q.clone) ∧
    sel (F := F) d cfg q.plan cur = .ok (rem d cfg cur q.clone) := by
  refine ⟨clone_is_fresh q, clone_plan q, clone_idem q, ?_, ?_⟩
  · intro q2
    -- `q2` of another type has another plan constructor (`cases h`); of the same type, its configuration
    -- fields are those of `q` and its input has the plan of the input of `q`
    induction q generalizing q2 with
    | context c | absolute c => intro h; cases q2 <;> first | rfl | cases h
    | child a inp it pos ih | attr a inp it ih | self a inp ih | parent a inp ih
    | descendant a s inp it pos level ih =>
      intro h; cases q2 <;> first | cases h | (injection h; simp only [PQ.clone, ih _ ‹_›, *])
  · rw [← clone_plan q]
    exact rem_fresh d cfg cur q.clone (clone_is_fresh q)

/-- **P5.**  Positions: whenever `Select` yields a node, it is the head item `x` of the remaining
stream and `position()` (`posit`) and `depth()` (`level`) of the new state are `x.pos` and `x.lvl` —
for a machine started fresh these are exactly the `Item.pos`/`Item.lvl` of `sel` (P1), e.g. `k` for
the `k`-th matching child of the current parent. -/
theorem select_position {f : Nat} {q q' : PQ} {n : Ref} (h : PQ.select d cfg cur f q = (.yield n, q')) :
    ∃ x xs, rem d cfg cur q = x :: xs ∧ x.r = n ∧ q'.position = x.pos ∧ q'.depth = x.lvl ∧
      rem d cfg cur q' = xs := by
  obtain ⟨ho, hrem, _, hpos⟩ := select_sound d cfg cur h (by simp)
  cases hr : rem d cfg cur q with
  | nil => rw [hr] at ho; simp [headRes] at ho
  | cons x xs =>
    rw [hr] at ho hrem
    simp only [headRes, Res.yield.injEq] at ho
    obtain ⟨h1, h2⟩ := hpos x xs hr
    exact ⟨x, xs, rfl, ho.symm, h1, h2, hrem⟩

/-- P5 for `childQuery`, literally: in a `childQuery` whose closure is at `(n, first)` with
`posit = k`, a pull that is served by the closure yields the next matching sibling and sets
`posit = k + 1`. -/
theorem child_posit_succ {f : Nat} {a : AxisInfo} {inp : PQ} {n j : Ref} {first : Bool} {k : Nat} {q' : PQ}
    (hc : (sibCands d n first).filter (test d cfg a) ≠ [])
    (h : PQ.select d cfg cur f (.child a inp (some (n, first)) k) = (.yield j, q')) :
    q' = .child a inp (some (j, false)) (k+1) ∧
      ((sibCands d n first).filter (test d cfg a)).head? = some j := by
  obtain ⟨f1, h1, _⟩ := childIter_spec d (test d cfg a) _ n first (Nat.le_refl _)
  cases hl : (sibCands d n first).filter (test d cfg a) with
  | nil => exact absurd hl hc
  | cons j' rest =>
    have hsel : PQ.select d cfg cur (f1 + 1) (.child a inp (some (n, first)) k)
        = (.yield j', .child a inp (some (j', false)) (k+1)) := by
      simp only [PQ.select, h1 f1 (Nat.le_refl _), hl, hdR]
    have h2 := select_mono_le d cfg cur h (by simp) (Nat.le_max_left f (f1+1))
    have h3 := select_mono_le d cfg cur hsel (by simp) (Nat.le_max_right f (f1+1))
    rw [h2] at h3
    simp only [Prod.mk.injEq, Res.yield.injEq] at h3
    obtain ⟨h3a, h3b⟩ := h3
    subst h3a
    exact ⟨h3b, rfl⟩

end

end XPathV.Model

#print axioms XPathV.Model.select_step
#print axioms XPathV.Model.select_sound
#print axioms XPathV.Model.drain_eq_sel
#print axioms XPathV.Model.drain_refs_eq_sel
#print axioms XPathV.Model.exhausted_stays
#print axioms XPathV.Model.exhausted_invariant
#print axioms XPathV.Model.evaluate_resets
#print axioms XPathV.Model.evaluate_yields_all
#print axioms XPathV.Model.drain_evaluate
#print axioms XPathV.Model.clone_fresh
#print axioms XPathV.Model.select_position
#print axioms XPathV.Model.child_posit_succ
