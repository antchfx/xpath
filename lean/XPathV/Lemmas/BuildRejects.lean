import XPathV.Lemmas.BuildRejects.Tree
import XPathV.Lemmas.BuildRejects.Scan
import XPathV.Lemmas.BuildRejects.Text
import XPathV.Lemmas.BuildRejects.Records
import XPathV.Lemmas.BuildRejects.Rename
import XPathV.Lemmas.BuildRejects.FuelMono
import XPathV.Lemmas.BuildRejects.RenameText
import XPathV.Lemmas.BuildRejects.ScanName
import XPathV.Lemmas.BuildRejects.RenameFirst
/-!
# C17, second half — unknown functions, missing arguments, unknown axes, malformed qualified names

"If a valid expression is damaged … by renaming a function to an unknown name, by removing required
arguments, by using an unknown axis name or a malformed qualified name, Compile returns an error
instead of an expression."  About the models (`Model/Scanner`, `Model/Parser`, `Model/Builder`,
`Model/Api`):

1. **Tree level** (`BuildRejects/Tree.lean`).  `Bad t k` / `BadNode t` follows the sub-trees `build`
   visits; `build_fails_of_bad`: `Bad t fl.take → ∃ e, build rx lim a b t fl st = .error e` for every
   regexp oracle, depth limit, both switches, flags and state (induction over all node kinds);
   `not_bad_of_build_ok` the contrapositive; `bad_iff_visits` the reading "a visited sub-tree is an
   unknown function / a call outside its arity window / a step on an unknown axis".
2. **From text** (`BuildRejects/Text.lean`).  `compile_fails_of_bad`, `no_bad_node_of_compile_ok`,
   `compile_fails_unknown_function`, `compile_fails_missing_arguments`, `compile_fails_unknown_axis`;
   the family `compile_unknown_axis_text` (`name::l`, every name outside the axis table);
   malformed qualified names: `compile_qname_without_local` (`a:`, `a: b`, `a:1`),
   `compile_leading_colon` (`:a`), `compile_name_blank_colon` (`a :b`), `compile_second_colon`
   (`a:b:c`), and the same anywhere in a text at scanner-state level (`parse_fails_…`).
3. **What the parser records** (`BuildRejects/Records.lean`): `parsePrimary_call_records`,
   `parseStep_axe_records`.
4. **Renaming inside a text** (`BuildRejects/Rename.lean`, `RenameText.lean`): `parse_rename` — same
   token stream except one function-name token ⇒ same tree except for that name;
   `compile_fails_after_rename` — … to an unknown name ⇒ `Compile` fails (for expressions without
   superfluous arguments, see "Accepted by the model although damaged"); `renamedAt` is a decidable check of the token-stream hypothesis.
   `BuildRejects/FuelMono.lean`: more fuel does not change an accepted parse (`parse_mono`).
5. **Character level, leading function** (`BuildRejects/ScanName.lean`, `RenameFirst.lean`):
   `nextItem_setName` (the scanner never reads a stale `name` field), `before_first`,
   `compile_fails_rename_first`: for every accepted `G(…` and every unknown plain name `G'`,
   `Compile(G'(…)` fails — no hypothesis on token streams.

**Accepted by the model although damaged** (potential findings, examples in the section "damaged, and accepted"):
`true(1)`, `true(foo(1))`, `count(a, foo())`, `substring('a',1,2,foo())` — arguments beyond those a
function reads are neither counted (no maximum for most functions) nor built, so an unknown
function inside them goes unnoticed; `p:contains('a','b')`, `fn:count(a)` — the prefix of a
function name is ignored; `namespace::a` is rejected, but by its own error.
All forms of malformed qualified names tried (`a:`, `:a`, `a:b:c`, `a: b`, `a :b`, `a : b`, `a:1`,
`a:-b`, `a:b:`, `a:b::c`, `a:*:b`, `*:a`, `::a`, `a:::b`) are rejected; `a.:b` and `a:_` are names.
-/
namespace XPathV.BuildRejects
open XPathV XPathV.Model

/-! ## Examples (executable model, source configuration, no namespace map) -/

def compileErr (s : String) : Option CompileErr :=
  match compile {} none s.toList with
  | .error e => some e
  | .ok _ => none

-- renaming a function to an unknown name
example : compileErr "conta('a','b')" = some (.build (.unknownFunction "conta")) := by
  rw [compileErr, compile, Lemmas.ParserShape.defaultCfg_eq]; decide +kernel
example : compileErr "a[conta(.,'x')]/b" = some (.build (.unknownFunction "conta")) := by
  rw [compileErr, compile, Lemmas.ParserShape.defaultCfg_eq]; decide +kernel
example : compileErr "count(cnt(a))" = some (.build (.unknownFunction "cnt")) := by
  rw [compileErr, compile, Lemmas.ParserShape.defaultCfg_eq]; decide +kernel
example : compileErr "a:b()" = some (.build (.unknownFunction "b")) := by
  rw [compileErr, compile, Lemmas.ParserShape.defaultCfg_eq]; decide +kernel
example : compileErr "foo:node()" = some (.build (.unknownFunction "node")) := by
  rw [compileErr, compile, Lemmas.ParserShape.defaultCfg_eq]; decide +kernel
-- removing required arguments
example : compileErr "contains('a')" = some (.build (.indexPanic "contains")) := by
  rw [compileErr, compile, Lemmas.ParserShape.defaultCfg_eq]; decide +kernel
example : compileErr "starts-with('a')" = some (.build (.indexPanic "starts-with")) := by
  rw [compileErr, compile, Lemmas.ParserShape.defaultCfg_eq]; decide +kernel
example : compileErr "lower-case()" = some (.build (.indexPanic "lower-case")) := by
  rw [compileErr, compile, Lemmas.ParserShape.defaultCfg_eq]; decide +kernel
example : compileErr "substring('a')" = some (.build (.arity "substring")) := by
  rw [compileErr, compile, Lemmas.ParserShape.defaultCfg_eq]; decide +kernel
example : compileErr "count()" = some (.build (.arity "count")) := by
  rw [compileErr, compile, Lemmas.ParserShape.defaultCfg_eq]; decide +kernel
example : compileErr "not()" = some (.build (.arity "not")) := by
  rw [compileErr, compile, Lemmas.ParserShape.defaultCfg_eq]; decide +kernel
example : compileErr "concat('a')" = some (.build (.arity "concat")) := by
  rw [compileErr, compile, Lemmas.ParserShape.defaultCfg_eq]; decide +kernel
example : compileErr "boolean()" = some (.build (.arity "boolean")) := by
  rw [compileErr, compile, Lemmas.ParserShape.defaultCfg_eq]; decide +kernel
example : compileErr "translate('a','b')" = some (.build (.arity "translate")) := by
  rw [compileErr, compile, Lemmas.ParserShape.defaultCfg_eq]; decide +kernel
example : compileErr "string-join(a)" = some (.build (.arity "string-join")) := by
  rw [compileErr, compile, Lemmas.ParserShape.defaultCfg_eq]; decide +kernel
-- too many arguments, where the builder has a guard
example : compileErr "boolean(1,2)" = some (.build (.arity "boolean")) := by
  rw [compileErr, compile, Lemmas.ParserShape.defaultCfg_eq]; decide +kernel
example : compileErr "string(1,2)" = some (.build (.arity "string")) := by
  rw [compileErr, compile, Lemmas.ParserShape.defaultCfg_eq]; decide +kernel
example : compileErr "translate('a','b','c','d')" = some (.build (.arity "translate")) := by
  rw [compileErr, compile, Lemmas.ParserShape.defaultCfg_eq]; decide +kernel
-- unknown axis names
example : compileErr "foo::a" = some (.build (.unknownAxis "foo")) := by
  rw [compileErr, compile, Lemmas.ParserShape.defaultCfg_eq]; decide +kernel
example : compileErr "a/foo::b" = some (.build (.unknownAxis "foo")) := by
  rw [compileErr, compile, Lemmas.ParserShape.defaultCfg_eq]; decide +kernel
example : compileErr "a[bar::b]" = some (.build (.unknownAxis "bar")) := by
  rw [compileErr, compile, Lemmas.ParserShape.defaultCfg_eq]; decide +kernel
example : compileErr "count(foo::a)" = some (.build (.unknownAxis "foo")) := by
  rw [compileErr, compile, Lemmas.ParserShape.defaultCfg_eq]; decide +kernel
example : compileErr "a :: b" = some (.build (.unknownAxis "a")) := by
  rw [compileErr, compile, Lemmas.ParserShape.defaultCfg_eq]; decide +kernel
example : compileErr "namespace::a" = some (.build .namespaceAxis) := by
  rw [compileErr, compile, Lemmas.ParserShape.defaultCfg_eq]; decide +kernel
-- malformed qualified names
example : compileErr "a:" = some (.parse (.scan .invalidQName)) := by decide +kernel
example : compileErr "a: b" = some (.parse (.scan .invalidQName)) := by decide +kernel
example : compileErr "a :b" = some (.parse (.scan .invalidQName)) := by decide +kernel
example : compileErr "a : b" = some (.parse (.scan .invalidQName)) := by decide +kernel
example : compileErr "a:1" = some (.parse (.scan .invalidQName)) := by decide +kernel
example : compileErr "a:-b" = some (.parse (.scan .invalidQName)) := by decide +kernel
example : compileErr "child::a:" = some (.parse (.scan .invalidQName)) := by
  rw [compileErr, compile, Lemmas.ParserShape.defaultCfg_eq]; decide +kernel
example : compileErr ":a" = some (.parse (.scan .invalidToken)) := by decide +kernel
example : compileErr "::a" = some (.parse (.scan .invalidToken)) := by decide +kernel
example : compileErr "*:a" = some (.parse (.scan .invalidToken)) := by
  rw [compileErr, compile, Lemmas.ParserShape.defaultCfg_eq]; decide +kernel
example : compileErr "a:b:c" = some (.parse (.scan .invalidToken)) := by
  rw [compileErr, compile, Lemmas.ParserShape.defaultCfg_eq]; decide +kernel
example : compileErr "a:b:" = some (.parse (.scan .invalidToken)) := by
  rw [compileErr, compile, Lemmas.ParserShape.defaultCfg_eq]; decide +kernel
example : compileErr "a:b::c" = some (.parse (.scan .invalidToken)) := by
  rw [compileErr, compile, Lemmas.ParserShape.defaultCfg_eq]; decide +kernel
example : compileErr "a:*:b" = some (.parse (.scan .invalidToken)) := by
  rw [compileErr, compile, Lemmas.ParserShape.defaultCfg_eq]; decide +kernel
example : compileErr "a:::b" = some (.parse (.scan .invalidToken)) := by
  rw [compileErr, compile, Lemmas.ParserShape.defaultCfg_eq]; decide +kernel
example : compileErr "a::" = some (.parse .notNodeSet) := by
  rw [compileErr, compile, Lemmas.ParserShape.defaultCfg_eq]; decide +kernel

/-! ### damaged, and **accepted** by the model -/

-- superfluous arguments are not counted and not built: an unknown function inside them goes unnoticed
example : compileErr "true(1)" = none := by
  rw [compileErr, compile, Lemmas.ParserShape.defaultCfg_eq]; decide +kernel
example : compileErr "true(foo(1))" = none := by
  rw [compileErr, compile, Lemmas.ParserShape.defaultCfg_eq]; decide +kernel
example : compileErr "count(a, foo())" = none := by
  rw [compileErr, compile, Lemmas.ParserShape.defaultCfg_eq]; decide +kernel
example : compileErr "substring('a',1,2,3)" = none := by
  rw [compileErr, compile, Lemmas.ParserShape.defaultCfg_eq]; decide +kernel
example : compileErr "substring('a',1,2,foo())" = none := by
  rw [compileErr, compile, Lemmas.ParserShape.defaultCfg_eq]; decide +kernel
-- the prefix of a function name is ignored
example : compileErr "p:contains('a','b')" = none := by
  rw [compileErr, compile, Lemmas.ParserShape.defaultCfg_eq]; decide +kernel
example : compileErr "fn:count(a)" = none := by
  rw [compileErr, compile, Lemmas.ParserShape.defaultCfg_eq]; decide +kernel
-- (well-formed, for comparison)
example : compileErr "a:b" = none := by
  rw [compileErr, compile, Lemmas.ParserShape.defaultCfg_eq]; decide +kernel
example : compileErr "a:*" = none := by
  rw [compileErr, compile, Lemmas.ParserShape.defaultCfg_eq]; decide +kernel
example : compileErr "child ::a" = none := by
  rw [compileErr, compile, Lemmas.ParserShape.defaultCfg_eq]; decide +kernel

/-! ### the general theorems at work -/

example (cc : CompileCfg) (ns : Option (List (String × String))) :
    compile cc ns "foo::a".toList = .error (.build (.unknownAxis "foo")) := by
  rw [show "foo::a".toList = "foo".toList ++ ':' :: ':' :: "a".toList by decide +kernel]
  exact compile_unknown_axis_text cc ns _ _ (by decide +kernel) (by decide +kernel) (by decide +kernel)

example (cc : CompileCfg) (ns : Option (List (String × String))) :
    compile cc ns "descendent::item".toList = .error (.build (.unknownAxis "descendent")) := by
  rw [show "descendent::item".toList = "descendent".toList ++ ':' :: ':' :: "item".toList by decide +kernel]
  exact compile_unknown_axis_text cc ns _ _ (by decide +kernel) (by decide +kernel) (by decide +kernel)

example (cc : CompileCfg) (ns : Option (List (String × String))) (rest : List Char) :
    compile cc ns ("a: ".toList ++ rest) = .error (.parse (.scan .invalidQName)) :=
  compile_qname_without_local cc ns "a".toList (' ' :: rest) (by decide +kernel)
    (by simp only [mkCR_eta]; decide) (by simp only [mkCR_eta]; decide) (by simp only [mkCR_eta]; decide +kernel)

example (cc : CompileCfg) (ns : Option (List (String × String))) :
    compile cc ns "a:".toList = .error (.parse (.scan .invalidQName)) :=
  compile_qname_without_local cc ns "a".toList [] (by decide +kernel) (by decide) (by decide) (by decide +kernel)

example (cc : CompileCfg) (ns : Option (List (String × String))) (rest : List Char) :
    compile cc ns (':' :: rest) = .error (.parse (.scan .invalidToken)) :=
  compile_leading_colon cc ns (':' :: rest) rest (by
    have : isSpace ':' = false := by decide
    simp [this])

example (cc : CompileCfg) (ns : Option (List (String × String))) (rest : List Char) :
    compile cc ns ("a:b:".toList ++ rest) = .error (.parse (.scan .invalidToken)) :=
  compile_second_colon cc ns "a".toList "b".toList rest (by decide +kernel) (by decide +kernel)

/-- `contains` renamed to `conta` inside `a[contains(.,'x')]/b`, by the renaming theorem -/
example (cc : CompileCfg) : ∃ e, compile cc none "a[conta(.,'x')]/b".toList = .error e :=
  compile_fails_after_rename_dec cc none (g := "contains") (g' := "conta") (text := "a[contains(.,'x')]/b".toList)
    (by decide +kernel) (by decide +kernel) (by decide +kernel) (by rw [opWords_stages]; decide +kernel)
    (by rw [opWords_stages]; decide +kernel) (by decide +kernel) (k := 2)
    (by rw [acceptedTight, Lemmas.ParserShape.defaultCfg_eq]; decide +kernel) (by decide +kernel)

/-- `count` renamed to `cnt` as an operand -/
example (cc : CompileCfg) : ∃ e, compile cc none "1 + 2 * cnt(//a)".toList = .error e :=
  compile_fails_after_rename_dec cc none (g := "count") (g' := "cnt") (text := "1 + 2 * count(//a)".toList)
    (by decide +kernel) (by decide +kernel) (by decide +kernel) (by rw [opWords_stages]; decide +kernel)
    (by rw [opWords_stages]; decide +kernel) (by decide +kernel) (k := 4)
    (by rw [acceptedTight, Lemmas.ParserShape.defaultCfg_eq]; decide +kernel) (by decide +kernel)

/-- **every** unknown plain name in place of the leading `contains` of `contains(a,'x') and b`:
character level, no token-stream hypothesis -/
example (cc : CompileCfg) (G' : List Char) (hG' : plainName G' = true)
    (hn : String.ofList G' ∉ nodeTypes) (ho : String.ofList G' ∉ opWords stages)
    (hunk : fnArity (String.ofList G') = none) :
    ∃ e, compile cc none (G' ++ "(a,'x') and b".toList) = .error e := by
  have hne : String.ofList "contains".toList ≠ String.ofList G' := by
    intro e
    rw [← e] at hunk
    revert hunk
    decide +kernel
  rw [show "(a,'x') and b".toList = '(' :: "a,'x') and b".toList by decide +kernel]
  exact compile_fails_rename_first_paren cc none "contains".toList G' _ (by decide +kernel) hG' hne
    (by decide +kernel) hn (by rw [opWords_stages]; decide +kernel) ho hunk
    (by rw [acceptedTight, Lemmas.ParserShape.defaultCfg_eq]; decide +kernel)

end XPathV.BuildRejects

