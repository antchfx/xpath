import XPathV.Model.Api
/-!
# What a successful `compile` went through

From `compile … = .ok p`: the parse tree and the builder outcome behind `p`.  It stands below the
developments that start from a compiled expression (`NoCrashCompile`, `ApiSem*`); the forward
direction (`compile_of_parse`, `compile_of_build`) is in `ApiSem2`.
-/
namespace XPathV.ApiSem
open XPathV XPathV.Model

/-- the build-depth limit `compile` passes to the builder -/
abbrev apiLimit : Nat := Generated.buildDepthLimit.getD 0

/-- **`compile` succeeded** ⇒ the text is not empty, the parser (with `fuelFor text`, the default
precedence chain and the namespace table) returned a tree, the builder (from the initial flags and
state, with the configuration's switches and the generated depth limit) returned a plan, and that
plan — which is not the nil query — is the result -/
theorem compile_inv (cc : CompileCfg) (ns : Option (List (String × String))) (text : List Char)
    (p : Plan) (h : compile cc ns text = .ok p) :
    text ≠ [] ∧ ∃ a o, parse (fuelFor text) (defaultCfg ns) text = .ok a ∧
      build cc.regexOk apiLimit cc.shortcutNeedsNodeTest cc.smartDescThroughFilter a {} {} = .ok o ∧
      o.q = p ∧ p ≠ .nil := by
  unfold compile at h
  split at h
  · cases h
  · rename_i hne
    refine ⟨by intro h'; rw [h'] at hne; exact hne rfl, ?_⟩
    split at h
    · cases h
    · rename_i a ha
      split at h
      · cases h
      · rename_i o ho
        split at h
        · cases h
        · rename_i hnil
          cases h
          exact ⟨a, o, ha, ho, rfl, fun hq => hnil (by rw [hq]; rfl)⟩

end XPathV.ApiSem
