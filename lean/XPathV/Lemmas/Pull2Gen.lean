import XPathV.Lemmas.Pull2Proofs
import XPathV.Lemmas.Pull2Gen.SelFull
/-!
# The pull machine refines the sequence model for *every* kind of filter predicate

`PQ2.DecOK` asks every filter predicate to evaluate to the boolean `dec pred r`.  That leaves out the
most common predicate, the existence test (`*[@y]`, `a[b]`: a node list), and string- and
number-valued ones (audit: `Theorems/NonVacuity/C02.lean`, `decOK_excludes_existence_tests`,
`decOK_excludes_numeric_predicates`).

The chain of `Lemmas/Pull2Proofs.lean` is therefore proved under `PQ2.DecOK'` (`Pull2Gen/DecOK.lean`):
`dec pred r` is the verdict `keepM` the sequence model reaches for the candidate, on the candidates
the filter is offered for the context node `c`.  Of the lemmas below `drain2_eq_sel'` only `sel_full2'`
uses the hypothesis; `Inv`, `select_step2`, `drain2_complete`, `drain2_sound`, `reach_inv` (and
`C12_exhausted_for_ever`, `C12_moveNext_current` of `Theorems/C12.lean`) do not mention it.  Here is
what that chain yields along the protocol (`Reach`, `Clone`):

* `drain2_refs_eq_sel'`, `reach_evaluate_restarts'`  Q1 projected to references; no state leaks
  between evaluations, from every reachable state
  (the clone statement: `clone_is_fresh_all_iterators_any_predicate` in `Theorems/C04.lean`)
* `PQ2.DecOK.toGen` (Pull2Gen/DecOK)  `DecOK → ∀ c, DecOK'`: the `DecOK` theorems are instances
  (`sel_full2_from_gen`, `reach_evaluate_restarts_from_gen`)
* `reach_decOK'`  every reachable state inherits `DecOK'` from its configuration
* `decOK'_clone`  … and so does a clone
* property-level statements `Theorems.C02.evaluate_restarts_all_iterators_any_predicate`,
  `Theorems.C04.clone_is_fresh_all_iterators_any_predicate`, `Theorems.C12.C12_all_iterators_refine_sequence_any_predicate`

**Number-valued predicates.**  `Model/Pull2.lean` calls `dec pred n` with the predicate plan and the
candidate *node*; neither `posit` nor the position of the input machine is passed.  The engine's
verdict for a number `x` is `toInt x = position of the candidate in the input sequence`
(`keepM_num`).  `DecOK'` therefore covers a numeric predicate exactly when, in the input sequence
for the context node at hand, that verdict is a function of the node (`decOK'_verdict_by_node`):
true when every node occurs once among the candidates (`/r/*[2]`, `/r/*[@x][2]`: instances in
`Pull2Gen/NonVacuity.lean`); false when the same node is offered twice — to one filter, or to the
per-root re-evaluations of a merge child — at positions with different verdicts
(`/r/*/following-sibling::*[1]`: `decOK'_unsat_repeated_candidate` there).  For those the abstraction `dec : Plan → Ref → Bool` itself
cannot express the Go decision; `Model/Pull2.lean` would have to pass the input's `position()`
(`dec pred n inp'.position` in the filter arm, `filterG` using its `_pos` argument — the scheme
`fmap_step` of Pull2/Generic.lean already feeds the step function `M.pos inp'`).
Boolean, string and node-list values are covered without restriction (`decOK'_filter_bsn`).
-/
namespace XPathV.Model
open XPathV

section
variable {F : Type} [NumAlg F] (d : Doc) (cfg : ECfg) (dec : Plan → Ref → Bool)

/-- Q1 projected to node references -/
theorem drain2_refs_eq_sel' (hd : 0 < d.length) (p : Plan) (q : PQ2) (h : PQ2.ofPlan p = some q) (hs : NeedsWF p → WF d)
    (c : Ref) (hdec : q.DecOK' (F := F) d cfg dec c) (hg : Good d c) :
    ∃ l, sel (F := F) d cfg p c = .ok l ∧
      ∃ f0, ∀ f, f0 ≤ f → (drain2 d cfg dec f q c).map (fun r => r.1.map (·.r)) = some (l.map (·.r)) := by
  obtain ⟨l, h1, q', c', f0, h2, _⟩ := drain2_eq_sel' (F := F) d cfg dec hd p q h hs c hdec hg
  exact ⟨l, h1, f0, fun f hf => by rw [h2 f hf]; rfl⟩

/-- **No state leaks between evaluations (C02/C04), reachable form**, any kind of filter predicate. -/
theorem reach_evaluate_restarts' (hd : 0 < d.length) (p0 : Plan) (hw : NeedsWF p0 → WF d) (q : PQ2)
    (hr : Reach d cfg dec p0 q) (c : Ref) (hdec : q.DecOK' (F := F) d cfg dec c) (hg : Good d c) :
    ∃ l, sel (F := F) d cfg p0 c = .ok l ∧
      (∃ q' c' f0, ∀ f, f0 ≤ f → drain2 d cfg dec f q.evaluate c = some (l, q', c')) ∧
      (∀ f l' q' c', drain2 d cfg dec f q.evaluate c = some (l', q', c') → l' = l) := by
  obtain ⟨hp, _⟩ := reach_inv d cfg dec hd p0 hw q hr
  obtain ⟨l, h1, q', c', f0, h2, _, _⟩ :=
    drain2_evaluate' (F := F) d cfg dec hd q (by rw [hp]; exact hw) c hdec hg
  rw [hp] at h1
  refine ⟨l, h1, ⟨q', c', f0, h2⟩, fun f l' q2 c2 hdr => ?_⟩
  have hs := drain2_sound d cfg dec hd f q.evaluate c l' q2 c2 (by rw [PQ2.evaluate_plan, hp]; exact hw)
    (PQ2.inv_evaluate d q) hg hdr
  have hl : sel (F := F) d cfg p0 c = .ok (rem2 d cfg dec c q.evaluate) := by
    rw [← hp]; exact rem2_evaluate_sel' d cfg dec q c hdec
  rw [h1] at hl
  injection hl with hl
  rw [hs.1, hl]

/-! ## `DecOK'` along the protocol -/

/-- every state reachable under the library's protocol inherits `DecOK'` from its configuration -/
theorem reach_decOK' (hd : 0 < d.length) (p0 : Plan) (hw : NeedsWF p0 → WF d) (c : Ref)
    (hp : DecOKP' (F := F) d cfg dec p0 c) (q : PQ2) (hr : Reach d cfg dec p0 q) :
    q.DecOK' (F := F) d cfg dec c := by
  rw [decOK'_iff_plan, (reach_inv d cfg dec hd p0 hw q hr).1]; exact hp

/-- `Evaluate` does not change the configuration, hence not `DecOK'` -/
theorem decOK'_evaluate (q : PQ2) (c : Ref) :
    q.evaluate.DecOK' (F := F) d cfg dec c ↔ q.DecOK' (F := F) d cfg dec c :=
  decOK'_plan_congr d cfg dec (PQ2.evaluate_plan q) c

/-- `Clone` keeps the sequence of the plan (a `cachedChildQuery` becomes a `childQuery`) -/
theorem sel_clone_plan : ∀ (q : PQ2) (c : Ref), sel (F := F) d cfg q.clone.plan c = sel (F := F) d cfg q.plan c := by
  intro q
  induction q <;> intro c <;> simp_all [PQ2.clone, PQ2.plan, sel]

/-- … hence `DecOK'` -/
theorem decOK'_clone : ∀ (q : PQ2) (c : Ref), q.clone.DecOK' (F := F) d cfg dec c ↔ q.DecOK' (F := F) d cfg dec c := by
  intro q
  induction q <;> intro c <;> simp_all [PQ2.clone, PQ2.DecOK', sel_clone_plan]

/-! ## the `DecOK` theorems are instances -/

/-- `sel_full2'` for boolean-valued predicates -/
theorem sel_full2_from_gen (q : PQ2) (h : q.DecOK (F := F) d cfg dec) (c : Ref) :
    sel (F := F) d cfg q.plan c = .ok (full2 d cfg dec c q) :=
  sel_full2' d cfg dec q c (h.toGen d cfg dec q c)

/-- `Theorems.C02.evaluate_restarts_all_iterators` from `reach_evaluate_restarts'` -/
theorem reach_evaluate_restarts_from_gen (hd : 0 < d.length) (p0 : Plan) (hw : NeedsWF p0 → WF d) (q : PQ2)
    (hr : Reach d cfg dec p0 q) (hdec : q.DecOK (F := F) d cfg dec) (c : Ref) (hg : Good d c) :
    ∃ l, sel (F := F) d cfg p0 c = .ok l ∧
      (∃ q' c' f0, ∀ f, f0 ≤ f → drain2 d cfg dec f q.evaluate c = some (l, q', c')) ∧
      (∀ f l' q' c', drain2 d cfg dec f q.evaluate c = some (l', q', c') → l' = l) :=
  reach_evaluate_restarts' d cfg dec hd p0 hw q hr c (hdec.toGen d cfg dec q c) hg

end

end XPathV.Model

