import XPathV.Lemmas.PathSem.Build
import XPathV.Model.Api
import XPathV.Lemmas.SourceConfig
/-!
# C01 — predicate-free location paths: the engine's node set is the XPath 1.0 denotation

The proof goes in four stages — 1: one step from a node; 2: one step from an attribute; 3: whole
paths under the plan without builder rewrites (`naivePlan`); 4: the builder's rewrites keep the node
set, namely (a) `cachedChild`, (b) the `//name` shortcut, (c) descendant over descendant, and `build`
applies only these.  Helper files under `XPathV/Lemmas/PathSem/`:

* `Basic`    — `stepPlan`, `axisRefsM`, `HashInj`; `stepPlan_sem` (node set of one plan step per origin)
* `Walks`    — `axisRefsM_spec` (each walk = the XPath axis, node *and* attribute origins)
* `Naive`    — stage 1/2 `step_sem`, `step_sem_node`, `step_sem_attr`; `PathPF`, `naivePlan`
* `Rewrites` — stage 4 (a) `sel_cachedChild`, (b) `shortcut_sem`, (c) `descOverDesc_sem`
* `Agree`    — `PathOK`, `Cover`: a plan against the oracle, one lemma per plan constructor (`pathOK_step`, …)
* `Build`    — stage 3 `naive_sem`; stage 4, `build_pathpf`

Standing assumptions of the main theorem: the document is well formed, the navigator implements
`NamespaceURL()` (`cfg.nsIface = true`, the post-fix configuration) and the node key is injective
on the nodes of the document (`HashInj`, which is the theorem `hashInj_holds` of `PathSem/Basic.lean` — needed for the ancestor axes,
which de-duplicate by key).
-/
namespace XPathV.PathSem
open XPathV XPathV.Model

variable {F : Type} [NumAlg F]

/-- **C01**: for every well-formed document, every valid context node (attributes included) and
every predicate-free location path over the twelve axes, the plan the builder produces (with all
its rewrites) yields exactly the XPath 1.0 node-set of the path; neither side fails.
`Theorems.C01.C01_main` has the same short name and another statement: the builder switches read off
the source and `Spec.evalTop`, where this one has any `sdf`, any `limit`, any builder state and
`Spec.eval`. -/
theorem C01_main {d : Doc} (wf : WF d) (cfg : ECfg) (hns : cfg.nsIface = true)
    (hinj : HashInj d cfg) (regexOk : RegexOk) (limit : Nat) (sdf : Bool) (p : Ast) (hp : PathPF p)
    (st : BState) (o : BOut) (hb : build regexOk limit true sdf p {} st = .ok o)
    (c : Ref) (hc : validRef d c = true) :
    ∃ out ns g, sel (F := F) d cfg o.q c = .ok out ∧
      Spec.eval (F := F) d p ⟨c, 1, 1⟩ = .ok (.val (.nodes ns) g) ∧
      ∀ x, x ∈ refs out ↔ x ∈ ns := by
  obtain ⟨out, nv, h1, h2, h12⟩ := build_pathpf (F := F) wf cfg hinj regexOk limit sdf p hp st o hb c hc
  obtain ⟨nv', ns, g, h2', hev, hmem, _⟩ := naive_sem (F := F) wf cfg hns hinj p hp c hc
  rw [h2] at h2'; cases h2'
  exact ⟨out, ns, g, h1, hev, fun x => (h12 x).trans (hmem x)⟩

/-- C01 against the top-level oracle `evalTop` -/
theorem C01_evalTop {d : Doc} (wf : WF d) (cfg : ECfg) (hns : cfg.nsIface = true)
    (hinj : HashInj d cfg) (regexOk : RegexOk) (limit : Nat) (sdf : Bool) (p : Ast) (hp : PathPF p)
    (st : BState) (o : BOut) (hb : build regexOk limit true sdf p {} st = .ok o)
    (c : Ref) (hc : validRef d c = true) :
    ∃ out ns, sel (F := F) d cfg o.q c = .ok out ∧
      Spec.evalTop (F := F) d p c = .ok (.nodes ns) ∧ ∀ x, x ∈ refs out ↔ x ∈ ns := by
  obtain ⟨out, ns, g, h1, h2, h3⟩ := C01_main (F := F) wf cfg hns hinj regexOk limit sdf p hp st o hb c hc
  refine ⟨out, ns, h1, ?_, h3⟩
  simp [Spec.evalTop, h2, bind, Except.bind, pure, Except.pure, Spec.Res.value]

/-- C01 at the configuration the model reads off the source (`//name` shortcut guarded by the
node test, no smartDesc through filters) -/
theorem C01_source_config {d : Doc} (wf : WF d) (cfg : ECfg) (hns : cfg.nsIface = true)
    (hinj : HashInj d cfg) (regexOk : RegexOk) (limit : Nat) (p : Ast) (hp : PathPF p)
    (o : BOut)
    (hb : build regexOk limit shortcutNeedsNodeTestFromSource smartDescThroughFilterFromSource p {} {} = .ok o)
    (c : Ref) (hc : validRef d c = true) :
    ∃ out ns, sel (F := F) d cfg o.q c = .ok out ∧
      Spec.evalTop (F := F) d p c = .ok (.nodes ns) ∧ ∀ x, x ∈ refs out ↔ x ∈ ns := by
  have e : shortcutNeedsNodeTestFromSource = true := Lemmas.SourceConfig.shortcut_guard_from_source
  rw [e] at hb
  exact C01_evalTop wf cfg hns hinj regexOk limit _ p hp {} o hb c hc

end XPathV.PathSem

/-! ## Axiom audit -/
section AxiomAudit
open XPathV.PathSem
#print axioms stepPlan_sem
#print axioms axisRefsM_spec
#print axioms step_sem
#print axioms step_sem_node
#print axioms step_sem_attr
#print axioms naive_sem
#print axioms sel_cachedChild
#print axioms shortcut_sem
#print axioms descOverDesc_sem
#print axioms descendant_of_covers
#print axioms descOverDesc_covers
#print axioms build_pathpf
#print axioms C01_main
#print axioms C01_evalTop
#print axioms C01_source_config
end AxiomAudit
