import XPathV.Lemmas.ArithSem
import XPathV.Lemmas.PredSem2
/-!
# C08 — arithmetic over `count(P)` / `sum(P)` of flat paths **with predicates**

`ArithSem.NumEG CP SP MP` is parametric in the admitted `count` arguments (`CP`), `sum` arguments
(`SP`) and `mod` operand pairs (`MP`); `ArithSem.NumEF` instantiates `CP` with the flat
*predicate-free* paths `FlatPath`.  This module instantiates the same inductive with the flat paths
of the C02 fragment **with predicates**:

* `FlatF2 p := PredSem2.Frag2 true p ∧ FlatFiltered.FlatAny p` — steps over child/attribute/self
  from the context node or the root, every step (and the start) followed by any number of the
  boolean-valued predicates of `Frag2` (`a[@x < @y]`, `a[b][not(c)]`, `*[count(b) = 2]/@x`, …)
* `flat2_same_list` — for such a path the node list the built plan *evaluates* to (`evalP`) **is** the
  oracle's node list, element by element, at every context position/size
  (`PredSem2.operand_seqOK` on `PredSem2.build_frag2`: equal sets from C02, both sides strictly
  increasing in document order from `FlatFiltered.flatAny_sorted` / `flatAny_spec_sorted`)
* `sameList_flat2` — the leaf obligation of `ArithSem.numEG_built` for `count` and `sum`
* `NumEF2 d ctx F` — the full fragment: `count` over `FlatF2`, `sum` over `FlatF2` paths on which the
  oracle's `sum` speaks (`FlatSum2`: every selected node is numeric), `mod` inside the oracle's domain
* `C08_main2` — the built plan's number is the oracle's number
* `NumEC2` — the document-independent sub-fragment (no `sum`, no `mod`)

As everywhere for `Frag2`, the builder runs with `smartDescThroughFilter = false` (the value read
off the source: `SourceConfig.smartdesc_stops_at_filters_from_source`) and the `//name` shortcut
guarded by its node test: the `Frag2` builder lemmas are stated at `build regexOk limit true false`
only, so the parameter `sdf` of `C08_main` is fixed to `false` here.
-/
namespace XPathV.ArithSem2
open XPathV XPathV.Model NumAlg XPathV.PathSem XPathV.PredSem XPathV.PredSem2 XPathV.ArithSem XPathV.Sem
open XPathV.FlatFiltered (FlatAny)

variable {F : Type} [NumAlg F]

/-! ## the leaves -/

/-- flat paths (child/attribute/self steps from the context node or the root) whose steps carry
predicates of the C02 fragment `Frag2` -/
def FlatF2 (p : Ast) : Prop := Frag2 true p ∧ FlatAny p

/-- a flat predicate-free path is a flat path with (no) predicates -/
theorem flatF2_of_flatPath {p : Ast} (h : FlatPath p) : FlatF2 p :=
  ⟨frag2_of_frag true p (FlatFiltered.FlatPath.flatFrag h).frag,
    (FlatFiltered.FlatPath.flatFrag h).flatAny⟩

/-- a flat path with the predicates of the first C02 fragment (`PredSem.Frag false`) -/
theorem flatF2_of_flatFrag {p : Ast} (h : FlatFiltered.FlatFrag p) : FlatF2 p :=
  ⟨frag2_of_frag true p h.frag, h.flatAny⟩

/-- **flat filtered paths, list level**: the node list `evalP` returns for the plan the builder makes
of a path of `FlatF2` *is* the oracle's node list of the path, at every context position and size -/
theorem flat2_same_list {d : Doc} (wf : WF d) (cfg : ECfg) (hns : cfg.nsIface = true)
    (hinj : HashInj d cfg) (regexOk : RegexOk) (limit : Nat)
    (c : Ref) (hc : validRef d c = true) (i n : Nat) {p : Ast} (hp : FlatF2 p)
    (st : BState) (o : BOut) (hb : build regexOk limit true false p {} st = .ok o) :
    Agree (F := F) d cfg (ExactK .set) o.q p ⟨c, i, n⟩ := by
  have ih := ((build_frag2 (F := F) wf cfg hns hinj regexOk limit true p hp.1).1 rfl).1
  obtain ⟨_, out, ns, g, _, _, hE, hS⟩ :=
    operand_seqOK (F := F) wf cfg hns hinj regexOk limit p hp.1 hp.2 ih st o hb ⟨c, i, n⟩ hc
  exact agree_set.2 ⟨ns, g, hE, hS⟩

theorem sameList_flat2 {d : Doc} (wf : WF d) (cfg : ECfg) (hns : cfg.nsIface = true)
    (hinj : HashInj d cfg) (regexOk : RegexOk) (limit : Nat)
    (c : Ref) (hc : validRef d c = true) (i n : Nat) :
    SameList d cfg regexOk limit true false ⟨c, i, n⟩ F FlatF2 :=
  fun _ _ hp st o _ hb => flat2_same_list wf cfg hns hinj regexOk limit c hc i n hp st o hb

/-- `sum` arguments of the full fragment: flat filtered paths on which the oracle's `sum` speaks
(every selected node is numeric) -/
def FlatSum2 (d : Doc) (ctx : Spec.Ctx) (F : Type) [NumAlg F] (p : Ast) : Prop :=
  FlatF2 p ∧ SumDom d ctx F p

/-! ## the instances of `ArithSem.NumEG` -/

/-- **the full C08 fragment over filtered paths**: `NumEF` with the arguments of `count` and `sum`
ranging over flat paths with `Frag2` predicates -/
abbrev NumEF2 (d : Doc) (ctx : Spec.Ctx) (F : Type) [NumAlg F] : Ast → Prop :=
  NumEG FlatF2 (FlatSum2 d ctx F) (ModDom d ctx F)

/-- the document-independent sub-fragment: literals, `+ - * div`, groups, `floor`, `ceiling`,
`number`, `number('…')`, `string-length('…')`, `count` over flat filtered paths; no `sum`, no `mod` -/
abbrev NumEC2 : Ast → Prop := NumEG FlatF2 (fun _ => False) (fun _ _ => False)

theorem flatSum2_of_flatSum {d : Doc} {ctx : Spec.Ctx} {p : Ast} (h : FlatSum d ctx F p) :
    FlatSum2 d ctx F p := ⟨flatF2_of_flatPath h.1, h.2⟩

theorem numEC2_of_numEC {e : Ast} (h : NumEC e) : NumEC2 e :=
  NumEG.mono (fun _ hp => flatF2_of_flatPath hp) (fun _ hp => hp) (fun _ _ hm => hm) h

theorem NumEC2.numEF2 {d : Doc} {ctx : Spec.Ctx} {e : Ast} (he : NumEC2 e) : NumEF2 d ctx F e :=
  NumEG.mono (fun _ h => h) (fun _ h => h.elim) (fun _ _ h => h.elim) he

/-! ## the main theorems -/

/-- **C08 over filtered counts and sums**: for an arithmetic expression of any depth whose `count`
and `sum` leaves range over flat paths with `Frag2` predicates, the plan the builder makes evaluates
to a number, the oracle evaluates the expression to a number, and it is the same `x : F`.  Standing
assumptions: those of C02 (`WF`, valid context node, `NamespaceURL()` implemented, injective node
keys); builder at `smartDescThroughFilter = false`. -/
theorem C08_main2 {d : Doc} (wf : WF d) (cfg : ECfg) (hns : cfg.nsIface = true)
    (hinj : HashInj d cfg) (regexOk : RegexOk) (limit : Nat)
    (c : Ref) (hc : validRef d c = true) (i n : Nat) {e : Ast} (he : NumEF2 d ⟨c, i, n⟩ F e)
    (fl : Flags) (st : BState) (o : BOut) (hb : build regexOk limit true false e fl st = .ok o) :
    ∃ x : F, evalP (F := F) d cfg o.q c = .ok (.num x) ∧
      Spec.eval (F := F) d e ⟨c, i, n⟩ = .ok (.val (.num x) none) :=
  numEG_sem d cfg regexOk limit true false ⟨c, i, n⟩
    (sameList_flat2 wf cfg hns hinj regexOk limit c hc i n)
    (fun pin p hp => sameList_flat2 wf cfg hns hinj regexOk limit c hc i n pin p hp.1)
    (fun _ hp => hp.2) (fun _ _ h => h) he fl st o hb

/-- **C08 on `NumEC2`** (no oracle-side domain condition at all) -/
theorem numEC2_sem {d : Doc} (wf : WF d) (cfg : ECfg) (hns : cfg.nsIface = true)
    (hinj : HashInj d cfg) (regexOk : RegexOk) (limit : Nat)
    (c : Ref) (hc : validRef d c = true) (i n : Nat) {e : Ast} (he : NumEC2 e)
    (fl : Flags) (st : BState) (o : BOut) (hb : build regexOk limit true false e fl st = .ok o) :
    ∃ x : F, evalP (F := F) d cfg o.q c = .ok (.num x) ∧
      Spec.eval (F := F) d e ⟨c, i, n⟩ = .ok (.val (.num x) none) :=
  C08_main2 wf cfg hns hinj regexOk limit c hc i n he.numEF2 fl st o hb

/-! ## `count(P)` on its own -/

/-- **`count(P)` over a flat filtered path**: both sides give the length of the oracle's node list -/
theorem count_flat2_sem {d : Doc} (wf : WF d) (cfg : ECfg) (hns : cfg.nsIface = true)
    (hinj : HashInj d cfg) (regexOk : RegexOk) (limit : Nat)
    (c : Ref) (hc : validRef d c = true) (i n : Nat) {p : Ast} (hp : FlatF2 p) (pfx : String)
    (fl : Flags) (st : BState) (o : BOut)
    (hb : build regexOk limit true false (.call "count" pfx (.acons p .anil)) fl st = .ok o) :
    ∃ ns g, Spec.eval (F := F) d p ⟨c, i, n⟩ = .ok (.val (.nodes ns) g) ∧
      evalP (F := F) d cfg o.q c = .ok (.num (ofNat ns.length)) ∧
      Spec.eval (F := F) d (.call "count" pfx (.acons p .anil)) ⟨c, i, n⟩ =
        .ok (.val (.num (ofNat ns.length)) none) := by
  obtain ⟨ao, hao, hq, -⟩ := build_call1_ok rfl (by decide) (by decide) (by decide) hb
  obtain ⟨ns, g, h1, h2⟩ :=
    agree_set.1 (flat2_same_list (F := F) wf cfg hns hinj regexOk limit c hc i n hp _ _ hao)
  refine ⟨ns, g, h2, ?_, ?_⟩
  · rw [hq, evalP_func1 d cfg _ _ _ _ (by decide), h1, callFn_count]; rfl
  · rw [eval_call1 d _ _ _ _ _ _ h2, Spec.callFn_count]; rfl

/-! ## Non-vacuity: a parser-shaped member the builder accepts -/
section Examples
private def cA : AxisInfo := ⟨"child", .elem, "", "a", "", false, ""⟩
private def aX : AxisInfo := ⟨"attribute", .attr, "", "x", "", false, ""⟩
private def aY : AxisInfo := ⟨"attribute", .attr, "", "y", "", false, ""⟩
/-- `a[@x < @y]` as the parser produces it -/
private def exP : Ast := .filter (.axis cA .none) (.oper "<" (.axis aX .none) (.axis aY .none))
/-- `count(a[@x < @y]) * 2 + 1` as the parser produces it -/
private def exE : Ast :=
  .oper "+" (.oper "*" (.call "count" "" (.acons exP .anil)) (.num "2")) (.num "1")

private theorem exP_flatF2 : FlatF2 exP :=
  ⟨.filter _ _ (.axis _ _ .none (by decide))
      (.cmpPath _ _ _ (by decide) (.axis _ _ .none (by decide)) (.axis _ _ .none (by decide))),
    .filter _ _ (.axis _ _ (by decide) .none)⟩

example : NumEC2 exE :=
  .arith "+" _ _ (by decide) (.arith "*" _ _ (by decide) (.count "" exP exP_flatF2) (.num _)) (.num _)
example : ∃ o, build (fun _ => true) 100 true false exE {} {} = .ok o :=
  exists_ok_of_isOk (by decide +kernel)
end Examples

end XPathV.ArithSem2
