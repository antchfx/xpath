import XPathV.Lemmas.FullGrammarComplete.Defs
/-!
# Completeness of the reference parser: the loops

The accumulator loops `pPreds`, `pRelLoop`, `pTierLoop`, `pUnionLoop` read an iterative tail completely
and stop at a `rest` that does not continue it; hence the functions that start them (`pRel`, `pFilter`,
`pTier`, `pUnion`) parse the iterative forms.
-/
namespace XPathV.Spec.Full
open XPathV

variable {ns : Option NsMap}

theorem okHead.append {p : ETok → Bool} {tl rest : List ETok} (h₁ : okHead p tl) (h₂ : okHead p rest) :
    okHead p (tl ++ rest) := by
  cases tl with
  | nil => exact h₂
  | cons t r => exact h₁

theorem blkT_upper_rbracket : blkT upperTiers .rbracket = false := by decide
theorem blkT_upper_rparen : blkT upperTiers .rparen = false := by decide
theorem blkT_upper_comma : blkT upperTiers .comma = false := by decide

/-! ### Predicate* -/

theorem pPreds_stop {f : Nat} {acc : Ast} {rest : List ETok} (h : okHead isLb rest) :
    pPreds ns (f + 1) acc rest = some (acc, rest) := by
  cases rest with
  | nil => rfl
  | cons t r =>
    cases t <;> first | rfl | cases h

theorem preds_loop {acc : Ast} {tl : List ETok} {res : Ast} (h : PTail (PExpr ns) acc tl res) :
    ∀ f rest, okHead isLb rest → 16 * tl.length + 1 ≤ f →
      pPreds ns f acc (tl ++ rest) = some (res, rest) := by
  induction h with
  | nil =>
    intro f rest hr hf
    obtain ⟨g, rfl, -⟩ := fuel_succ hf
    exact pPreds_stop hr
  | @cons acc ts c tl res hq _ ih =>
    intro f rest hr hf
    obtain ⟨g, rfl, hg⟩ := fuel_succ hf
    simp only [List.length_cons, List.length_append] at hg
    have e := hq g (.rbracket :: (tl ++ rest)) blkT_upper_rbracket (by omega)
    have e2 := ih g rest hr (by omega)
    simp only [List.cons_append, List.append_assoc, pPreds, e, e2]

/-! ### RelativeLocationPath -/

theorem pRelLoop_stop {f : Nat} {acc : Ast} {rest : List ETok} (h : okHead isRelCont rest) :
    pRelLoop ns (f + 1) acc rest = some (acc, rest) := by
  cases rest with
  | nil => rfl
  | cons t r =>
    cases t <;> first | rfl | cases h

theorem rel_loop {acc : Ast} {tl : List ETok} {res : Ast} (h : RTail (PStep ns) acc tl res) :
    ∀ f rest, okHead isRelCont rest → 16 * tl.length + 1 ≤ f →
      pRelLoop ns f acc (tl ++ rest) = some (res, rest) := by
  induction h with
  | nil =>
    intro f rest hr hf
    obtain ⟨g, rfl, -⟩ := fuel_succ hf
    exact pRelLoop_stop hr
  | @slash acc ts t tl res hs htl ih =>
    intro f rest hr hf
    obtain ⟨g, rfl, hg⟩ := fuel_succ hf
    simp only [List.length_cons, List.length_append] at hg
    have e := hs g (tl ++ rest) (htl.head.append (hr.mono isRelCont_isLb)) (by omega)
    have e2 := ih g rest hr (by omega)
    simp only [List.cons_append, List.append_assoc, pRelLoop, e, e2]
  | @dslash acc ts t tl res hs htl ih =>
    intro f rest hr hf
    obtain ⟨g, rfl, hg⟩ := fuel_succ hf
    simp only [List.length_cons, List.length_append] at hg
    have e := hs g (tl ++ rest) (htl.head.append (hr.mono isRelCont_isLb)) (by omega)
    have e2 := ih g rest hr (by omega)
    simp only [List.cons_append, List.append_assoc, pRelLoop, e, e2]

theorem rel_of_spine {inp : Ast} {ts : List ETok} {a : Ast} (h : RSpine (PStep ns) inp ts a) :
    PRel ns inp ts a := by
  obtain ⟨ts0, t0, tl, rfl, hs, htl⟩ := h
  intro f rest hr hf
  obtain ⟨g, rfl, hg⟩ := fuel_succ hf
  simp only [List.length_append] at hg
  have e := hs g (tl ++ rest) (htl.head.append (hr.mono isRelCont_isLb)) (by omega)
  have e2 := rel_loop htl g rest hr (by omega)
  simp only [List.append_assoc, pRel, e, e2]

/-! ### FilterExpr -/

theorem filter_of_spine {ts : List ETok} {a : Ast} (h : FSpine ns ts a) : PFilter ns ts a := by
  obtain ⟨ts0, x, tl, rfl, hp, htl⟩ := h
  intro f rest hr hf
  obtain ⟨g, rfl, hg⟩ := fuel_succ hf
  simp only [List.length_append] at hg
  have e := hp g (tl ++ rest) (by omega)
  have e2 := preds_loop htl g rest hr (by omega)
  simp only [List.append_assoc, pFilter, e, e2]

/-! ### an operator loop in general: `(op operand)*` folded to the left

`loop` reads the tail onto an accumulator and `top` reads the first operand and enters the loop; the
two are known only through the equations `hstop`, `hstep`, `htop`.  `stop` are the tokens that may not
follow the whole, `next` those that may not follow an operand; an operand needs `16·|ts| + k` units of
fuel, the loop `j + 1` beyond the tail, the whole `b + 1`.  The instances are `pTierLoop`/`pTier` and
`pUnionLoop`/`pUnion`. -/
section OpLoop
variable {operand : Nat → List ETok → PR} {loop : Nat → Ast → List ETok → PR}
  {ops : List (ETok × String)} {stop next : ETok → Bool} {k j : Nat}

/-- the parse statement of an operand -/
abbrev POp (operand : Nat → List ETok → PR) (next : ETok → Bool) (k : Nat) (ts : List ETok) (r : Ast) :
    Prop :=
  ∀ f rest, okHead next rest → 16 * ts.length + k ≤ f → operand f (ts ++ rest) = some (r, rest)

/-- what follows an operand inside the whole, an operator of the tier or the end, does not continue it -/
theorem TTail.okHead_append {P acc tl b} (h : TTail P ops acc tl b)
    (hsep : ∀ tok op, (tok, op) ∈ ops → next tok = false) (hmono : ∀ t, stop t = false → next t = false)
    {rest : List ETok} (hr : okHead stop rest) : okHead next (tl ++ rest) := by
  rcases h.head with rfl | ⟨tok, op, r, hm, rfl⟩
  · exact hr.mono hmono
  · exact hsep tok op hm

theorem op_loop (hstop : ∀ f acc rest, okHead stop rest → loop (f + 1) acc rest = some (acc, rest))
    (hstep : ∀ f acc tok op rest r rest', (tok, op) ∈ ops → operand f rest = some (r, rest') →
      loop (f + 1) acc (tok :: rest) = loop f (.oper op acc r) rest')
    (hsep : ∀ tok op, (tok, op) ∈ ops → next tok = false) (hmono : ∀ t, stop t = false → next t = false)
    (hk : k ≤ j + 16) {acc : Ast} {tl : List ETok} {res : Ast}
    (h : TTail (POp operand next k) ops acc tl res) :
    ∀ f rest, okHead stop rest → 16 * tl.length + j + 1 ≤ f → loop f acc (tl ++ rest) = some (res, rest) := by
  induction h with
  | nil =>
    intro f rest hr hf
    obtain ⟨g, rfl, -⟩ := fuel_succ hf
    exact hstop g _ rest hr
  | @cons acc tok op ts r tl res hm hp htl ih =>
    intro f rest hr hf
    obtain ⟨g, rfl, hg⟩ := fuel_succ hf
    simp only [List.length_cons, List.length_append] at hg
    rw [List.cons_append, List.append_assoc,
      hstep g acc tok op _ r _ hm (hp g (tl ++ rest) (htl.okHead_append hsep hmono hr) (by omega))]
    exact ih g rest hr (by omega)

theorem op_spine {top : Nat → List ETok → PR} {b : Nat}
    (htop : ∀ f toks l rest, operand f toks = some (l, rest) → top (f + 1) toks = loop f l rest)
    (hstop : ∀ f acc rest, okHead stop rest → loop (f + 1) acc rest = some (acc, rest))
    (hstep : ∀ f acc tok op rest r rest', (tok, op) ∈ ops → operand f rest = some (r, rest') →
      loop (f + 1) acc (tok :: rest) = loop f (.oper op acc r) rest')
    (hsep : ∀ tok op, (tok, op) ∈ ops → next tok = false) (hmono : ∀ t, stop t = false → next t = false)
    (hk : k ≤ j + 16) (hkb : k ≤ b) (hjb : j + 1 ≤ b) {ts : List ETok} {a : Ast}
    (h : TSpine (POp operand next k) ops ts a) :
    ∀ f rest, okHead stop rest → 16 * ts.length + (b + 1) ≤ f → top f (ts ++ rest) = some (a, rest) := by
  obtain ⟨ts0, l0, tl, rfl, hp, htl⟩ := h
  intro f rest hr hf
  obtain ⟨g, rfl, hg⟩ := fuel_succ hf
  simp only [List.length_append] at hg
  rw [List.append_assoc, htop g _ l0 _ (hp g (tl ++ rest) (htl.okHead_append hsep hmono hr) (by omega))]
  exact op_loop hstop hstep hsep hmono hk htl g rest hr (by omega)

end OpLoop

/-! ### the binary tiers -/

theorem pTierLoop_stop {f : Nat} {ops more} {acc : Ast} {rest : List ETok}
    (h : okHead (blkT (ops :: more)) rest) : pTierLoop ns (f + 1) ops more acc rest = some (acc, rest) := by
  cases rest with
  | nil => simp [pTierLoop]
  | cons t r => simp [pTierLoop, (blkT_cons t h).1]

theorem tier_of_spine {ops : List (ETok × String)} {more : List (List (ETok × String))} {k : Nat}
    (huniq : ∀ tok op, (tok, op) ∈ ops → ops.lookup tok = some op)
    (hsep : ∀ tok op, (tok, op) ∈ ops → blkT more tok = false)
    {ts : List ETok} {a : Ast} (h : TSpine (PTier ns more k) ops ts a) :
    PTier ns (ops :: more) (k + 2) ts a :=
  op_spine (operand := fun f => pTier ns f more) (loop := fun f => pTierLoop ns f ops more)
    (top := fun f => pTier ns f (ops :: more)) (j := k)
    (fun f toks l rest e => by simp only [pTier, e])
    (fun _ _ _ => pTierLoop_stop)
    (fun f acc tok op rest r rest' hm e => by simp only [pTierLoop, huniq tok op hm, e])
    hsep (fun t ht => (blkT_cons t ht).2) (by omega) (by omega) (by omega) h

/-! ### UnionExpr -/

theorem pUnionLoop_stop {f : Nat} {acc : Ast} {rest : List ETok} (h : okHead blkU rest) :
    pUnionLoop ns (f + 1) acc rest = some (acc, rest) := by
  cases rest with
  | nil => rfl
  | cons t r =>
    cases t <;> first | rfl | cases h

theorem union_of_spine {ts : List ETok} {a : Ast} (h : TSpine (PPath ns) [(.union, "|")] ts a) :
    PUnion ns ts a :=
  op_spine (operand := pPath ns) (loop := pUnionLoop ns) (top := pUnion ns) (j := 0) (b := 4)
    (fun f toks l rest e => by simp only [pUnion, e])
    (fun _ _ _ => pUnionLoop_stop)
    (fun f acc tok op rest r rest' hm e => by
      obtain ⟨rfl, rfl⟩ := Prod.mk.inj (List.mem_singleton.1 hm)
      simp only [pUnionLoop, e])
    (fun tok op hm => by
      obtain ⟨rfl, rfl⟩ := Prod.mk.inj (List.mem_singleton.1 hm)
      rfl)
    blkU_blkPath (by omega) (by omega) (by omega) h

end XPathV.Spec.Full
