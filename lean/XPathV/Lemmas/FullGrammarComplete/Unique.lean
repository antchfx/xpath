import XPathV.Lemmas.FullGrammarComplete.Main
/-!
# Every non-terminal of the full grammar is unambiguous

`D_unique : D ns X ts a → D ns X ts b → a = b` for every non-terminal `X` (on ExprToken lists): each
parse statement determines the tree, since it says what a function returns.
-/
namespace XPathV.Spec.Full
open XPathV

variable {ns : Option NsMap}

theorem some_pair_inj {a b : Ast} {r : List ETok} (h : (some (a, r) : PR) = some (b, r)) : a = b := by
  simpa using h

theorem PPath.unique {ts a b} (ha : PPath ns ts a) (hb : PPath ns ts b) : a = b :=
  some_pair_inj ((ha _ [] trivial (Nat.le_refl _)).symm.trans (hb _ [] trivial (Nat.le_refl _)))

theorem PRel.unique {inp ts a b} (ha : PRel ns inp ts a) (hb : PRel ns inp ts b) : a = b :=
  some_pair_inj ((ha _ [] trivial (Nat.le_refl _)).symm.trans (hb _ [] trivial (Nat.le_refl _)))

theorem PStep.unique {inp ts a b} (ha : PStep ns inp ts a) (hb : PStep ns inp ts b) : a = b :=
  some_pair_inj ((ha _ [] trivial (Nat.le_refl _)).symm.trans (hb _ [] trivial (Nat.le_refl _)))

theorem PPrim.unique {ts a b} (ha : PPrim ns ts a) (hb : PPrim ns ts b) : a = b :=
  some_pair_inj ((ha _ [] (Nat.le_refl _)).symm.trans (hb _ [] (Nat.le_refl _)))

theorem PFilter.unique {ts a b} (ha : PFilter ns ts a) (hb : PFilter ns ts b) : a = b :=
  some_pair_inj ((ha _ [] trivial (Nat.le_refl _)).symm.trans (hb _ [] trivial (Nat.le_refl _)))

theorem PUnion.unique {ts a b} (ha : PUnion ns ts a) (hb : PUnion ns ts b) : a = b :=
  some_pair_inj ((ha _ [] trivial (Nat.le_refl _)).symm.trans (hb _ [] trivial (Nat.le_refl _)))

theorem PTier.unique {tiers k ts a b} (ha : PTier ns tiers k ts a) (hb : PTier ns tiers k ts b) :
    a = b :=
  some_pair_inj ((ha _ [] trivial (Nat.le_refl _)).symm.trans (hb _ [] trivial (Nat.le_refl _)))

theorem PArgs.unique {ts a b} (ha : PArgs ns ts a) (hb : PArgs ns ts b) : a = b :=
  some_pair_inj ((ha _ [] (Nat.le_refl _)).symm.trans (hb _ [] (Nat.le_refl _)))

theorem PTail.unique {acc ts a b} (ha : PTail (PExpr ns) acc ts a) (hb : PTail (PExpr ns) acc ts b) :
    a = b :=
  some_pair_inj ((preds_loop ha _ [] trivial (Nat.le_refl _)).symm.trans
    (preds_loop hb _ [] trivial (Nat.le_refl _)))

theorem negEnc_inj {n : Nat} {a b : Ast} (h : negEnc n a = negEnc n b) : a = b := by
  unfold negEnc at h
  split at h
  · exact h
  · split at h <;> simpa using h

theorem PUnaryRun.unique {n ts a b} (ha : PUnaryRun ns n ts a) (hb : PUnaryRun ns n ts b) : a = b := by
  have h := (ha _ 0 [] trivial (Nat.le_refl _)).symm.trans (hb _ 0 [] trivial (Nat.le_refl _))
  simp only [Option.some.injEq, Prod.mk.injEq, and_true] at h
  exact negEnc_inj h

/-- the motive of each non-terminal determines the tree -/
theorem M.unique {X : NT} {ts : List ETok} {a b : Ast} (ha : M ns X ts a) (hb : M ns X ts b) :
    a = b := by
  cases X with
  | LocationPath | AbsoluteLocationPath | AbbreviatedAbsoluteLocationPath | PathExpr =>
    exact PPath.unique ha hb
  | RelativeLocationPath inp | AbbreviatedRelativeLocationPath inp =>
    exact PRel.unique (rel_of_spine ha) (rel_of_spine hb)
  | Step inp | AbbreviatedStep inp => exact PStep.unique ha hb
  | Predicates inp => exact PTail.unique ha hb
  | Predicate =>
    obtain ⟨ta, rfl, ha⟩ := ha
    obtain ⟨tb, e, hb⟩ := hb
    have : ta = tb := by simpa using e
    subst this
    exact PTier.unique ha hb
  | PredicateExpr | Expr | Argument => exact PTier.unique ha hb
  | PrimaryExpr | FunctionCall => exact PPrim.unique ha hb
  | Arguments => exact PArgs.unique ha hb
  | FilterExpr => exact PFilter.unique (filter_of_spine ha) (filter_of_spine hb)
  | UnionExpr => exact PUnion.unique (union_of_spine ha) (union_of_spine hb)
  | OrExpr => exact PTier.unique (or_of_M ha) (or_of_M hb)
  | AndExpr => exact PTier.unique (and_of_M ha) (and_of_M hb)
  | EqualityExpr => exact PTier.unique (eq_of_M ha) (eq_of_M hb)
  | RelationalExpr => exact PTier.unique (rel_of_M ha) (rel_of_M hb)
  | AdditiveExpr => exact PTier.unique (add_of_M ha) (add_of_M hb)
  | MultiplicativeExpr => exact PTier.unique (mul_of_M ha) (mul_of_M hb)
  | UnaryExpr => exact PTier.unique ha hb
  | UnaryRun n => exact PUnaryRun.unique ha hb

/-- **Every non-terminal of the full XPath 1.0 grammar is unambiguous** on ExprToken lists: the tree
(for the location-path non-terminals: given the inherited tree) is a function of the tokens. -/
theorem D_unique {X : NT} {ts : List ETok} {a b : Ast} (ha : D ns X ts a) (hb : D ns X ts b) :
    a = b :=
  M.unique (D.complete ha) (D.complete hb)

theorem Derives_unique {X : NT} {toks : List TokV} {a b : Ast} (ha : Derives ns X toks a)
    (hb : Derives ns X toks b) : a = b :=
  D_unique ha hb

end XPathV.Spec.Full
