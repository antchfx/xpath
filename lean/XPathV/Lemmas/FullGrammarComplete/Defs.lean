import XPathV.Lemmas.FullGrammarComplete.First
/-!
# Completeness of the reference parser: statements

For each function `pX` of the reference parser, `PX ns … ts a` says: on `ts ++ rest`, with any `rest`
that does not continue the construct (a Follow condition on the first token of `rest`) and any fuel
`f ≥ 16·|ts| + k`, the function returns `(a, rest)`.

The left-recursive productions are put in iterative form (`TTail`, `RTail`, `PTail`): a first operand
and a list of (operator, operand) pairs, each operand carrying the parse statement of the next level.
-/
set_option linter.unusedSimpArgs false
namespace XPathV.Spec.Full
open XPathV

/-- the first token of `rest`, if any, does not satisfy `p` -/
def okHead (p : ETok → Bool) : List ETok → Prop
  | [] => True
  | t :: _ => p t = false

theorem okHead.mono {p q : ETok → Bool} {rest : List ETok} (hqp : ∀ t, p t = false → q t = false)
    (h : okHead p rest) : okHead q rest := by
  cases rest with
  | nil => trivial
  | cons t r => exact hqp t h

/-- a call that needs `k + 1` units of fuel beyond `a` spends one and leaves `k` -/
theorem fuel_succ {a k f : Nat} (h : a + (k + 1) ≤ f) : ∃ g, f = g + 1 ∧ a + k ≤ g :=
  ⟨f - 1, by omega, by omega⟩

/-- tokens that continue a RelativeLocationPath or a Step's predicates -/
def isRelCont : ETok → Bool
  | .slash | .slashslash | .lbracket => true
  | _ => false

/-- tokens that may not follow a PathExpr: they would continue it -/
def blkPath : ETok → Bool
  | .slash | .slashslash | .lbracket => true
  | t => stepStart t

/-- tokens that may not follow a UnionExpr -/
def blkU : ETok → Bool
  | .union => true
  | t => blkPath t

/-- tokens that may not follow the non-terminal parsed by `pTier … tiers` -/
def blkT (tiers : List (List (ETok × String))) (t : ETok) : Bool :=
  blkU t || tiers.any (fun ops => (ops.lookup t).isSome)

theorem blkPath_isRelCont (t : ETok) (h : blkPath t = false) : isRelCont t = false := by
  cases t <;> first | rfl | (simp [blkPath, blkU, stepStart, isRelCont] at h)

theorem blkPath_isLb (t : ETok) (h : blkPath t = false) : isLb t = false := by
  cases t <;> first | rfl | (simp [blkPath, blkU, stepStart, isRelCont] at h)

theorem isRelCont_isLb (t : ETok) (h : isRelCont t = false) : isLb t = false := by
  cases t <;> first | rfl | (simp [blkPath, blkU, stepStart, isRelCont] at h)

theorem blkPath_stepStart (t : ETok) (h : blkPath t = false) : stepStart t = false := by
  cases t <;> first | rfl | (simp [blkPath, blkU, stepStart, isRelCont] at h)

theorem blkU_blkPath (t : ETok) (h : blkU t = false) : blkPath t = false := by
  cases t <;> first | rfl | exact h | (simp [blkPath, blkU, stepStart, isRelCont] at h)

theorem blkT_blkU {tiers} (t : ETok) (h : blkT tiers t = false) : blkU t = false := by
  simp only [blkT, Bool.or_eq_false_iff] at h
  exact h.1

theorem blkT_nil (t : ETok) (h : blkU t = false) : blkT [] t = false := by
  simp [blkT, h]

theorem blkT_cons {ops more} (t : ETok) (h : blkT (ops :: more) t = false) :
    ops.lookup t = none ∧ blkT more t = false := by
  simp only [blkT, List.any_cons, Bool.or_eq_false_iff] at h
  refine ⟨?_, ?_⟩
  · have := h.2.1
    cases hl : ops.lookup t <;> simp_all
  · simp only [blkT, Bool.or_eq_false_iff]
    exact ⟨h.1, h.2.2⟩

variable (ns : Option NsMap)

/-! ### parse statements -/

def PStep (inp : Ast) (ts : List ETok) (t : Ast) : Prop :=
  ∀ f rest, okHead isLb rest → 16 * ts.length + 2 ≤ f → pStep ns f inp (ts ++ rest) = some (t, rest)

def PRel (inp : Ast) (ts : List ETok) (t : Ast) : Prop :=
  ∀ f rest, okHead isRelCont rest → 16 * ts.length + 3 ≤ f →
    pRel ns f inp (ts ++ rest) = some (t, rest)

def PPrim (ts : List ETok) (t : Ast) : Prop :=
  ∀ f rest, 16 * ts.length + 1 ≤ f → pPrimary ns f (ts ++ rest) = some (t, rest)

def PFilter (ts : List ETok) (t : Ast) : Prop :=
  ∀ f rest, okHead isLb rest → 16 * ts.length + 2 ≤ f → pFilter ns f (ts ++ rest) = some (t, rest)

def PPath (ts : List ETok) (t : Ast) : Prop :=
  ∀ f rest, okHead blkPath rest → 16 * ts.length + 4 ≤ f → pPath ns f (ts ++ rest) = some (t, rest)

def PUnion (ts : List ETok) (t : Ast) : Prop :=
  ∀ f rest, okHead blkU rest → 16 * ts.length + 5 ≤ f → pUnion ns f (ts ++ rest) = some (t, rest)

def PUnaryRun (n : Nat) (ts : List ETok) (x : Ast) : Prop :=
  ∀ f m rest, okHead blkU rest → 16 * ts.length + 6 ≤ f →
    pUnary ns f m (ts ++ rest) = some (negEnc (m + n) x, rest)

def PTier (tiers : List (List (ETok × String))) (k : Nat) (ts : List ETok) (a : Ast) : Prop :=
  ∀ f rest, okHead (blkT tiers) rest → 16 * ts.length + k ≤ f →
    pTier ns f tiers (ts ++ rest) = some (a, rest)

/-- Expr [14] -/
def PExpr (ts : List ETok) (a : Ast) : Prop := PTier ns upperTiers 19 ts a

def PArgs (ts : List ETok) (as : Ast) : Prop :=
  ∀ f rest, 16 * ts.length + 20 ≤ f → pArgs ns f (ts ++ .rparen :: rest) = some (as, rest)

/-! ### iterative forms of the left-recursive productions -/

/-- `(op operand)*` folded to the left onto `acc` -/
inductive TTail (P : List ETok → Ast → Prop) (ops : List (ETok × String)) :
    Ast → List ETok → Ast → Prop
  | nil {acc} : TTail P ops acc [] acc
  | cons {acc tok op ts r tl res} : (tok, op) ∈ ops → P ts r → TTail P ops (.oper op acc r) tl res →
      TTail P ops acc (tok :: (ts ++ tl)) res

def TSpine (P : List ETok → Ast → Prop) (ops : List (ETok × String)) (ts : List ETok) (a : Ast) :
    Prop :=
  ∃ ts0 l0 tl, ts = ts0 ++ tl ∧ P ts0 l0 ∧ TTail P ops l0 tl a

theorem TTail.snoc {P ops acc tl b tok op ts r} (h : TTail P ops acc tl b) (hm : (tok, op) ∈ ops)
    (hp : P ts r) : TTail P ops acc (tl ++ tok :: ts) (.oper op b r) := by
  induction h with
  | nil => simpa using TTail.cons hm hp .nil
  | cons hm' hp' _ ih => simpa [List.append_assoc] using TTail.cons hm' hp' ih

theorem TTail.head {P ops acc tl b} (h : TTail P ops acc tl b) :
    tl = [] ∨ ∃ tok op r, (tok, op) ∈ ops ∧ tl = tok :: r := by
  cases h with
  | nil => exact .inl rfl
  | cons hm _ _ => exact .inr ⟨_, _, _, hm, rfl⟩

/-- `('/' Step | '//' Step)*` threaded through the inherited tree -/
inductive RTail (S : Ast → List ETok → Ast → Prop) : Ast → List ETok → Ast → Prop
  | nil {acc} : RTail S acc [] acc
  | slash {acc ts t tl res} : S acc ts t → RTail S t tl res → RTail S acc (.slash :: (ts ++ tl)) res
  | dslash {acc ts t tl res} : S (dos acc) ts t → RTail S t tl res →
      RTail S acc (.slashslash :: (ts ++ tl)) res

def RSpine (S : Ast → List ETok → Ast → Prop) (inp : Ast) (ts : List ETok) (a : Ast) : Prop :=
  ∃ ts0 t0 tl, ts = ts0 ++ tl ∧ S inp ts0 t0 ∧ RTail S t0 tl a

theorem RTail.snoc_slash {S acc tl b ts t} (h : RTail S acc tl b) (hs : S b ts t) :
    RTail S acc (tl ++ .slash :: ts) t := by
  induction h with
  | nil => simpa using RTail.slash hs .nil
  | slash hs' _ ih => simpa [List.append_assoc] using RTail.slash hs' (ih hs)
  | dslash hs' _ ih => simpa [List.append_assoc] using RTail.dslash hs' (ih hs)

theorem RTail.snoc_dslash {S acc tl b ts t} (h : RTail S acc tl b) (hs : S (dos b) ts t) :
    RTail S acc (tl ++ .slashslash :: ts) t := by
  induction h with
  | nil => simpa using RTail.dslash hs .nil
  | slash hs' _ ih => simpa [List.append_assoc] using RTail.slash hs' (ih hs)
  | dslash hs' _ ih => simpa [List.append_assoc] using RTail.dslash hs' (ih hs)

theorem RTail.head {S acc tl b} (h : RTail S acc tl b) : okHead isLb tl := by
  cases h <;> first | trivial | rfl

/-- `('[' Expr ']')*` folded onto `acc` -/
inductive PTail (Q : List ETok → Ast → Prop) : Ast → List ETok → Ast → Prop
  | nil {acc} : PTail Q acc [] acc
  | cons {acc ts c tl res} : Q ts c → PTail Q (.filter acc c) tl res →
      PTail Q acc (.lbracket :: (ts ++ .rbracket :: tl)) res

theorem PTail.snoc {Q acc tl b ts c} (h : PTail Q acc tl b) (hq : Q ts c) :
    PTail Q acc (tl ++ .lbracket :: (ts ++ [.rbracket])) (.filter b c) := by
  induction h with
  | nil => simpa using PTail.cons hq .nil
  | cons hq' _ ih => simpa [List.append_assoc] using PTail.cons hq' ih

/-- FilterExpr [20] in iterative form -/
def FSpine (ts : List ETok) (a : Ast) : Prop :=
  ∃ ts0 x tl, ts = ts0 ++ tl ∧ PPrim ns ts0 x ∧ PTail (PExpr ns) x tl a

/-! ### the tiers -/

/-- the tiers `pTier` is called with for each of the non-terminals [21]–[27] -/
def tiersOf : NT → List (List (ETok × String))
  | .OrExpr => upperTiers
  | .AndExpr => upperTiers.drop 1
  | .EqualityExpr => upperTiers.drop 2
  | .RelationalExpr => upperTiers.drop 3
  | .AdditiveExpr => upperTiers.drop 4
  | .MultiplicativeExpr => upperTiers.drop 5
  | _ => []

def kOf : NT → Nat
  | .OrExpr => 19
  | .AndExpr => 17
  | .EqualityExpr => 15
  | .RelationalExpr => 13
  | .AdditiveExpr => 11
  | .MultiplicativeExpr => 9
  | _ => 7

/-- the parse statement of an operand level: `pPath` for PathExpr, `pTier` for [21]–[27] -/
def POperand : NT → List ETok → Ast → Prop
  | .PathExpr => PPath ns
  | X => PTier ns (tiersOf X) (kOf X)

/-- the induction motive: what the derivation of each non-terminal gives -/
def M (X : NT) (ts : List ETok) (a : Ast) : Prop :=
  match X.binary with
  | some (Y, ops) => TSpine (POperand ns Y) ops ts a
  | none =>
    match X with
    | .LocationPath | .AbsoluteLocationPath | .AbbreviatedAbsoluteLocationPath | .PathExpr =>
      PPath ns ts a
    | .RelativeLocationPath inp | .AbbreviatedRelativeLocationPath inp => RSpine (PStep ns) inp ts a
    | .Step inp | .AbbreviatedStep inp => PStep ns inp ts a
    | .Predicates inp => PTail (PExpr ns) inp ts a
    | .Predicate => ∃ ts', ts = .lbracket :: (ts' ++ [.rbracket]) ∧ PExpr ns ts' a
    | .PredicateExpr | .Expr | .Argument => PExpr ns ts a
    | .PrimaryExpr | .FunctionCall => PPrim ns ts a
    | .Arguments => PArgs ns ts a
    | .FilterExpr => FSpine ns ts a
    | .UnaryExpr => PTier ns [] 7 ts a
    | .UnaryRun n => PUnaryRun ns n ts a
    | _ => True

end XPathV.Spec.Full
