import XPathV.Spec.FullGrammar
/-!
# First sets of the full XPath 1.0 grammar

`D ns X ts a → First X ts`: the first token of whatever a non-terminal derives lies in a fixed set
(`Predicate*` may be empty and is exempt).  These facts are what lets the reference parser choose a
production by looking at one token.
-/
namespace XPathV.Spec.Full
open XPathV

/-- the tokens a Step can begin with (cf. `startsStep`) -/
def stepStart : ETok → Bool
  | .axisName _ | .at | .wild | .nsWild _ | .qname _ _ | .nodeType _ | .dot | .dotdot => true
  | _ => false

/-- the tokens a PrimaryExpr can begin with (cf. `startsPrimary`) -/
def primStart : ETok → Bool
  | .varRef _ _ | .lparen | .literal _ | .number _ | .funcName _ _ => true
  | _ => false

def isSl : ETok → Bool
  | .slash | .slashslash => true
  | _ => false

def isLb : ETok → Bool
  | .lbracket => true
  | _ => false

/-- the tokens a PathExpr can begin with -/
def pathStart (t : ETok) : Bool := stepStart t || primStart t || isSl t

/-- the tokens an Expr can begin with -/
def exprStart : ETok → Bool
  | .minus => true
  | t => pathStart t

theorem startsStep_cons (t : ETok) (r : List ETok) : startsStep (t :: r) = stepStart t := by
  cases t <;> rfl

theorem startsPrimary_cons (t : ETok) (r : List ETok) : startsPrimary (t :: r) = primStart t := by
  cases t <;> rfl

/-- `ts` is not empty and its first token satisfies `p` -/
def SW (p : ETok → Bool) : List ETok → Prop
  | [] => False
  | t :: _ => p t = true

theorem SW.append {p : ETok → Bool} {ts : List ETok} (h : SW p ts) (ts' : List ETok) :
    SW p (ts ++ ts') := by
  cases ts with
  | nil => exact h.elim
  | cons t r => exact h

theorem SW.mono {p q : ETok → Bool} {ts : List ETok} (hpq : ∀ t, p t = true → q t = true)
    (h : SW p ts) : SW q ts := by
  cases ts with
  | nil => exact h.elim
  | cons t r => exact hpq t h

theorem SW.ne_nil {p : ETok → Bool} {ts : List ETok} (h : SW p ts) : ts ≠ [] := by
  cases ts with
  | nil => exact h.elim
  | cons t r => simp

theorem SW.exists {p : ETok → Bool} {ts : List ETok} (h : SW p ts) :
    ∃ t r, ts = t :: r ∧ p t = true := by
  cases ts with
  | nil => exact h.elim
  | cons t r => exact ⟨t, r, rfl, h⟩

/-- the First set of each non-terminal.  It has no unfolding lemmas: for a concrete non-terminal `First X ts`
reduces to `SW p ts` with `p` the entry of `fstP`, and the users write `show SW stepStart ts from hd.first`. -/
def fstP : NT → ETok → Bool
  | .LocationPath => fun t => stepStart t || isSl t
  | .AbsoluteLocationPath | .AbbreviatedAbsoluteLocationPath => isSl
  | .RelativeLocationPath _ | .Step _ | .AbbreviatedRelativeLocationPath _ | .AbbreviatedStep _ =>
    stepStart
  | .Predicates _ => fun _ => true
  | .Predicate => isLb
  | .PrimaryExpr | .FunctionCall | .FilterExpr => primStart
  | .PathExpr | .UnionExpr => pathStart
  | _ => exprStart

def First : NT → List ETok → Prop
  | .Predicates _, _ => True
  | X, ts => SW (fstP X) ts

theorem pathStart_exprStart (t : ETok) (h : pathStart t = true) : exprStart t = true := by
  cases t <;> first | rfl | exact h

theorem stepStart_pathStart (t : ETok) (h : stepStart t = true) : pathStart t = true := by
  simp [pathStart, h]

theorem primStart_pathStart (t : ETok) (h : primStart t = true) : pathStart t = true := by
  simp [pathStart, h]

theorem isSl_pathStart (t : ETok) (h : isSl t = true) : pathStart t = true := by
  simp [pathStart, h]

theorem axisSpec_nodeTest_first {ns : Option NsMap} {ts₁ ts₂ : List ETok} {ax : String}
    {info : AxisInfo} (h₁ : AxisSpecifierD ts₁ ax) (h₂ : NodeTestD ns ax ts₂ info) :
    SW stepStart (ts₁ ++ ts₂) := by
  cases h₁ with
  | named _ => rfl
  | «abbrev» h =>
    cases h with
    | «attribute» => rfl
    | child => cases h₂ <;> rfl

theorem D.first {ns : Option NsMap} {X : NT} {ts : List ETok} {a : Ast} (h : D ns X ts a) :
    First X ts := by
  induction h with
  | abs_abbrev _ ih | rel_step _ ih | rel_abbrev _ ih | step_abbrev _ ih | predicateExpr _ ih | expr _ ih
  | prim_call _ ih | args_one _ ih | argument _ ih | filter_prim _ ih | unary _ ih => exact ih
  | abs_root | abs_rel _ _ | predicate _ _ | abbrevAbs _ _ | dot | dotdot | prim_var | prim_group _ _
  | prim_literal | prim_number | call_nil | call_args _ _ | unary_minus _ _ => exact rfl
  | preds_nil | preds_snoc _ _ _ _ => trivial
  | loc_rel _ ih => exact SW.mono (q := fstP .LocationPath) (fun t h => by simp [fstP, show stepStart t = true from h]) ih
  | loc_abs _ ih => exact SW.mono (q := fstP .LocationPath) (fun t h => by simp [fstP, show isSl t = true from h]) ih
  | rel_slash _ _ ih₁ _ =>
    show SW stepStart _
    exact (SW.append (show SW stepStart _ from ih₁) _).append _
  | step h₁ h₂ _ _ =>
    show SW stepStart _
    exact (axisSpec_nodeTest_first h₁ h₂).append _
  | abbrevRel _ _ ih₁ _ =>
    show SW stepStart _
    exact (SW.append (show SW stepStart _ from ih₁) _).append _
  | args_cons _ _ ih₁ _ =>
    show SW exprStart _
    exact (SW.append (show SW exprStart _ from ih₁) _).append _
  | path_loc _ ih =>
    refine SW.mono (q := pathStart) (fun t h => ?_) (show SW (fstP .LocationPath) _ from ih)
    have h' : (stepStart t || isSl t) = true := h
    simp only [Bool.or_eq_true] at h'
    rcases h' with h' | h'
    · exact stepStart_pathStart t h'
    · exact isSl_pathStart t h'
  | path_filter _ ih => exact SW.mono (q := pathStart) primStart_pathStart (show SW primStart _ from ih)
  | path_slash _ _ ih₁ _ =>
    show SW pathStart _
    exact ((SW.mono primStart_pathStart (show SW primStart _ from ih₁)).append _).append _
  | path_slashslash _ _ ih₁ _ =>
    show SW pathStart _
    exact ((SW.mono primStart_pathStart (show SW primStart _ from ih₁)).append _).append _
  | filter_pred _ _ ih₁ _ =>
    show SW primStart _
    exact SW.append (show SW primStart _ from ih₁) _
  | @up X Y ops ts t hb _ ih =>
    cases X <;> cases hb
    all_goals first
      | exact ih
      | exact SW.mono (q := exprStart) pathStart_exprStart (show SW pathStart _ from ih)
  | @bin X Y ops tok op ts₁ ts₂ l r hb _ _ _ ih₁ _ =>
    cases X <;> cases hb
    all_goals first
      | exact (SW.append (show SW exprStart _ from ih₁) _).append _
      | exact (SW.append (show SW pathStart _ from ih₁) _).append _
  | unary_union _ ih => exact SW.mono (q := exprStart) pathStart_exprStart (show SW pathStart _ from ih)

end XPathV.Spec.Full
