import XPathV.Lemmas.FullGrammarComplete.Loops
/-!
# Completeness of the reference parser: the one-token decisions

How each parser function branches on the first token(s), given the First-set facts.
-/
namespace XPathV.Spec.Full
open XPathV

variable {ns : Option NsMap}

/-- [7], [37]: `pNodeTest` reads a node test -/
theorem pNodeTest_complete {ax : String} {ts : List ETok} {info : AxisInfo} (h : NodeTestD ns ax ts info)
    (r : List ETok) : pNodeTest ns ax (ts ++ r) = some (info, r) := by
  cases h with
  | wild => rfl
  | nsWild hr => simp only [List.cons_append, List.nil_append, pNodeTest, hr]
  | qname hr => simp only [List.cons_append, List.nil_append, pNodeTest, hr]
  | nodeType hn => simp [pNodeTest, hn]
  | pi => simp [pNodeTest]

/-- [5], [13]: `pAxisSpec` reads an axis specifier; the empty one when a node test follows -/
theorem pAxisSpec_complete {ts₁ ts₂ : List ETok} {ax : String} {info : AxisInfo}
    (h₁ : AxisSpecifierD ts₁ ax) (h₂ : NodeTestD ns ax ts₂ info) (r : List ETok) :
    pAxisSpec (ts₁ ++ (ts₂ ++ r)) = some (ax, ts₂ ++ r) := by
  cases h₁ with
  | named hs => simp [pAxisSpec, hs]
  | «abbrev» h =>
    cases h with
    | «attribute» => rfl
    | child => cases h₂ <;> rfl

/-- [4]: after the axis specifier and the node test, the predicates -/
theorem pStep_axis {ts₁ ts₂ : List ETok} {ax : String} {info : AxisInfo}
    (h₁ : AxisSpecifierD ts₁ ax) (h₂ : NodeTestD ns ax ts₂ info) (g : Nat) (inp : Ast) (r : List ETok) :
    pStep ns (g + 1) inp (ts₁ ++ ts₂ ++ r) = pPreds ns g (.axis info inp) r := by
  have e1 := pAxisSpec_complete h₁ h₂ r
  have e2 := pNodeTest_complete h₂ r
  rw [List.append_assoc]
  -- the cases show the first token, which is neither `.` nor `..`
  cases h₁ with
  | named hs => simp only [List.cons_append, List.nil_append] at e1 ⊢; simp only [pStep, e1, e2]
  | «abbrev» h =>
    cases h with
    | «attribute» => simp only [List.cons_append, List.nil_append] at e1 ⊢; simp only [pStep, e1, e2]
    | child =>
      cases h₂ <;> (simp only [List.cons_append, List.nil_append] at e1 e2 ⊢; simp only [pStep, e1, e2])
/-- [19]: a token that starts a step sends `pPath` to `pRel` over `.none` -/
theorem pPath_step {t0 : ETok} (h : stepStart t0 = true) (g : Nat) (r : List ETok) :
    pPath ns (g + 1) (t0 :: r) = pRel ns g .none (t0 :: r) := by
  cases t0 <;> first | (cases h; done) | rfl

/-- [19]: a token that starts a PrimaryExpr sends `pPath` to `pFilter` -/
theorem pPath_prim {t0 : ETok} (h : primStart t0 = true) (g : Nat) (r : List ETok) :
    pPath ns (g + 1) (t0 :: r) = match pFilter ns g (t0 :: r) with
      | some (x, .slash :: rest) => pRel ns g x rest
      | some (x, .slashslash :: rest) => pRel ns g (dos x) rest
      | r => r := by
  cases t0 <;> first | (cases h; done) | rfl

/-- [19]: FilterExpr, and nothing follows -/
theorem pPath_prim_stop {t0 : ETok} (h : primStart t0 = true) {g : Nat} {r rest : List ETok} {x : Ast}
    (e : pFilter ns g (t0 :: r) = some (x, rest)) (hr : okHead blkPath rest) :
    pPath ns (g + 1) (t0 :: r) = some (x, rest) := by
  rw [pPath_prim h, e]
  cases rest with
  | nil => rfl
  | cons t r' => cases t <;> first | rfl | cases hr

/-- [19]: FilterExpr '/' RelativeLocationPath -/
theorem pPath_prim_slash {t0 : ETok} (h : primStart t0 = true) {g : Nat} {r rest : List ETok} {x : Ast}
    (e : pFilter ns g (t0 :: r) = some (x, .slash :: rest)) :
    pPath ns (g + 1) (t0 :: r) = pRel ns g x rest := by
  rw [pPath_prim h, e]

/-- [19]: FilterExpr '//' RelativeLocationPath -/
theorem pPath_prim_dslash {t0 : ETok} (h : primStart t0 = true) {g : Nat} {r rest : List ETok} {x : Ast}
    (e : pFilter ns g (t0 :: r) = some (x, .slashslash :: rest)) :
    pPath ns (g + 1) (t0 :: r) = pRel ns g (dos x) rest := by
  rw [pPath_prim h, e]

/-- [27]: no minus sign ahead -/
theorem pUnary_union {t0 : ETok} (h : pathStart t0 = true) {g : Nat} (m : Nat) {r rest : List ETok}
    {x : Ast} (e : pUnion ns g (t0 :: r) = some (x, rest)) :
    pUnary ns (g + 1) m (t0 :: r) = some (negEnc m x, rest) := by
  cases t0 <;> first | (cases h; done) | simp only [pUnary, e]

/-- [16]: a function call with at least one argument -/
theorem pPrimary_call {t0 : ETok} (h : exprStart t0 = true) {g : Nat} (p fn : String)
    {r rest : List ETok} {as : Ast} (e : pArgs ns g (t0 :: r) = some (as, rest)) :
    pPrimary ns (g + 1) (.funcName p fn :: .lparen :: t0 :: r) = some (.call fn p as, rest) := by
  cases t0 <;> first | (cases h; done) | simp only [pPrimary, e]

/-- [15]: a parenthesised expression -/
theorem pPrimary_group {g : Nat} {ts rest : List ETok} {x : Ast}
    (e : pTier ns g upperTiers ts = some (x, .rparen :: rest)) :
    pPrimary ns (g + 1) (.lparen :: ts) = some (.group x, rest) := by
  simp only [pPrimary, e]

/-- [16]: the last argument -/
theorem pArgs_last {g : Nat} {ts rest : List ETok} {a : Ast}
    (e : pTier ns g upperTiers ts = some (a, .rparen :: rest)) :
    pArgs ns (g + 1) ts = some (.acons a .anil, rest) := by
  simp only [pArgs, e]

/-- [16]: an argument followed by more -/
theorem pArgs_comma {g : Nat} {ts r rest : List ETok} {a as : Ast}
    (e₁ : pTier ns g upperTiers ts = some (a, .comma :: r)) (e₂ : pArgs ns g r = some (as, rest)) :
    pArgs ns (g + 1) ts = some (.acons a as, rest) := by
  simp only [pArgs, e₁, e₂]

theorem startsStep_false {rest : List ETok} (h : okHead blkPath rest) : startsStep rest = false := by
  cases rest with
  | nil => rfl
  | cons t r => rw [startsStep_cons]; exact blkPath_stepStart t h

theorem startsStep_true {ts : List ETok} (h : SW stepStart ts) (rest : List ETok) :
    startsStep (ts ++ rest) = true := by
  obtain ⟨t, r, rfl, ht⟩ := h.exists
  simp only [List.cons_append, startsStep_cons, ht]

end XPathV.Spec.Full
