import XPathV.Lemmas.FullGrammarComplete.Heads
/-!
# Completeness of the reference parser: induction on the derivation

`X_of_M` for the six binary tiers: `tier_step` at the tail `upperTiers.drop i` of the tier list, with the fuel
constant `k` of the next tier (`kOf`: 7 for UnaryExpr, then +2 per tier up to 19 for Expr; `tier_of_spine`
adds the 2).  The statements hold because `POperand`, `tiersOf` and `kOf` unfold to exactly these values; the
two `by decide` are the table checks of `tier_step` (keys of a tier distinct, not blocked by the tiers below).
`operand_of_M` goes through the seven non-terminals with a `binary` entry in the order of `NT`:
Union, Or, And, Equality, Relational, Additive, Multiplicative.
-/
namespace XPathV.Spec.Full
open XPathV

variable {ns : Option NsMap}

theorem huniq_of {ops : List (ETok × String)}
    (h : (ops.all fun p => ops.lookup p.1 == some p.2) = true) :
    ∀ tok op, (tok, op) ∈ ops → ops.lookup tok = some op := by
  intro tok op hm
  have := List.all_eq_true.mp h (tok, op) hm
  simpa using this

theorem hsep_of {ops : List (ETok × String)} {more : List (List (ETok × String))}
    (h : (ops.all fun p => !blkT more p.1) = true) :
    ∀ tok op, (tok, op) ∈ ops → blkT more tok = false := by
  intro tok op hm
  have := List.all_eq_true.mp h (tok, op) hm
  simpa using this

/-- one tier: the iterative form over the next tier's parse statement gives this tier's -/
theorem tier_step {ops : List (ETok × String)} {more : List (List (ETok × String))} {k : Nat}
    (hu : (ops.all fun p => ops.lookup p.1 == some p.2) = true)
    (hs : (ops.all fun p => !blkT more p.1) = true)
    {ts : List ETok} {a : Ast} (h : TSpine (PTier ns more k) ops ts a) :
    PTier ns (ops :: more) (k + 2) ts a :=
  tier_of_spine (huniq_of hu) (hsep_of hs) h

theorem mul_of_M {ts a} (h : M ns .MultiplicativeExpr ts a) : POperand ns .MultiplicativeExpr ts a :=
  tier_step (more := []) (k := 7) (by decide) (by decide) h

theorem add_of_M {ts a} (h : M ns .AdditiveExpr ts a) : POperand ns .AdditiveExpr ts a :=
  tier_step (more := upperTiers.drop 5) (k := 9) (by decide) (by decide) h

theorem rel_of_M {ts a} (h : M ns .RelationalExpr ts a) : POperand ns .RelationalExpr ts a :=
  tier_step (more := upperTiers.drop 4) (k := 11) (by decide) (by decide) h

theorem eq_of_M {ts a} (h : M ns .EqualityExpr ts a) : POperand ns .EqualityExpr ts a :=
  tier_step (more := upperTiers.drop 3) (k := 13) (by decide) (by decide) h

theorem and_of_M {ts a} (h : M ns .AndExpr ts a) : POperand ns .AndExpr ts a :=
  tier_step (more := upperTiers.drop 2) (k := 15) (by decide) (by decide) h

theorem or_of_M {ts a} (h : M ns .OrExpr ts a) : PExpr ns ts a :=
  tier_step (more := upperTiers.drop 1) (k := 17) (by decide) (by decide) h

/-- the motive of an operand non-terminal gives its parse statement -/
theorem operand_of_M {X Y : NT} {ops : List (ETok × String)} (hb : X.binary = some (Y, ops))
    {ts a} (h : M ns Y ts a) : POperand ns Y ts a := by
  cases X <;> cases hb
  · exact h
  · exact and_of_M h
  · exact eq_of_M h
  · exact rel_of_M h
  · exact add_of_M h
  · exact mul_of_M h
  · exact h

theorem M_binary {X Y : NT} {ops : List (ETok × String)} (hb : X.binary = some (Y, ops))
    (ts : List ETok) (a : Ast) : M ns X ts a = TSpine (POperand ns Y) ops ts a := by
  simp only [M, hb]

/-- **The induction**: every derivation gives the parse statement of its non-terminal. -/
theorem D.complete {X : NT} {ts : List ETok} {a : Ast} (h : D ns X ts a) : M ns X ts a := by
  induction h with
  | loc_abs _ ih | abs_abbrev _ ih | rel_abbrev _ ih | step_abbrev _ ih | predicateExpr _ ih | prim_call _ ih
  | argument _ ih | path_loc _ ih => exact ih
  | dot | dotdot =>
    intro f rest hr hf
    obtain ⟨g, rfl, -⟩ := fuel_succ hf
    simp [pStep]
  | prim_var | prim_literal | prim_number | call_nil =>
    intro f rest hf
    obtain ⟨g, rfl, -⟩ := fuel_succ hf
    simp [pPrimary]
  | @loc_rel ts t hd ih =>
    have hrel : PRel ns .none ts t := rel_of_spine ih
    obtain ⟨t0, r, rfl, ht⟩ := (show SW stepStart ts from hd.first).exists
    intro f rest hr hf
    obtain ⟨g, rfl, hg⟩ := fuel_succ hf
    rw [List.cons_append, pPath_step ht]
    exact hrel g rest (hr.mono blkPath_isRelCont) hg
  | abs_root =>
    intro f rest hr hf
    obtain ⟨g, rfl, -⟩ := fuel_succ hf
    simp [pPath, startsStep_false hr]
  | @abs_rel ts t hd ih =>
    have hrel : PRel ns (.root "/") ts t := rel_of_spine ih
    intro f rest hr hf
    obtain ⟨g, rfl, hg⟩ := fuel_succ hf
    simp only [List.length_cons] at hg
    have e := hrel g rest (hr.mono blkPath_isRelCont) (by omega)
    simp [pPath, startsStep_true (show SW stepStart ts from hd.first) rest, e]
  | @rel_step inp ts t _ ih => exact ⟨ts, t, [], by simp, ih, .nil⟩
  | @rel_slash inp ts₁ ts₂ t₁ t₂ _ _ ih₁ ih₂ =>
    obtain ⟨ts0, t0, tl, rfl, hs, htl⟩ := ih₁
    exact ⟨ts0, t0, tl ++ .slash :: ts₂, by simp, hs, htl.snoc_slash ih₂⟩
  | @step inp ts₁ ts₂ ts₃ ax info t h₁ h₂ _ ih =>
    intro f rest hr hf
    obtain ⟨g, rfl, hg⟩ := fuel_succ hf
    simp only [List.length_append] at hg
    rw [List.append_assoc (ts₁ ++ ts₂), pStep_axis h₁ h₂]
    exact preds_loop ih g rest hr (by omega)
  | preds_nil => exact .nil
  | @preds_snoc t₀ ts₁ ts₂ t c _ _ ih₁ ih₂ =>
    obtain ⟨ts', rfl, hq⟩ := ih₂
    exact PTail.snoc ih₁ hq
  | @predicate ts c _ ih => exact ⟨ts, by simp, ih⟩
  | @abbrevAbs ts t _ ih =>
    have hrel : PRel ns (dos (.root "/")) ts t := rel_of_spine ih
    intro f rest hr hf
    obtain ⟨g, rfl, hg⟩ := fuel_succ hf
    simp only [List.length_cons] at hg
    have e := hrel g rest (hr.mono blkPath_isRelCont) (by omega)
    simp [pPath, e]
  | @abbrevRel inp ts₁ ts₂ t₁ t₂ _ _ ih₁ ih₂ =>
    obtain ⟨ts0, t0, tl, rfl, hs, htl⟩ := ih₁
    exact ⟨ts0, t0, tl ++ .slashslash :: ts₂, by simp, hs, htl.snoc_dslash ih₂⟩
  | expr _ ih => exact or_of_M ih
  | @prim_group ts t _ ih =>
    intro f rest hf
    obtain ⟨g, rfl, hg⟩ := fuel_succ hf
    simp only [List.length_append, List.length_cons, List.length_nil] at hg
    rw [List.append_assoc]
    exact pPrimary_group ((show PExpr ns ts t from ih) g (.rparen :: rest) blkT_upper_rparen (by omega))
  | @call_args p fn ts as hd ih =>
    obtain ⟨t0, r, rfl, ht⟩ := (show SW exprStart ts from hd.first).exists
    intro f rest hf
    obtain ⟨g, rfl, hg⟩ := fuel_succ hf
    simp only [List.length_append, List.length_cons, List.length_nil] at hg
    have e := (show PArgs ns (t0 :: r) as from ih) g rest (by simp only [List.length_cons]; omega)
    simp only [List.cons_append, List.nil_append, List.append_assoc] at e ⊢
    exact pPrimary_call ht p fn e
  | @args_one ts a _ ih =>
    intro f rest hf
    obtain ⟨g, rfl, hg⟩ := fuel_succ hf
    exact pArgs_last ((show PExpr ns ts a from ih) g (.rparen :: rest) blkT_upper_rparen hg)
  | @args_cons ts₁ ts₂ a as _ _ ih₁ ih₂ =>
    intro f rest hf
    obtain ⟨g, rfl, hg⟩ := fuel_succ hf
    simp only [List.length_append, List.length_cons, List.length_nil] at hg
    rw [List.append_assoc, List.append_assoc]
    exact pArgs_comma
      ((show PExpr ns ts₁ a from ih₁) g (.comma :: (ts₂ ++ .rparen :: rest)) blkT_upper_comma (by omega))
      ((show PArgs ns ts₂ as from ih₂) g rest (by omega))
  | @path_filter ts t hd ih =>
    have hfl : PFilter ns ts t := filter_of_spine ih
    obtain ⟨t0, r, rfl, ht⟩ := (show SW primStart ts from hd.first).exists
    intro f rest hr hf
    obtain ⟨g, rfl, hg⟩ := fuel_succ hf
    have e := hfl g rest (hr.mono blkPath_isLb) (Nat.le_of_succ_le hg)
    exact pPath_prim_stop ht e hr
  | @path_slash ts₁ ts₂ x t hd _ ih₁ ih₂ =>
    have hfl : PFilter ns ts₁ x := filter_of_spine ih₁
    have hrel : PRel ns x ts₂ t := rel_of_spine ih₂
    obtain ⟨t0, r, rfl, ht⟩ := (show SW primStart ts₁ from hd.first).exists
    intro f rest hr hf
    obtain ⟨g, rfl, hg⟩ := fuel_succ hf
    simp only [List.length_append, List.length_cons, List.length_nil] at hg
    have e := hfl g (.slash :: (ts₂ ++ rest)) rfl (by simp only [List.length_cons]; omega)
    simp only [List.cons_append, List.nil_append, List.append_assoc] at e ⊢
    rw [pPath_prim_slash ht e]
    exact hrel g rest (hr.mono blkPath_isRelCont) (by omega)
  | @path_slashslash ts₁ ts₂ x t hd _ ih₁ ih₂ =>
    have hfl : PFilter ns ts₁ x := filter_of_spine ih₁
    have hrel : PRel ns (dos x) ts₂ t := rel_of_spine ih₂
    obtain ⟨t0, r, rfl, ht⟩ := (show SW primStart ts₁ from hd.first).exists
    intro f rest hr hf
    obtain ⟨g, rfl, hg⟩ := fuel_succ hf
    simp only [List.length_append, List.length_cons, List.length_nil] at hg
    have e := hfl g (.slashslash :: (ts₂ ++ rest)) rfl (by simp only [List.length_cons]; omega)
    simp only [List.cons_append, List.nil_append, List.append_assoc] at e ⊢
    rw [pPath_prim_dslash ht e]
    exact hrel g rest (hr.mono blkPath_isRelCont) (by omega)
  | @filter_prim ts t _ ih => exact ⟨ts, t, [], by simp, ih, .nil⟩
  | @filter_pred ts₁ ts₂ x c _ _ ih₁ ih₂ =>
    obtain ⟨ts0, x0, tl, rfl, hp, htl⟩ := ih₁
    obtain ⟨ts', rfl, hq⟩ := ih₂
    exact ⟨ts0, x0, tl ++ .lbracket :: (ts' ++ [.rbracket]), by simp, hp, htl.snoc hq⟩
  | @up X Y ops ts t hb _ ih =>
    rw [M_binary hb]
    exact ⟨ts, t, [], by simp, operand_of_M hb ih, .nil⟩
  | @bin X Y ops tok op ts₁ ts₂ l r hb hm _ _ ih₁ ih₂ =>
    rw [M_binary hb] at ih₁ ⊢
    obtain ⟨ts0, l0, tl, rfl, hp, htl⟩ := ih₁
    exact ⟨ts0, l0, tl ++ tok :: ts₂, by simp, hp, htl.snoc hm (operand_of_M hb ih₂)⟩
  | @unary_union ts x hd ih =>
    have hu : PUnion ns ts x := union_of_spine ih
    obtain ⟨t0, r, rfl, ht⟩ := (show SW pathStart ts from hd.first).exists
    intro f m rest hr hf
    obtain ⟨g, rfl, hg⟩ := fuel_succ hf
    have e := hu g rest hr hg
    exact pUnary_union ht m e
  | @unary_minus n ts x _ ih =>
    intro f m rest hr hf
    obtain ⟨g, rfl, hg⟩ := fuel_succ hf
    simp only [List.length_cons] at hg
    have e := (show PUnaryRun ns n ts x from ih) g (m + 1) rest hr (by omega)
    simp only [List.cons_append, pUnary, e]
    simp [Nat.add_assoc, Nat.add_comm 1 n]
  | @unary n ts x _ ih =>
    intro f rest hr hf
    obtain ⟨g, rfl, hg⟩ := fuel_succ hf
    have e := (show PUnaryRun ns n ts x from ih) g 0 rest (hr.mono (fun t => blkT_blkU t)) hg
    simp only [pTier, e, Nat.zero_add]

end XPathV.Spec.Full
