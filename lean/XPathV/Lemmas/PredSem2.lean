import XPathV.Lemmas.PredSem2.Build
import XPathV.Lemmas.SourceConfig
/-!
# C02, extension — function calls inside predicates and parenthesised filter inputs

`PredSem.Frag` is the fragment of existence tests, path `=`/`!=` string literal, path `op` number
literal, `not`, `and`, `or`, nested.  `Frag2` adds the remaining predicate forms of the property's
list and the parenthesised filter input; the forms, and the restriction on paths that are arguments
of functions (they are flat), are listed at its definition in `PredSem2/Frag.lean`.

Order of the files: `PredSem/{Filter,Truth,Path,BuildSem}` (truth lemmas, the fragments, builder steps)
→ `FlatFiltered` → `PredSem2/{Truth,Frag,Build}` (the inductions `frag_sem2`, `build_frag2`, made once,
for `Frag2`) → this file (the end-to-end statements for `build`) → `PredSem/Frag`, `PredSem.lean`
(the same statements for `Frag`, as instances through `frag2_of_frag`).

Helper files under `XPathV/Lemmas/PredSem2/`:

* `Truth`    — `SeqOK`, `StrValOK`, `StrArgOK`, the truth lemmas `predOK_count*`, `predOK_notCount`, `predOK_strTest`, `predOK_strTest2`,
               `predOK_strCmp`, `strValOK_localName*`, `pathOK_group`
* `Frag`     — `predPlan2`, `Frag2`, `frag_sem2`, `pred_truth2`, `C02_naive2`,
               `C02_filter_keeps_true2`, `C02_gfilter_keeps_true2`
* `Build`    — `build_frag2` (induction over the fragment for `build`)

Standing assumptions as for C01/C02: `WF d`, `cfg.nsIface = true`, `HashInj d cfg`; the builder
runs with the `//name` shortcut guarded by the node test and `smartDescThroughFilter = false`.
-/
namespace XPathV.PredSem2
open XPathV XPathV.Model XPathV.PathSem XPathV.PredSem

variable {F : Type} [NumAlg F]

/-- **C02 for `build`, extended fragment**: for every well-formed document, every valid context node
and every path of `Frag2` the plan the builder produces, with all its rewrites, yields exactly the
XPath 1.0 node-set of the path; neither side fails -/
theorem C02_main2 {d : Doc} (wf : WF d) (cfg : ECfg) (hns : cfg.nsIface = true)
    (hinj : HashInj d cfg) (regexOk : RegexOk) (limit : Nat) (p : Ast) (hp : Frag2 true p)
    (st : BState) (o : BOut) (hb : build regexOk limit true false p {} st = .ok o)
    (c : Ref) (hc : validRef d c = true) :
    ∃ out ns g, sel (F := F) d cfg o.q c = .ok out ∧
      Spec.eval (F := F) d p ⟨c, 1, 1⟩ = .ok (.val (.nodes ns) g) ∧
      ∀ x, x ∈ refs out ↔ x ∈ ns := by
  obtain ⟨_, _, hrel⟩ :=
    ((build_frag2 (F := F) wf cfg hns hinj regexOk limit true p hp).1 rfl).1 {} st o hb
  obtain ⟨out, nv, h1, h2, _, heq, _⟩ := hrel c hc
  obtain ⟨nv', ns, g, h2', hev, hmem, _⟩ := C02_naive2 (F := F) wf cfg hns hinj p hp c hc
  rw [h2] at h2'; cases h2'
  exact ⟨out, ns, g, h1, hev, fun x => (heq rfl x).trans (hmem x)⟩

/-- `C02_main2` on the fragment `PredSem.Frag` -/
theorem C02_main_of_main2 {d : Doc} (wf : WF d) (cfg : ECfg) (hns : cfg.nsIface = true)
    (hinj : HashInj d cfg) (regexOk : RegexOk) (limit : Nat) (p : Ast) (hp : Frag true p)
    (st : BState) (o : BOut) (hb : build regexOk limit true false p {} st = .ok o)
    (c : Ref) (hc : validRef d c = true) :
    ∃ out ns g, sel (F := F) d cfg o.q c = .ok out ∧
      Spec.eval (F := F) d p ⟨c, 1, 1⟩ = .ok (.val (.nodes ns) g) ∧
      ∀ x, x ∈ refs out ↔ x ∈ ns :=
  C02_main2 wf cfg hns hinj regexOk limit p (frag2_of_frag true p hp) st o hb c hc

/-- C02 (extended) against the top-level oracle `evalTop` -/
theorem C02_evalTop2 {d : Doc} (wf : WF d) (cfg : ECfg) (hns : cfg.nsIface = true)
    (hinj : HashInj d cfg) (regexOk : RegexOk) (limit : Nat) (p : Ast) (hp : Frag2 true p)
    (st : BState) (o : BOut) (hb : build regexOk limit true false p {} st = .ok o)
    (c : Ref) (hc : validRef d c = true) :
    ∃ out ns, sel (F := F) d cfg o.q c = .ok out ∧
      Spec.evalTop (F := F) d p c = .ok (.nodes ns) ∧ ∀ x, x ∈ refs out ↔ x ∈ ns := by
  obtain ⟨out, ns, g, h1, h2, h3⟩ := C02_main2 (F := F) wf cfg hns hinj regexOk limit p hp st o hb c hc
  refine ⟨out, ns, h1, ?_, h3⟩
  simp [Spec.evalTop, h2, bind, Except.bind, pure, Except.pure, Spec.Res.value]

/-- C02 (extended) at the configuration the model reads off the source -/
theorem C02_source_config2 {d : Doc} (wf : WF d) (cfg : ECfg) (hns : cfg.nsIface = true)
    (hinj : HashInj d cfg) (regexOk : RegexOk) (limit : Nat) (p : Ast) (hp : Frag2 true p) (o : BOut)
    (hb : build regexOk limit shortcutNeedsNodeTestFromSource smartDescThroughFilterFromSource p {} {} = .ok o)
    (c : Ref) (hc : validRef d c = true) :
    ∃ out ns, sel (F := F) d cfg o.q c = .ok out ∧
      Spec.evalTop (F := F) d p c = .ok (.nodes ns) ∧ ∀ x, x ∈ refs out ↔ x ∈ ns := by
  rw [Lemmas.SourceConfig.shortcut_guard_from_source,
    Lemmas.SourceConfig.smartdesc_stops_at_filters_from_source] at hb
  exact C02_evalTop2 wf cfg hns hinj regexOk limit p hp {} o hb c hc

/-- **C02 for `build`, the property itself, extended fragment**: the built plan of `p[b]` selects
exactly the nodes the built plan of `p` selects at which `b` is true (`holds`: `boolean()` of the
oracle's value of `b` at that node) — and these are the oracle's node sets of `p[b]` and `p` -/
theorem C02_keeps_true2 {d : Doc} (wf : WF d) (cfg : ECfg) (hns : cfg.nsIface = true)
    (hinj : HashInj d cfg) (regexOk : RegexOk) (limit : Nat) (p b : Ast) (hp : Frag2 true p)
    (hb : Frag2 false b) (st0 st : BState) (o0 o : BOut)
    (hb0 : build regexOk limit true false p {} st0 = .ok o0)
    (hb1 : build regexOk limit true false (.filter p b) {} st = .ok o)
    (c : Ref) (hc : validRef d c = true) :
    ∃ out0 ns0 g0 out ns g,
      sel (F := F) d cfg o0.q c = .ok out0 ∧
      Spec.eval (F := F) d p ⟨c, 1, 1⟩ = .ok (.val (.nodes ns0) g0) ∧
      (∀ x, x ∈ refs out0 ↔ x ∈ ns0) ∧
      sel (F := F) d cfg o.q c = .ok out ∧
      Spec.eval (F := F) d (.filter p b) ⟨c, 1, 1⟩ = .ok (.val (.nodes ns) g) ∧
      (∀ x, x ∈ refs out ↔ x ∈ ns) ∧
      (∀ x, x ∈ refs out ↔ x ∈ refs out0 ∧ holds (F := F) d b x = true) ∧
      (∀ x, x ∈ ns ↔ x ∈ ns0 ∧ holds (F := F) d b x = true) := by
  obtain ⟨out0, ns0, g0, hs0, he0, hm0⟩ :=
    C02_main2 (F := F) wf cfg hns hinj regexOk limit p hp st0 o0 hb0 c hc
  obtain ⟨out, ns, g, hs, he, hm⟩ :=
    C02_main2 (F := F) wf cfg hns hinj regexOk limit (.filter p b) (.filter p b hp hb) st o hb1 c hc
  obtain ⟨_, ns0', _, _, ns', _, _, he0', _, _, he', _, hchar, _⟩ :=
    C02_filter_keeps_true2 (F := F) wf cfg hns hinj p b hp hb c hc
  rw [he0] at he0'; cases he0'
  rw [he] at he'; cases he'
  refine ⟨out0, ns0, g0, out, ns, g, hs0, he0, hm0, hs, he, hm, fun x => ?_, hchar⟩
  rw [hm, hchar, hm0]

/-- the same for a parenthesised path: the built plan of `(p)[b]` selects exactly the nodes the
built plan of `p` selects at which `b` is true -/
theorem C02_keeps_true2_group {d : Doc} (wf : WF d) (cfg : ECfg) (hns : cfg.nsIface = true)
    (hinj : HashInj d cfg) (regexOk : RegexOk) (limit : Nat) (p b : Ast) (hp : Frag2 true p)
    (hb : Frag2 false b) (st0 st : BState) (o0 o : BOut)
    (hb0 : build regexOk limit true false p {} st0 = .ok o0)
    (hb1 : build regexOk limit true false (.filter (.group p) b) {} st = .ok o)
    (c : Ref) (hc : validRef d c = true) :
    ∃ out0 ns0 g0 out ns g,
      sel (F := F) d cfg o0.q c = .ok out0 ∧
      Spec.eval (F := F) d p ⟨c, 1, 1⟩ = .ok (.val (.nodes ns0) g0) ∧
      (∀ x, x ∈ refs out0 ↔ x ∈ ns0) ∧
      sel (F := F) d cfg o.q c = .ok out ∧
      Spec.eval (F := F) d (.filter (.group p) b) ⟨c, 1, 1⟩ = .ok (.val (.nodes ns) g) ∧
      (∀ x, x ∈ refs out ↔ x ∈ ns) ∧
      (∀ x, x ∈ refs out ↔ x ∈ refs out0 ∧ holds (F := F) d b x = true) ∧
      (∀ x, x ∈ ns ↔ x ∈ ns0 ∧ holds (F := F) d b x = true) := by
  obtain ⟨out0, ns0, g0, hs0, he0, hm0⟩ :=
    C02_main2 (F := F) wf cfg hns hinj regexOk limit p hp st0 o0 hb0 c hc
  obtain ⟨out, ns, g, hs, he, hm⟩ :=
    C02_main2 (F := F) wf cfg hns hinj regexOk limit (.filter (.group p) b) (.gfilter p b hp hb)
      st o hb1 c hc
  obtain ⟨_, ns0', _, _, ns', _, _, he0', _, _, he', _, hchar, _⟩ :=
    C02_gfilter_keeps_true2 (F := F) wf cfg hns hinj p b hp hb c hc
  rw [he0] at he0'; cases he0'
  rw [he] at he'; cases he'
  refine ⟨out0, ns0, g0, out, ns, g, hs0, he0, hm0, hs, he, hm, fun x => ?_, hchar⟩
  rw [hm, hchar, hm0]

/-! ## Instances of this file's statements (non-vacuity): the builder succeeds on these forms; plain filter, merge form and group -/

section Examples

private def ch (n : String) : AxisInfo := ⟨"child", .elem, "", n, "", false, ""⟩
private def at' (n : String) : AxisInfo := ⟨"attribute", .attr, "", n, "", false, ""⟩

/-- `/a/b[count(c) >= 2]` as the parser produces it -/
def exCount : Ast :=
  .filter (.axis (ch "b") (.axis (ch "a") (.root "/")))
    (.oper ">=" (.call "count" "" (.acons (.axis (ch "c") .none) .anil)) (.num "2"))

theorem exCount_frag : Frag2 true exCount :=
  .filter _ _ (.axis _ _ (.axis _ _ (.root _) (by simp [axes12, ch])) (by simp [axes12, ch]))
    (.countR _ _ _ _ (by simp [cmpOps]) (.axis _ _ .none (by simp [axes12, ch]))
      (.axis _ _ (by simp [ArithSem.flatAxes, ch]) .none))

/-- a comparison is boolean-typed: the plain filter -/
theorem exCount_build : (build (fun _ => true) 100 true false exCount {} {}).map (·.q) =
    .ok (.filter (.child (ch "b") (.child (ch "a") .absolute))
      (.logical ">=" (.func "count" .nil (.pcons (.child (ch "c") .context) .pnil))
        (.constNum "2"))) := rfl

/-- `/a/b[contains(@id, 'x')]` -/
def exContains : Ast :=
  .filter (.axis (ch "b") (.axis (ch "a") (.root "/")))
    (.call "contains" "" (.acons (.axis (at' "id") .none) (.acons (.str "x") .anil)))

theorem exContains_frag : Frag2 true exContains :=
  .filter _ _ (.axis _ _ (.axis _ _ (.root _) (by simp [axes12, ch])) (by simp [axes12, ch]))
    (.strPath _ _ _ _ (by simp [strTests]) (.axis _ _ .none (by simp [axes12, at']))
      (.axis _ _ (by simp [ArithSem.flatAxes, at']) .none))

/-- a function call is "any"-typed: the builder makes the merge form -/
theorem exContains_build : (build (fun _ => true) 100 true false exContains {} {}).map (·.q) =
    .ok (.merge (.child (ch "a") .absolute)
      (.filter (.child (ch "b") .context)
        (.func "contains" .nil
          (.pcons (.attr (at' "id") .context) (.pcons (.constStr "x") .pnil))))) := rfl

/-- `(/a/b)[starts-with(local-name(), 'b')][local-name(c) != 'd']/c` -/
def exGroup : Ast :=
  .axis (ch "c") (.filter (.filter (.group (.axis (ch "b") (.axis (ch "a") (.root "/"))))
      (.call "starts-with" "" (.acons (.call "local-name" "" .anil) (.acons (.str "b") .anil))))
    (.oper "!=" (.call "local-name" "" (.acons (.axis (ch "c") .none) .anil)) (.str "d")))

theorem exGroup_frag : Frag2 true exGroup :=
  .axis _ _ (.filter _ _
    (.gfilter _ _ (.axis _ _ (.axis _ _ (.root _) (by simp [axes12, ch])) (by simp [axes12, ch]))
      (.strLn _ _ _ _ (by simp [strTests])))
    (.lnPathCmp _ _ _ _ (by simp [eqOps]) (.axis _ _ .none (by simp [axes12, ch]))
      (.axis _ _ (by simp [ArithSem.flatAxes, ch]) .none)))
    (by simp [axes12, ch])

theorem exGroup_build : (build (fun _ => true) 100 true false exGroup {} {}).map (·.q) =
    .ok (.child (ch "c") (.filter (.filter (.group (.child (ch "b") (.child (ch "a") .absolute)))
        (.func "starts-with" .nil
          (.pcons (.func "local-name" .nil .pnil) (.pcons (.constStr "b") .pnil))))
      (.logical "!=" (.func "local-name" .nil (.pcons (.child (ch "c") .context) .pnil))
        (.constStr "d")))) := rfl

/-- `/a/b[c = @d]`: a path compared with a path -/
def exCmpPath : Ast :=
  .filter (.axis (ch "b") (.axis (ch "a") (.root "/")))
    (.oper "=" (.axis (ch "c") .none) (.axis (at' "d") .none))

theorem exCmpPath_frag : Frag2 true exCmpPath :=
  .filter _ _ (.axis _ _ (.axis _ _ (.root _) (by simp [axes12, ch])) (by simp [axes12, ch]))
    (.cmpPath _ _ _ (by simp [cmpOps]) (.axis _ _ .none (by simp [axes12, ch]))
      (.axis _ _ .none (by simp [axes12, at'])))

/-- a comparison is boolean-typed: the plain filter, both operands built from the context node -/
theorem exCmpPath_build : (build (fun _ => true) 100 true false exCmpPath {} {}).map (·.q) =
    .ok (.filter (.child (ch "b") (.child (ch "a") .absolute))
      (.logical "=" (.child (ch "c") .context) (.attr (at' "d") .context))) := rfl

/-- the main theorem applied: no hypothesis left but the standing ones -/
example {d : Doc} (wf : WF d) (cfg : ECfg) (hns : cfg.nsIface = true) (hinj : HashInj d cfg)
    (c : Ref) (hc : validRef d c = true) :
    ∃ out ns, sel (F := F) d cfg (.merge (.child (ch "a") .absolute)
        (.filter (.child (ch "b") .context)
          (.func "contains" .nil
            (.pcons (.attr (at' "id") .context) (.pcons (.constStr "x") .pnil))))) c = .ok out ∧
      Spec.evalTop (F := F) d exContains c = .ok (.nodes ns) ∧ ∀ x, x ∈ refs out ↔ x ∈ ns := by
  cases hb : build (fun _ => true) 100 true false exContains {} {} with
  | error e => have := exContains_build; rw [hb] at this; cases this
  | ok o =>
    have hq := exContains_build; rw [hb] at hq
    simp only [Except.map, Except.ok.injEq] at hq
    rw [← hq]
    exact C02_evalTop2 wf cfg hns hinj _ 100 exContains exContains_frag {} o hb c hc

end Examples

end XPathV.PredSem2
