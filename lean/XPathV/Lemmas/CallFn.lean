import XPathV.Model.Engine
/-!
# `Model.callFn` and `Spec.callFn`, one function name at a time

Both function libraries are one `match` over some thirty names (the oracle's also over the shape of
the argument list).  This module has one equation per name and library: for `Model.callFn` the arm of
the name for an arbitrary argument list (`callFn_count`, `callFn_contains`, …), for `Spec.callFn`
the value on arbitrary argument values.  The proofs about a function rewrite with its equation
instead of unfolding the library, so the string comparisons that select an arm are evaluated here
and nowhere else.  Also here: `evalP` on a function plan (`evalP_func`), the oracle on a call whose
arguments evaluate (`StringFns.All2`, `EvalsTo`, `eval_call`), and two general facts their users
share: `exists_ok_of_isOk` and the sublist lemma `filterMap_zipIdx_sublist` (on characters; not the
lemma of that short name in `PosSem/Filter`).
-/
namespace XPathV

/-- a computation the kernel evaluates to `ok` succeeds: lets `decide +kernel` show that a concrete
`build` succeeds without the elaborator evaluating it as well -/
theorem exists_ok_of_isOk {ε α : Type} {r : Except ε α} (h : r.isOk = true) : ∃ o, r = .ok o := by
  cases r with
  | ok o => exact ⟨o, rfl⟩
  | error e => cases h

end XPathV

namespace XPathV.Model
open XPathV NumAlg

variable {F : Type} [NumAlg F]

/-- The first of Lean's equations of `callFn` (one per arm of its `match`) under a name.  Mentioning
it in a statement makes Lean generate them here, once: the proofs below are elaborated in parallel,
each from the environment as it is at its statement, and would otherwise each generate them again
at their first `rw [callFn]`. -/
theorem callFn_unfold : type_of% @callFn.eq_1 := @callFn.eq_1

/-- the `i`-th argument outcome as `callFn` reads it: a missing argument is Go's `nil` -/
def argAt (args : List (Except EErr (MVal F))) (i : Nat) : Except EErr (MVal F) :=
  (args[i]?).getD (.ok .nilv)

section
variable (d : Doc) (cfg : ECfg) (fi : Plan) (c : Ref) (args : List (Except EErr (MVal F)))
  (asel : Option (List Ref))

theorem callFn_count : callFn d cfg "count" fi c args asel = (do
    match ← argAt args 0 with
    | .nodes l => .ok (.num (ofNat l.length))
    | _ => .ok (.num (ofNat 0))) := by
  rw [callFn]; rfl

theorem callFn_sum : callFn d cfg "sum" fi c args asel = (do
    match ← argAt args 0 with
    | .nodes l => .ok (.num (l.foldl (fun acc r =>
        let v : F := goParseFloat (stringValue d r)
        if isNaN v then acc else add acc v) (ofNat 0)))
    | .num x => .ok (.num x)
    | .str s =>
      let v : F := goParseFloat s
      if isNaN v then .error (.raised "sum") else .ok (.num v)
    | _ => .ok (.num (ofNat 0))) := by
  rw [callFn]; rfl

theorem callFn_ceiling : callFn d cfg "ceiling" fi c args asel =
    (do let v ← argAt args 0; .ok (.num (ceil (asNumberM d v)))) := by
  rw [callFn]; rfl

theorem callFn_floor : callFn d cfg "floor" fi c args asel =
    (do let v ← argAt args 0; .ok (.num (floor (asNumberM d v)))) := by
  rw [callFn]; rfl

theorem callFn_true : callFn d cfg "true" fi c args asel = .ok (.bool true) := by
  rw [callFn]

theorem callFn_false : callFn d cfg "false" fi c args asel = .ok (.bool false) := by
  rw [callFn]

theorem callFn_position :
    callFn d cfg "position" fi c args asel = .ok (.num (ofNat (positionM d cfg fi c))) := by
  rw [callFn]

theorem callFn_last : callFn d cfg "last" fi c args asel = .ok (.num (ofNat (lastM d cfg fi c))) := by
  rw [callFn]

theorem callFn_round : callFn d cfg "round" fi c args asel = (do
    let v ← argAt args 0
    match toInt (roundGo (asNumberM d v)) with
    | some i => .ok (.int i)
    | none => .ok (.int 0)) := by
  rw [callFn]; rfl

theorem callFn_boolean : callFn d cfg "boolean" fi c args asel = (do
    let v ← if args.isEmpty then pure (.nodes [c]) else argAt args 0
    let b ← asBoolM v
    .ok (.bool b)) := by
  rw [callFn]; rfl

/-- `not(v)` is `not(boolean(v))` on every argument outcome: the two special cases of `notFunc`
(a boolean, a node-set) agree with its default case `!asBool(t, v)` -/
theorem callFn_not : callFn d cfg "not" fi c args asel =
    (do let v ← argAt args 0; let b ← asBoolM v; .ok (.bool (!b))) := by
  rw [callFn]
  refine bind_congr fun v => ?_
  cases v
  case nodes l => exact congrArg (fun b => Except.ok (MVal.bool b)) (Bool.not_not _).symm
  all_goals rfl

theorem callFn_number : callFn d cfg "number" fi c args asel = (do
    let v ← if args.isEmpty then pure (.nodes [c]) else argAt args 0
    .ok (.num (asNumberM d v))) := by
  rw [callFn]; rfl

end

/-! `evalP` on a function plan: the function applied to the argument outcomes (the name functions
also get the `Select` view of their first argument: not covered here) -/

theorem evalP_constNum (d : Doc) (cfg : ECfg) (l : String) (c : Ref) :
    evalP (F := F) d cfg (.constNum l) c = .ok (.num (Spec.strToNum l)) := by
  rw [evalP]

theorem evalP_constStr (d : Doc) (cfg : ECfg) (s : String) (c : Ref) :
    evalP (F := F) d cfg (.constStr s) c = .ok (.str s) := by
  rw [evalP]

theorem evalP_func (d : Doc) (cfg : ECfg) (name : String) (fi q : Plan) (c : Ref)
    (avs : List (Except EErr (MVal F)))
    (hn : (name == "name" || name == "local-name" || name == "namespace-uri") = false)
    (ha : argVals (F := F) d cfg q c = .ok avs) :
    evalP (F := F) d cfg (.func name fi q) c = callFn d cfg name fi c avs none := by
  rw [evalP, ha]
  simp only [bind, Except.bind]
  split <;> simp only [hn, pure, Except.pure, Bool.false_eq_true, ↓reduceIte]

theorem evalP_func0 (d : Doc) (cfg : ECfg) (name : String) (fi : Plan) (c : Ref) :
    evalP (F := F) d cfg (.func name fi .pnil) c = callFn d cfg name fi c [] none := by
  rw [evalP]
  simp only [argVals, bind, Except.bind, pure, Except.pure]

theorem evalP_func1 (d : Doc) (cfg : ECfg) (name : String) (fi h : Plan) (c : Ref)
    (hn : (name == "name" || name == "local-name" || name == "namespace-uri") = false) :
    evalP (F := F) d cfg (.func name fi (.pcons h .pnil)) c =
      callFn d cfg name fi c [evalP (F := F) d cfg h c] none :=
  evalP_func d cfg name fi _ c _ hn (by simp only [argVals, bind, Except.bind])

theorem evalP_func2 (d : Doc) (cfg : ECfg) (name : String) (fi a b : Plan) (c : Ref)
    (hn : (name == "name" || name == "local-name" || name == "namespace-uri") = false) :
    evalP (F := F) d cfg (.func name fi (.pcons a (.pcons b .pnil))) c =
      callFn d cfg name fi c [evalP (F := F) d cfg a c, evalP (F := F) d cfg b c] none :=
  evalP_func d cfg name fi _ c _ hn (by simp only [argVals, bind, Except.bind])

/-! `or` (`isOr = true`) with a true left operand, `and` with a false one: the result is the left
truth value and the right operand is **not evaluated** (`r` is arbitrary — it may fail) … -/
theorem evalP_bool_left (isOr : Bool) (d : Doc) (cfg : ECfg) (l r : Plan) (c : Ref) (lv : MVal F)
    (hl : evalP (F := F) d cfg l c = .ok lv) (hb : asBoolM lv = .ok isOr) :
    evalP (F := F) d cfg (.boolean isOr l r) c = .ok (.bool isOr) := by
  cases isOr <;> simp [evalP, hl, hb, bind, Except.bind]

/-- … and when the left operand does not decide, the result is the truth value of the right one -/
theorem evalP_bool_right (isOr : Bool) (d : Doc) (cfg : ECfg) (l r : Plan) (c : Ref) (lv rv : MVal F)
    (b : Bool) (hl : evalP (F := F) d cfg l c = .ok lv) (hb : asBoolM lv = .ok (!isOr))
    (hr : evalP (F := F) d cfg r c = .ok rv) (hrb : asBoolM rv = .ok b) :
    evalP (F := F) d cfg (.boolean isOr l r) c = .ok (.bool b) := by
  cases isOr <;> simp [evalP, hl, hb, hr, hrb, bind, Except.bind]

/-! ## the string functions -/

/-- how the string functions read an argument (`strOrFirst` inside `callFn`): a string as it is, a
node list as the string-value of its first node (`none` when it is empty), anything else as `other` -/
def readStr (d : Doc) (v : MVal F) (other : Except EErr (Option String)) : Except EErr (Option String) :=
  match v with
  | .str s => .ok (some s)
  | .nodes [] => .ok none
  | .nodes (r :: _) => .ok (some (stringValue d r))
  | _ => other

section
variable (d : Doc) (cfg : ECfg) (fi : Plan) (c : Ref) (args : List (Except EErr (MVal F)))
  (asel : Option (List Ref))

/-- the node the name functions report on: the context node when there is no argument, else the
first node the argument's `Select` yields -/
def nameNode (c : Ref) (asel : Option (List Ref)) : Option Ref :=
  match asel with
  | none => some c
  | some l => l.head?

theorem callFn_localName : callFn d cfg "local-name" fi c args asel =
    (match nameNode c asel with
    | none => .ok (.str "")
    | some r => .ok (.str (localName d r))) := by
  unfold callFn; rfl

theorem callFn_namespaceUri : callFn d cfg "namespace-uri" fi c args asel =
    (match nameNode c asel with
    | none => .ok (.str "")
    | some r => .ok (.str (if cfg.nsIface then nsURL d r else prefixOf d r))) := by
  unfold callFn; rfl

theorem callFn_name : callFn d cfg "name" fi c args asel =
    (match nameNode c asel with
    | none => .ok (.str "")
    | some r =>
      .ok (.str (if prefixOf d r == "" then localName d r else prefixOf d r ++ ":" ++ localName d r))) := by
  unfold callFn; rfl

theorem callFn_string : callFn d cfg "string" fi c args asel = (do
    let v ← if args.isEmpty then pure (.nodes [c]) else argAt args 0
    let s ← asStringM d v
    .ok (.str s)) := by
  rw [callFn]; rfl

/-! The three string tests read both arguments alike (what is neither a string nor a node list
raises); `callFn` returns through `secondArg ""` for an empty node list and through `secondArg m`
otherwise, which is one and the same continuation at `m.getD ""`. -/

theorem callFn_contains : callFn d cfg "contains" fi c args asel = (do
    let v1 ← argAt args 0
    let m ← readStr d v1 (.error (.raised "contains"))
    let v2 ← argAt args 1
    let n ← readStr d v2 (.error (.raised "contains"))
    .ok (.bool (Spec.fnContains (m.getD "") (n.getD "")))) := by
  rw [callFn]
  refine bind_congr fun v1 => bind_congr fun m => ?_
  cases m <;> rfl

theorem callFn_startsWith : callFn d cfg "starts-with" fi c args asel = (do
    let v1 ← argAt args 0
    let m ← readStr d v1 (.error (.raised "starts-with"))
    let v2 ← argAt args 1
    let n ← readStr d v2 (.error (.raised "starts-with"))
    .ok (.bool (Spec.fnStartsWith (m.getD "") (n.getD "")))) := by
  rw [callFn]
  refine bind_congr fun v1 => bind_congr fun m => ?_
  cases m <;> rfl

theorem callFn_endsWith : callFn d cfg "ends-with" fi c args asel = (do
    let v1 ← argAt args 0
    let m ← readStr d v1 (.error (.raised "ends-with"))
    let v2 ← argAt args 1
    let n ← readStr d v2 (.error (.raised "ends-with"))
    .ok (.bool (Spec.fnEndsWith (m.getD "") (n.getD "")))) := by
  rw [callFn]
  refine bind_congr fun v1 => bind_congr fun m => ?_
  cases m <;> rfl

theorem callFn_normalizeSpace : callFn d cfg "normalize-space" fi c args asel = (do
    let v ← argAt args 0
    match ← readStr d v (.ok (some "")) with
    | none => .ok (.str "")
    | some m => .ok (.str (normalizeSpaceM m))) := by
  rw [callFn]; rfl

theorem callFn_substring : callFn d cfg "substring" fi c args asel = (do
    let v ← argAt args 0
    match ← readStr d v (.ok (some "")) with
    | none => .ok (.str "")
    | some m => do
      match ← argAt args 1 with
      | .num start =>
        if args.length < 3 then .ok (.str (substringM m start none))
        else do
          match ← argAt args 2 with
          | .num l => .ok (.str (substringM m start (some l)))
          | _ => .error (.raised "substring")
      | _ => .error (.raised "substring")) := by
  rw [callFn]; rfl

theorem callFn_substringBefore : callFn d cfg "substring-before" fi c args asel = (do
    let v ← argAt args 0
    match ← readStr d v (.ok (some "")) with
    | none => .ok (.str "")
    | some s => do
      let w ← argAt args 1
      let word ← readStr d w (.ok (some ""))
      .ok (.str (Spec.fnSubstringBefore s (word.getD "")))) := by
  rw [callFn]; rfl

theorem callFn_substringAfter : callFn d cfg "substring-after" fi c args asel = (do
    let v ← argAt args 0
    match ← readStr d v (.ok (some "")) with
    | none => .ok (.str "")
    | some s => do
      let w ← argAt args 1
      let word ← readStr d w (.ok (some ""))
      .ok (.str (Spec.fnSubstringAfter s (word.getD "")))) := by
  rw [callFn]; rfl

theorem callFn_stringLength : callFn d cfg "string-length" fi c args asel = (do
    let v ← argAt args 0
    match ← readStr d v (.ok (some "")) with
    | none => .ok (.num (ofNat 0))
    | some s => .ok (.num (ofNat s.length))) := by
  rw [callFn]; rfl

theorem callFn_translate : callFn d cfg "translate" fi c args asel = (do
    let s ← asStringM d (← argAt args 0)
    let src ← asStringM d (← argAt args 1)
    let dst ← asStringM d (← argAt args 2)
    .ok (.str (Spec.fnTranslate s src dst))) := by
  rw [callFn]; rfl

theorem callFn_concat : callFn d cfg "concat" fi c args asel = (do
    let parts ← args.mapM (fun a => do
      match ← a with
      | .str s => pure s
      | .nodes (r :: _) => pure (stringValue d r)
      | _ => pure "")
    .ok (.str (parts.foldl (· ++ ·) ""))) := by
  rw [callFn]; rfl

theorem callFn_stringJoin : callFn d cfg "string-join" fi c args asel = (do
    let sv ← argAt args 1
    let sep := match sv with
      | .str s => s
      | .nodes (r :: _) => stringValue d r
      | _ => ""
    match ← argAt args 0 with
    | .str s => .ok (.str s)
    | .nodes l => .ok (.str (sep.intercalate (l.map (stringValue d))))
    | _ => .ok (.str "")) := by
  rw [callFn]; rfl

theorem callFn_lowerCase : callFn d cfg "lower-case" fi c args asel =
    (do let s ← asStringM d (← argAt args 0); .ok (.str (Spec.fnLowerCase s))) := by
  rw [callFn]; rfl

end
end XPathV.Model

/-! The oracle's `Spec.callFn` is one `match` over names and argument-list shapes; again one equation
per arm, so that the string comparisons that select the arm are evaluated here and nowhere else. -/
namespace XPathV.Spec
open XPathV NumAlg

variable {F : Type} [NumAlg F] (d : Doc) (ctx : Ctx)

theorem callFn_count (l : List Ref) :
    callFn (F := F) d ctx "count" [.nodes l] = .ok (.num (ofNat l.length)) := by
  unfold callFn callFn.match_3
  simp only [String.reduceEq, ↓reduceDIte]

theorem callFn_sum (l : List Ref) :
    callFn (F := F) d ctx "sum" [.nodes l] =
      if l.any (fun r => isNaN (strToNum (F := F) (stringValue d r))) = true then
        .error (.unsupported "sum over non-numeric nodes")
      else .ok (.num (sumNodes d l)) := by
  unfold callFn callFn.match_3
  simp only [String.reduceEq, ↓reduceDIte]

theorem callFn_true : callFn (F := F) d ctx "true" [] = .ok (.bool true) := by
  unfold callFn callFn.match_3
  simp only [String.reduceEq, ↓reduceDIte]

theorem callFn_false : callFn (F := F) d ctx "false" [] = .ok (.bool false) := by
  unfold callFn callFn.match_3
  simp only [String.reduceEq, ↓reduceDIte]

theorem callFn_boolean (v : Value F) : callFn d ctx "boolean" [v] = .ok (.bool (toBool v)) := by
  unfold callFn callFn.match_3
  simp only [String.reduceEq, ↓reduceDIte]

theorem callFn_not (v : Value F) : callFn d ctx "not" [v] = .ok (.bool (!toBool v)) := by
  unfold callFn callFn.match_3
  simp only [String.reduceEq, ↓reduceDIte]

theorem callFn_number (v : Value F) : callFn d ctx "number" [v] = .ok (.num (toNum d v)) := by
  unfold callFn callFn.match_3
  simp only [String.reduceEq, ↓reduceDIte]

theorem callFn_floor (v : Value F) : callFn d ctx "floor" [v] = .ok (.num (floor (toNum d v))) := by
  unfold callFn callFn.match_3
  simp only [String.reduceEq, ↓reduceDIte]

theorem callFn_ceiling (v : Value F) : callFn d ctx "ceiling" [v] = .ok (.num (ceil (toNum d v))) := by
  unfold callFn callFn.match_3
  simp only [String.reduceEq, ↓reduceDIte]

theorem callFn_localName0 : callFn (F := F) d ctx "local-name" [] = .ok (.str (localName d ctx.node)) := by
  unfold callFn callFn.match_3
  simp only [String.reduceEq, ↓reduceDIte]

theorem callFn_localName1 (l : List Ref) : callFn (F := F) d ctx "local-name" [.nodes l] =
    .ok (.str (match l with | [] => "" | r :: _ => localName d r)) := by
  unfold callFn callFn.match_3
  simp only [String.reduceEq, ↓reduceDIte]
  rfl

theorem callFn_namespaceUri0 : callFn (F := F) d ctx "namespace-uri" [] = .ok (.str (nsURL d ctx.node)) := by
  unfold callFn callFn.match_3
  simp only [String.reduceEq, ↓reduceDIte]

theorem callFn_namespaceUri1 (l : List Ref) : callFn (F := F) d ctx "namespace-uri" [.nodes l] =
    .ok (.str (match l with | [] => "" | r :: _ => nsURL d r)) := by
  unfold callFn callFn.match_3
  simp only [String.reduceEq, ↓reduceDIte]
  rfl

theorem callFn_name0 : callFn (F := F) d ctx "name" [] = .ok (.str (callFn.qname d ctx.node)) := by
  unfold callFn callFn.match_3
  simp only [String.reduceEq, ↓reduceDIte]

theorem callFn_name1 (l : List Ref) : callFn (F := F) d ctx "name" [.nodes l] =
    .ok (.str (match l with | [] => "" | r :: _ => callFn.qname d r)) := by
  unfold callFn callFn.match_3
  simp only [String.reduceEq, ↓reduceDIte]
  rfl

theorem callFn_string (v : Value F) : callFn d ctx "string" [v] = .ok (.str (toStr d v)) := by
  unfold callFn callFn.match_3
  simp only [String.reduceEq, ↓reduceDIte]

theorem callFn_string0 : callFn (F := F) d ctx "string" [] = .ok (.str (stringValue d ctx.node)) := by
  unfold callFn callFn.match_3
  simp only [String.reduceEq, ↓reduceDIte]

theorem callFn_concat (a b : Value F) (rest : List (Value F)) :
    callFn d ctx "concat" (a :: b :: rest) =
      .ok (.str ((a :: b :: rest).foldl (fun acc v => acc ++ toStr d v) "")) := by
  unfold callFn callFn.match_3
  simp only [String.reduceEq, ↓reduceDIte]

theorem callFn_startsWith (a b : Value F) :
    callFn d ctx "starts-with" [a, b] = .ok (.bool (fnStartsWith (toStr d a) (toStr d b))) := by
  unfold callFn callFn.match_3
  simp only [String.reduceEq, ↓reduceDIte]

theorem callFn_endsWith (a b : Value F) :
    callFn d ctx "ends-with" [a, b] = .ok (.bool (fnEndsWith (toStr d a) (toStr d b))) := by
  unfold callFn callFn.match_3
  simp only [String.reduceEq, ↓reduceDIte]

theorem callFn_contains (a b : Value F) :
    callFn d ctx "contains" [a, b] = .ok (.bool (fnContains (toStr d a) (toStr d b))) := by
  unfold callFn callFn.match_3
  simp only [String.reduceEq, ↓reduceDIte]

theorem callFn_substringBefore (a b : Value F) :
    callFn d ctx "substring-before" [a, b] = .ok (.str (fnSubstringBefore (toStr d a) (toStr d b))) := by
  unfold callFn callFn.match_3
  simp only [String.reduceEq, ↓reduceDIte]

theorem callFn_substringAfter (a b : Value F) :
    callFn d ctx "substring-after" [a, b] = .ok (.str (fnSubstringAfter (toStr d a) (toStr d b))) := by
  unfold callFn callFn.match_3
  simp only [String.reduceEq, ↓reduceDIte]

theorem callFn_substring2 (a b : Value F) :
    callFn d ctx "substring" [a, b] = .ok (.str (fnSubstring2 (toStr d a) (toNum d b))) := by
  unfold callFn callFn.match_3
  simp only [String.reduceEq, ↓reduceDIte]

theorem callFn_substring3 (a b l : Value F) :
    callFn d ctx "substring" [a, b, l] =
      .ok (.str (fnSubstring3 (toStr d a) (toNum d b) (toNum d l))) := by
  unfold callFn callFn.match_3
  simp only [String.reduceEq, ↓reduceDIte]

theorem callFn_stringLength (a : Value F) :
    callFn d ctx "string-length" [a] = .ok (.num (ofNat (toStr d a).length)) := by
  unfold callFn callFn.match_3
  simp only [String.reduceEq, ↓reduceDIte]

theorem callFn_normalizeSpace (a : Value F) :
    callFn d ctx "normalize-space" [a] = .ok (.str (fnNormalizeSpace (toStr d a))) := by
  unfold callFn callFn.match_3
  simp only [String.reduceEq, ↓reduceDIte]

theorem callFn_translate (a b c : Value F) :
    callFn d ctx "translate" [a, b, c] =
      .ok (.str (fnTranslate (toStr d a) (toStr d b) (toStr d c))) := by
  unfold callFn callFn.match_3
  simp only [String.reduceEq, ↓reduceDIte]

theorem callFn_lowerCase (a : Value F) :
    callFn d ctx "lower-case" [a] = .ok (.str (fnLowerCase (toStr d a))) := by
  unfold callFn callFn.match_3
  simp only [String.reduceEq, ↓reduceDIte]

theorem callFn_stringJoin (l : List Ref) (sep : Value F) :
    callFn d ctx "string-join" [.nodes l, sep] =
      .ok (.str (fnStringJoin (l.map (stringValue d)) (toStr d sep))) := by
  unfold callFn callFn.match_3
  simp only [String.reduceEq, ↓reduceDIte]

end XPathV.Spec

/-! ## the oracle on literals, on an argument chain and on a call -/
namespace XPathV.Spec
open XPathV NumAlg

variable {F : Type} [NumAlg F]

theorem eval_num (d : Doc) (l : String) (ctx : Ctx) :
    eval (F := F) d (.num l) ctx = .ok (.val (.num (strToNum l)) none) := by
  rw [eval]

theorem eval_str (d : Doc) (s : String) (ctx : Ctx) :
    eval (F := F) d (.str s) ctx = .ok (.val (.str s) none) := by
  rw [eval]

/-! ## the oracle on an operator node whose operands evaluate -/

/-- the six comparison operators as spelled in the parse tree -/
theorem CmpOp.ofString_inv (op : String) (cop : CmpOp) (h : CmpOp.ofString op = some cop) :
    op = "=" ∨ op = "!=" ∨ op = "<" ∨ op = "<=" ∨ op = ">" ∨ op = ">=" := by
  unfold CmpOp.ofString at h
  split at h <;> simp_all

theorem CmpOp.ofString_mem {op : String} {cop : CmpOp} (h : CmpOp.ofString op = some cop) :
    op ∈ ["=", "!=", "<", "<=", ">", ">="] := by
  simp only [List.mem_cons, List.not_mem_nil, or_false]
  exact CmpOp.ofString_inv op cop h

/-- a comparison node: `compare` of the operands' values -/
theorem eval_cmp (d : Doc) (op : String) (cop : CmpOp) (hop : CmpOp.ofString op = some cop)
    (l r : Ast) (c : Ctx) (lv rv : Res F)
    (hl : eval (F := F) d l c = .ok lv) (hr : eval (F := F) d r c = .ok rv) :
    eval (F := F) d (.oper op l r) c = .ok (.val (.bool (compare d cop lv.value rv.value)) none) := by
  have hor : CmpOp.ofString "or" = none := by decide
  have hand : CmpOp.ofString "and" = none := by decide
  rw [eval]
  simp only [hl, hr, bind, Except.bind]
  split
  · rw [hor] at hop; cases hop
  · rw [hand] at hop; cases hop
  · simp only [hop]

/-- `or` (`isOr = true`) / `and`: when the left operand decides, the right one is not evaluated (it is
arbitrary here); otherwise the value is the truth of the right operand -/
theorem eval_andor (isOr : Bool) (d : Doc) (l r : Ast) (c : Ctx) (va : Value F)
    (ga : Option (List (List Ref))) (hl : eval (F := F) d l c = .ok (.val va ga)) :
    (toBool va = isOr →
      eval (F := F) d (.oper (if isOr then "or" else "and") l r) c = .ok (.val (.bool isOr) none)) ∧
    (∀ vb gb, toBool va = (!isOr) → eval (F := F) d r c = .ok (.val vb gb) →
      eval (F := F) d (.oper (if isOr then "or" else "and") l r) c =
        .ok (.val (.bool (toBool vb)) none)) := by
  cases isOr <;> constructor
  all_goals first
    | (intro ht; simp [eval, hl, ht, bind, Except.bind, Res.value])
    | (intro vb gb ht hr; simp [eval, hl, ht, hr, bind, Except.bind, Res.value])

end XPathV.Spec

namespace XPathV.StringFns
open XPathV

variable {F : Type} [NumAlg F]

/-- pointwise relation of two lists -/
inductive All2 {α β : Type} (R : α → β → Prop) : List α → List β → Prop
  | nil : All2 R [] []
  | cons {a : α} {b : β} {as : List α} {bs : List β} : R a b → All2 R as bs → All2 R (a :: as) (b :: bs)

/-- the oracle evaluates `a` to `v` at `ctx` (with whatever grouping) -/
abbrev EvalsTo (d : Doc) (ctx : Spec.Ctx) (a : Ast) (v : Spec.Value F) : Prop :=
  ∃ g, Spec.eval (F := F) d a ctx = .ok (.val v g)

theorem evalsTo_num (d : Doc) (ctx : Spec.Ctx) (l : String) :
    EvalsTo (F := F) d ctx (.num l) (.num (Spec.strToNum l)) :=
  ⟨none, Spec.eval_num d l ctx⟩

theorem args_eval (d : Doc) (ctx : Spec.Ctx) (args : List Ast) (vs : List (Spec.Value F))
    (h : All2 (EvalsTo d ctx) args vs) :
    Spec.eval (F := F) d (Ast.ofArgList args) ctx = .ok (.args vs) := by
  induction h with
  | nil => simp only [Ast.ofArgList]; rw [Spec.eval]
  | @cons a v as vs' hav _ ih =>
    obtain ⟨g, hs⟩ := hav
    simp only [Ast.ofArgList]
    rw [Spec.eval, hs, ih]; rfl

/-- a call whose arguments evaluate: the oracle's library on their values -/
theorem eval_call (d : Doc) (ctx : Spec.Ctx) (name pfx : String) (args : List Ast)
    (vs : List (Spec.Value F)) (h : All2 (EvalsTo d ctx) args vs) :
    Spec.eval (F := F) d (.call name pfx (Ast.ofArgList args)) ctx =
      (Spec.callFn d ctx name vs).bind (fun v => .ok (.val v none)) := by
  rw [Spec.eval, args_eval d ctx args vs h]; rfl

/-- … where the library speaks -/
theorem call_eval (d : Doc) (ctx : Spec.Ctx) (name pfx : String) (args : List Ast)
    (vs : List (Spec.Value F)) (h : All2 (EvalsTo d ctx) args vs) (v : Spec.Value F)
    (hspec : Spec.callFn d ctx name vs = .ok v) :
    Spec.eval (F := F) d (.call name pfx (Ast.ofArgList args)) ctx = .ok (.val v none) := by
  rw [eval_call d ctx name pfx args vs h, hspec]; rfl

end XPathV.StringFns

namespace XPathV

/-- keeping some of the characters of a list, chosen by position, leaves a subsequence -/
theorem filterMap_zipIdx_sublist (xs : List Char) : ∀ (k : Nat) (p : Char × Nat → Option Char),
    (∀ c i o, p (c, i) = some o → o = c) → ((xs.zipIdx k).filterMap p).Sublist xs := by
  induction xs with
  | nil => intro k p _; simp
  | cons x t ih =>
    intro k p hp
    simp only [List.zipIdx_cons, List.filterMap_cons]
    cases hpx : p (x, k) with
    | none => exact (ih (k+1) p hp).cons _
    | some o => rw [hp x k o hpx]; exact (ih (k+1) p hp).cons_cons _

end XPathV
