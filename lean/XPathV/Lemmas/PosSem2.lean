import XPathV.Lemmas.PosSem
import XPathV.Lemmas.PredSem2
/-!
# C03 on the extended fragment `Frag2`

The positional theorems of `PosSem` (`C03_main`, `C03_main_seq`, `C03_evalTop`) and the chain
theorem are stated here with the input path in `PredSem2.Frag2 true` (count / contains / local-name
predicates, `(P)[b]`, path-vs-path and path-vs-string comparisons with six operators) and the
following boolean predicates in `PredSem2.Frag2 false`.

What `PosSem.Build` uses about the fragment is (i) that the plan built for the input path agrees
with the oracle (`InputOK`) and (ii) that a following boolean predicate is built into a plan with
the oracle's truth and props without `last()` (`BuildB`).  Both hold of `Frag2` by `build_frag2` /
`frag_sem2`.  At the end: the oracle's verdict on a predicate of `Frag2`
(`PosSem3.condTruth_frag2`; the namespace `XPathV.PosSem3` — `PosCond2` and what is proved of it —
has no module of its own: it is declared in `PosSem/CondBuild.lean` and here).
-/
namespace XPathV.PosSem2
open XPathV XPathV.Model XPathV.PathSem XPathV.PredSem XPathV.PredSem2 XPathV.PosSem NumAlg

variable {F : Type} [NumAlg F]

section Sem
variable {d : Doc} (wf : WF d) (cfg : ECfg) (hns : cfg.nsIface = true) (hinj : HashInj d cfg)
  (regexOk : RegexOk) (limit : Nat)
include wf hns hinj

/-- **`child::t[P]` through `build`, input path in `Frag2`** (any flags): the built plan is the plain
filter or the merge form over the plan `qi` built for the input path, and it implements the
proximity semantics -/
theorem build_posStep2 (a : AxisInfo) (ha : a.axis = "child") (q : Ast) (hq : Frag2 true q)
    (f : PosForm) (hag : f.Agree F d.length) (fl : Flags) (st : BState) (o : BOut)
    (hb : build regexOk limit true false (.filter (.axis a q) f.ast) fl st = .ok o) :
    ∃ qi, InputPlan regexOk limit q qi ∧ PathShape o.q ∧
      ∀ c : Spec.Ctx, validRef d c.node = true → PosStepOK F d cfg a f o.q qi q c :=
  build_posStep_of (F := F) wf cfg hns regexOk limit a ha q
    (input_pathOK2 wf cfg hns hinj regexOk limit q hq) f hag fl st o hb

/-! ## naive plans -/

/-- **C03, naive plan, `Frag2`** -/
theorem C03_naive2 (a : AxisInfo) (ha : a.axis = "child") (q : Ast) (hq : Frag2 true q)
    (f : PosForm) (hag : f.Agree F d.length) (c : Ref) (hc : validRef d c = true) :
    PosStepOK F d cfg a f
      (.filter (.child a (predPlan2 q)) (f.plan (.child a (predPlan2 q)))) (predPlan2 q) q ⟨c, 1, 1⟩ :=
  posStep_built (F := F) wf cfg hns a ha f _ rfl hag _ _ (predPlan2 q) (.inl rfl) (.inl rfl) q ⟨c, 1, 1⟩
    ((frag_sem2 (F := F) wf cfg hns hinj true q hq ⟨c, 1, 1⟩ hc).1 rfl)

/-- **C03, naive plan, followed by boolean predicates, `Frag2`** -/
theorem C03_naive_chain2 (a : AxisInfo) (ha : a.axis = "child") (q : Ast) (hq : Frag2 true q)
    (f : PosForm) (hag : f.Agree F d.length) (bs : List Ast) (hbs : ∀ b ∈ bs, Frag2 false b)
    (c : Ref) (hc : validRef d c = true) :
    PosChainOK F d cfg a f bs
      (stackPlan (.filter (.child a (predPlan2 q)) (f.plan (.child a (predPlan2 q)))) (bs.map predPlan2))
      (predPlan2 q) q ⟨c, 1, 1⟩ :=
  posChain_of_step (C03_naive2 (F := F) wf cfg hns hinj a ha q hq f hag c hc) trivial _ bs
    (predsOK_map cfg predPlan2 bs fun b hb x hx pos size =>
      (frag_sem2 (F := F) wf cfg hns hinj false b (hbs b hb) ⟨x, pos, size⟩ hx).2 rfl)

/-! ## through `build` -/

/-- **C03 for `build`, input path in `Frag2`**: the plan the builder produces for `q/child::a[f]` —
the plain filter or the merge rewrite — yields exactly the XPath 1.0 node set of the expression, and
these are the candidates `x` of an input node `p` whose 1-based position among the candidates of `p`
satisfies the predicate; neither side fails -/
theorem C03_main2 (a : AxisInfo) (ha : a.axis = "child") (q : Ast) (hq : Frag2 true q)
    (f : PosForm) (hag : f.Agree F d.length) (st : BState) (o : BOut)
    (hb : build regexOk limit true false (.filter (.axis a q) f.ast) {} st = .ok o)
    (c : Ref) (hc : validRef d c = true) :
    ∃ out ns g origins g0, sel (F := F) d cfg o.q c = .ok out ∧
      Spec.eval (F := F) d (.filter (.axis a q) f.ast) ⟨c, 1, 1⟩ = .ok (.val (.nodes ns) g) ∧
      Spec.eval (F := F) d q ⟨c, 1, 1⟩ = .ok (.val (.nodes origins) g0) ∧
      (∀ x, x ∈ refs out ↔ x ∈ ns) ∧
      (∀ x, x ∈ ns ↔ ∃ p ∈ origins, ∃ k, (childCands d cfg a p)[k]? = some x ∧
        PosForm.specKeep F f (k + 1) (childCands d cfg a p).length = true) := by
  obtain ⟨qi, _, _, hok⟩ :=
    build_posStep2 (F := F) wf cfg hns hinj regexOk limit a ha q hq f hag {} st o hb
  exact (hok ⟨c, 1, 1⟩ hc).mem_iff

/-- the sequence the built plan yields, input path in `Frag2` -/
theorem C03_main_seq2 (a : AxisInfo) (ha : a.axis = "child") (q : Ast) (hq : Frag2 true q)
    (f : PosForm) (hag : f.Agree F d.length) (st : BState) (o : BOut)
    (hb : build regexOk limit true false (.filter (.axis a q) f.ast) {} st = .ok o) :
    ∃ qi, ∀ c, validRef d c = true → PosStepOK F d cfg a f o.q qi q ⟨c, 1, 1⟩ := by
  obtain ⟨qi, _, _, hok⟩ :=
    build_posStep2 (F := F) wf cfg hns hinj regexOk limit a ha q hq f hag {} st o hb
  exact ⟨qi, fun c hc => hok ⟨c, 1, 1⟩ hc⟩

/-- C03 against the top-level oracle `evalTop`, input path in `Frag2` -/
theorem C03_evalTop2 (a : AxisInfo) (ha : a.axis = "child") (q : Ast) (hq : Frag2 true q)
    (f : PosForm) (hag : f.Agree F d.length) (st : BState) (o : BOut)
    (hb : build regexOk limit true false (.filter (.axis a q) f.ast) {} st = .ok o)
    (c : Ref) (hc : validRef d c = true) :
    ∃ out ns, sel (F := F) d cfg o.q c = .ok out ∧
      Spec.evalTop (F := F) d (.filter (.axis a q) f.ast) c = .ok (.nodes ns) ∧
      ∀ x, x ∈ refs out ↔ x ∈ ns := by
  obtain ⟨out, ns, g, _, _, h1, h2, _, h4, _⟩ :=
    C03_main2 (F := F) wf cfg hns hinj regexOk limit a ha q hq f hag st o hb c hc
  refine ⟨out, ns, h1, ?_, h4⟩
  simp [Spec.evalTop, h2, bind, Except.bind, pure, Except.pure, Spec.Res.value]

/-- **C03 for `build`, followed by boolean predicates, everything in `Frag2`**:
`q/child::a[f][b1]…[bk]` (`bs` lists the `bi` outermost first, each in `Frag2 false`) -/
theorem C03_chain2 (a : AxisInfo) (ha : a.axis = "child") (q : Ast) (hq : Frag2 true q)
    (f : PosForm) (hag : f.Agree F d.length) (bs : List Ast) (hbs : ∀ b ∈ bs, Frag2 false b)
    (st : BState) (o : BOut)
    (hb : build regexOk limit true false (stackAst (.filter (.axis a q) f.ast) bs) {} st = .ok o) :
    ∃ qi, ∀ c, validRef d c = true → PosChainOK F d cfg a f bs o.q qi q ⟨c, 1, 1⟩ := by
  obtain ⟨qi, hok⟩ := build_posChain (F := F) wf cfg hns regexOk limit a ha q
    (input_pathOK2 wf cfg hns hinj regexOk limit q hq) f hag bs
    (fun b hb => (build_frag2 (F := F) wf cfg hns hinj regexOk limit false b (hbs b hb)).2 rfl) {} st o hb
  exact ⟨qi, fun c hc => hok ⟨c, 1, 1⟩ hc⟩

end Sem

/-- the `Frag` theorems are instances of the `Frag2` ones -/
theorem C03_main_of_main2 {d : Doc} (wf : WF d) (cfg : ECfg) (hns : cfg.nsIface = true)
    (hinj : HashInj d cfg) (regexOk : RegexOk) (limit : Nat) (a : AxisInfo) (ha : a.axis = "child")
    (q : Ast) (hq : Frag true q) (f : PosForm) (hag : f.Agree F d.length) (st : BState) (o : BOut)
    (hb : build regexOk limit true false (.filter (.axis a q) f.ast) {} st = .ok o)
    (c : Ref) (hc : validRef d c = true) :
    ∃ out ns g origins g0, sel (F := F) d cfg o.q c = .ok out ∧
      Spec.eval (F := F) d (.filter (.axis a q) f.ast) ⟨c, 1, 1⟩ = .ok (.val (.nodes ns) g) ∧
      Spec.eval (F := F) d q ⟨c, 1, 1⟩ = .ok (.val (.nodes origins) g0) ∧
      (∀ x, x ∈ refs out ↔ x ∈ ns) ∧
      (∀ x, x ∈ ns ↔ ∃ p ∈ origins, ∃ k, (childCands d cfg a p)[k]? = some x ∧
        PosForm.specKeep F f (k + 1) (childCands d cfg a p).length = true) :=
  C03_main2 (F := F) wf cfg hns hinj regexOk limit a ha q (frag2_of_frag true q hq) f hag st o hb c hc

end XPathV.PosSem2

namespace XPathV.PosSem3
open XPathV XPathV.Model XPathV.PathSem XPathV.PredSem XPathV.PredSem2 XPathV.PosSem XPathV.PosSem2
  NumAlg

variable {F : Type} [NumAlg F]

section Sem
variable {d : Doc} (wf : WF d) (cfg : ECfg) (hns : cfg.nsIface = true) (hinj : HashInj d cfg)
include wf hns hinj

/-- a boolean predicate of `Frag2`: its truth at the node, whatever position and size -/
theorem condTruth_frag2 (b : Ast) (hb : Frag2 false b) (x : Ref) (hx : validRef d x = true)
    (pos size : Nat) : condTruth F d b x pos size = holds (F := F) d b x :=
  condTruth_of_predOK cfg (predPlan2 b) b x
    (fun pos size => (frag_sem2 (F := F) wf cfg hns hinj false b hb ⟨x, pos, size⟩ hx).2 rfl) pos size

end Sem

end XPathV.PosSem3
