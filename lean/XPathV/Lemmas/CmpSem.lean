import XPathV.Lemmas.PathSem
import XPathV.Lemmas.Sem.Agree
import XPathV.Lemmas.Sem.Built
import XPathV.Lemmas.ArithSem
import XPathV.Lemmas.StringFns.Nested
/-!
# C07 — comparison and boolean operators follow XPath 1.0, at the level of *expressions*

`Lemmas/C07Base.lean` and `Lemmas/Sem/Cells.lean` hold the cells of the dispatch matrix and their
assembly `cmpM_vrel` (no type pair and no operator excluded); `Lemmas/Sem/Agree.lean` what a comparison,
`and`/`or`, `not()`, `boolean()`, `true()`/`false()` and parentheses compute given their operands, for
any plans at any context.  This file

1. states `not()` on every type of argument at the level of the two function libraries,
2. has `Sem` — agreement up to membership, of a kind, at context position 1 of 1 — and the theorem
   about comparison expressions over literals and predicate-free paths (`CmpExp`), closed under
   `and`/`or`/`not()`/`boolean()`/grouping (`XExpG`, over two leaf fragments of number- and
   string-valued expressions; `XExp0` = no leaves) for the un-rewritten plans (`xplan`),
3. prepares the transport through `build`: what the built plan of a leaf computes (predicate-free
   paths `sem_path_build`, the arithmetic expressions of C08 `sem_numEC_build`, the nested
   string-function calls of C09 `sem_strE_build`).  The induction through `build` is done once, for
   any leaf fragments, in `Lemmas/CmpSem2` (`xexpP_built`); its instances for this file's fragments are
   declared there under this namespace (`_root_.XPathV.CmpSem.build_xexpG`, `build_xexp`), and the
   statements for boolean-valued expressions are in `Theorems/C07`.

`not()` takes an operand of any type (`notFunc`: `default: return !asBool(t, v)`): `callFn_not_spec`,
`Agree.not` and the `not` constructor of `XExpG` carry no restriction.
-/
namespace XPathV.CmpSem
open XPathV XPathV.Model NumAlg XPathV.PathSem XPathV.Sem
open XPathV.Theorems.C08 (emb)

variable {F : Type} [NumAlg F]

/-! ## 1. `and` / `or` on embedded values; `not()` on every type -/

/-- `or` / `and` on embedded oracle values: `||` / `&&` of the operands' truth values -/
theorem evalP_bool_spec (isOr : Bool) (d : Doc) (cfg : ECfg) (l r : Plan) (c : Ref) (va vb : Spec.Value F)
    (hl : evalP (F := F) d cfg l c = .ok (emb va)) (hr : evalP (F := F) d cfg r c = .ok (emb vb)) :
    evalP (F := F) d cfg (.boolean isOr l r) c =
      .ok (.bool (if isOr then Spec.toBool va || Spec.toBool vb else Spec.toBool va && Spec.toBool vb)) := by
  by_cases ht : Spec.toBool va = isOr
  · rw [evalP_bool_left isOr d cfg l r c _ hl (by rw [asBool_emb, ht])]
    cases isOr <;> simp [ht]
  · have ht' : Spec.toBool va = !isOr := by cases isOr <;> simp_all
    rw [evalP_bool_right isOr d cfg l r c _ _ _ hl (by rw [asBool_emb, ht']) hr (asBool_emb vb)]
    cases isOr <;> simp [ht']

/-- `not` on any model value: the negation of `asBool` (the `int` crash included) -/
theorem callFn_not_asBool (d : Doc) (cfg : ECfg) (fi : Plan) (c : Ref) (v : MVal F) (asel : Option (List Ref)) :
    callFn (F := F) d cfg "not" fi c [.ok v] asel = (asBoolM v).bind (fun b => .ok (.bool (!b))) :=
  Model.callFn_not d cfg fi c [.ok v] asel

/-- `not(v)` on a boolean or a node-set argument is the oracle's -/
theorem callFn_not_bool (d : Doc) (cfg : ECfg) (fi : Plan) (c : Ref) (ctx : Spec.Ctx)
    (b : Bool) (asel : Option (List Ref)) :
    callFn (F := F) d cfg "not" fi c [.ok (.bool b)] asel = .ok (.bool (!b)) ∧
    Spec.callFn (F := F) d ctx "not" [.bool b] = .ok (.bool (!b)) :=
  ⟨callFn_not_asBool d cfg fi c (.bool b) asel, Spec.callFn_not d ctx _⟩

/-- **`not(v)` is the oracle's, for every type of argument** (after the repair of `notFunc`: the
default arm is `!asBool(v)`): boolean ↦ `!b`, node-set ↦ "is empty", number ↦ "is 0 or NaN",
string ↦ "is empty" -/
theorem callFn_not_spec (d : Doc) (cfg : ECfg) (fi : Plan) (c : Ref) (ctx : Spec.Ctx)
    (v : Spec.Value F) (asel : Option (List Ref)) :
    callFn (F := F) d cfg "not" fi c [.ok (emb v)] asel = .ok (.bool (!Spec.toBool v)) ∧
    Spec.callFn (F := F) d ctx "not" [v] = .ok (.bool (!Spec.toBool v)) := by
  refine ⟨?_, Spec.callFn_not d ctx v⟩
  rw [callFn_not_asBool, asBool_emb]
  rfl

theorem callFn_not_nodes (d : Doc) (cfg : ECfg) (fi : Plan) (c : Ref) (ctx : Spec.Ctx)
    (l : List Ref) (asel : Option (List Ref)) :
    callFn (F := F) d cfg "not" fi c [.ok (.nodes l)] asel = .ok (.bool l.isEmpty) ∧
    Spec.callFn (F := F) d ctx "not" [.nodes l] = .ok (.bool l.isEmpty) := by
  have h := callFn_not_spec (F := F) d cfg fi c ctx (.nodes l) asel
  have e : (!Spec.toBool (F := F) (.nodes l)) = l.isEmpty := Bool.not_not _
  rwa [e] at h

/-- `not(v)` on a boolean or a node-set (the two arms the Go code always had): an instance of
`callFn_not_spec`, which has no restriction on the type -/
theorem callFn_not (d : Doc) (cfg : ECfg) (fi : Plan) (c : Ref) (ctx : Spec.Ctx)
    (v : Spec.Value F) (_hv : (∃ b, v = .bool b) ∨ (∃ l, v = .nodes l)) (asel : Option (List Ref)) :
    callFn (F := F) d cfg "not" fi c [.ok (emb v)] asel = .ok (.bool (!Spec.toBool v)) ∧
    Spec.callFn (F := F) d ctx "not" [v] = .ok (.bool (!Spec.toBool v)) :=
  callFn_not_spec d cfg fi c ctx v asel

/-- `not(number)`: true exactly when the number is zero or NaN — model and oracle (the
`notFunc` before its repair answered the constant `false`) -/
theorem callFn_not_num_spec (d : Doc) (cfg : ECfg) (fi : Plan) (c : Ref) (ctx : Spec.Ctx) (x : F)
    (asel : Option (List Ref)) :
    callFn (F := F) d cfg "not" fi c [.ok (.num x)] asel = .ok (.bool (!Spec.toBool (F := F) (.num x))) ∧
    Spec.callFn (F := F) d ctx "not" [.num x] = .ok (.bool (!Spec.toBool (F := F) (.num x))) :=
  callFn_not_spec d cfg fi c ctx (.num x) asel

/-- `not(string)`: true exactly when the string is empty — model and oracle -/
theorem callFn_not_str_spec (d : Doc) (cfg : ECfg) (fi : Plan) (c : Ref) (ctx : Spec.Ctx) (s : String)
    (asel : Option (List Ref)) :
    callFn (F := F) d cfg "not" fi c [.ok (.str s)] asel = .ok (.bool (s == "")) ∧
    Spec.callFn (F := F) d ctx "not" [.str s] = .ok (.bool (s == "")) := by
  have h := callFn_not_spec (F := F) d cfg fi c ctx (.str s) asel
  have e : (!Spec.toBool (F := F) (.str s)) = (s == "") := by simp [Spec.toBool, bne]
  rw [e] at h
  exact h

/-- the arguments `not` cannot convert: the Go `int` that `round()` returns makes `asBool` panic
("unexpected type"), in `not` as in `boolean` -/
theorem callFn_not_int_crash (d : Doc) (cfg : ECfg) (fi : Plan) (c : Ref) (i : Int) (asel : Option (List Ref)) :
    callFn (F := F) d cfg "not" fi c [.ok (.int i)] asel = .error (.crash .unknownType) :=
  callFn_not_asBool d cfg fi c (.int i) asel

/-! ## 2. Expression level -/

/-! ### the value of a path plan -/

/-- plans of the axis query types (the arm of `Evaluate` that returns the selected node list) -/
def isPathKind : Plan → Bool
  | .context | .absolute | .ancestor _ _ _ | .attr _ _ | .child _ _ | .cachedChild _ _
  | .descendant _ _ _ | .following _ _ _ | .preceding _ _ _ | .parent _ _ | .self _ _
  | .descOverDesc _ _ _ => true
  | _ => false

theorem evalP_pathKind (d : Doc) (cfg : ECfg) (q : Plan) (hq : isPathKind q = true) (c : Ref) :
    evalP (F := F) d cfg q c = (sel (F := F) d cfg q c).bind (fun s =>
      .ok (.nodes (if cfg.setSemantics then Spec.docOrder d (refs s) else refs s))) := by
  cases q <;> simp only [isPathKind, Bool.false_eq_true] at hq <;> simp only [evalP] <;> rfl

/-- the value of a path plan whose selection is (as a set) a list of valid nodes -/
theorem path_val_of_sel (d : Doc) (cfg : ECfg) (q : Plan) (hq : isPathKind q = true) (c : Ref)
    (out : List Item) (ns : List Ref) (hs : sel (F := F) d cfg q c = .ok out)
    (hm : ∀ x, x ∈ refs out ↔ x ∈ ns) (hv : ∀ x ∈ ns, validRef d x = true) :
    ∃ l, evalP (F := F) d cfg q c = .ok (.nodes l) ∧ ∀ x, x ∈ l ↔ x ∈ ns := by
  rw [evalP_pathKind d cfg q hq c, hs]
  refine ⟨_, rfl, fun x => ?_⟩
  split
  · rw [mem_docOrder, hm]
    exact ⟨fun h => h.1, fun h => ⟨h, hv x h⟩⟩
  · exact hm x

theorem stepPlan_pathKind (a : AxisInfo) (ha : a.axis ∈ axes12) (inp : Plan) :
    isPathKind (stepPlan a inp) = true := by
  simp only [axes12, List.mem_cons, List.not_mem_nil, or_false] at ha
  rcases ha with h | h | h | h | h | h | h | h | h | h | h | h <;> simp [stepPlan, h, isPathKind]

theorem naivePlan_pathKind (p : Ast) (hp : PathPF p) : isPathKind (naivePlan p) = true := by
  cases hp with
  | none => rfl
  | root s => rfl
  | axis a inp _ ha => exact stepPlan_pathKind a ha _

/-! ### `Sem`: a plan computes the oracle's value of an expression -/

/-- at context node `c` the plan `q` evaluates (without failure) to a model value that represents
the value the oracle assigns to `e` (context position and size 1), which is of kind `k` -/
def Sem (d : Doc) (cfg : ECfg) (c : Ref) (k : Kind) (q : Plan) (e : Ast) : Prop :=
  ∃ (mv : MVal F) (v : Spec.Value F) (g : Option (List (List Ref))),
    evalP (F := F) d cfg q c = .ok mv ∧ Spec.eval (F := F) d e ⟨c, 1, 1⟩ = .ok (.val v g) ∧
    VRel mv v ∧ vkind v = k

section
variable {d : Doc} {cfg : ECfg} {c : Ref} {k : Kind} {q : Plan} {e : Ast}

/-- `Sem` is agreement up to membership, of the kind, at position 1 of 1 -/
theorem Sem.agree (h : Sem (F := F) d cfg c k q e) : Agree (F := F) d cfg (SetK k) q e ⟨c, 1, 1⟩ := h

theorem Sem.of_agree (h : Agree (F := F) d cfg (SetK k) q e ⟨c, 1, 1⟩) : Sem (F := F) d cfg c k q e := h

theorem Sem.of_agree0 (h : Agree0 (F := F) d cfg (ExactK k) q e ⟨c, 1, 1⟩) :
    Sem (F := F) d cfg c k q e := h.as ExactK.setK

theorem Sem.vrel (h : Sem (F := F) d cfg c k q e) : Agree (F := F) d cfg VRel q e ⟨c, 1, 1⟩ :=
  h.agree.mono SetK.vrel

theorem Sem.truth (h : Sem (F := F) d cfg c k q e) : Agree (F := F) d cfg Truth q e ⟨c, 1, 1⟩ :=
  h.agree.mono SetK.truth

end

/-- a predicate-free path, un-rewritten plan (from `PathSem.naive_sem`) -/
theorem sem_path_naive {d : Doc} (wf : WF d) (cfg : ECfg) (hns : cfg.nsIface = true)
    (hinj : HashInj d cfg) (c : Ref) (hc : validRef d c = true) (p : Ast) (hp : PathPF p) :
    Sem (F := F) d cfg c .set (naivePlan p) p := by
  obtain ⟨out, ns, g, hs, he, hm, hv⟩ := naive_sem (F := F) wf cfg hns hinj p hp c hc
  obtain ⟨l, hl, hlm⟩ := path_val_of_sel (F := F) d cfg _ (naivePlan_pathKind p hp) c out ns hs hm hv
  exact ⟨.nodes l, .nodes ns, g, hl, he, hlm, rfl⟩

/-- short-circuit: when the left operand (in the fragment) decides, the right operand may be *any*
plan and *any* expression — it is evaluated on neither side -/
theorem sem_or_short (d : Doc) (cfg : ECfg) (c : Ref) (ka : Kind) (ql qr : Plan) (a b : Ast)
    (ha : Sem (F := F) d cfg c ka ql a)
    (ht : ∀ v g, Spec.eval (F := F) d a ⟨c, 1, 1⟩ = .ok (.val v g) → Spec.toBool v = true) :
    Sem (F := F) d cfg c .bool (.boolean true ql qr) (.oper "or" a b) :=
  Sem.of_agree0 (Agree.andor_left true qr b ha.truth ht)

theorem sem_and_short (d : Doc) (cfg : ECfg) (c : Ref) (ka : Kind) (ql qr : Plan) (a b : Ast)
    (ha : Sem (F := F) d cfg c ka ql a)
    (ht : ∀ v g, Spec.eval (F := F) d a ⟨c, 1, 1⟩ = .ok (.val v g) → Spec.toBool v = false) :
    Sem (F := F) d cfg c .bool (.boolean false ql qr) (.oper "and" a b) :=
  Sem.of_agree0 (Agree.andor_left false qr b ha.truth ht)

/-! ### the operand fragment and comparison expressions

From here to the end of section 3 the plans are the *un-rewritten* ones (`opPlan`, `xplan`: one plan
constructor per syntax node, none of the builder's rewrites): C07 stated without the builder
(`cmp_sem`, `xexpG_sem`, `bool_expr_sem`, `bexp_sem`).  The transport through `build` (section 4,
`Lemmas/CmpSem2`) uses the fragments (`Opnd`, `CmpExp`, `BExp`, `XExpG`) and the closure lemmas of
`Lemmas/Sem/Agree`, not these plans. -/

/-- operands: a number literal, a string literal, or a predicate-free location path (a node-set) -/
inductive Opnd : Ast → Prop
  | num (lex : String) : Opnd (.num lex)
  | str (s : String) : Opnd (.str s)
  | path (p : Ast) : PathPF p → Opnd p

/-- the static type of an operand -/
def okind : Ast → Kind
  | .num _ => .num
  | .str _ => .str
  | _ => .set

/-- the un-rewritten plan of an operand -/
def opPlan : Ast → Plan
  | .num l => .constNum l
  | .str s => .constStr s
  | p => naivePlan p

/-- comparison expressions of the property: `a op b`, `op` one of the six comparison operators,
`a`, `b` operands (number literal, string literal, path) — **every** pair of operand types, all six
operators.  (Before the repairs of the string cells the engine agreed with XPath on
string/string, node-set/string, string/node-set and node-set/node-set for `=` and `!=` only.) -/
inductive CmpExp : Ast → Prop
  | mk (op : String) (cop : Spec.CmpOp) (a b : Ast) : Spec.CmpOp.ofString op = some cop →
      Opnd a → Opnd b → CmpExp (.oper op a b)

theorem sem_opnd {d : Doc} (wf : WF d) (cfg : ECfg) (hns : cfg.nsIface = true)
    (hinj : HashInj d cfg) (c : Ref) (hc : validRef d c = true) (a : Ast) (ha : Opnd a) :
    Sem (F := F) d cfg c (okind a) (opPlan a) a := by
  cases ha with
  | num lex => exact .of_agree0 (agree0_num_lit d cfg lex _)
  | str s => exact .of_agree0 (agree0_str_lit d cfg s _)
  | path p hp =>
    have h := sem_path_naive (F := F) wf cfg hns hinj c hc a hp
    cases hp <;> exact h

/-- **C07, comparison expressions (un-rewritten plans)**: for a well-formed document, a valid
context node and a comparison `a op b` of the property's fragment, the plan
`.logical op (plan a) (plan b)` evaluates to `Spec.compare d op va vb`, where `va`, `vb` are the
oracle's values of the operands — and that is the oracle's value of the expression -/
theorem cmp_sem {d : Doc} (wf : WF d) (cfg : ECfg) (hns : cfg.nsIface = true)
    (hinj : HashInj d cfg) (c : Ref) (hc : validRef d c = true)
    (op : String) (cop : Spec.CmpOp) (a b : Ast) (hop : Spec.CmpOp.ofString op = some cop)
    (ha : Opnd a) (hb : Opnd b) :
    ∃ (va vb : Spec.Value F) (ga gb : Option (List (List Ref))),
      Spec.eval (F := F) d a ⟨c, 1, 1⟩ = .ok (.val va ga) ∧
      Spec.eval (F := F) d b ⟨c, 1, 1⟩ = .ok (.val vb gb) ∧
      evalP (F := F) d cfg (.logical op (opPlan a) (opPlan b)) c = .ok (.bool (Spec.compare d cop va vb)) ∧
      Spec.eval (F := F) d (.oper op a b) ⟨c, 1, 1⟩ = .ok (.val (.bool (Spec.compare d cop va vb)) none) :=
  (sem_opnd wf cfg hns hinj c hc a ha).vrel.cmp_value hop (sem_opnd wf cfg hns hinj c hc b hb).vrel

/-- the same against the top-level oracle -/
theorem cmp_sem_evalTop {d : Doc} (wf : WF d) (cfg : ECfg) (hns : cfg.nsIface = true)
    (hinj : HashInj d cfg) (c : Ref) (hc : validRef d c = true) (e : Ast) (he : CmpExp e) :
    ∃ (op : String) (a b : Ast) (t : Bool), e = .oper op a b ∧
      evalP (F := F) d cfg (.logical op (opPlan a) (opPlan b)) c = .ok (.bool t) ∧
      Spec.evalTop (F := F) d e c = .ok (.bool t) := by
  cases he with
  | mk op cop a b hop ha hb =>
    obtain ⟨va, vb, ga, gb, _, _, h1, h2⟩ := cmp_sem (F := F) wf cfg hns hinj c hc op cop a b hop ha hb
    exact ⟨op, a, b, _, rfl, h1, by simp [Spec.evalTop, h2, bind, Except.bind, pure, Except.pure, Spec.Res.value]⟩

/-! ### closure under `and` / `or` / `not()` / `boolean()` / `true()` / `false()` / parentheses -/

/-- the expression fragment, indexed by the static type of the expression, over two leaf fragments
`NP` (number-valued expressions) and `SP` (string-valued expressions).  Comparison nodes take *any*
two expressions of the fragment as operands — **every** pair of the four types (number, string,
node-set, boolean), all six operators: after the repairs of `cmpStringStringF`, `cmpNodeSetString`,
`cmpStringNumeric`, `cmpBooleanAny` and `cmpAnyBoolean` no type pair is excluded; `and`, `or`, `boolean()` and — after the repair of
`notFunc` — `not()` take an operand of **any** type. -/
inductive XExpG (NP SP : Ast → Prop) : Kind → Ast → Prop
  | num (lex : String) : XExpG NP SP .num (.num lex)
  | str (s : String) : XExpG NP SP .str (.str s)
  | path (p : Ast) : PathPF p → XExpG NP SP .set p
  /-- a number-valued expression of the leaf fragment (arithmetic, `count()`, …) -/
  | numE (e : Ast) : NP e → XExpG NP SP .num e
  /-- a string-valued expression of the leaf fragment (string functions) -/
  | strE (e : Ast) : SP e → XExpG NP SP .str e
  | cmp (op : String) (cop : Spec.CmpOp) (ka kb : Kind) (a b : Ast) :
      Spec.CmpOp.ofString op = some cop → XExpG NP SP ka a → XExpG NP SP kb b →
      XExpG NP SP .bool (.oper op a b)
  | and (ka kb : Kind) (a b : Ast) : XExpG NP SP ka a → XExpG NP SP kb b → XExpG NP SP .bool (.oper "and" a b)
  | or (ka kb : Kind) (a b : Ast) : XExpG NP SP ka a → XExpG NP SP kb b → XExpG NP SP .bool (.oper "or" a b)
  | not (ka : Kind) (a : Ast) (pfx : String) : XExpG NP SP ka a →
      XExpG NP SP .bool (.call "not" pfx (.acons a .anil))
  | boolean (ka : Kind) (a : Ast) (pfx : String) : XExpG NP SP ka a →
      XExpG NP SP .bool (.call "boolean" pfx (.acons a .anil))
  | true (pfx : String) : XExpG NP SP .bool (.call "true" pfx .anil)
  | false (pfx : String) : XExpG NP SP .bool (.call "false" pfx .anil)
  | group (k : Kind) (a : Ast) : XExpG NP SP k a → XExpG NP SP k (.group a)

/-- **the C07 fragment**: number-valued leaves are the arithmetic expressions of C08
(`ArithSem.NumEC`: literals, `+ - * div`, unary minus, `floor`, `ceiling`, `number`,
`string-length('…')`, `count` over flat paths), string-valued leaves the nested string-function
calls of C09 (`StringFns.StrE`: `concat`, `substring-before/after`, `substring`, `normalize-space`,
`translate`, `lower-case`, `string`).  So `not(count(b))`, `not(1 - 1)`, `not(concat('', ''))`,
`count(a) > 1 and not('')` … are all in the fragment. -/
abbrev XExp : Kind → Ast → Prop := XExpG ArithSem.NumEC StringFns.StrE

/-- the core fragment without leaf fragments (literals and paths only) -/
abbrev XExp0 : Kind → Ast → Prop := XExpG (fun _ => False) (fun _ => False)

theorem XExpG.mono {NP NP' SP SP' : Ast → Prop} (hn : ∀ e, NP e → NP' e) (hs : ∀ e, SP e → SP' e)
    {k : Kind} {e : Ast} (h : XExpG NP SP k e) : XExpG NP' SP' k e := by
  induction h with
  | num lex => exact .num lex
  | str s => exact .str s
  | path p hp => exact .path p hp
  | numE e he => exact .numE e (hn e he)
  | strE e he => exact .strE e (hs e he)
  | cmp op cop ka kb a b hop _ _ iha ihb => exact .cmp op cop ka kb a b hop iha ihb
  | and ka kb a b _ _ iha ihb => exact .and ka kb a b iha ihb
  | or ka kb a b _ _ iha ihb => exact .or ka kb a b iha ihb
  | not ka a pfx _ ih => exact .not ka a pfx ih
  | boolean ka a pfx _ ih => exact .boolean ka a pfx ih
  | true pfx => exact .true pfx
  | false pfx => exact .false pfx
  | group k a _ ih => exact .group k a ih

theorem XExpG.of_opnd {NP SP : Ast → Prop} (a : Ast) (h : Opnd a) : XExpG NP SP (okind a) a := by
  cases h with
  | num lex => exact .num lex
  | str s => exact .str s
  | path p hp => cases hp <;> exact .path _ (by constructor <;> assumption)

/-- the property's comparison expressions are in the fragment -/
theorem XExpG.of_cmpExp {NP SP : Ast → Prop} (e : Ast) (h : CmpExp e) : XExpG NP SP .bool e := by
  cases h with
  | mk op cop a b hop ha hb =>
    exact .cmp op cop _ _ a b hop (.of_opnd a ha) (.of_opnd b hb)

/-- boolean combinations of the property's comparison expressions (the closure the property asks
for), as a sub-fragment of `XExp .bool` -/
inductive BExp : Ast → Prop
  | cmp (e : Ast) : CmpExp e → BExp e
  | and (a b : Ast) : BExp a → BExp b → BExp (.oper "and" a b)
  | or (a b : Ast) : BExp a → BExp b → BExp (.oper "or" a b)
  | not (a : Ast) (pfx : String) : BExp a → BExp (.call "not" pfx (.acons a .anil))
  | boolean (a : Ast) (pfx : String) : BExp a → BExp (.call "boolean" pfx (.acons a .anil))

theorem XExpG.of_bexp {NP SP : Ast → Prop} (e : Ast) (h : BExp e) : XExpG NP SP .bool e := by
  induction h with
  | cmp e he => exact .of_cmpExp e he
  | and a b _ _ iha ihb => exact .and _ _ a b iha ihb
  | or a b _ _ iha ihb => exact .or _ _ a b iha ihb
  | not a pfx _ ih => exact .not _ a pfx ih
  | boolean a pfx _ ih => exact .boolean _ a pfx ih

theorem XExp.of_opnd (a : Ast) (h : Opnd a) : XExp (okind a) a := XExpG.of_opnd a h
theorem XExp.of_cmpExp (e : Ast) (h : CmpExp e) : XExp .bool e := XExpG.of_cmpExp e h
theorem XExp.of_bexp (e : Ast) (h : BExp e) : XExp .bool e := XExpG.of_bexp e h

/-- the un-rewritten plan of an expression: literals → constants, paths → `naivePlan`, comparison
nodes → `.logical`, `and`/`or` → `.boolean`, calls → `.func` (no first input), `(e)` → `.group` -/
def xplan : Ast → Plan
  | .num l => .constNum l
  | .str s => .constStr s
  | .none => .context
  | .root _ => .absolute
  | .axis a inp => stepPlan a (naivePlan inp)
  | .group x => .group (xplan x)
  | .oper op l r =>
    if op = "and" then .boolean false (xplan l) (xplan r)
    else if op = "or" then .boolean true (xplan l) (xplan r)
    else .logical op (xplan l) (xplan r)
  | .call name _ args => .func name .nil (xplan args)
  | .anil => .pnil
  | .acons h t => .pcons (xplan h) (xplan t)
  | .filter _ _ => .nil
  | .var _ _ => .nil

theorem xplan_path (p : Ast) (hp : PathPF p) : xplan p = naivePlan p := by
  cases hp <;> rfl

theorem xplan_opnd (a : Ast) (ha : Opnd a) : xplan a = opPlan a := by
  cases ha with
  | num lex => rfl
  | str s => rfl
  | path p hp => cases hp <;> rfl

theorem xplan_cmp (op : String) (cop : Spec.CmpOp) (hop : Spec.CmpOp.ofString op = some cop) (a b : Ast) :
    xplan (.oper op a b) = .logical op (xplan a) (xplan b) := by
  rcases Spec.CmpOp.ofString_inv op cop hop with h | h | h | h | h | h <;> subst h <;> simp [xplan]

/-- **C07, expression level (un-rewritten plans)**: every expression of the fragment is evaluated by
its plan, without failure, to (a representative of) the value the XPath 1.0 oracle assigns to it —
for any leaf fragments whose members are (`hN`, `hS`) -/
theorem xexpG_sem {d : Doc} (wf : WF d) (cfg : ECfg) (hns : cfg.nsIface = true)
    (hinj : HashInj d cfg) (c : Ref) (hc : validRef d c = true) {NP SP : Ast → Prop}
    (hN : ∀ e, NP e → Sem (F := F) d cfg c .num (xplan e) e)
    (hS : ∀ e, SP e → Sem (F := F) d cfg c .str (xplan e) e)
    (k : Kind) (e : Ast) (h : XExpG NP SP k e) :
    Sem (F := F) d cfg c k (xplan e) e := by
  induction h with
  | num lex => exact .of_agree0 (agree0_num_lit d cfg lex _)
  | str s => exact .of_agree0 (agree0_str_lit d cfg s _)
  | path p hp => rw [xplan_path p hp]; exact sem_path_naive wf cfg hns hinj c hc p hp
  | numE e he => exact hN e he
  | strE e he => exact hS e he
  | cmp op cop ka kb a b hop _ _ iha ihb =>
    rw [xplan_cmp op cop hop]; exact .of_agree0 (iha.vrel.cmp hop ihb.vrel)
  | and ka kb a b _ _ iha ihb => exact .of_agree0 (iha.truth.andor false ihb.truth)
  | or ka kb a b _ _ iha ihb => exact .of_agree0 (iha.truth.andor true ihb.truth)
  | not ka a pfx _ ih => exact .of_agree0 (ih.truth.not pfx .nil)
  | boolean ka a pfx _ ih => exact .of_agree0 (ih.truth.boolean pfx .nil)
  | true pfx => exact .of_agree0 (agree0_const pfx .nil true (callFn_true ..) (Spec.callFn_true d _))
  | false pfx => exact .of_agree0 (agree0_const pfx .nil false (callFn_false ..) (Spec.callFn_false d _))
  | group k a _ ih => exact .of_agree ih.agree.group.agree

/-- the core fragment (literals and paths as leaves) on un-rewritten plans -/
theorem xexp_sem {d : Doc} (wf : WF d) (cfg : ECfg) (hns : cfg.nsIface = true)
    (hinj : HashInj d cfg) (c : Ref) (hc : validRef d c = true) (k : Kind) (e : Ast) (h : XExp0 k e) :
    Sem (F := F) d cfg c k (xplan e) e :=
  xexpG_sem wf cfg hns hinj c hc (fun _ h => h.elim) (fun _ h => h.elim) k e h

/-- a `Sem` of boolean kind in plain words: both sides yield the same truth value -/
theorem sem_bool_out (d : Doc) (cfg : ECfg) (c : Ref) (q : Plan) (e : Ast)
    (h : Sem (F := F) d cfg c .bool q e) :
    ∃ t : Bool, evalP (F := F) d cfg q c = .ok (.bool t) ∧ Spec.evalTop (F := F) d e c = .ok (.bool t) := by
  obtain ⟨mv, v, g, he, hs, hr, hk⟩ := h
  obtain ⟨t, rfl, rfl⟩ := vrel_bool mv v hr hk
  exact ⟨t, he, by simp [Spec.evalTop, hs, bind, Except.bind, pure, Except.pure, Spec.Res.value]⟩

/-- **C07 for boolean-valued expressions of the fragment**: comparison expressions closed under
`and`/`or`/`not()`/`boolean()` (any nesting) evaluate to the truth value the oracle assigns -/
theorem bool_expr_sem {d : Doc} (wf : WF d) (cfg : ECfg) (hns : cfg.nsIface = true)
    (hinj : HashInj d cfg) (c : Ref) (hc : validRef d c = true) (e : Ast) (h : XExp0 .bool e) :
    ∃ t : Bool, evalP (F := F) d cfg (xplan e) c = .ok (.bool t) ∧
      Spec.evalTop (F := F) d e c = .ok (.bool t) :=
  sem_bool_out d cfg c _ e (xexp_sem wf cfg hns hinj c hc .bool e h)

theorem bexp_sem {d : Doc} (wf : WF d) (cfg : ECfg) (hns : cfg.nsIface = true)
    (hinj : HashInj d cfg) (c : Ref) (hc : validRef d c = true) (e : Ast) (h : BExp e) :
    ∃ t : Bool, evalP (F := F) d cfg (xplan e) c = .ok (.bool t) ∧
      Spec.evalTop (F := F) d e c = .ok (.bool t) :=
  bool_expr_sem wf cfg hns hinj c hc e (XExpG.of_bexp e h)

/-! ## 4. Through `build` -/

theorem isPathKind_builtStep {a : AxisInfo} (ha : a.axis ∈ axes12) (fl : Flags) (pr : Props) (qi : Plan) :
    isPathKind (builtStep a fl pr qi) = true := by
  unfold builtStep
  split
  · rfl
  · split
    · rfl
    · exact stepPlan_pathKind a ha qi

/-- the plan `build` makes of a predicate-free path is of one of the axis query types -/
theorem build_path_kind (regexOk : RegexOk) (limit : Nat) (snt sdf : Bool) (p : Ast) (hp : PathPF p)
    (fl : Flags) (st : BState) (o : BOut) (h : build regexOk limit snt sdf p fl st = .ok o) :
    isPathKind o.q = true := by
  cases hp with
  | none => rw [build_none_error] at h; cases h
  | root s => cases build_root_ok h; rfl
  | axis a inp _ _ =>
    rcases build_axis_ok h with ⟨_, _, _, _, _, _, _, _, _, _, hfin⟩ | ⟨_, _, _, _, _, _, hq, hfin⟩
    · rw [finAxis_q _ _ _ _ hfin]; rfl
    · obtain ⟨ha, rfl, -⟩ := axisPlan_eq hq
      rw [finAxis_q _ _ _ _ hfin]
      exact isPathKind_builtStep ha _ _ _

/-- a predicate-free path, the plan `build` makes of it (all rewrites): from `PathSem.build_pathpf`
and `PathSem.naive_sem` -/
theorem sem_path_build {d : Doc} (wf : WF d) (cfg : ECfg) (hns : cfg.nsIface = true)
    (hinj : HashInj d cfg) (c : Ref) (hc : validRef d c = true) (regexOk : RegexOk) (limit : Nat)
    (sdf : Bool) (p : Ast) (hp : PathPF p) (st : BState) (o : BOut)
    (hb : build regexOk limit true sdf p {} st = .ok o) :
    Sem (F := F) d cfg c .set o.q p := by
  obtain ⟨out, nv, h1, h2, h12⟩ := build_pathpf (F := F) wf cfg hinj regexOk limit sdf p hp st o hb c hc
  obtain ⟨nv', ns, g, h2', hev, hmem, hval⟩ := naive_sem (F := F) wf cfg hns hinj p hp c hc
  rw [h2] at h2'; cases h2'
  obtain ⟨l, hl, hlm⟩ := path_val_of_sel (F := F) d cfg o.q
    (build_path_kind regexOk limit true sdf p hp {} st o hb) c out ns h1
    (fun x => (h12 x).trans (hmem x)) hval
  exact ⟨.nodes l, .nodes ns, g, hl, hev, hlm, rfl⟩

/-- the arithmetic leaves (C08, `ArithSem.numEG_built`) compute the oracle's number -/
theorem sem_numEC_build {d : Doc} (wf : WF d) (cfg : ECfg) (hns : cfg.nsIface = true)
    (hinj : HashInj d cfg) (c : Ref) (hc : validRef d c = true) (regexOk : RegexOk) (limit : Nat)
    (sdf : Bool) (pin : Option Plan) (e : Ast) (he : ArithSem.NumEC e) :
    Built regexOk limit true sdf pin e fun o => Agree (F := F) d cfg (SetK .num) o.q e ⟨c, 1, 1⟩ :=
  (ArithSem.numEG_built d cfg regexOk limit true sdf ⟨c, 1, 1⟩ pin
    (ArithSem.sameList_flat wf cfg hns hinj regexOk limit sdf c hc 1 1)
    (ArithSem.sameList_false d cfg regexOk limit true sdf _) (fun _ h => h.elim)
    (fun _ _ h => h.elim) he).built.imp fun _ h => h.as ExactK.setK

/-- the full arithmetic fragment of C08 (`mod` and `sum` inside the oracle's domain at this context) -/
theorem sem_numEF_build {d : Doc} (wf : WF d) (cfg : ECfg) (hns : cfg.nsIface = true)
    (hinj : HashInj d cfg) (c : Ref) (hc : validRef d c = true) (regexOk : RegexOk) (limit : Nat)
    (sdf : Bool) (pin : Option Plan) (e : Ast) (he : ArithSem.NumEF d ⟨c, 1, 1⟩ F e) :
    Built regexOk limit true sdf pin e fun o => Agree (F := F) d cfg (SetK .num) o.q e ⟨c, 1, 1⟩ :=
  (ArithSem.numEG_built d cfg regexOk limit true sdf ⟨c, 1, 1⟩ pin
    (ArithSem.sameList_flat wf cfg hns hinj regexOk limit sdf c hc 1 1)
    (fun pin p hp => ArithSem.sameList_flat wf cfg hns hinj regexOk limit sdf c hc 1 1 pin p hp.1)
    (fun _ hp => hp.2) (fun _ _ h => h) he).built.imp fun _ h => h.as ExactK.setK

/-- the string-function leaves (C09, `StringFns.strE_sem`) compute the oracle's string -/
theorem sem_strE_build (d : Doc) (cfg : ECfg) (c : Ref) (regexOk : RegexOk) (limit : Nat)
    (snt sdf : Bool) (pin : Option Plan) (e : Ast) (he : StringFns.StrE e) :
    Built regexOk limit snt sdf pin e fun o => Agree (F := F) d cfg (SetK .str) o.q e ⟨c, 1, 1⟩ :=
  fun st o _ hb =>
    let ⟨s, h1, _, h3, _⟩ := StringFns.strE_sem (F := F) e he d cfg c regexOk limit snt sdf st o hb
    ⟨.str s, .str s, none, h1, h3, rfl, rfl⟩

end XPathV.CmpSem
