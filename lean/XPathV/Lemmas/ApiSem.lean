import XPathV.Lemmas.PredSem
import XPathV.Lemmas.ApiSem2
/-!
# C01 / C02 at the public API: `compile` (scanner + parser + builder on the text), `selectAll`,
`evaluate`

The anatomy of `compile` and the statements for the fragment `Frag2` are in `ApiSem2`; here

* §1 what a parse failure of `compile` is: `compile_ne_fuel`, `compile_parse_error`
* §2 the statements for `PredSem.Frag`, read off those for `Frag2`: `C02_api_build` (`parse` +
  `Frag` + `build`), `C02_compile`, `C02_compile_source` (the default `CompileCfg`, whose two switches are read off the
  source), `C02_compile_evaluate`, `C02_compile_total`; and `C01_compile` for predicate-free paths
* §3 concrete texts: `"//a[b]/c"`, `"/a/b[not(c)]"`, `"a/b[c = 'x' and d > 1]"`
-/
namespace XPathV.ApiSem
open XPathV XPathV.Model XPathV.PathSem XPathV.PredSem

variable {F : Type} [NumAlg F]

/-! ## §1 Parse failures of `compile` -/

/-- **the fuel `compile` gives the parser is sufficient**: `compile` never fails for lack of fuel -/
theorem compile_ne_fuel (cc : CompileCfg) (ns : Option (List (String × String))) (text : List Char) :
    compile cc ns text ≠ .error (.parse .fuel) := by
  unfold compile
  split
  · intro h; cases h
  · split
    · rename_i e he
      intro h
      cases h
      exact Lemmas.ParserFuel.parse_fuel_enough_default ns text he
    · split
      · intro h; cases h
      · split <;> (intro h; cases h)

/-- a parse failure of `compile` is the parser's failure on the text -/
theorem compile_parse_error (cc : CompileCfg) (ns : Option (List (String × String))) (text : List Char)
    (e : PErr) (h : compile cc ns text = .error (.parse e)) :
    parse (fuelFor text) (defaultCfg ns) text = .error e ∧ e ≠ .fuel := by
  have hf := compile_ne_fuel cc ns text
  unfold compile at h
  split at h
  · cases h
  · split at h
    · rename_i e' he
      cases h
      exact ⟨he, fun h' => hf (by rw [h'] at he; unfold compile; simp only [*]; rfl)⟩
    · split at h
      · cases h
      · split at h <;> cases h

theorem selectAll_error (d : Doc) (cfg : ECfg) (p : Plan) (c : Ref) (e : EErr)
    (h : sel (F := F) d cfg p c = .error e) : selectAll (F := F) d cfg p c = .error e := by
  simp only [selectAll, h, bind, Except.bind]

/-! ## §2 C02 / C01 against `compile`, `selectAll`, `evaluate` -/

/-- **C02 for `build` and `selectAll`** (the parse hypothesis only names where `a` comes from; it is
not used): if `a` is in the fragment and the builder (switches as read off the source: `//name`
shortcut guarded, no smartDesc through filters; initial flags and state) returns `o`, then
`selectAll` of `o.q` from a valid context node succeeds and has exactly the members of the node-set
`Spec.evalTop` assigns to `a` -/
theorem C02_api_build {d : Doc} (wf : WF d) (cfg : ECfg) (hns : cfg.nsIface = true)
    (hinj : HashInj d cfg) (regexOk : RegexOk) (limit : Nat) (fuel : Nat) (pcfg : PCfg)
    (text : List Char) (a : Ast) (_hparse : parse fuel pcfg text = .ok a) (hfrag : Frag true a)
    (o : BOut) (hb : build regexOk limit true false a {} {} = .ok o)
    (c : Ref) (hc : validRef d c = true) :
    ∃ l ns, selectAll (F := F) d cfg o.q c = .ok l ∧
      Spec.evalTop (F := F) d a c = .ok (.nodes ns) ∧ ∀ x, x ∈ l ↔ x ∈ ns := by
  obtain ⟨l, ns, h1, _, h2, h3⟩ :=
    C02_api_build2 (F := F) wf cfg hns hinj regexOk limit a (PredSem2.frag2_of_frag true a hfrag) o hb c hc
  exact ⟨l, ns, h1, h2, h3⟩

/-- the same with the switches written as the constants `compile` reads off the source -/
theorem C02_api_build_source {d : Doc} (wf : WF d) (cfg : ECfg) (hns : cfg.nsIface = true)
    (hinj : HashInj d cfg) (regexOk : RegexOk) (limit : Nat) (fuel : Nat) (pcfg : PCfg)
    (text : List Char) (a : Ast) (hparse : parse fuel pcfg text = .ok a) (hfrag : Frag true a)
    (o : BOut)
    (hb : build regexOk limit shortcutNeedsNodeTestFromSource smartDescThroughFilterFromSource a {} {} = .ok o)
    (c : Ref) (hc : validRef d c = true) :
    ∃ l ns, selectAll (F := F) d cfg o.q c = .ok l ∧
      Spec.evalTop (F := F) d a c = .ok (.nodes ns) ∧ ∀ x, x ∈ l ↔ x ∈ ns := by
  rw [Lemmas.SourceConfig.shortcut_guard_from_source,
    Lemmas.SourceConfig.smartdesc_stops_at_filters_from_source] at hb
  exact C02_api_build wf cfg hns hinj regexOk limit fuel pcfg text a hparse hfrag o hb c hc

/-- **C02 against `compile` / `selectAll`** (what `Driver.modelSel` runs against `Driver.specEval`):
for a text that the parser — with `fuelFor text`, the default configuration and the namespace
table `ns` — turns into a tree `a` of the fragment, every plan `compile` returns (under a
configuration with the `//name` shortcut guarded and no smartDesc through filters) selects, from
every valid context node of every well-formed document, exactly the members of the node-set the
oracle assigns to `a`; neither side fails -/
theorem C02_compile {d : Doc} (wf : WF d) (cfg : ECfg) (hns : cfg.nsIface = true)
    (hinj : HashInj d cfg) (cc : CompileCfg) (hsnt : cc.shortcutNeedsNodeTest = true)
    (hsdf : cc.smartDescThroughFilter = false) (ns : Option (List (String × String)))
    (text : List Char) (a : Ast) (hparse : parse (fuelFor text) (defaultCfg ns) text = .ok a)
    (hfrag : Frag true a) (p : Plan) (hcomp : compile cc ns text = .ok p)
    (c : Ref) (hc : validRef d c = true) :
    ∃ l nsl, selectAll (F := F) d cfg p c = .ok l ∧
      Spec.evalTop (F := F) d a c = .ok (.nodes nsl) ∧ ∀ x, x ∈ l ↔ x ∈ nsl :=
  C02_compile2 wf cfg hns hinj cc hsnt hsdf ns text a hparse (PredSem2.frag2_of_frag true a hfrag) p hcomp c hc

/-- **C02 against `compile` at the source configuration**: `CompileCfg`'s default switches are the
ones read off the current source (`shortcutNeedsNodeTestFromSource`,
`smartDescThroughFilterFromSource`); any regexp oracle -/
theorem C02_compile_source {d : Doc} (wf : WF d) (cfg : ECfg) (hns : cfg.nsIface = true)
    (hinj : HashInj d cfg) (regexOk : RegexOk) (ns : Option (List (String × String)))
    (text : List Char) (a : Ast) (hparse : parse (fuelFor text) (defaultCfg ns) text = .ok a)
    (hfrag : Frag true a) (p : Plan) (hcomp : compile { regexOk := regexOk } ns text = .ok p)
    (c : Ref) (hc : validRef d c = true) :
    ∃ l nsl, selectAll (F := F) d cfg p c = .ok l ∧
      Spec.evalTop (F := F) d a c = .ok (.nodes nsl) ∧ ∀ x, x ∈ l ↔ x ∈ nsl :=
  C02_compile wf cfg hns hinj { regexOk := regexOk } (srcCfg_snt regexOk) (srcCfg_sdf regexOk)
    ns text a hparse hfrag p hcomp c hc

/-- **C02 against `compile` / `evaluate`** (what `Driver.modelEval` runs): `Expr.Evaluate` of the
compiled path returns a node-set with exactly the oracle's members — the same list `selectAll`
returns -/
theorem C02_compile_evaluate {d : Doc} (wf : WF d) (cfg : ECfg) (hns : cfg.nsIface = true)
    (hinj : HashInj d cfg) (cc : CompileCfg) (hsnt : cc.shortcutNeedsNodeTest = true)
    (hsdf : cc.smartDescThroughFilter = false) (ns : Option (List (String × String)))
    (text : List Char) (a : Ast) (hparse : parse (fuelFor text) (defaultCfg ns) text = .ok a)
    (hfrag : Frag true a) (p : Plan) (hcomp : compile cc ns text = .ok p)
    (c : Ref) (hc : validRef d c = true) :
    ∃ l nsl, evaluate (F := F) d cfg p c = .ok (.nodes l) ∧ selectAll (F := F) d cfg p c = .ok l ∧
      Spec.evalTop (F := F) d a c = .ok (.nodes nsl) ∧ ∀ x, x ∈ l ↔ x ∈ nsl :=
  C02_compile_evaluate2 wf cfg hns hinj cc hsnt hsdf ns text a hparse (PredSem2.frag2_of_frag true a hfrag)
    p hcomp c hc

/-- **C01 against `compile` / `selectAll`**: predicate-free location paths -/
theorem C01_compile {d : Doc} (wf : WF d) (cfg : ECfg) (hns : cfg.nsIface = true)
    (hinj : HashInj d cfg) (cc : CompileCfg) (hsnt : cc.shortcutNeedsNodeTest = true)
    (ns : Option (List (String × String)))
    (text : List Char) (a : Ast) (hparse : parse (fuelFor text) (defaultCfg ns) text = .ok a)
    (hpf : PathPF a) (p : Plan) (hcomp : compile cc ns text = .ok p)
    (c : Ref) (hc : validRef d c = true) :
    ∃ l nsl, selectAll (F := F) d cfg p c = .ok l ∧
      Spec.evalTop (F := F) d a c = .ok (.nodes nsl) ∧ ∀ x, x ∈ l ↔ x ∈ nsl := by
  obtain ⟨_, a', o, hp', hb, hq, _⟩ := compile_inv cc ns text p hcomp
  rw [hparse] at hp'; cases hp'
  rw [hsnt] at hb
  rw [← hq]
  obtain ⟨out, nsl, h1, h2, h3⟩ :=
    C01_evalTop (F := F) wf cfg hns hinj cc.regexOk apiLimit _ a hpf {} o hb c hc
  exact ⟨refs out, nsl, selectAll_of_sel d cfg o.q c out h1, h2, h3⟩

/-- **the whole pipeline on a text of the fragment**: `compile` (source configuration) either
reports a *builder* error (the depth limit — never "empty", a parse error, lack of fuel or the nil
query), or returns a plan on which `selectAll` and `evaluate` agree with the oracle at every valid
context node of every well-formed document -/
theorem C02_compile_total (regexOk : RegexOk) (ns : Option (List (String × String)))
    (text : List Char) (a : Ast) (hparse : parse (fuelFor text) (defaultCfg ns) text = .ok a)
    (hfrag : Frag true a) :
    (∃ e, compile { regexOk := regexOk } ns text = .error (.build e)) ∨
    (∃ p, compile { regexOk := regexOk } ns text = .ok p ∧ PathShape p ∧
      ∀ (F : Type) [NumAlg F] (d : Doc), WF d → ∀ cfg : ECfg, cfg.nsIface = true → HashInj d cfg →
        ∀ c, validRef d c = true →
          ∃ l nsl, selectAll (F := F) d cfg p c = .ok l ∧ evaluate (F := F) d cfg p c = .ok (.nodes l) ∧
            Spec.evalTop (F := F) d a c = .ok (.nodes nsl) ∧ ∀ x, x ∈ l ↔ x ∈ nsl) :=
  C02_compile_total2 regexOk ns text a hparse (PredSem2.frag2_of_frag true a hfrag)

/-! ## §3 Instances of this file's statements on concrete expression texts -/

section Examples

/-- Boolean check "`r` is `.ok a`" (so that `decide +kernel` can run the scanner and the parser) -/
def parsesTo (r : Except PErr Ast) (a : Ast) : Bool :=
  match r with
  | .ok b => decide (b = a)
  | .error _ => false

theorem parsesTo_eq {r : Except PErr Ast} {a : Ast} (h : parsesTo r a = true) : r = .ok a := by
  cases r with
  | error e => cases h
  | ok b => simp only [parsesTo, decide_eq_true_eq] at h; rw [h]

/-- Boolean check "`r` is `.ok p`" for `compile` -/
def compilesTo (r : Except CompileErr Plan) (p : Plan) : Bool :=
  match r with
  | .ok q => decide (q = p)
  | .error _ => false

theorem compilesTo_eq {r : Except CompileErr Plan} {p : Plan} (h : compilesTo r p = true) :
    r = .ok p := by
  cases r with
  | error e => cases h
  | ok q => simp only [compilesTo, decide_eq_true_eq] at h; rw [h]

private def ch (n : String) : AxisInfo := ⟨"child", .elem, "", n, "", false, ""⟩
private def dos : AxisInfo := ⟨"descendant-or-self", .all, "", "", "", false, ""⟩

private theorem ch_axis (n : String) : (ch n).axis ∈ axes12 := by simp [axes12, ch]
private theorem dos_axis : dos.axis ∈ axes12 := by simp [axes12, dos]

/-! ### `//a[b]/c` -/

def text1 : List Char := "//a[b]/c".toList

/-- what the parser makes of `//a[b]/c` -/
def ast1 : Ast :=
  .axis (ch "c") (.filter (.axis (ch "a") (.axis dos (.root "//"))) (.axis (ch "b") .none))

theorem parse1 : parse (fuelFor text1) (defaultCfg none) text1 = .ok ast1 :=
  parsesTo_eq (by decide +kernel)

theorem frag1 : Frag true ast1 :=
  .axis _ _ (.filter _ _ (.axis _ _ (.axis _ _ (.root _) dos_axis) (ch_axis _))
    (.exist _ (.axis _ _ .none (ch_axis _)))) (ch_axis _)

/-- what `compile` (source configuration) makes of `//a[b]/c` -/
def plan1 : Plan :=
  .cachedChild (ch "c") (.filter (.cachedChild (ch "a") (.descendant dos true .absolute))
    (.child (ch "b") .context))

theorem compile1 : compile {} none text1 = .ok plan1 := by
  rw [compile_of_parse {} none text1 (by decide) ast1 parse1]
  exact compilesTo_eq (by decide +kernel)

/-- **end to end on the text `//a[b]/c`**: no hypothesis left but the standing ones -/
example {d : Doc} (wf : WF d) (cfg : ECfg) (hns : cfg.nsIface = true) (hinj : HashInj d cfg)
    (c : Ref) (hc : validRef d c = true) :
    ∃ l nsl, selectAll (F := F) d cfg plan1 c = .ok l ∧
      Spec.evalTop (F := F) d ast1 c = .ok (.nodes nsl) ∧ ∀ x, x ∈ l ↔ x ∈ nsl :=
  C02_compile_source wf cfg hns hinj (fun _ => true) none text1 ast1 parse1 frag1 plan1 compile1 c hc

/-! ### `/a/b[not(c)]` (the merge rewrite fires) -/

def text2 : List Char := "/a/b[not(c)]".toList

def ast2 : Ast :=
  .filter (.axis (ch "b") (.axis (ch "a") (.root "/")))
    (.call "not" "" (.acons (.axis (ch "c") .none) .anil))

theorem parse2 : parse (fuelFor text2) (defaultCfg none) text2 = .ok ast2 :=
  parsesTo_eq (by decide +kernel)

theorem frag2 : Frag true ast2 :=
  .filter _ _ (.axis _ _ (.axis _ _ (.root _) (ch_axis _)) (ch_axis _))
    (.not _ _ (.exist _ (.axis _ _ .none (ch_axis _))))

def plan2 : Plan :=
  .merge (.child (ch "a") .absolute)
    (.filter (.child (ch "b") .context)
      (.func "not" .nil (.pcons (.child (ch "c") .context) .pnil)))

theorem compile2 : compile {} none text2 = .ok plan2 := by
  rw [compile_of_parse {} none text2 (by decide) ast2 parse2]
  exact compilesTo_eq (by decide +kernel)

example {d : Doc} (wf : WF d) (cfg : ECfg) (hns : cfg.nsIface = true) (hinj : HashInj d cfg)
    (c : Ref) (hc : validRef d c = true) :
    ∃ l nsl, selectAll (F := F) d cfg plan2 c = .ok l ∧
      Spec.evalTop (F := F) d ast2 c = .ok (.nodes nsl) ∧ ∀ x, x ∈ l ↔ x ∈ nsl :=
  C02_compile_source wf cfg hns hinj (fun _ => true) none text2 ast2 parse2 frag2 plan2 compile2 c hc

/-! ### `a/b[c = 'x' and d > 1]` -/

def text3 : List Char := "a/b[c = 'x' and d > 1]".toList

def ast3 : Ast :=
  .filter (.axis (ch "b") (.axis (ch "a") .none))
    (.oper "and" (.oper "=" (.axis (ch "c") .none) (.str "x"))
      (.oper ">" (.axis (ch "d") .none) (.num "1")))

theorem parse3 : parse (fuelFor text3) (defaultCfg none) text3 = .ok ast3 :=
  parsesTo_eq (by decide +kernel)

theorem frag3 : Frag true ast3 :=
  .filter _ _ (.axis _ _ (.axis _ _ .none (ch_axis _)) (ch_axis _))
    (.and _ _ (.eqStr _ _ (.axis _ _ .none (ch_axis _)))
      (.cmpNumR _ _ _ (by simp [cmpOps]) (.axis _ _ .none (ch_axis _))))

def plan3 : Plan :=
  .filter (.child (ch "b") (.child (ch "a") .context))
    (.boolean false (.logical "=" (.child (ch "c") .context) (.constStr "x"))
      (.logical ">" (.child (ch "d") .context) (.constNum "1")))

theorem compile3 : compile {} none text3 = .ok plan3 := by
  rw [compile_of_parse {} none text3 (by decide) ast3 parse3]
  exact compilesTo_eq (by decide +kernel)

example {d : Doc} (wf : WF d) (cfg : ECfg) (hns : cfg.nsIface = true) (hinj : HashInj d cfg)
    (c : Ref) (hc : validRef d c = true) :
    ∃ l nsl, selectAll (F := F) d cfg plan3 c = .ok l ∧ evaluate (F := F) d cfg plan3 c = .ok (.nodes l) ∧
      Spec.evalTop (F := F) d ast3 c = .ok (.nodes nsl) ∧ ∀ x, x ∈ l ↔ x ∈ nsl := by
  obtain ⟨l, nsl, h1, h2, h3, h4⟩ := C02_compile_evaluate (F := F) wf cfg hns hinj {}
    (srcCfg_snt _) (srcCfg_sdf _) none text3 ast3 parse3 frag3 plan3 compile3 c hc
  exact ⟨l, nsl, h2, h1, h3, h4⟩

/-- the total statement on a text: `compile` cannot fail on it except in the builder -/
example : (∃ e, compile {} none text2 = .error (.build e)) ∨
    (∃ p, compile {} none text2 = .ok p ∧ PathShape p ∧
      ∀ (F : Type) [NumAlg F] (d : Doc), WF d → ∀ cfg : ECfg, cfg.nsIface = true → HashInj d cfg →
        ∀ c, validRef d c = true →
          ∃ l nsl, selectAll (F := F) d cfg p c = .ok l ∧ evaluate (F := F) d cfg p c = .ok (.nodes l) ∧
            Spec.evalTop (F := F) d ast2 c = .ok (.nodes nsl) ∧ ∀ x, x ∈ l ↔ x ∈ nsl) :=
  C02_compile_total (fun _ => true) none text2 ast2 parse2 frag2

end Examples

end XPathV.ApiSem
