import XPathV.Lemmas.Lexeme
/-!
# Scanner progress: every non-EOF token consumes at least one character

`remaining s` counts the unread characters of a scanner state.  An item other than the end token is a prefix, not
empty, of the unread text (`Whitespace.lexItem_progress`), and no scanner move gives characters back
(`remaining_suffix`): `nextItem_prog`.
-/
namespace XPathV.Lemmas.ScanProgress
open XPathV XPathV.Model XPathV.Lex
open XPathV.Lemmas.ScanTail (At mkCR nextChar_at)
open XPathV.Whitespace (Head Kind setPos setPos_at)

/-- characters not yet consumed, given the look-ahead character and the rest -/
def remCR (c : Char) (r : List Char) : Nat := r.length + (if c = '\x00' then 0 else 1)

/-- characters not yet consumed (the look-ahead `curr` counts unless it is the end marker) -/
def remaining (s : Scan) : Nat := remCR s.curr s.rest

@[simp] theorem remCR_zero (r : List Char) : remCR '\x00' r = r.length := by
  unfold remCR; simp

/-- on a state whose unread text is `w`, `remaining` is the length of `w` — less one if `w` starts with U+0000,
which the model takes for the end of the text -/
theorem remaining_at {s : Scan} {w : List Char} (h : At w s) :
    remaining s ≤ w.length ∧ w.length ≤ remaining s + 1 ∧ (Head w ≠ '\x00' → remaining s = w.length) := by
  unfold remaining remCR
  rw [h.1, h.2]
  cases w with
  | nil => exact ⟨Nat.le_refl _, Nat.zero_le _, fun _ => rfl⟩
  | cons c t =>
    show _ ∧ _ ∧ (c ≠ '\x00' → _)
    simp only [ScanTail.mkCR_cons, List.length_cons]
    by_cases hc : c = '\x00' <;> simp [hc]

theorem remaining_suffix {s s' : Scan} {w w' : List Char} (h : At w s) (h' : At w' s') (hs : w' <:+ w) :
    remaining s' ≤ remaining s := by
  rcases Nat.lt_or_ge w'.length w.length with hlt | hge
  · have := (remaining_at h').1
    have := (remaining_at h).2.1
    omega
  · cases hs.eq_of_length_le hge
    unfold remaining
    rw [h.1, h.2, h'.1, h'.2]
    exact Nat.le_refl _

@[simp] theorem skipSpace_typ (s : Scan) : s.skipSpace.typ = s.typ := rfl

theorem nextChar_le (s : Scan) : remaining s.nextChar.1 ≤ remaining s :=
  remaining_suffix (at_unread s) (nextChar_at rfl) (rest_suffix_unread s)

/-- progress of one `nextItem` call from `s` to `s'`: no character is given back, and unless the token
just read is the end of input at least one has been consumed -/
def Prog (s s' : Scan) : Prop :=
  (s'.typ = .eof ∧ remaining s' ≤ remaining s) ∨ (s'.typ ≠ .eof ∧ remaining s' < remaining s)

theorem nextItem_prog (s0 s' : Scan) (h : s0.nextItem = .ok s') : Prog s0 s' := by
  have hat := at_unread s0
  rw [nextItem_lex hat, lexNext] at h
  have hsuf : (unread s0).dropWhile isSpace <:+ unread s0 := List.dropWhile_suffix _
  generalize (unread s0).dropWhile isSpace = w at h hsuf
  have hw := remaining_suffix hat (setPos_at s0 w) hsuf
  cases hq : lexItem w with
  | error e => rw [hq] at h; cases h
  | ok p =>
    obtain ⟨k, r⟩ := p
    rw [hq] at h
    cases h
    by_cases h0 : Head w = '\x00'
    · simp only [lexItem, h0, ↓reduceIte] at hq
      cases hq
      exact .inl ⟨rfl, hw⟩
    · obtain ⟨hne, hlt⟩ := Whitespace.lexItem_progress h0 hq
      have hr : remaining (k.out s0 r) ≤ r.length := by
        rcases k.out_at s0 r with h | h
        · exact (remaining_at h).1
        · exact Nat.le_trans (remaining_at h).1 (List.dropWhile_suffix _).length_le
      have := (remaining_at (setPos_at s0 w)).2.2 h0
      exact .inr ⟨fun e => hne ((k.out_typ s0 r).symm.trans e), show remaining (k.out s0 r) < _ by omega⟩

end XPathV.Lemmas.ScanProgress
