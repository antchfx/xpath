import XPathV.Lemmas.StringFns.Basic
import XPathV.Lemmas.BuildInv
/-!
# C09 — nested string-function calls: model value = oracle value, to any depth

One induction (`StringFns2.strEP_good`) over the fragment `StrEP L NS` of nested calls, parametric
in what a leaf is (`L`: the node-set arguments admitted, with the obligation `LeafOK` that engine and
oracle give the same node list for them) and in the side condition `NS` of `normalize-space`.
`StrE` is the fragment whose only leaves are string literals (`strE_sem`: no assumption on the
document or the configuration); `StringFns2` instantiates `L` with flat filtered paths.

The parametric part is in `namespace XPathV.StringFns2` (where the fixed names `StrEP`, `NormDom` live;
the module `Lemmas/StringFns2` of the same name continues that namespace); the suffix `2` of
`args_sem2`, `call_sem2`, `Good2` only tells them apart from names of `XPathV.StringFns`.
-/
namespace XPathV.StringFns
open XPathV XPathV.Model NumAlg
open XPathV.Theorems.C08 (emb)

variable {F : Type} [NumAlg F]

/-! ## what `build` makes of a function call; pointwise-related lists -/

theorem argList_ofArgList (l : List Ast) : (Ast.ofArgList l).argList = l := by
  induction l with
  | nil => rfl
  | cons a t ih => simp [Ast.ofArgList, Ast.argList, ih]

/-- what a successful `build` of an ordinary function call consists of -/
theorem build_call_inv (regexOk : RegexOk) (limit : Nat) (sn sd : Bool) (name pfx : String) (args : Ast)
    (fl : Flags) (st : BState) (o : BOut)
    (h : build regexOk limit sn sd (.call name pfx args) fl st = .ok o)
    (hr : name ≠ "reverse") (hl : name ≠ "last") (hp : name ≠ "position")
    (hn : args.argList.length ≠ 0) :
    ∃ ao, build regexOk limit sn sd args { take := fnUsed name args.argList.length }
        { st with depth := st.depth + 1 } = .ok ao ∧ o.q = .func name .nil ao.q := by
  obtain ⟨_, _, _, ao, _, _, hao, hq, _, _⟩ := build_call_ok h
  refine ⟨ao, hao, ?_⟩
  rw [hq, callPlan_func ao hr hl hp (by simp only [synthSelf, beq_eq_false_iff_ne.2 hn, Bool.and_false])]

theorem exists_all2 {α β : Type} (R : α → β → Prop) (l : List α) (h : ∀ a ∈ l, ∃ b, R a b) :
    ∃ bs, All2 R l bs := by
  induction l with
  | nil => exact ⟨[], .nil⟩
  | cons x t ih =>
    obtain ⟨b, hb⟩ := h x List.mem_cons_self
    obtain ⟨bs, hbs⟩ := ih (fun a ha => h a (List.mem_cons_of_mem _ ha))
    exact ⟨b :: bs, .cons hb hbs⟩

theorem all2_length {α β : Type} {R : α → β → Prop} {l : List α} {bs : List β} (h : All2 R l bs) :
    bs.length = l.length := by
  induction h with
  | nil => rfl
  | cons _ _ ih => simp [ih]

/-- names `build` and `evalP` treat specially -/
def specialNames : List String :=
  ["matches", "reverse", "last", "position", "name", "local-name", "namespace-uri"]

/-- what the lemmas about a call of `name` with `n` arguments read off the builder's tables: the name
has no case of its own in `build`/`evalP`, all `n` arguments are built, and `n` is within the arity -/
structure PlainCall (name : String) (n : Nat) : Prop where
  notSpecial : name ∉ specialNames
  pos : n ≠ 0
  used : n ≤ fnUsed name n
  arity : ∃ mn mx idx, fnArity name = some (mn, mx, idx) ∧ mn ≤ n ∧ ∀ m, mx = some m → n ≤ m

theorem plainCall_concat (n : Nat) (h : 2 ≤ n) : PlainCall "concat" n :=
  ⟨by decide, by omega, Nat.le_refl n, 2, none, false, rfl, h, fun _ h => by cases h⟩
theorem plainCall_substringBefore : PlainCall "substring-before" 2 :=
  ⟨by decide, by decide, Nat.le_refl 2, 2, some 2, false, rfl, Nat.le_refl 2, fun _ h => by cases h; exact Nat.le_refl 2⟩
theorem plainCall_substringAfter : PlainCall "substring-after" 2 :=
  ⟨by decide, by decide, Nat.le_refl 2, 2, some 2, false, rfl, Nat.le_refl 2, fun _ h => by cases h; exact Nat.le_refl 2⟩
theorem plainCall_substring2 : PlainCall "substring" 2 :=
  ⟨by decide, by decide, Nat.le_refl 2, 2, none, false, rfl, Nat.le_refl 2, fun _ h => by cases h⟩
theorem plainCall_substring3 : PlainCall "substring" 3 :=
  ⟨by decide, by decide, Nat.le_refl 3, 2, none, false, rfl, by decide, fun _ h => by cases h⟩
theorem plainCall_normalizeSpace : PlainCall "normalize-space" 1 :=
  ⟨by decide, by decide, Nat.le_refl 1, 0, none, false, rfl, by decide, fun _ h => by cases h⟩
theorem plainCall_translate : PlainCall "translate" 3 :=
  ⟨by decide, by decide, Nat.le_refl 3, 3, some 3, false, rfl, Nat.le_refl 3, fun _ h => by cases h; exact Nat.le_refl 3⟩
theorem plainCall_lowerCase : PlainCall "lower-case" 1 :=
  ⟨by decide, by decide, Nat.le_refl 1, 1, none, true, rfl, Nat.le_refl 1, fun _ h => by cases h⟩
theorem plainCall_string : PlainCall "string" 1 :=
  ⟨by decide, by decide, Nat.le_refl 1, 0, some 1, false, rfl, by decide, fun _ h => by cases h; exact Nat.le_refl 1⟩

/-! ## the string functions keep strings `Plain` -/

theorem Plain.of_subset {s t : String} (h : ∀ c ∈ t.toList, c ∈ s.toList) (hs : Plain s) : Plain t :=
  fun c hc => hs c (h c hc)

theorem plain_empty : Plain "" := by
  intro c hc
  have : "".toList = [] := rfl
  rw [this] at hc; cases hc

theorem plain_append {a b : String} (ha : Plain a) (hb : Plain b) : Plain (a ++ b) := by
  intro c hc
  rw [String.toList_append] at hc
  rcases List.mem_append.1 hc with h | h
  · exact ha c h
  · exact hb c h

theorem plain_foldl (ss : List String) : ∀ acc, Plain acc → (∀ s ∈ ss, Plain s) →
    Plain (ss.foldl (· ++ ·) acc) := by
  induction ss with
  | nil => intro acc h _; exact h
  | cons x t ih =>
    intro acc h hs
    exact ih _ (plain_append h (hs x List.mem_cons_self)) (fun s hs' => hs s (List.mem_cons_of_mem _ hs'))

theorem plain_substringBefore (a b : String) (ha : Plain a) : Plain (Spec.fnSubstringBefore a b) := by
  unfold Spec.fnSubstringBefore
  split
  · refine Plain.of_subset ?_ ha
    intro c hc; rw [String.toList_ofList] at hc; exact List.mem_of_mem_take hc
  · exact plain_empty

theorem plain_substringAfter (a b : String) (ha : Plain a) : Plain (Spec.fnSubstringAfter a b) := by
  unfold Spec.fnSubstringAfter
  split
  · refine Plain.of_subset ?_ ha
    intro c hc; rw [String.toList_ofList] at hc; exact List.mem_of_mem_drop hc
  · exact plain_empty

theorem plain_substring2 (a : String) (st : F) (ha : Plain a) : Plain (Spec.fnSubstring2 a st) := by
  refine Plain.of_subset ?_ ha
  intro c hc
  unfold Spec.fnSubstring2 at hc
  rw [String.toList_ofList] at hc
  refine (filterMap_zipIdx_sublist a.toList 0 _ ?_).subset hc
  intro c i o h
  split at h <;> simp_all

theorem plain_substring3 (a : String) (st len : F) (ha : Plain a) : Plain (Spec.fnSubstring3 a st len) :=
  Plain.of_subset (fun _ hc => (Theorems.C09.substring_is_sublist a st len).subset hc) ha

theorem mem_normSpaceAux (t : List Char) : ∀ (p : Bool) (c : Char), c ∈ Spec.normSpaceAux t p → c = ' ' ∨ c ∈ t := by
  induction t with
  | nil => intro p c h; simp [Spec.normSpaceAux] at h
  | cons x r ih =>
    intro p c h
    rw [aux_cons] at h
    split at h
    · rcases ih _ _ h with h | h
      · exact .inl h
      · exact .inr (List.mem_cons_of_mem _ h)
    · rcases List.mem_append.1 h with h | h
      · cases p <;> simp at h <;> rcases h with h | h <;> simp [h]
      · rcases ih _ _ h with h | h
        · exact .inl h
        · exact .inr (List.mem_cons_of_mem _ h)

theorem plain_normalizeSpace (a : String) (ha : Plain a) : Plain (Spec.fnNormalizeSpace a) := by
  intro c hc
  unfold Spec.fnNormalizeSpace at hc
  rw [String.toList_ofList] at hc
  rcases mem_normSpaceAux _ _ _ hc with h | h
  · subst h; decide
  · exact ha c (mem_trimXml _ _ h)

theorem plain_translate (s a b : String) (hs : Plain s) (hb : Plain b) : Plain (Spec.fnTranslate s a b) := by
  intro c hc
  unfold Spec.fnTranslate at hc
  rw [String.toList_ofList] at hc
  obtain ⟨x, hx, hxc⟩ := List.mem_filterMap.1 hc
  unfold Spec.translateChar at hxc
  split at hxc
  · cases hxc; exact hs c hx
  · exact hb c (List.mem_of_getElem? hxc)

theorem lower_range : ∀ k : Fin 26, Model.isSpace (Char.ofNat (k.val + 65 + 32)) = false ∧
    Spec.isXmlSpace (Char.ofNat (k.val + 65 + 32)) = false := by decide

theorem plain_lowerC (c : Char) (h : Model.isSpace c = Spec.isXmlSpace c) :
    Model.isSpace (Spec.lowerC c) = Spec.isXmlSpace (Spec.lowerC c) := by
  unfold Spec.lowerC
  split
  · rename_i hc
    simp only [Bool.and_eq_true, decide_eq_true_eq] at hc
    obtain ⟨h1, h2⟩ := hc
    have h1' : 65 ≤ c.toNat := h1
    have h2' : c.toNat ≤ 90 := h2
    have := lower_range ⟨c.toNat - 65, by omega⟩
    simp only [] at this
    rw [show c.toNat - 65 + 65 = c.toNat by omega] at this
    rw [this.1, this.2]
  · exact h

theorem plain_lowerCase (a : String) (ha : Plain a) : Plain (Spec.fnLowerCase a) := by
  intro c hc
  unfold Spec.fnLowerCase at hc
  rw [String.toList_ofList] at hc
  obtain ⟨x, hx, rfl⟩ := List.mem_map.1 hc
  exact plain_lowerC x (ha x hx)

/-! ## the fragment of nested string expressions over literals -/

/-- every string literal of the expression is `Plain` -/
def PlainLits : Ast → Prop
  | .str s => Plain s
  | .call _ _ args => PlainLits args
  | .acons h t => PlainLits h ∧ PlainLits t
  | _ => True

/-- string literals and calls of `concat` (any number ≥ 2 of arguments), `substring-before`,
`substring-after`, `substring` (2 and 3 arguments, number literals as bounds), `normalize-space`,
`translate`, `lower-case`, `string` over such expressions, nested to any depth.  Below a
`normalize-space` call all string literals are `Plain` (Go's and XML's whitespace coincide on
them); elsewhere literals are arbitrary. -/
inductive StrE : Ast → Prop
  | lit (s : String) : StrE (.str s)
  | concat (pfx : String) (args : List Ast) : 2 ≤ args.length → (∀ a ∈ args, StrE a) →
      StrE (.call "concat" pfx (Ast.ofArgList args))
  | substringBefore (pfx : String) (a b : Ast) : StrE a → StrE b →
      StrE (.call "substring-before" pfx (.acons a (.acons b .anil)))
  | substringAfter (pfx : String) (a b : Ast) : StrE a → StrE b →
      StrE (.call "substring-after" pfx (.acons a (.acons b .anil)))
  | substring2 (pfx : String) (a : Ast) (start : String) : StrE a →
      StrE (.call "substring" pfx (.acons a (.acons (.num start) .anil)))
  | substring3 (pfx : String) (a : Ast) (start len : String) : StrE a →
      StrE (.call "substring" pfx (.acons a (.acons (.num start) (.acons (.num len) .anil))))
  | normalizeSpace (pfx : String) (a : Ast) : StrE a → PlainLits a →
      StrE (.call "normalize-space" pfx (.acons a .anil))
  | translate (pfx : String) (a b c : Ast) : StrE a → StrE b → StrE c →
      StrE (.call "translate" pfx (.acons a (.acons b (.acons c .anil))))
  | lowerCase (pfx : String) (a : Ast) : StrE a → StrE (.call "lower-case" pfx (.acons a .anil))
  | string (pfx : String) (a : Ast) : StrE a → StrE (.call "string" pfx (.acons a .anil))

theorem plainLits_ofArgList (args : List Ast) (h : PlainLits (Ast.ofArgList args)) :
    ∀ a ∈ args, PlainLits a := by
  induction args with
  | nil => intro a ha; cases ha
  | cons x t ih =>
    intro a ha
    simp only [Ast.ofArgList, PlainLits] at h
    rcases List.mem_cons.1 ha with rfl | ha
    · exact h.1
    · exact ih h.2 a ha

/-! ## the oracle's half for `StrE`: one string, `Plain` when the literals are -/

def EvalStr (d : Doc) (e : Ast) (s : String) : Prop :=
  (∀ ctx, Spec.eval (F := F) d e ctx = .ok (.val (.str s) none)) ∧ (PlainLits e → Plain s)

theorem all2_evalStr_evals (d : Doc) (ctx : Spec.Ctx) (args : List Ast) (ss : List String)
    (h : All2 (EvalStr (F := F) d) args ss) : All2 (EvalsTo (F := F) d ctx) args (ss.map .str) := by
  induction h with
  | nil => exact .nil
  | cons h _ ih => exact .cons ⟨none, h.1 ctx⟩ ih

theorem all2_evalStr_plain (d : Doc) (args : List Ast) (ss : List String)
    (h : All2 (EvalStr (F := F) d) args ss) (hp : ∀ a ∈ args, PlainLits a) : ∀ s ∈ ss, Plain s := by
  induction h with
  | nil => intro s hs; cases hs
  | cons h _ ih =>
    intro s hs
    rcases List.mem_cons.1 hs with rfl | hs
    · exact h.2 (hp _ List.mem_cons_self)
    · exact ih (fun a ha => hp a (List.mem_cons_of_mem _ ha)) s hs

theorem map_toStr_str (d : Doc) (ss : List String) :
    (ss.map (Spec.Value.str (F := F))).map (Spec.toStr d) = ss := by
  induction ss with
  | nil => rfl
  | cons x t ih => simp only [List.map_cons, ih]; rfl

/-- the oracle alone, by a second induction over the constructors of `StrE`: it is what turns the
syntactic side condition `PlainLits` of `normalize-space` into the semantic `NormDom`
(`strEP_of_strE`); the engine's side comes from `strEP_good` -/
theorem strE_eval (d : Doc) (e : Ast) (h : StrE e) : ∃ s, EvalStr (F := F) d e s := by
  induction h with
  | lit s => exact ⟨s, fun ctx => by rw [Spec.eval], fun h => h⟩
  | concat pfx args h2 _ ih =>
    obtain ⟨ss, hss⟩ := exists_all2 _ args ih
    have hlen := all2_length hss
    refine ⟨((ss.map (Spec.Value.str (F := F))).map (Spec.toStr d)).foldl (· ++ ·) "", fun ctx => ?_, ?_⟩
    · exact call_eval d ctx "concat" pfx args _ (all2_evalStr_evals d ctx args ss hss) _
        (spec_concat d ctx _ (by simp; omega))
    · intro hp
      rw [map_toStr_str]
      exact plain_foldl ss "" plain_empty
        (all2_evalStr_plain d args ss hss (plainLits_ofArgList args hp))
  | substringBefore pfx a b _ _ iha ihb =>
    obtain ⟨sa, ha⟩ := iha
    obtain ⟨sb, hb⟩ := ihb
    exact ⟨Spec.fnSubstringBefore sa sb,
      fun ctx => call_eval d ctx "substring-before" pfx [a, b] _
        (.cons ⟨none, ha.1 ctx⟩ (.cons ⟨none, hb.1 ctx⟩ .nil)) _ (Spec.callFn_substringBefore d ctx _ _),
      fun hp => plain_substringBefore _ _ (ha.2 hp.1)⟩
  | substringAfter pfx a b _ _ iha ihb =>
    obtain ⟨sa, ha⟩ := iha
    obtain ⟨sb, hb⟩ := ihb
    exact ⟨Spec.fnSubstringAfter sa sb,
      fun ctx => call_eval d ctx "substring-after" pfx [a, b] _
        (.cons ⟨none, ha.1 ctx⟩ (.cons ⟨none, hb.1 ctx⟩ .nil)) _ (Spec.callFn_substringAfter d ctx _ _),
      fun hp => plain_substringAfter _ _ (ha.2 hp.1)⟩
  | substring2 pfx a start _ iha =>
    obtain ⟨sa, ha⟩ := iha
    exact ⟨Spec.fnSubstring2 sa (Spec.strToNum start : F),
      fun ctx => call_eval d ctx "substring" pfx [a, .num start] _
        (.cons ⟨none, ha.1 ctx⟩ (.cons (evalsTo_num d ctx start) .nil)) _ (Spec.callFn_substring2 d ctx _ _),
      fun hp => plain_substring2 _ _ (ha.2 hp.1)⟩
  | substring3 pfx a start len _ iha =>
    obtain ⟨sa, ha⟩ := iha
    exact ⟨Spec.fnSubstring3 sa (Spec.strToNum start : F) (Spec.strToNum len),
      fun ctx => call_eval d ctx "substring" pfx [a, .num start, .num len] _
        (.cons ⟨none, ha.1 ctx⟩ (.cons (evalsTo_num d ctx start) (.cons (evalsTo_num d ctx len) .nil))) _
        (Spec.callFn_substring3 d ctx _ _ _),
      fun hp => plain_substring3 _ _ _ (ha.2 hp.1)⟩
  | normalizeSpace pfx a _ hpl iha =>
    obtain ⟨sa, ha⟩ := iha
    exact ⟨Spec.fnNormalizeSpace sa,
      fun ctx => call_eval d ctx "normalize-space" pfx [a] _ (.cons ⟨none, ha.1 ctx⟩ .nil) _
        (Spec.callFn_normalizeSpace d ctx _),
      fun _ => plain_normalizeSpace _ (ha.2 hpl)⟩
  | translate pfx a b c _ _ _ iha ihb ihc =>
    obtain ⟨sa, ha⟩ := iha
    obtain ⟨sb, hb⟩ := ihb
    obtain ⟨sc, hc⟩ := ihc
    exact ⟨Spec.fnTranslate sa sb sc,
      fun ctx => call_eval d ctx "translate" pfx [a, b, c] _
        (.cons ⟨none, ha.1 ctx⟩ (.cons ⟨none, hb.1 ctx⟩ (.cons ⟨none, hc.1 ctx⟩ .nil))) _
        (Spec.callFn_translate d ctx _ _ _),
      fun hp => plain_translate _ _ _ (ha.2 hp.1) (hc.2 hp.2.2.1)⟩
  | lowerCase pfx a _ iha =>
    obtain ⟨sa, ha⟩ := iha
    exact ⟨Spec.fnLowerCase sa,
      fun ctx => call_eval d ctx "lower-case" pfx [a] _ (.cons ⟨none, ha.1 ctx⟩ .nil) _
        (Spec.callFn_lowerCase d ctx _),
      fun hp => plain_lowerCase _ (ha.2 hp.1)⟩
  | string pfx a _ iha =>
    obtain ⟨sa, ha⟩ := iha
    exact ⟨sa,
      fun ctx => call_eval d ctx "string" pfx [a] _ (.cons ⟨none, ha.1 ctx⟩ .nil) _
        (Spec.callFn_string d ctx _),
      fun hp => ha.2 hp.1⟩

end XPathV.StringFns

namespace XPathV.StringFns2
open XPathV XPathV.Model NumAlg XPathV.StringFns
open XPathV.Theorems.C08 (emb)

variable {F : Type} [NumAlg F]

/-! ## the fragment -/

/-- nested string expressions with leaves `L` in argument position (`b = false`: argument,
`b = true`: string-valued expression) -/
inductive StrEP (L : Ast → Prop) (NS : Ast → Prop) : Bool → Ast → Prop
  | lit (s : String) : StrEP L NS true (.str s)
  | arg (a : Ast) : StrEP L NS true a → StrEP L NS false a
  | path (p : Ast) : L p → StrEP L NS false p
  | concat (pfx : String) (args : List Ast) : 2 ≤ args.length → (∀ a ∈ args, StrEP L NS false a) →
      StrEP L NS true (.call "concat" pfx (Ast.ofArgList args))
  | substringBefore (pfx : String) (a b : Ast) : StrEP L NS false a → StrEP L NS false b →
      StrEP L NS true (.call "substring-before" pfx (.acons a (.acons b .anil)))
  | substringAfter (pfx : String) (a b : Ast) : StrEP L NS false a → StrEP L NS false b →
      StrEP L NS true (.call "substring-after" pfx (.acons a (.acons b .anil)))
  | substring2 (pfx : String) (a : Ast) (start : String) : StrEP L NS false a →
      StrEP L NS true (.call "substring" pfx (.acons a (.acons (.num start) .anil)))
  | substring3 (pfx : String) (a : Ast) (start len : String) : StrEP L NS false a →
      StrEP L NS true (.call "substring" pfx (.acons a (.acons (.num start) (.acons (.num len) .anil))))
  | normalizeSpace (pfx : String) (a : Ast) : StrEP L NS false a → NS a →
      StrEP L NS true (.call "normalize-space" pfx (.acons a .anil))
  | translate (pfx : String) (a b c : Ast) : StrEP L NS false a → StrEP L NS false b →
      StrEP L NS false c → StrEP L NS true (.call "translate" pfx (.acons a (.acons b (.acons c .anil))))
  | lowerCase (pfx : String) (a : Ast) : StrEP L NS false a →
      StrEP L NS true (.call "lower-case" pfx (.acons a .anil))
  | string (pfx : String) (a : Ast) : StrEP L NS false a →
      StrEP L NS true (.call "string" pfx (.acons a .anil))

theorem StrEP.mono {L L' NS NS' : Ast → Prop} (hL : ∀ p, L p → L' p) (hN : ∀ a, NS a → NS' a)
    {b : Bool} {e : Ast} (h : StrEP L NS b e) : StrEP L' NS' b e := by
  induction h with
  | lit s => exact .lit s
  | arg a _ ih => exact .arg a ih
  | path p hp => exact .path p (hL p hp)
  | concat pfx args h2 _ ih => exact .concat pfx args h2 ih
  | substringBefore pfx a b _ _ iha ihb => exact .substringBefore pfx a b iha ihb
  | substringAfter pfx a b _ _ iha ihb => exact .substringAfter pfx a b iha ihb
  | substring2 pfx a start _ iha => exact .substring2 pfx a start iha
  | substring3 pfx a start len _ iha => exact .substring3 pfx a start len iha
  | normalizeSpace pfx a _ hn iha => exact .normalizeSpace pfx a iha (hN a hn)
  | translate pfx a b c _ _ _ iha ihb ihc => exact .translate pfx a b c iha ihb ihc
  | lowerCase pfx a _ iha => exact .lowerCase pfx a iha
  | string pfx a _ iha => exact .string pfx a iha

/-- the oracle-side domain of `normalize-space(a)`: the string the oracle reads the argument as is
`Plain` (Go's `unicode.IsSpace` and XML whitespace agree on each of its characters) -/
def NormDom (d : Doc) (ctx : Spec.Ctx) (F : Type) [NumAlg F] (a : Ast) : Prop :=
  ∀ (v : Spec.Value F) g, Spec.eval (F := F) d a ctx = .ok (.val v g) → Plain (Spec.toStr d v)

/-! ## semantic agreement at one context -/

/-- `e` has the value `v` on both sides at the context `⟨c, i, n⟩`: whenever
`build regexOk limit sn sd e {}` succeeds, the oracle evaluates `e` to `v` and the plan evaluates
to `emb v` at `c` -/
def SemC (d : Doc) (cfg : ECfg) (regexOk : RegexOk) (limit : Nat) (sn sd : Bool) (c : Ref) (i n : Nat)
    (e : Ast) (v : Spec.Value F) : Prop :=
  ∀ st o, build regexOk limit sn sd e {} st = .ok o →
    EvalsTo d ⟨c, i, n⟩ e v ∧ evalP (F := F) d cfg o.q c = .ok (emb v)

/-- the strong form calls and literals produce: any flags, no grouping -/
def SemCF (d : Doc) (cfg : ECfg) (regexOk : RegexOk) (limit : Nat) (sn sd : Bool) (c : Ref) (i n : Nat)
    (e : Ast) (v : Spec.Value F) : Prop :=
  ∀ fl st o, build regexOk limit sn sd e fl st = .ok o →
    Spec.eval (F := F) d e ⟨c, i, n⟩ = .ok (.val v none) ∧ evalP (F := F) d cfg o.q c = .ok (emb v)

section Fixed
variable {d : Doc} {cfg : ECfg} {regexOk : RegexOk} {limit : Nat} {sn sd : Bool} {c : Ref} {i n : Nat}

theorem SemCF.semC {e : Ast} {v : Spec.Value F} (h : SemCF d cfg regexOk limit sn sd c i n e v) :
    SemC d cfg regexOk limit sn sd c i n e v :=
  fun st o hb => ⟨⟨none, (h {} st o hb).1⟩, (h {} st o hb).2⟩

theorem semCF_str (s : String) : SemCF (F := F) d cfg regexOk limit sn sd c i n (.str s) (.str s) := by
  intro fl st o h
  cases build_str_ok h
  exact ⟨Spec.eval_str d s _, evalP_constStr d cfg s c⟩

theorem semCF_num (l : String) :
    SemCF (F := F) d cfg regexOk limit sn sd c i n (.num l) (.num (Spec.strToNum l)) := by
  intro fl st o h
  cases build_num_ok h
  exact ⟨Spec.eval_num d l _, evalP_constNum d cfg l c⟩

/-- an argument chain: the oracle's argument values and the model's argument outcomes -/
theorem args_sem2 (args : List Ast) (vs : List (Spec.Value F))
    (h : All2 (SemC d cfg regexOk limit sn sd c i n) args vs) :
    ∀ k st o, args.length ≤ k →
      build regexOk limit sn sd (Ast.ofArgList args) { take := k } st = .ok o →
      All2 (EvalsTo d ⟨c, i, n⟩) args vs ∧
      argVals (F := F) d cfg o.q c = .ok (vs.map (fun v => .ok (emb v))) := by
  induction h with
  | nil =>
    intro k st o _ h
    cases build_anil_ok h
    exact ⟨.nil, by simp [argVals]⟩
  | @cons a v as vs' hav _ ih =>
    intro k st o hk h
    simp only [List.length_cons] at hk
    obtain ⟨k, rfl⟩ : ∃ k', k = k' + 1 := ⟨k - 1, by omega⟩
    obtain ⟨ho, to, hho, hto, rfl⟩ := build_acons_ok h
    obtain ⟨hs, hm⟩ := hav _ _ hho
    obtain ⟨ih2, ih3⟩ := ih k ho.st to (by omega) hto
    refine ⟨.cons hs ih2, ?_⟩
    simp only [argVals, bind, Except.bind]
    rw [ih3]
    simp only [List.map_cons]
    rw [hm]

/-- a call over semantically agreeing arguments agrees as soon as the two function libraries
agree on the argument values -/
theorem call_sem2 (name pfx : String) (args : List Ast) (vs : List (Spec.Value F))
    (hF : All2 (SemC d cfg regexOk limit sn sd c i n) args vs) (v : Spec.Value F)
    (hc : PlainCall name args.length)
    (hlib : All2 (EvalsTo d ⟨c, i, n⟩) args vs →
      Spec.callFn d ⟨c, i, n⟩ name vs = .ok v ∧
      callFn d cfg name .nil c (vs.map (fun v => .ok (emb v))) none = .ok (emb v)) :
    SemCF d cfg regexOk limit sn sd c i n (.call name pfx (Ast.ofArgList args)) v := by
  obtain ⟨hn, hlen, hused, _⟩ := hc
  simp only [specialNames, List.mem_cons, List.not_mem_nil, or_false, not_or] at hn
  obtain ⟨_, n2, n3, n4, n5, n6, n7⟩ := hn
  intro fl st o h
  obtain ⟨ao, hao, hq⟩ := build_call_inv regexOk limit sn sd name pfx _ fl st o h n2 n3 n4
    (by rw [argList_ofArgList]; exact hlen)
  rw [argList_ofArgList] at hao
  obtain ⟨ae, a3⟩ := args_sem2 args vs hF _ _ _ hused hao
  obtain ⟨hspec, hmodel⟩ := hlib ae
  refine ⟨call_eval d _ name pfx args vs ae v hspec, ?_⟩
  rw [hq, evalP_func d cfg name .nil ao.q c _ (by simp [n5, n6, n7]) a3]
  exact hmodel

end Fixed

/-! ## the function library on string-like values (strings and node lists)

`m_<function>`: the engine's function on embedded string-like values is the oracle's function on
their string-values (`Spec.toStr`). -/

section Lib
variable (d : Doc) (cfg : ECfg) (fi : Plan) (c : Ref) (asel : Option (List Ref))

theorem m_substringBefore (v w : Spec.Value F) (hv : StrLike v) (hw : StrLike w) :
    callFn (F := F) d cfg "substring-before" fi c [.ok (emb v), .ok (emb w)] asel
      = .ok (.str (Spec.fnSubstringBefore (Spec.toStr d v) (Spec.toStr d w))) := by
  rw [callFn_substringBefore]
  rcases hv with s | (_ | ⟨r, l⟩)
  · rcases hw with s' | (_ | ⟨r', l'⟩) <;> rfl
  · exact congrArg (fun s => Except.ok (MVal.str s)) (fnSubstringBefore_empty _).symm
  · rcases hw with s' | (_ | ⟨r', l'⟩) <;> rfl

theorem m_substringAfter (v w : Spec.Value F) (hv : StrLike v) (hw : StrLike w) :
    callFn (F := F) d cfg "substring-after" fi c [.ok (emb v), .ok (emb w)] asel
      = .ok (.str (Spec.fnSubstringAfter (Spec.toStr d v) (Spec.toStr d w))) := by
  rw [callFn_substringAfter]
  rcases hv with s | (_ | ⟨r, l⟩)
  · rcases hw with s' | (_ | ⟨r', l'⟩) <;> rfl
  · exact congrArg (fun s => Except.ok (MVal.str s)) (fnSubstringAfter_empty _).symm
  · rcases hw with s' | (_ | ⟨r', l'⟩) <;> rfl

theorem m_substring2 (v : Spec.Value F) (x : F) (hv : StrLike v) :
    callFn (F := F) d cfg "substring" fi c [.ok (emb v), .ok (.num x)] asel
      = .ok (.str (Spec.fnSubstring2 (Spec.toStr d v) x)) := by
  rw [callFn_substring, ← Theorems.C09.substring2_spec]
  rcases hv with s | (_ | ⟨r, l⟩)
  · rfl
  · exact congrArg (fun s => Except.ok (MVal.str s)) (substringM_empty x none).symm
  · rfl

theorem m_substring3 (v : Spec.Value F) (x y : F) (hv : StrLike v) :
    callFn (F := F) d cfg "substring" fi c [.ok (emb v), .ok (.num x), .ok (.num y)] asel
      = .ok (.str (Spec.fnSubstring3 (Spec.toStr d v) x y)) := by
  rw [callFn_substring, ← Theorems.C09.substring3_spec]
  rcases hv with s | (_ | ⟨r, l⟩)
  · rfl
  · exact congrArg (fun s => Except.ok (MVal.str s)) (substringM_empty x (some y)).symm
  · rfl

theorem fnNormalizeSpace_empty : Spec.fnNormalizeSpace "" = "" := by
  rw [← normalizeSpace_spec "" plain_empty, normalizeSpaceM_empty]

theorem m_normalizeSpace (v : Spec.Value F) (hv : StrLike v) (hp : Plain (Spec.toStr d v)) :
    callFn (F := F) d cfg "normalize-space" fi c [.ok (emb v)] asel
      = .ok (.str (Spec.fnNormalizeSpace (Spec.toStr d v))) := by
  rw [← normalizeSpace_spec _ hp, callFn_normalizeSpace]
  rcases hv with s | (_ | ⟨r, l⟩)
  · rfl
  · exact congrArg (fun s => Except.ok (MVal.str s)) normalizeSpaceM_empty.symm
  · rfl

/-- `translate` and `lower-case` read their arguments through `asString`: no case split needed -/
theorem m_translate (u v w : Spec.Value F) :
    callFn (F := F) d cfg "translate" fi c [.ok (emb u), .ok (emb v), .ok (emb w)] asel
      = .ok (.str (Spec.fnTranslate (Spec.toStr d u) (Spec.toStr d v) (Spec.toStr d w))) := by
  rw [callFn_translate]
  show (asStringM d (emb u) >>= fun s => asStringM d (emb v) >>= fun src =>
    asStringM d (emb w) >>= fun dst => _) = _
  rw [asStringM_emb, asStringM_emb, asStringM_emb]; rfl

theorem m_lowerCase (v : Spec.Value F) :
    callFn (F := F) d cfg "lower-case" fi c [.ok (emb v)] asel
      = .ok (.str (Spec.fnLowerCase (Spec.toStr d v))) := by
  rw [callFn_lowerCase]
  show (asStringM d (emb v) >>= fun s => _) = _
  rw [asStringM_emb]; rfl

theorem m_string (v : Spec.Value F) :
    callFn (F := F) d cfg "string" fi c [.ok (emb v)] asel = .ok (.str (Spec.toStr d v)) := by
  rw [callFn_string]
  show (asStringM d (emb v) >>= fun s => _) = _
  rw [asStringM_emb]; rfl

end Lib

/-! ## the induction -/

/-- leaf obligation: on a leaf the built plan and the oracle yield the same node list -/
def LeafOK (d : Doc) (cfg : ECfg) (regexOk : RegexOk) (limit : Nat) (sn sd : Bool) (c : Ref) (i n : Nat)
    (F : Type) [NumAlg F] (L : Ast → Prop) : Prop :=
  ∀ p, L p → ∀ st o, build regexOk limit sn sd p {} st = .ok o →
    ∃ ns g, evalP (F := F) d cfg o.q c = .ok (.nodes ns) ∧
      Spec.eval (F := F) d p ⟨c, i, n⟩ = .ok (.val (.nodes ns) g)

/-- the statement of the induction for one expression and its value `v`: agreement at the context, `v`
is a string or a node list, and a string when `e` is in expression position (`b = true`) -/
def Good2 (d : Doc) (cfg : ECfg) (regexOk : RegexOk) (limit : Nat) (sn sd : Bool) (c : Ref) (i n : Nat)
    (b : Bool) (e : Ast) (v : Spec.Value F) : Prop :=
  SemC d cfg regexOk limit sn sd c i n e v ∧ StrLike v ∧ (b = true → ∃ s, v = .str s)

section
variable {d : Doc} {cfg : ECfg} {regexOk : RegexOk} {limit : Nat} {sn sd : Bool} {c : Ref} {i n : Nat}

theorem all2_good2_sem (args : List Ast) (vs : List (Spec.Value F))
    (h : All2 (Good2 d cfg regexOk limit sn sd c i n false) args vs) :
    All2 (SemC d cfg regexOk limit sn sd c i n) args vs ∧ ∀ v ∈ vs, StrLike v := by
  induction h with
  | nil => exact ⟨.nil, fun v hv => by cases hv⟩
  | cons h _ ih =>
    refine ⟨.cons h.1 ih.1, fun v hv => ?_⟩
    rcases List.mem_cons.1 hv with rfl | hv
    · exact h.2.1
    · exact ih.2 v hv

/-- a string-valued expression, in the shape of the conclusion of `strEP_good` at `b = true` -/
theorem good2_of_semCF {e : Ast} {s : String}
    (h : SemCF (F := F) d cfg regexOk limit sn sd c i n e (.str s)) :
    ∃ v, Good2 (F := F) d cfg regexOk limit sn sd c i n true e v ∧
      (true = true → SemCF d cfg regexOk limit sn sd c i n e v) :=
  ⟨.str s, ⟨h.semC, .str s, fun _ => ⟨s, rfl⟩⟩, fun _ => h⟩

end

/-- **nested calls over literals and leaves**: every member of the fragment has one value at the
context `⟨c, i, n⟩` — a string for an expression, a string or the leaf's node list for an argument —
which the oracle assigns and every plan `build` makes evaluates to -/
theorem strEP_good (d : Doc) (cfg : ECfg) (regexOk : RegexOk) (limit : Nat) (sn sd : Bool) (c : Ref) (i n : Nat)
    {L : Ast → Prop} (hL : LeafOK d cfg regexOk limit sn sd c i n F L)
    (b : Bool) (e : Ast) (h : StrEP L (NormDom d ⟨c, i, n⟩ F) b e) :
    ∃ v, Good2 (F := F) d cfg regexOk limit sn sd c i n b e v ∧
      (b = true → SemCF d cfg regexOk limit sn sd c i n e v) := by
  induction h with
  | lit s => exact good2_of_semCF (semCF_str s)
  | arg a _ ih =>
    obtain ⟨v, hv, _⟩ := ih
    exact ⟨v, ⟨hv.1, hv.2.1, fun hb => by cases hb⟩, fun hb => by cases hb⟩
  | path p hp =>
    -- the value of a leaf is read off one successful `build`; where no `build` of `p` succeeds
    -- `SemC` holds of any value, and `.nodes []` is taken
    by_cases hex : ∃ st o, build regexOk limit sn sd p {} st = .ok o
    · obtain ⟨st0, o0, hb0⟩ := hex
      obtain ⟨ns, g, _, hS⟩ := hL p hp st0 o0 hb0
      refine ⟨.nodes ns, ⟨?_, .nodes ns, fun hb => by cases hb⟩, fun hb => by cases hb⟩
      intro st o hb
      obtain ⟨ns', g', hE', hS'⟩ := hL p hp st o hb
      rw [hS] at hS'
      cases hS'
      exact ⟨⟨g, hS⟩, hE'⟩
    · exact ⟨.nodes [], ⟨fun st o hb => absurd ⟨st, o, hb⟩ hex, .nodes [], fun hb => by cases hb⟩,
        fun hb => by cases hb⟩
  | concat pfx args h2 _ ih =>
    obtain ⟨vs, hvs⟩ := exists_all2 (Good2 (F := F) d cfg regexOk limit sn sd c i n false) args
      (fun a ha => let ⟨v, hv, _⟩ := ih a ha; ⟨v, hv⟩)
    have hlen := all2_length hvs
    obtain ⟨hsem, hlike⟩ := all2_good2_sem args vs hvs
    exact good2_of_semCF (call_sem2 "concat" pfx args vs hsem _
      (plainCall_concat _ h2)
      (fun _ => ⟨spec_concat d _ vs (by omega), callFn_concat_strLike d cfg .nil c none vs hlike⟩))
  | substringBefore pfx a b _ _ iha ihb =>
    obtain ⟨va, ha, _⟩ := iha
    obtain ⟨vb, hb, _⟩ := ihb
    exact good2_of_semCF (call_sem2 "substring-before" pfx [a, b] _
      (.cons ha.1 (.cons hb.1 .nil)) _ plainCall_substringBefore
      (fun _ => ⟨Spec.callFn_substringBefore d _ va vb, m_substringBefore d cfg .nil c none va vb ha.2.1 hb.2.1⟩))
  | substringAfter pfx a b _ _ iha ihb =>
    obtain ⟨va, ha, _⟩ := iha
    obtain ⟨vb, hb, _⟩ := ihb
    exact good2_of_semCF (call_sem2 "substring-after" pfx [a, b] _
      (.cons ha.1 (.cons hb.1 .nil)) _ plainCall_substringAfter
      (fun _ => ⟨Spec.callFn_substringAfter d _ va vb, m_substringAfter d cfg .nil c none va vb ha.2.1 hb.2.1⟩))
  | substring2 pfx a start _ iha =>
    obtain ⟨va, ha, _⟩ := iha
    exact good2_of_semCF (call_sem2 "substring" pfx [a, .num start] _
      (.cons ha.1 (.cons (semCF_num start).semC .nil)) _
      plainCall_substring2
      (fun _ => ⟨Spec.callFn_substring2 d _ va _, m_substring2 d cfg .nil c none va _ ha.2.1⟩))
  | substring3 pfx a start len _ iha =>
    obtain ⟨va, ha, _⟩ := iha
    exact good2_of_semCF (call_sem2 "substring" pfx [a, .num start, .num len] _
      (.cons ha.1 (.cons (semCF_num start).semC
        (.cons (semCF_num len).semC .nil))) _
      plainCall_substring3
      (fun _ => ⟨Spec.callFn_substring3 d _ va _ _, m_substring3 d cfg .nil c none va _ _ ha.2.1⟩))
  | normalizeSpace pfx a _ hn iha =>
    obtain ⟨va, ha, _⟩ := iha
    refine good2_of_semCF (call_sem2 "normalize-space" pfx [a] _
      (.cons ha.1 .nil) (.str (Spec.fnNormalizeSpace (Spec.toStr d va)))
      plainCall_normalizeSpace ?_)
    intro hev
    cases hev with
    | cons h1 _ =>
      obtain ⟨g, hs⟩ := h1
      exact ⟨Spec.callFn_normalizeSpace d _ va, m_normalizeSpace d cfg .nil c none va ha.2.1 (hn va g hs)⟩
  | translate pfx a b c' _ _ _ iha ihb ihc =>
    obtain ⟨va, ha, _⟩ := iha
    obtain ⟨vb, hb, _⟩ := ihb
    obtain ⟨vc, hc, _⟩ := ihc
    exact good2_of_semCF (call_sem2 "translate" pfx [a, b, c'] _
      (.cons ha.1 (.cons hb.1 (.cons hc.1 .nil))) _ plainCall_translate
      (fun _ => ⟨Spec.callFn_translate d _ va vb vc, m_translate d cfg .nil c none va vb vc⟩))
  | lowerCase pfx a _ iha =>
    obtain ⟨va, ha, _⟩ := iha
    exact good2_of_semCF (call_sem2 "lower-case" pfx [a] _
      (.cons ha.1 .nil) _ plainCall_lowerCase
      (fun _ => ⟨Spec.callFn_lowerCase d _ va, m_lowerCase d cfg .nil c none va⟩))
  | string pfx a _ iha =>
    obtain ⟨va, ha, _⟩ := iha
    exact good2_of_semCF (call_sem2 "string" pfx [a] _
      (.cons ha.1 .nil) _ plainCall_string
      (fun _ => ⟨Spec.callFn_string d _ va, m_string d cfg .nil c none va⟩))

/-- generic form: for any leaf class with the leaf obligation -/
theorem strEP_sem (d : Doc) (cfg : ECfg) (regexOk : RegexOk) (limit : Nat) (sn sd : Bool) (c : Ref) (i n : Nat)
    {L : Ast → Prop} (hL : LeafOK d cfg regexOk limit sn sd c i n F L)
    {e : Ast} (h : StrEP L (NormDom d ⟨c, i, n⟩ F) true e)
    (fl : Flags) (st : BState) (o : BOut) (hb : build regexOk limit sn sd e fl st = .ok o) :
    ∃ s, evalP (F := F) d cfg o.q c = .ok (.str s) ∧
      Spec.eval (F := F) d e ⟨c, i, n⟩ = .ok (.val (.str s) none) := by
  obtain ⟨v, hg, hs⟩ := strEP_good (F := F) d cfg regexOk limit sn sd c i n hL true e h
  obtain ⟨s, rfl⟩ := hg.2.2 rfl
  obtain ⟨h1, h2⟩ := hs rfl fl st o hb
  exact ⟨s, h2, h1⟩

/-! ## literal leaves only: `StrE` -/

/-- every member of `StrE` (literal leaves only) is a member of `StrEP L (NormDom d ctx F)`, whatever
the leaf class -/
theorem strEP_of_strE (d : Doc) (ctx : Spec.Ctx) (L : Ast → Prop) {e : Ast} (h : StrE e) :
    StrEP L (NormDom d ctx F) true e := by
  induction h with
  | lit s => exact .lit s
  | concat pfx args h2 _ ih => exact .concat pfx args h2 (fun a ha => .arg a (ih a ha))
  | substringBefore pfx a b _ _ iha ihb => exact .substringBefore pfx a b (.arg a iha) (.arg b ihb)
  | substringAfter pfx a b _ _ iha ihb => exact .substringAfter pfx a b (.arg a iha) (.arg b ihb)
  | substring2 pfx a start _ iha => exact .substring2 pfx a start (.arg a iha)
  | substring3 pfx a start len _ iha => exact .substring3 pfx a start len (.arg a iha)
  | normalizeSpace pfx a ha hpl iha =>
    refine .normalizeSpace pfx a (.arg a iha) ?_
    obtain ⟨s, hs⟩ := strE_eval (F := F) d a ha
    intro v g hev
    rw [hs.1 ctx] at hev
    cases hev
    exact hs.2 hpl
  | translate pfx a b c _ _ _ iha ihb ihc =>
    exact .translate pfx a b c (.arg a iha) (.arg b ihb) (.arg c ihc)
  | lowerCase pfx a _ iha => exact .lowerCase pfx a (.arg a iha)
  | string pfx a _ iha => exact .string pfx a (.arg a iha)

end XPathV.StringFns2

namespace XPathV.StringFns
open XPathV XPathV.Model NumAlg
open XPathV.Theorems.C08 (emb)

variable {F : Type} [NumAlg F]

/-- from `evalP` and the oracle's `eval` at `⟨c, 1, 1⟩` to the public `Evaluate` and `evalTop` -/
theorem evaluate_evalTop_of_str (d : Doc) (cfg : ECfg) (q : Plan) (e : Ast) (c : Ref) (s : String)
    (hv : evalP (F := F) d cfg q c = .ok (.str s))
    (h1 : Spec.eval (F := F) d e ⟨c, 1, 1⟩ = .ok (.val (.str s) none)) :
    evaluate (F := F) d cfg q c = .ok (.str s) ∧ Spec.evalTop (F := F) d e c = .ok (.str s) :=
  ⟨by simp only [evaluate, hv, bind, Except.bind]; rfl,
    by simp only [Spec.evalTop, h1, bind, Except.bind]; rfl⟩

/-- **nested calls over literals**: whenever `build` succeeds on an expression of `StrE`, the plan's
value at any context node is the string the oracle computes there — no assumption on the document,
the builder's switches or the engine configuration (there are no leaves to agree on) -/
theorem strE_sem (e : Ast) (h : StrE e) (d : Doc) (cfg : ECfg) (c : Ref)
    (regexOk : RegexOk) (limit : Nat) (sn sd : Bool) (st : BState) (o : BOut)
    (hb : build regexOk limit sn sd e {} st = .ok o) :
    ∃ s, evalP (F := F) d cfg o.q c = .ok (.str s) ∧
      evaluate (F := F) d cfg o.q c = .ok (.str s) ∧
      Spec.eval (F := F) d e ⟨c, 1, 1⟩ = .ok (.val (.str s) none) ∧
      Spec.evalTop (F := F) d e c = .ok (.str s) := by
  obtain ⟨s, hv, h1⟩ := StringFns2.strEP_sem (F := F) d cfg regexOk limit sn sd c 1 1
    (L := fun _ => False) (fun _ hp => hp.elim) (StringFns2.strEP_of_strE d ⟨c, 1, 1⟩ _ h) {} st o hb
  obtain ⟨h2, h4⟩ := evaluate_evalTop_of_str d cfg o.q e c s hv h1
  exact ⟨s, hv, h2, h1, h4⟩

/-! ## non-vacuity: `build` succeeds on the fragment when the depth limit suffices -/

/-- nesting height as `parseDepth` counts it -/
def ht : Ast → Nat
  | .call _ _ args => ht args + 1
  | .acons h t => max (ht h) (ht t)
  | .str _ => 1
  | .num _ => 1
  | _ => 0

def Builds (e : Ast) : Prop :=
  ∀ regexOk limit sn sd fl st, st.depth + ht e ≤ limit →
    ∃ o, build regexOk limit sn sd e fl st = .ok o ∧ o.st.depth = st.depth

theorem builds_str (s : String) : Builds (.str s) := by
  intro regexOk limit sn sd fl st h
  simp only [ht] at h
  refine ⟨_, by rw [build, build.enter, if_neg (by omega)], ?_⟩
  simp [build.leave]

theorem builds_num (s : String) : Builds (.num s) := by
  intro regexOk limit sn sd fl st h
  simp only [ht] at h
  refine ⟨_, by rw [build, build.enter, if_neg (by omega)], ?_⟩
  simp [build.leave]

theorem args_builds (args : List Ast) (h : ∀ a ∈ args, Builds a) :
    ∀ regexOk limit sn sd k st, st.depth + ht (Ast.ofArgList args) ≤ limit →
      ∃ o, build regexOk limit sn sd (Ast.ofArgList args) { take := k } st = .ok o ∧
        o.st.depth = st.depth := by
  induction args with
  | nil =>
    intro regexOk limit sn sd k st _
    exact ⟨_, by simp only [Ast.ofArgList]; rw [build], rfl⟩
  | cons x t ih =>
    intro regexOk limit sn sd k st hd
    simp only [Ast.ofArgList, ht] at hd
    simp only [Ast.ofArgList]
    rw [build]
    by_cases hk : (({ take := k } : Flags).take == 0) = true
    · rw [if_pos hk]; exact ⟨_, rfl, rfl⟩
    · rw [if_neg hk]
      obtain ⟨ho, hho, hhd⟩ := h x List.mem_cons_self regexOk limit sn sd {} st (by omega)
      obtain ⟨to, hto, htd⟩ := ih (fun a ha => h a (List.mem_cons_of_mem _ ha)) regexOk limit sn sd
        (k - 1) ho.st (by omega)
      refine ⟨_, by simp only [hho, hto, bind, Except.bind]; rfl, ?_⟩
      simp only [htd, hhd]

theorem call_builds (name pfx : String) (args : List Ast) (hc : PlainCall name args.length)
    (h : ∀ a ∈ args, Builds a) : Builds (.call name pfx (Ast.ofArgList args)) := by
  obtain ⟨hn, hz, _, mn, mx, idx, hfa, h1, h2⟩ := hc
  intro regexOk limit sn sd fl st hd
  have hz' : (args.length == 0) = false := by simpa using hz
  simp only [ht] at hd
  obtain ⟨ao, hao, had⟩ := args_builds args h regexOk limit sn sd (fnUsed name args.length)
    { st with depth := st.depth + 1 } (by simp only; omega)
  have hm : name ≠ "matches" := fun e => hn (by rw [e]; exact List.mem_cons_self)
  have hm' : (name == "matches") = false := by simpa using hm
  rw [build, build.enter, if_neg (by omega)]
  simp only [argList_ofArgList, hfa]
  rw [if_neg (by omega)]
  cases mx with
  | none =>
    simp only [hao, bind, Except.bind, hm', hz', Bool.false_eq_true, ↓reduceIte, Bool.and_false, Bool.false_and]
    refine ⟨_, rfl, ?_⟩
    simp only [build.leave, had]
    omega
  | some m =>
    have := h2 m rfl
    have h3 : decide (args.length > m) = false := by simp; omega
    simp only [h3, hao, bind, Except.bind, hm', hz', Bool.false_eq_true, ↓reduceIte, Bool.and_false, Bool.false_and]
    refine ⟨_, rfl, ?_⟩
    simp only [build.leave, had]
    omega

theorem strE_builds (e : Ast) (h : StrE e) : Builds e := by
  induction h with
  | lit s => exact builds_str s
  | concat pfx args h2 _ ih => exact call_builds "concat" pfx args (plainCall_concat _ h2) ih
  | substringBefore pfx a b _ _ iha ihb =>
    exact call_builds "substring-before" pfx [a, b] plainCall_substringBefore (by simp [iha, ihb])
  | substringAfter pfx a b _ _ iha ihb =>
    exact call_builds "substring-after" pfx [a, b] plainCall_substringAfter (by simp [iha, ihb])
  | substring2 pfx a start _ iha =>
    exact call_builds "substring" pfx [a, .num start] plainCall_substring2 (by simp [iha, builds_num])
  | substring3 pfx a start len _ iha =>
    exact call_builds "substring" pfx [a, .num start, .num len] plainCall_substring3
      (by simp [iha, builds_num])
  | normalizeSpace pfx a _ _ iha =>
    exact call_builds "normalize-space" pfx [a] plainCall_normalizeSpace (by simp [iha])
  | translate pfx a b c _ _ _ iha ihb ihc =>
    exact call_builds "translate" pfx [a, b, c] plainCall_translate (by simp [iha, ihb, ihc])
  | lowerCase pfx a _ iha => exact call_builds "lower-case" pfx [a] plainCall_lowerCase (by simp [iha])
  | string pfx a _ iha => exact call_builds "string" pfx [a] plainCall_string (by simp [iha])

end XPathV.StringFns
