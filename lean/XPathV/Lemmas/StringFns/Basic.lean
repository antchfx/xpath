import XPathV.Lemmas.C08Base
import XPathV.Lemmas.C09Base
/-!
# C09 — string functions: the model's `callFn` against the oracle `Spec.callFn`
-/
namespace XPathV.StringFns
open XPathV XPathV.Model NumAlg
open XPathV.Theorems.C08 (emb)

variable {F : Type} [NumAlg F]

/-- the model outcome is the embedding of the (successful) oracle outcome -/
def Agrees (m : Except EErr (MVal F)) (s : Except Spec.Err (Spec.Value F)) : Prop :=
  ∃ v, s = .ok v ∧ m = .ok (emb v)

/-- every character is a space for Go's `unicode.IsSpace` exactly when it is XML whitespace (the
lemmas below spell this hypothesis out; it is `Plain s` by unfolding) -/
def Plain (s : String) : Prop := ∀ c ∈ s.toList, Model.isSpace c = Spec.isXmlSpace c

/-! ## normalize-space -/

theorem dropWhile_congr {α : Type} (p q : α → Bool) (l : List α) (h : ∀ x ∈ l, p x = q x) :
    l.dropWhile p = l.dropWhile q := by
  induction l with
  | nil => rfl
  | cons x t ih =>
    simp only [List.dropWhile_cons, h x (List.mem_cons_self)]
    split
    · exact ih (fun y hy => h y (List.mem_cons_of_mem _ hy))
    · rfl

theorem mem_dropWhile {α : Type} (p : α → Bool) (l : List α) (x : α) (h : x ∈ l.dropWhile p) : x ∈ l :=
  (List.dropWhile_sublist p).subset h

theorem goTrimSpace_eq (cs : List Char) (h : ∀ c ∈ cs, Model.isSpace c = Spec.isXmlSpace c) :
    goTrimSpace cs = Spec.trimXml cs := by
  unfold goTrimSpace Spec.trimXml
  rw [dropWhile_congr _ _ cs h]
  rw [dropWhile_congr Model.isSpace Spec.isXmlSpace (cs.dropWhile Spec.isXmlSpace).reverse]
  intro x hx
  exact h x (mem_dropWhile _ _ _ (List.mem_reverse.1 hx))

theorem mem_trimXml (cs : List Char) (x : Char) (h : x ∈ Spec.trimXml cs) : x ∈ cs := by
  unfold Spec.trimXml at h
  exact mem_dropWhile _ _ _ (List.mem_reverse.1 (mem_dropWhile _ _ _ (List.mem_reverse.1 h)))

theorem trimXml_last (cs : List Char) (x : Char) (h : (Spec.trimXml cs).getLast? = some x) :
    Spec.isXmlSpace x = false := by
  unfold Spec.trimXml at h
  rw [List.getLast?_reverse] at h
  have := List.head?_dropWhile_not Spec.isXmlSpace (cs.dropWhile Spec.isXmlSpace).reverse
  rw [h] at this
  exact this

theorem aux_cons (c : Char) (cs : List Char) (p : Bool) :
    Spec.normSpaceAux (c :: cs) p =
      if Spec.isXmlSpace c then Spec.normSpaceAux cs true
      else (if p then [' ', c] else [c]) ++ Spec.normSpaceAux cs false := by
  rw [Spec.normSpaceAux]

theorem loop_cons2 (c c2 : Char) (cs : List Char) :
    normLoop (c :: c2 :: cs) =
      if Model.isSpace c && Model.isSpace c2 then normLoop (c2 :: cs)
      else (if Model.isSpace c then ' ' else c) :: normLoop (c2 :: cs) := by
  rw [normLoop]

/-- on a list without trailing whitespace the Go loop and the oracle's collapse agree -/
theorem normLoop_aux (t : List Char) (hag : ∀ c ∈ t, Model.isSpace c = Spec.isXmlSpace c) :
    t ≠ [] → (∀ x, t.getLast? = some x → Spec.isXmlSpace x = false) →
    Spec.normSpaceAux t false = normLoop t ∧
    Spec.normSpaceAux t true = (if (t.head?.map Spec.isXmlSpace) = some true then normLoop t else ' ' :: normLoop t) := by
  induction t with
  | nil => intro h; exact absurd rfl h
  | cons c rest ih =>
    intro _ hlast
    have hc := hag c List.mem_cons_self
    have hag' : ∀ x ∈ rest, Model.isSpace x = Spec.isXmlSpace x := fun x hx => hag x (List.mem_cons_of_mem _ hx)
    cases rest with
    | nil =>
      have hns : Spec.isXmlSpace c = false := hlast c rfl
      simp [Spec.normSpaceAux, normLoop, hc, hns]
    | cons c2 cs =>
      have hlast' : ∀ x, (c2 :: cs).getLast? = some x → Spec.isXmlSpace x = false := by
        intro x hx; apply hlast x; rw [List.getLast?_cons_cons]; exact hx
      obtain ⟨ih1, ih2⟩ := ih hag' (by simp) hlast'
      have hc2 := hag c2 (List.mem_cons_of_mem _ List.mem_cons_self)
      rw [aux_cons c (c2 :: cs) false, aux_cons c (c2 :: cs) true, loop_cons2 c c2 cs, ih1, ih2]
      simp only [List.head?_cons, Option.map_some, Option.some.injEq]
      rw [← hc, ← hc2]
      cases Model.isSpace c <;> cases Model.isSpace c2 <;> simp

theorem normLoop_eq (t : List Char) (hag : ∀ c ∈ t, Model.isSpace c = Spec.isXmlSpace c)
    (hlast : ∀ x, t.getLast? = some x → Spec.isXmlSpace x = false) :
    normLoop t = Spec.normSpaceAux t false := by
  cases t with
  | nil => simp [normLoop, Spec.normSpaceAux]
  | cons c r => exact ((normLoop_aux (c :: r) hag (by simp) hlast).1).symm

/-- **normalize-space**: on strings whose characters are classified alike by Go's `unicode.IsSpace`
and the XML `S` production, `normalizespaceFunc` computes the XPath `normalize-space` -/
theorem normalizeSpace_spec (s : String) (h : ∀ c ∈ s.toList, Model.isSpace c = Spec.isXmlSpace c) :
    normalizeSpaceM s = Spec.fnNormalizeSpace s := by
  unfold normalizeSpaceM Spec.fnNormalizeSpace
  rw [goTrimSpace_eq _ h]
  rw [normLoop_eq _ (fun c hc => h c (mem_trimXml _ _ hc)) (trimXml_last _)]

/-! ## `string`, `concat`: model and oracle agree -/

/-- `asString` is the XPath `string()` conversion, on every XPath value -/
theorem asStringM_emb (d : Doc) (v : Spec.Value F) : asStringM d (emb v) = .ok (Spec.toStr d v) := by
  rcases v with (_ | ⟨r, t⟩) | b | x | s <;> rfl

section
variable (d : Doc) (cfg : ECfg) (fi : Plan) (c : Ref) (asel : Option (List Ref)) (ctx : Spec.Ctx)

/-- `string(v)` for every XPath value: `asString` is the XPath `string()` conversion -/
theorem fn_string_spec (v : Spec.Value F) :
    Agrees (F := F) (callFn d cfg "string" fi c [.ok (emb v)] asel) (Spec.callFn d ctx "string" [v]) :=
  ⟨_, Spec.callFn_string d ctx v, by
    rw [callFn_string]
    show (asStringM d (emb v) >>= fun s => Except.ok (MVal.str s)) = _
    rw [asStringM_emb]; rfl⟩

end

theorem mapM_map_ok {α β γ ε : Type} (f : α → Except ε β) (g : γ → α) (h : γ → β)
    (l : List γ) (hf : ∀ x ∈ l, f (g x) = .ok (h x)) : (l.map g).mapM f = .ok (l.map h) := by
  induction l with
  | nil => rfl
  | cons x t ih =>
    simp [List.mapM_cons, hf x List.mem_cons_self, ih (fun y hy => hf y (List.mem_cons_of_mem _ hy)),
      bind, Except.bind, pure, Except.pure]

/-- a value that `concat` and the first-argument functions read as a string: a string or a node list -/
inductive StrLike : Spec.Value F → Prop
  | str (s : String) : StrLike (.str s)
  | nodes (l : List Ref) : StrLike (.nodes l)

theorem callFn_concat_strLike (d : Doc) (cfg : ECfg) (fi : Plan) (c : Ref) (asel : Option (List Ref))
    (vs : List (Spec.Value F)) (h : ∀ v ∈ vs, StrLike v) :
    callFn (F := F) d cfg "concat" fi c (vs.map (fun v => .ok (emb v))) asel
      = .ok (.str ((vs.map (Spec.toStr d)).foldl (· ++ ·) "")) := by
  rw [callFn_concat]
  have : ∀ v ∈ vs, (fun (a : Except EErr (MVal F)) => (do
              let __do_lift ← a
              match __do_lift with
                | MVal.str s => pure s
                | MVal.nodes (r :: _) => pure (stringValue d r)
                | _ => pure "" : Except EErr String)) ((fun v => Except.ok (emb v)) v) = .ok (Spec.toStr d v) := by
    intro v hv
    cases h v hv with
    | str s => rfl
    | nodes l => cases l <;> rfl
  rw [mapM_map_ok _ _ _ vs this]
  rfl

theorem spec_concat (d : Doc) (ctx : Spec.Ctx) (vs : List (Spec.Value F)) (h2 : 2 ≤ vs.length) :
    Spec.callFn d ctx "concat" vs = .ok (.str ((vs.map (Spec.toStr d)).foldl (· ++ ·) "")) := by
  rcases vs with _ | ⟨a, _ | ⟨b, rest⟩⟩
  · simp at h2
  · simp at h2
  · rw [Spec.callFn_concat, List.foldl_map]

/-- `concat` with any number `n ≥ 2` of arguments, each a string or a node list (read as the
string-value of its first node) -/
theorem fn_concat_strlike_spec (d : Doc) (cfg : ECfg) (fi : Plan) (c : Ref) (asel : Option (List Ref))
    (ctx : Spec.Ctx) (vs : List (Spec.Value F)) (h : ∀ v ∈ vs, StrLike v) (h2 : 2 ≤ vs.length) :
    Agrees (F := F) (callFn d cfg "concat" fi c (vs.map (fun v => .ok (emb v))) asel)
      (Spec.callFn d ctx "concat" vs) :=
  ⟨_, spec_concat d ctx vs h2, by rw [callFn_concat_strLike d cfg fi c asel vs h]; rfl⟩

/-! ## node-set arguments: the string-value of the first node, "" for the empty list -/

/-- functions that read their first argument as a string -/
def firstArgFns : List String :=
  ["contains", "starts-with", "ends-with", "substring-before", "substring-after", "substring",
   "string-length", "normalize-space", "translate", "lower-case", "string", "concat"]

/-- shape of the remaining arguments under which the statement holds (well-typed calls): the
bounds of `substring` are numbers, `substring-before/after` have their second argument -/
def RestOk (name : String) (rest : List (Except EErr (MVal F))) : Prop :=
  if name = "substring" then
    (∃ s, rest = [.ok (.num s)]) ∨ (∃ s l, rest = [.ok (.num s), .ok (.num l)])
  else if name = "substring-before" ∨ name = "substring-after" then ∃ w tl, rest = .ok w :: tl
  else True

theorem substringM_empty (start : F) (len : Option F) : substringM "" start len = "" := by
  cases len <;> rfl

theorem normalizeSpaceM_empty : normalizeSpaceM "" = "" := by
  unfold normalizeSpaceM
  have : "".toList = [] := rfl
  rw [this]
  rfl

theorem fnSubstringBefore_empty (b : String) : Spec.fnSubstringBefore "" b = "" := by
  unfold Spec.fnSubstringBefore
  have : "".toList = [] := rfl
  rw [this]
  split <;> simp

theorem fnSubstringAfter_empty (b : String) : Spec.fnSubstringAfter "" b = "" := by
  unfold Spec.fnSubstringAfter
  have : "".toList = [] := rfl
  rw [this]
  split <;> simp

omit [NumAlg F] in
/-- with a default, reading an argument as a string does not fail -/
theorem readStr_default (d : Doc) (w : MVal F) : ∃ o, readStr d w (.ok (some "")) = .ok o := by
  rcases w with (_ | ⟨_, _⟩) | _ | _ | _ | _ | _ <;> exact ⟨_, rfl⟩

/-- **node-set argument = its first node's string-value**: for every function that reads its first
argument as a string, passing a node list `l` is the same as passing the string
`Spec.toStr d (.nodes l)` — the string-value of the first node of `l`, `""` for the empty list -/
theorem nodeset_arg_is_first (d : Doc) (cfg : ECfg) (fi : Plan) (c : Ref) (asel : Option (List Ref))
    (name : String) (hn : name ∈ firstArgFns) (l : List Ref) (rest : List (Except EErr (MVal F)))
    (hr : RestOk name rest) :
    callFn (F := F) d cfg name fi c (.ok (.nodes l) :: rest) asel
      = callFn d cfg name fi c (.ok (.str (Spec.toStr (F := F) d (.nodes l))) :: rest) asel := by
  simp only [firstArgFns, List.mem_cons, List.not_mem_nil, or_false] at hn
  rcases hn with h | h | h | h | h | h | h | h | h | h | h | h <;> subst h
  · rw [callFn_contains, callFn_contains]; cases l <;> rfl
  · rw [callFn_startsWith, callFn_startsWith]; cases l <;> rfl
  · rw [callFn_endsWith, callFn_endsWith]; cases l <;> rfl
  · obtain ⟨w, tl, rfl⟩ : ∃ w tl, rest = .ok w :: tl := hr
    obtain ⟨o, ho⟩ := readStr_default d w
    rw [callFn_substringBefore, callFn_substringBefore]
    cases l with
    | nil =>
      show _ = readStr d w (.ok (some "")) >>= _
      rw [ho]
      exact congrArg (fun s => Except.ok (MVal.str s)) (fnSubstringBefore_empty _).symm
    | cons r t => rfl
  · obtain ⟨w, tl, rfl⟩ : ∃ w tl, rest = .ok w :: tl := hr
    obtain ⟨o, ho⟩ := readStr_default d w
    rw [callFn_substringAfter, callFn_substringAfter]
    cases l with
    | nil =>
      show _ = readStr d w (.ok (some "")) >>= _
      rw [ho]
      exact congrArg (fun s => Except.ok (MVal.str s)) (fnSubstringAfter_empty _).symm
    | cons r t => rfl
  · rw [callFn_substring, callFn_substring]
    cases l with
    | nil =>
      rcases (hr : _ ∨ _) with ⟨s, rfl⟩ | ⟨s, l', rfl⟩ <;>
        exact congrArg (fun s => Except.ok (MVal.str s)) (substringM_empty _ _).symm
    | cons r t => rfl
  · rw [callFn_stringLength, callFn_stringLength]; cases l <;> rfl
  · rw [callFn_normalizeSpace, callFn_normalizeSpace]
    cases l with
    | nil => exact congrArg (fun s => Except.ok (MVal.str s)) normalizeSpaceM_empty.symm
    | cons r t => rfl
  · rw [callFn_translate, callFn_translate]; cases l <;> rfl
  · rw [callFn_lowerCase, callFn_lowerCase]; cases l <;> rfl
  · rw [callFn_string, callFn_string]; cases l <;> rfl
  · rw [callFn_concat, callFn_concat]; cases l <;> rfl

/-- the oracle reads a node-set first argument through `string()`, too -/
theorem spec_nodeset_arg_is_first (d : Doc) (ctx : Spec.Ctx) (name : String) (hn : name ∈ firstArgFns)
    (l : List Ref) (rest : List (Spec.Value F)) :
    Spec.callFn (F := F) d ctx name (.nodes l :: rest)
      = Spec.callFn d ctx name (.str (Spec.toStr (F := F) d (.nodes l)) :: rest) := by
  simp only [firstArgFns, List.mem_cons, List.not_mem_nil, or_false] at hn
  rcases hn with h | h | h | h | h | h | h | h | h | h | h | h <;> subst h <;>
    rcases rest with _ | ⟨b, _ | ⟨c', _ | ⟨e, r⟩⟩⟩ <;> rfl

/-! ## node-set arguments in *second* position (after the repair of `contains`/`starts-with`/`ends-with`)

`containsFunc`, `startwithFunc`, `endwithFunc` read their second argument like the first (before the
repair they demanded a `string` there and raised "argument type must be string" on a node-set). -/

/-- functions that read their second argument as a string: a node list stands for the string-value
of its first node (`""` when empty) -/
def secondArgFns : List String :=
  ["contains", "starts-with", "ends-with", "substring-before", "substring-after", "translate"]

/-- **node-set in second position = its first node's string-value**, whatever the first argument's
outcome is (a value of any type, or a failure) and whatever follows -/
theorem nodeset_arg_is_second (d : Doc) (cfg : ECfg) (fi : Plan) (c : Ref) (asel : Option (List Ref))
    (name : String) (hn : name ∈ secondArgFns) (a1 : Except EErr (MVal F)) (l : List Ref)
    (rest : List (Except EErr (MVal F))) :
    callFn (F := F) d cfg name fi c (a1 :: .ok (.nodes l) :: rest) asel
      = callFn d cfg name fi c (a1 :: .ok (.str (Spec.toStr (F := F) d (.nodes l))) :: rest) asel := by
  simp only [secondArgFns, List.mem_cons, List.not_mem_nil, or_false] at hn
  rcases hn with h | h | h | h | h | h <;> subst h
  · rw [callFn_contains, callFn_contains]; cases l <;> rfl
  · rw [callFn_startsWith, callFn_startsWith]; cases l <;> rfl
  · rw [callFn_endsWith, callFn_endsWith]; cases l <;> rfl
  · rw [callFn_substringBefore, callFn_substringBefore]; cases l <;> rfl
  · rw [callFn_substringAfter, callFn_substringAfter]; cases l <;> rfl
  · rw [callFn_translate, callFn_translate]; cases l <;> rfl

/-- the oracle reads a node-set second argument through `string()`, too -/
theorem spec_nodeset_arg_is_second (d : Doc) (ctx : Spec.Ctx) (name : String) (hn : name ∈ secondArgFns)
    (a : Spec.Value F) (l : List Ref) (rest : List (Spec.Value F)) :
    Spec.callFn (F := F) d ctx name (a :: .nodes l :: rest)
      = Spec.callFn d ctx name (a :: .str (Spec.toStr (F := F) d (.nodes l)) :: rest) := by
  simp only [secondArgFns, List.mem_cons, List.not_mem_nil, or_false] at hn
  rcases hn with h | h | h | h | h | h <;> subst h <;>
    rcases rest with _ | ⟨b, _ | ⟨c', r⟩⟩ <;> rfl

/-- the three string tests -/
def strTestFns : List String := ["contains", "starts-with", "ends-with"]

/-- what a string test computes on two strings (shared by both sides) -/
def strTestOf (name : String) (a b : String) : Bool :=
  if name = "starts-with" then Spec.fnStartsWith a b
  else if name = "ends-with" then Spec.fnEndsWith a b
  else Spec.fnContains a b

theorem strTestOf_contains (a b : String) : strTestOf "contains" a b = Spec.fnContains a b := rfl
theorem strTestOf_startsWith (a b : String) : strTestOf "starts-with" a b = Spec.fnStartsWith a b := rfl
theorem strTestOf_endsWith (a b : String) : strTestOf "ends-with" a b = Spec.fnEndsWith a b := rfl

/-- **`contains` / `starts-with` / `ends-with` with a string or a node-set in EITHER position**: the
engine's answer is the oracle's, namely the test on the two string-values (`Spec.toStr`: a string
as it is, a node list as the string-value of its first node, `""` when empty) -/
theorem fn_strtest_strlike_spec (d : Doc) (cfg : ECfg) (fi : Plan) (c : Ref) (asel : Option (List Ref))
    (ctx : Spec.Ctx) (name : String) (hn : name ∈ strTestFns) (va vb : Spec.Value F)
    (ha : StrLike va) (hb : StrLike vb) :
    callFn (F := F) d cfg name fi c [.ok (emb va), .ok (emb vb)] asel =
      .ok (.bool (strTestOf name (Spec.toStr d va) (Spec.toStr d vb))) ∧
    Spec.callFn (F := F) d ctx name [va, vb] =
      .ok (.bool (strTestOf name (Spec.toStr d va) (Spec.toStr d vb))) := by
  simp only [strTestFns, List.mem_cons, List.not_mem_nil, or_false] at hn
  rcases hn with h | h | h <;> subst h
  · rw [strTestOf_contains]
    refine ⟨?_, Spec.callFn_contains d ctx va vb⟩
    rw [callFn_contains]
    rcases ha with s | (_ | ⟨r, l⟩) <;> rcases hb with t | (_ | ⟨r', l'⟩) <;> rfl
  · rw [strTestOf_startsWith]
    refine ⟨?_, Spec.callFn_startsWith d ctx va vb⟩
    rw [callFn_startsWith]
    rcases ha with s | (_ | ⟨r, l⟩) <;> rcases hb with t | (_ | ⟨r', l'⟩) <;> rfl
  · rw [strTestOf_endsWith]
    refine ⟨?_, Spec.callFn_endsWith d ctx va vb⟩
    rw [callFn_endsWith]
    rcases ha with s | (_ | ⟨r, l⟩) <;> rcases hb with t | (_ | ⟨r', l'⟩) <;> rfl

theorem fn_strtest_strlike_agrees (d : Doc) (cfg : ECfg) (fi : Plan) (c : Ref) (asel : Option (List Ref))
    (ctx : Spec.Ctx) (name : String) (hn : name ∈ strTestFns) (va vb : Spec.Value F)
    (ha : StrLike va) (hb : StrLike vb) :
    Agrees (F := F) (callFn d cfg name fi c [.ok (emb va), .ok (emb vb)] asel)
      (Spec.callFn d ctx name [va, vb]) := by
  obtain ⟨h1, h2⟩ := fn_strtest_strlike_spec d cfg fi c asel ctx name hn va vb ha hb
  exact ⟨_, h2, by rw [h1]; rfl⟩

/-- instance: `contains(node list, string)` -/
theorem fn_contains_nodeset_spec (d : Doc) (cfg : ECfg) (fi : Plan) (c : Ref) (asel : Option (List Ref))
    (ctx : Spec.Ctx) (l : List Ref) (b : String) :
    Agrees (F := F) (callFn d cfg "contains" fi c [.ok (.nodes l), .ok (.str b)] asel)
      (Spec.callFn d ctx "contains" [.nodes l, .str b]) :=
  fn_strtest_strlike_agrees d cfg fi c asel ctx "contains" (by simp [strTestFns]) (.nodes l) (.str b)
    (.nodes l) (.str b)

/-- instance: `contains(string, node list)` — an error ("argument type must be string") before the
repair -/
theorem fn_contains_nodeset2_spec (d : Doc) (cfg : ECfg) (fi : Plan) (c : Ref) (asel : Option (List Ref))
    (ctx : Spec.Ctx) (a : String) (l : List Ref) :
    Agrees (F := F) (callFn d cfg "contains" fi c [.ok (.str a), .ok (.nodes l)] asel)
      (Spec.callFn d ctx "contains" [.str a, .nodes l]) :=
  fn_strtest_strlike_agrees d cfg fi c asel ctx "contains" (by simp [strTestFns]) (.str a) (.nodes l)
    (.str a) (.nodes l)

end XPathV.StringFns
