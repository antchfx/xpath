import XPathV.Lemmas.ScanCases
/-!
# The scanner as a function of the unread text

`lexItem w` is `Scan.nextItem` as a function of the unread text `w` alone: the kind of token at the head of `w`
(`Kind`: the token type and the fields it sets) and the text behind it.  `nextItem_lex`: on a state whose unread
text is `w`, `nextItem` is `lexItem` on `w` without its leading blanks, and the state returned is the old one with
the fields of that kind overwritten (`Kind.out`).  What is proved about `nextItem` is proved about `lexItem`, on lists.
-/

namespace XPathV.Lemmas.ScanTail
open XPathV XPathV.Model

/-- look-ahead character and rest when the unread input is `w` -/
def mkCR : List Char → Char × List Char
  | [] => ('\x00', [])
  | x :: xs => (x, xs)

@[simp] theorem mkCR_nil : mkCR [] = ('\x00', []) := rfl
@[simp] theorem mkCR_cons (x : Char) (xs : List Char) : mkCR (x :: xs) = (x, xs) := rfl

/-- the unread input is exactly `w` -/
def At (w : List Char) (s : Scan) : Prop := s.curr = (mkCR w).1 ∧ s.rest = (mkCR w).2

/-- the whole text has been consumed -/
abbrev Done (s : Scan) : Prop := At [] s

theorem nextChar_at {s : Scan} {w : List Char} (hr : s.rest = w) : At w s.nextChar.1 := by
  unfold Scan.nextChar
  rw [hr]
  cases w <;> exact ⟨rfl, rfl⟩

end XPathV.Lemmas.ScanTail

namespace XPathV.BuildRejects
open XPathV XPathV.Model XPathV.Lemmas.ScanTail

/-- the token the scanner leaves when a name-like token of type `typ` ends and `t` is the unread text -/
def mkTok (s : Scan) (t : List Char) (typ : Tok) (name pfx : String) : Scan :=
  { s with curr := (mkCR (t.dropWhile isSpace)).1, rest := (mkCR (t.dropWhile isSpace)).2,
           typ := typ, name := name, pfx := pfx, canBeFunc := (mkCR (t.dropWhile isSpace)).1 == '(' }

end XPathV.BuildRejects

namespace XPathV.Whitespace
open XPathV XPathV.Model XPathV.Lemmas.ScanTail XPathV.BuildRejects

/-- look-ahead character of an unread input (`U+0000` at the end) -/
abbrev Head (w : List Char) : Char := (mkCR w).1

/-- the state `s` with the unread input replaced by `w` -/
def setPos (s : Scan) (w : List Char) : Scan := { s with curr := (mkCR w).1, rest := (mkCR w).2 }

def singles : List (Char × Tok) :=
  [(',', .comma), ('@', .at), ('(', .lparen), (')', .rparen), ('|', .union), ('*', .star), ('[', .lbracket),
   (']', .rbracket), ('+', .plus), ('-', .minus), ('=', .eq), ('$', .dollar)]

/-- the tokens of one or two characters: first and second character, token without and with the second -/
def twos : List (Char × Char × Tok × Tok) :=
  [('<', '=', .lt, .le), ('>', '=', .gt, .ge), ('!', '=', .bang, .ne), ('/', '/', .slash, .slashslash)]

/-- the token a lexeme produces -/
inductive Kind
  | plain (t : Tok)
  | num (lexeme : String)
  | str (v : String)
  | nameLike (typ : Tok) (name pfx : String)

/-- the scanner state after the lexeme, standing in front of `r` -/
def Kind.out (k : Kind) (s : Scan) (r : List Char) : Scan :=
  match k with
  | .plain t => setPos { s with typ := t } r
  | .num l => setPos { s with typ := .number, numlex := l } r
  | .str v => setPos { s with typ := .string, strval := v } r
  | .nameLike t n p => mkTok s r t n p

/-- the token type of a kind -/
def Kind.typ : Kind → Tok
  | .plain t => t
  | .num _ => .number
  | .str _ => .string
  | .nameLike t _ _ => t

theorem Kind.out_typ (k : Kind) (s : Scan) (r : List Char) : (k.out s r).typ = k.typ := by
  cases k <;> rfl

/-- the state after an item stands in front of the text behind it; after a name-like item, of that text
without its leading blanks -/
theorem Kind.out_at (k : Kind) (s : Scan) (r : List Char) : At r (k.out s r) ∨ At (r.dropWhile isSpace) (k.out s r) := by
  cases k with
  | nameLike t n p => exact .inr ⟨rfl, rfl⟩
  | _ => exact .inl ⟨rfl, rfl⟩

end XPathV.Whitespace

namespace XPathV.BuildRejects
open XPathV XPathV.Model

theorem isSpace_nul : isSpace '\x00' = false := by decide

theorem dropWhile_idem (p : Char → Bool) (t : List Char) : (t.dropWhile p).dropWhile p = t.dropWhile p := by
  induction t with
  | nil => rfl
  | cons c r ih =>
    by_cases h : p c = true
    · simp [h, ih]
    · simp [h]

end XPathV.BuildRejects

namespace XPathV.Whitespace
open XPathV XPathV.Model XPathV.Lemmas.ScanTail

theorem isDigit_nul : isDigit '\x00' = false := by decide
theorem isName_nul : isName '\x00' = false := by decide
theorem isNameStart_nul : isNameStart '\x00' = false := by decide

theorem setPos_at (s : Scan) (w : List Char) : At w (setPos s w) := ⟨rfl, rfl⟩

theorem at_setPos {s : Scan} {w : List Char} (h : At w s) : s = setPos s w := by
  obtain ⟨h1, h2⟩ := h
  cases s
  simp only [setPos] at *
  subst h1 h2
  rfl

end XPathV.Whitespace

namespace XPathV.Lex
open XPathV XPathV.Model XPathV.BuildRejects XPathV.Lemmas.ScanCases
open XPathV.Lemmas.ScanTail XPathV.Whitespace

/-! ## the lexer on lists -/

/-- a kind of token and the text behind it -/
abbrev Item := Whitespace.Kind × List Char

/-- `scanName` on lists: the run of name characters (with the model's U+FFFD mark when the character that ends
it is not ASCII) and the text behind it -/
def spanName (w : List Char) : String × List Char :=
  let run := w.takeWhile isName
  let r := w.dropWhile isName
  (String.ofList (if (Head r).toNat ≥ 0x80 then run ++ ['\uFFFD'] else run), r)

/-- `< > ! /` and what follows -/
def lexTwo (t1 t2 : Tok) (c2 : Char) (w : List Char) : Item :=
  if Head w = c2 then (.plain t2, w.tail) else (.plain t1, w)

/-- after a `.` -/
def lexDot (w : List Char) : Except ScanErr Item :=
  if Head w = '.' then .ok (.plain .dotdot, w.tail)
  else if isDigit (Head w) then
    if (w.takeWhile isDigit).all isAsciiDigit then
      .ok (.num (String.ofList ('.' :: w.takeWhile isDigit)), w.dropWhile isDigit)
    else .error .badNumber
  else .ok (.plain .dot, w)

/-- after an opening quote `q` -/
def lexString (q : Char) (w : List Char) : Except ScanErr Item :=
  match scanStringAux q w with
  | none => .error .unclosedString
  | some (str, rest) => .ok (.str (String.ofList str), rest)

/-- at a digit -/
def lexNumber (w : List Char) : Except ScanErr Item :=
  let ip := w.takeWhile isDigit
  let r1 := w.dropWhile isDigit
  let fr : List Char × List Char :=
    if Head r1 = '.' then ('.' :: r1.tail.takeWhile isDigit, r1.tail.dropWhile isDigit) else ([], r1)
  if (ip ++ fr.1).all (fun ch => isAsciiDigit ch || ch == '.') && !numOverflows ip (fr.1.drop 1) then
    .ok (.num (String.ofList (ip ++ fr.1)), fr.2)
  else .error .badNumber

/-- after a name `nm`, in front of `r`: a name, `name ::` (blanks allowed before the colons), `prefix:*`,
`prefix:local` -/
def lexAfterName (nm : String) (r : List Char) : Except ScanErr Item :=
  if Head r = ':' then
    if Head r.tail = ':' then .ok (.nameLike .axe nm "", r.tail.tail)
    else if Head r.tail = '*' then .ok (.nameLike .name "*" nm, r.tail.tail)
    else if isNameStart (Head r.tail) then .ok (.nameLike .name (spanName r.tail).1 nm, (spanName r.tail).2)
    else .error .invalidQName
  else if Head (r.dropWhile isSpace) = ':' then
    if Head (r.dropWhile isSpace).tail = ':' then .ok (.nameLike .axe nm "", (r.dropWhile isSpace).tail.tail)
    else .error .invalidQName
  else .ok (.nameLike .name nm "", r)

/-- at a name character -/
def lexName (w : List Char) : Except ScanErr Item := lexAfterName (spanName w).1 (spanName w).2

/-- one item at the head of the unread text `w` (no leading blanks): its kind and the text behind it.  At the
end of the text (or at U+0000, which the model takes for the end) the item is `eof` and nothing is consumed. -/
def lexItem (w : List Char) : Except ScanErr Item :=
  let c := Head w
  if c = '\x00' then .ok (.plain .eof, w)
  else match Whitespace.singles.lookup c with
  | some t => .ok (.plain t, w.tail)
  | none =>
    if c = '#' then .error .unknownItem
    else match twos.lookup c with
    | some (c2, t1, t2) => .ok (lexTwo t1 t2 c2 w.tail)
    | none =>
      if c = '.' then lexDot w.tail
      else if c = '"' ∨ c = '\'' then lexString c w.tail
      else if isDigit c then lexNumber w
      else if isName c then lexName w
      else .error .invalidToken

/-- `nextItem` on lists: blanks, then one item -/
def lexNext (w : List Char) : Except ScanErr Item := lexItem (w.dropWhile isSpace)

/-- the state a result of `lexItem` stands for, on top of the state `s` -/
def out (s : Scan) (p : Item) : Scan := p.1.out s p.2

/-! ## scanner states and unread texts -/

/-- the unread text of a state -/
def unread (s : Scan) : List Char := if s.curr = '\x00' ∧ s.rest = [] then [] else s.curr :: s.rest

theorem at_unread (s : Scan) : At (unread s) s := by
  unfold unread
  split
  · rename_i h; exact ⟨h.1, h.2⟩
  · exact ⟨rfl, rfl⟩

theorem rest_suffix_unread (s : Scan) : s.rest <:+ unread s := by
  unfold unread
  split
  · rename_i h
    rw [h.2]
    exact List.nil_suffix
  · exact List.suffix_cons _ _

theorem mkCR_snd (w : List Char) : (mkCR w).2 = w.tail := by cases w <;> rfl

theorem nextChar_setPos (s : Scan) (w : List Char) : (setPos s w).nextChar.1 = setPos s w.tail := by
  unfold Scan.nextChar setPos
  cases w with
  | nil => rfl
  | cons c w => cases w <;> rfl


/-- the model's `takeRun` is `takeWhile`/`dropWhile` on the text it starts at -/
theorem takeRun_cons (p : Char → Bool) : ∀ (r : List Char) (c : Char),
    takeRun p c r = ((c :: r).takeWhile p, (mkCR ((c :: r).dropWhile p)).1, (mkCR ((c :: r).dropWhile p)).2)
  | [], c => by
    by_cases h : p c = true <;> simp [takeRun, h]
  | x :: xs, c => by
    have ih := takeRun_cons p xs x
    by_cases h : p c = true
    · simp only [takeRun, h, ↓reduceIte, ih, List.takeWhile_cons, List.dropWhile_cons]
    · simp [takeRun, h]

/-- … also at the end of the text, for a `p` that is false on the end marker -/
theorem takeRun_mkCR {p : Char → Bool} (hp : p '\x00' = false) : ∀ w : List Char,
    takeRun p (mkCR w).1 (mkCR w).2 = (w.takeWhile p, (mkCR (w.dropWhile p)).1, (mkCR (w.dropWhile p)).2)
  | [] => by simp [takeRun, hp]
  | c :: r => takeRun_cons p r c

theorem takeRun_setPos {p : Char → Bool} (hp : p '\x00' = false) (s : Scan) (w : List Char) :
    takeRun p (setPos s w).curr (setPos s w).rest =
      (w.takeWhile p, (mkCR (w.dropWhile p)).1, (mkCR (w.dropWhile p)).2) := takeRun_mkCR hp w

theorem skipSpaceAux_mkCR : ∀ w : List Char, skipSpaceAux (mkCR w).1 (mkCR w).2 = mkCR (w.dropWhile isSpace)
  | [] => by simp [skipSpaceAux, isSpace_nul]
  | [c] => by
    by_cases h : isSpace c = true <;> simp [skipSpaceAux, h]
  | c :: x :: xs => by
    have ih := skipSpaceAux_mkCR (x :: xs)
    by_cases h : isSpace c = true
    · simp only [mkCR_cons, skipSpaceAux, h, ↓reduceIte, List.dropWhile_cons] at ih ⊢
      exact ih
    · simp [skipSpaceAux, h]

theorem _root_.XPathV.Whitespace.setPos_skipSpace (s : Scan) (w : List Char) :
    (setPos s w).skipSpace = setPos s (w.dropWhile isSpace) := by
  simp only [Scan.skipSpace, setPos, skipSpaceAux_mkCR]

theorem scanName_setPos (s : Scan) (w : List Char) :
    (setPos s w).scanName = ((spanName w).1, setPos s (spanName w).2) := by
  simp only [Scan.scanName, setPos, takeRun_mkCR isName_nul, spanName]

/-! ## each class of branch of `nextItem`, on lists -/

theorem tkSingle_lex (s : Scan) (w : List Char) (t : Tok) :
    tkSingle (setPos s w) t = .ok (out s (.plain t, w.tail)) :=
  congrArg Except.ok (nextChar_setPos { s with typ := t } w)

theorem tkTwo_lex (s : Scan) (w : List Char) (t1 t2 : Tok) (c2 : Char) :
    tkTwo (setPos s w) t1 t2 c2 = .ok (out s (lexTwo t1 t2 c2 w.tail)) := by
  have h1 : ({ setPos s w with typ := t1 } : Scan).nextChar.1 = setPos { s with typ := t1 } w.tail :=
    nextChar_setPos { s with typ := t1 } w
  have h2 : ({ setPos { s with typ := t1 } w.tail with typ := t2 } : Scan).nextChar.1 = setPos { s with typ := t2 } w.tail.tail :=
    nextChar_setPos { s with typ := t2 } w.tail
  simp only [tkTwo, h1, h2, lexTwo, beq_iff_eq]
  show (if Head w.tail = c2 then _ else _) = _
  split <;> rfl

theorem tkDot_lex (s : Scan) (w : List Char) : tkDot (setPos s w) = (lexDot w.tail).map (out s) := by
  have h1 : ({ setPos s w with typ := .dot } : Scan).nextChar.1 = setPos { s with typ := .dot } w.tail :=
    nextChar_setPos { s with typ := .dot } w
  have h2 : ({ setPos { s with typ := .dot } w.tail with typ := .dotdot } : Scan).nextChar.1 =
      setPos { s with typ := .dotdot } w.tail.tail := nextChar_setPos { s with typ := .dotdot } w.tail
  simp only [tkDot, h1, h2, takeRun_setPos isDigit_nul, lexDot, beq_iff_eq]
  refine ite_ind₂ (R := fun a b => a = Except.map (out s) b) (fun _ => rfl) fun _ => ?_
  refine ite_ind₂ (R := fun a b => a = Except.map (out s) b) (fun _ => ?_) fun _ => rfl
  exact ite_ind₂ (R := fun a b => a = Except.map (out s) b) (fun _ => rfl) fun _ => rfl

theorem tkString_lex (s : Scan) (w : List Char) : tkString (setPos s w) = (lexString (Head w) w.tail).map (out s) := by
  simp only [tkString, lexString]
  show (match scanStringAux (Head w) (mkCR w).2 with | none => _ | some (str, rest) => _) = _
  rw [mkCR_snd]
  cases scanStringAux (Head w) w.tail with
  | none => rfl
  | some p =>
    obtain ⟨str, rest⟩ := p
    show Except.ok (Scan.nextChar _).1 = _
    have := nextChar_setPos { s with typ := .string, strval := String.ofList str } (Head w :: rest)
    exact congrArg Except.ok this

theorem tkNumber_lex (s : Scan) (w : List Char) : tkNumber (setPos s w) = (lexNumber w).map (out s) := by
  simp only [tkNumber, takeRun_setPos isDigit_nul, lexNumber, beq_iff_eq, ← mkCR_snd]
  by_cases hc : Head (w.dropWhile isDigit) = '.'
  · simp only [hc, ↓reduceIte]
    generalize (mkCR (w.dropWhile isDigit)).2 = t
    cases t with
    | nil => exact ite_ind₂ (R := fun a b => a = Except.map (out s) b) (fun _ => rfl) fun _ => rfl
    | cons x xs =>
      simp only [show takeRun isDigit x xs = _ from takeRun_mkCR isDigit_nul (x :: xs)]
      exact ite_ind₂ (R := fun a b => a = Except.map (out s) b) (fun _ => rfl) fun _ => rfl
  · simp only [hc, ↓reduceIte]
    exact ite_ind₂ (R := fun a b => a = Except.map (out s) b) (fun _ => rfl) fun _ => rfl

theorem nameCont_lex (s : Scan) (w : List Char) : nameCont (setPos s w) = (lexName w).map (out s) := by
  unfold nameCont
  extract_lets adv fin
  have hadv : ∀ (x : Scan) (r : List Char), adv (setPos x r) = setPos x r.tail := nextChar_setPos
  have hfin : ∀ (x : Scan) (r : List Char), fin (setPos x r) = .ok (mkTok x r x.typ x.name x.pfx) := fun x r => by
    show Except.ok _ = _
    rw [setPos_skipSpace]; rfl
  clear_value adv fin
  rw [scanName_setPos]
  dsimp -zeta only
  extract_lets s1 s2 s2p s2b s3
  generalize hx : ({ s with typ := .name, name := (spanName w).1, pfx := "" } : Scan) = x
  have e1 : s1 = setPos x (spanName w).2 := by rw [← hx]; rfl
  have e2 : s2 = setPos x (spanName w).2.tail := by rw [show s2 = adv s1 from rfl, e1, hadv]
  have e2p : s2p = setPos { x with pfx := (spanName w).1 } (spanName w).2.tail := by
    rw [show s2p = { s2 with pfx := (spanName w).1 } from rfl, e2]; rfl
  have e2b : s2b = setPos x ((spanName w).2.dropWhile isSpace) := by
    rw [show s2b = s1.skipSpace from rfl, e1, setPos_skipSpace]
  have e3 : s3 = setPos x ((spanName w).2.dropWhile isSpace).tail := by rw [show s3 = adv s2b from rfl, e2b, hadv]
  clear_value s1 s2 s2p s2b s3
  subst e1 e2 e2p e2b e3
  simp only [lexName, lexAfterName, beq_iff_eq]
  refine ite_ind₂ (R := fun a b => a = Except.map (out s) b) (fun _ => ?_) fun _ => ?_
  · refine ite_ind₂ (R := fun a b => a = Except.map (out s) b) (fun _ => ?_) fun _ => ?_
    · exact (congrArg fin (hadv { x with typ := .axe } _)).trans ((hfin _ _).trans (by subst hx; rfl))
    · refine ite_ind₂ (R := fun a b => a = Except.map (out s) b) (fun _ => ?_) fun _ => ?_
      · exact (congrArg fin (hadv { x with pfx := (spanName w).1, name := "*" } _)).trans
          ((hfin _ _).trans (by subst hx; rfl))
      · refine ite_ind₂ (R := fun a b => a = Except.map (out s) b) (fun _ => ?_) fun _ => rfl
        rw [scanName_setPos]
        exact (hfin { x with pfx := (spanName w).1, name := (spanName (spanName w).2.tail).1 } _).trans
          (by subst hx; rfl)
  · refine ite_ind₂ (R := fun a b => a = Except.map (out s) b) (fun _ => ?_) fun _ => ?_
    · refine ite_ind₂ (R := fun a b => a = Except.map (out s) b) (fun _ => ?_) fun _ => rfl
      exact (congrArg fin (hadv { x with typ := .axe } _)).trans ((hfin _ _).trans (by subst hx; rfl))
    · refine (hfin _ _).trans ?_
      subst hx
      show Except.ok (mkTok _ _ _ _ _) = Except.ok (mkTok _ _ _ _ _)
      simp only [mkTok, dropWhile_idem]

/-! ## the dispatch -/

theorem mem_of_lookup {β : Type} {c : Char} {b : β} : ∀ {l : List (Char × β)}, l.lookup c = some b → (c, b) ∈ l
  | [], h => by cases h
  | (a, x) :: l, h => by
    simp only [List.lookup] at h
    split at h
    · rename_i e
      cases h
      rw [eq_of_beq e]
      exact List.mem_cons_self
    · exact List.mem_cons_of_mem _ (mem_of_lookup h)

theorem singles_lookup : ∀ p ∈ Whitespace.singles, p.1 ≠ '\x00' ∧ Whitespace.singles.lookup p.1 = some p.2 := by decide

theorem twos_lookup : ∀ p ∈ twos, p.1 ≠ '\x00' ∧ Whitespace.singles.lookup p.1 = none ∧ p.1 ≠ '#' ∧
    twos.lookup p.1 = some p.2 := by decide

/-- a character that is none of those tested before `isDigit` falls through the tables of `lexItem` -/
theorem lookup_not_punct {c : Char} (h : c ∉ punct) : c ≠ '\x00' ∧ Whitespace.singles.lookup c = none ∧ c ≠ '#' ∧
    twos.lookup c = none ∧ c ≠ '.' ∧ ¬ (c = '"' ∨ c = '\'') := by
  simp only [punct, List.mem_cons, List.not_mem_nil, or_false, not_or] at h
  obtain ⟨h0, h1, h2, h3, h4, h5, h6, h7, h8, h9, h10, h11, h12, h13, h14, h15, h16, h17, h18, h19, h20⟩ := h
  have ne {x : Char} (h : ¬ c = x) : (c == x) = false := by simpa using h
  refine ⟨h0, ?_, h13, ?_, h18, not_or.2 ⟨h19, h20⟩⟩
  · simp only [Whitespace.singles, List.lookup, ne h1, ne h2, ne h3, ne h4, ne h5, ne h6, ne h7, ne h8, ne h9, ne h10,
      ne h11, ne h12]
  · simp only [twos, List.lookup, ne h14, ne h15, ne h16, ne h17]

/-- … and a character that is one of them does not -/
theorem punct_lookup : ∀ c ∈ punct, c = '\x00' ∨ Whitespace.singles.lookup c ≠ none ∨ c = '#' ∨ twos.lookup c ≠ none ∨
    c = '.' ∨ (c = '"' ∨ c = '\'') := by decide

/-- `ScanCases.doubles` lists the fields of `twos` in another order -/
theorem doubles_twos : ∀ q ∈ doubles, (q.1, q.2.2.2, q.2.1, q.2.2.1) ∈ twos := by decide

/-- `lexItem` on a character that is none of those tested before `isDigit` -/
theorem lexItem_not_punct {w : List Char} (h : Head w ∉ punct) :
    lexItem w = if isDigit (Head w) then lexNumber w else if isName (Head w) then lexName w else .error .invalidToken := by
  obtain ⟨h0, h1, h2, h3, h4, h5⟩ := lookup_not_punct h
  simp only [lexItem, h0, h1, h2, h3, h4, h5, ↓reduceIte]

/-- **`nextItem` after the blanks is `lexItem` on the unread text** -/
theorem itemBody_lex (s : Scan) (w : List Char) : itemBody (setPos s w) = (lexItem w).map (out s) := by
  refine itemBody_ind (Q := fun R => R = (lexItem w).map (out s)) (setPos s w) fun f hf => ?_
  have hc : (setPos s w).curr = Head w := rfl
  generalize (setPos s w).curr = c at hf hc
  subst hc
  cases hf with
  | eof e => simp only [lexItem, e, ↓reduceIte]; rfl
  | single t hm =>
    obtain ⟨h0, h1⟩ := singles_lookup _ hm
    simp only [lexItem, h0, h1, ↓reduceIte]
    exact tkSingle_lex s w t
  | unknown e =>
    have : lexItem w = .error .unknownItem := by simp only [lexItem, e]; rfl
    rw [this]; rfl
  | double t1 t2 c2 hm =>
    obtain ⟨h0, h1, h2, h3⟩ := twos_lookup _ (doubles_twos _ hm)
    simp only [lexItem, h0, h1, h2, h3, ↓reduceIte]
    exact tkTwo_lex s w t1 t2 c2
  | dot e =>
    have : lexItem w = lexDot w.tail := by simp only [lexItem, e]; rfl
    rw [this]; exact tkDot_lex s w
  | string e =>
    have : lexItem w = lexString (Head w) w.tail := by
      rcases e with e | e <;> (simp only [lexItem, e]; rfl)
    rw [this]; exact tkString_lex s w
  | number _ hd =>
    have hp : Head w ∉ punct := fun hp => by rw [punct_not_digit _ hp] at hd; cases hd
    rw [lexItem_not_punct hp, hd]; exact tkNumber_lex s w
  | name _ hp hd hn => rw [lexItem_not_punct hp, hd, hn]; exact nameCont_lex s w
  | invalid hp hd hn => rw [lexItem_not_punct hp, hd, hn]; rfl

theorem itemBody_at {s : Scan} {w : List Char} (h : At w s) : itemBody s = (lexItem w).map (out s) :=
  (congrArg itemBody (at_setPos h)).trans (itemBody_lex s w)

theorem nameCont_at {s : Scan} {w : List Char} (h : At w s) : nameCont s = (lexName w).map (out s) :=
  (congrArg nameCont (at_setPos h)).trans (nameCont_lex s w)

theorem nextItem_setPos (s : Scan) (w : List Char) : (setPos s w).nextItem = (lexNext w).map (out s) := by
  rw [nextItem_body, setPos_skipSpace, itemBody_lex]
  rfl

/-- **`nextItem` is `lexNext` on the unread text**, and the state it returns is the old one with the fields of
the item overwritten -/
theorem nextItem_lex {s : Scan} {w : List Char} (h : At w s) : s.nextItem = (lexNext w).map (out s) := by
  rw [at_setPos h, nextItem_setPos]
  rfl

end XPathV.Lex
