import XPathV.Lemmas.AxesLemmas
import XPathV.Lemmas.KeyRender
/-!
# The structured identity key is injective on the nodes of a well-formed document

The Go engine identifies a node by a rendered key (`identityKey`): length-prefixed name parts
followed by the path of 1-based sibling indices from the node up to the root.  Here the key is
studied first at the *structured* level (`keyStruct`: the list of parts and the list of indices),
then as the rendered string (`identityKey_decode`: the string determines type and structured key).

The repaired `getNodeKey` starts the key with the node type and the engine compares the key
STRINGS: `identityKey_inj` shows that the rendered key itself determines the node (on a well-formed
document whose elements have no two attributes with the same prefix, name and value); no assumption
about hash collisions is needed.
-/
namespace XPathV
open XPathV.Model

/-- the sibling-index path from the node up to the root -/
def indexPath (d : Doc) (r : Ref) : List Nat := (r :: ancestorsM d r).map (sibIndex d)

/-- the structured key: the name parts (2 for elements, 3 for attribute/text/comment, 0 for the
root) and the index path -/
def keyStruct (d : Doc) (r : Ref) : List String × List Nat :=
  match nodeType d r with
  | .elem => ([prefixOf d r, localName d r], indexPath d r)
  | .attr | .text | .comment => ([prefixOf d r, localName d r, stringValue d r], indexPath d r)
  | _ => ([], [])

/-- attributes of one element have pairwise distinct (prefix, local name) -/
def AttrNamesDistinct (d : Doc) : Prop :=
  ∀ i k₁ k₂, i < d.length → k₁ < (recAt d i).attrs.length → k₂ < (recAt d i).attrs.length →
    (attrAt d i k₁).pfx = (attrAt d i k₂).pfx → (attrAt d i k₁).name = (attrAt d i k₂).name →
    k₁ = k₂

/-- attribute local names are non-empty -/
def AttrNamesNonEmpty (d : Doc) : Prop :=
  ∀ i k, i < d.length → k < (recAt d i).attrs.length → (attrAt d i k).name ≠ ""

/-! ## Toolkit: strict monotonicity of filter length -/

/-- `q` holds wherever `p` does, and at one more element of `l` -/
theorem filter_length_lt {α : Type} (p q : α → Bool) (l : List α)
    (h : ∀ x ∈ l, p x = true → q x = true) (a : α) (ha : a ∈ l) (hpa : p a = false)
    (hqa : q a = true) : (l.filter p).length < (l.filter q).length := by
  rw [← List.countP_eq_length_filter, ← List.countP_eq_length_filter]
  induction l with
  | nil => cases ha
  | cons x xs ih =>
    have hle : xs.countP p ≤ xs.countP q :=
      List.countP_mono_left fun y hy => h y (List.mem_cons_of_mem _ hy)
    rw [List.countP_cons, List.countP_cons]
    rcases List.mem_cons.1 ha with e | e
    · subst e
      rw [hpa, hqa]
      simp only [Bool.false_eq_true, ↓reduceIte]; omega
    · have ih' := ih (fun y hy => h y (List.mem_cons_of_mem _ hy)) e
      have hx := h x List.mem_cons_self
      cases hp : p x with
      | false => simp only [Bool.false_eq_true, ↓reduceIte]; omega
      | true => rw [hx hp]; omega

/-! ## The sibling index as a count over the document -/

/-- the preceding-sibling predicate of the specification -/
def prevSibPred (d : Doc) (i : Nat) (x : Nat) : Bool :=
  Ref.lt (.node x) (.node i) && Spec.parent? d (.node x) == Spec.parent? d (.node i) &&
    (Spec.parent? d (.node i)).isSome

theorem sibIndex_node {d : Doc} (wf : WF d) (i : Nat) (hi : i < d.length) :
    sibIndex d (.node i) = ((List.range d.length).filter (prevSibPred d i)).length + 1 := by
  unfold sibIndex
  rw [← List.length_reverse, prevSibs_spec wf i hi]
  unfold Spec.precedingSiblings allNodes
  simp only [Ref.isAttr, Bool.false_eq_true, ↓reduceIte]
  rw [List.filter_map, List.length_map]
  rfl

/-- for a node `i` with parent `p`: the preceding siblings are the earlier nodes with parent `p` -/
theorem prevSibPred_iff {d : Doc} {i p : Nat} (ei : Spec.parent? d (.node i) = some (.node p)) (x : Nat) :
    prevSibPred d i x = true ↔ x < i ∧ Spec.parent? d (.node x) = some (.node p) := by
  unfold prevSibPred
  rw [ei]
  simp only [Bool.and_eq_true, lt_node, beq_iff_eq, Option.isSome_some, and_true]

/-- siblings (same parent) with the same sibling index are equal — one direction -/
theorem sibIndex_lt {d : Doc} (wf : WF d) (i j p : Nat) (hi : i < d.length) (hj : j < d.length)
    (hpi : parentFrom d (dep d i) i = some p) (hpj : parentFrom d (dep d j) j = some p)
    (hij : i < j) : sibIndex d (.node i) < sibIndex d (.node j) := by
  rw [sibIndex_node wf i hi, sibIndex_node wf j hj]
  have ei : Spec.parent? d (.node i) = some (.node p) := (parent?_node_eq d i p).2 hpi
  have ej : Spec.parent? d (.node j) = some (.node p) := (parent?_node_eq d j p).2 hpj
  -- every preceding sibling of `i` is one of `j`, and `i` itself is one more
  have := filter_length_lt (prevSibPred d i) (prevSibPred d j) (List.range d.length)
    (fun x _ hx => (prevSibPred_iff ej x).2 ⟨by have := ((prevSibPred_iff ei x).1 hx).1; omega,
      ((prevSibPred_iff ei x).1 hx).2⟩)
    i (List.mem_range.2 hi)
    (Bool.eq_false_iff.2 fun h => Nat.lt_irrefl i ((prevSibPred_iff ei i).1 h).1)
    ((prevSibPred_iff ej i).2 ⟨hij, ei⟩)
  omega

theorem sibIndex_inj {d : Doc} (wf : WF d) (i j p : Nat) (hi : i < d.length) (hj : j < d.length)
    (hpi : parentFrom d (dep d i) i = some p) (hpj : parentFrom d (dep d j) j = some p)
    (h : sibIndex d (.node i) = sibIndex d (.node j)) : i = j := by
  rcases Nat.lt_trichotomy i j with h1 | h1 | h1
  · have := sibIndex_lt wf i j p hi hj hpi hpj h1; omega
  · exact h1
  · have := sibIndex_lt wf j i p hj hi hpj hpi h1; omega

/-! ## The index path with explicit fuel -/

/-- index path of a non-attribute node with explicit ancestor-walk fuel -/
def pathF (d : Doc) (f : Nat) (i : Nat) : List Nat :=
  ((Ref.node i) :: ancestorsFrom d f (.node i)).map (sibIndex d)

theorem pathF_none (d : Doc) (f i : Nat) (h : parentFrom d (dep d i) i = none) :
    pathF d f i = [sibIndex d (.node i)] := by
  unfold pathF
  cases f with
  | zero => rfl
  | succ f => simp [ancestorsFrom, moveParent_node, h]

theorem pathF_some (d : Doc) (f i p : Nat) (h : parentFrom d (dep d i) i = some p) :
    pathF d (f+1) i = sibIndex d (.node i) :: pathF d f p := by
  unfold pathF
  simp [ancestorsFrom, moveParent_node, h]

theorem pathF_inj {d : Doc} (wf : WF d) (i : Nat) :
    ∀ j f g, i < d.length → j < d.length → i < f → j < g → pathF d f i = pathF d g j → i = j := by
  induction i using Nat.strongRecOn with
  | _ i ih =>
    intro j f g hi hj hf hg h
    obtain ⟨f', rfl⟩ : ∃ f', f = f' + 1 := ⟨f - 1, by omega⟩
    obtain ⟨g', rfl⟩ : ∃ g', g = g' + 1 := ⟨g - 1, by omega⟩
    cases hp : parentFrom d (dep d i) i with
    | none =>
      cases hq : parentFrom d (dep d j) j with
      | none => rw [parent_none_zero wf i hi hp, parent_none_zero wf j hj hq]
      | some q =>
        rw [pathF_none d _ i hp, pathF_some d g' j q hq] at h
        simp [pathF] at h
    | some p =>
      rw [pathF_some d f' i p hp] at h
      cases hq : parentFrom d (dep d j) j with
      | none =>
        rw [pathF_none d _ j hq] at h
        simp [pathF] at h
      | some q =>
        rw [pathF_some d g' j q hq] at h
        injection h with h1 h2
        have hpi := (parentFrom_some d _ _ _ hp).1
        have hqj := (parentFrom_some d _ _ _ hq).1
        have hpq : p = q := ih p hpi q f' g' (by omega) (by omega) (by omega) (by omega) h2
        subst hpq
        exact sibIndex_inj wf i j p hi hj hp hq h1

theorem indexPath_node (d : Doc) (i : Nat) : indexPath d (.node i) = pathF d (d.length + 1) i := rfl

/-- the sibling-index path determines a non-attribute node -/
theorem indexPath_node_inj {d : Doc} (wf : WF d) (i j : Nat) (hi : i < d.length)
    (hj : j < d.length) (h : indexPath d (.node i) = indexPath d (.node j)) : i = j :=
  pathF_inj wf i j _ _ hi hj (by omega) (by omega) h

/-! ## Attributes -/

theorem prevSibsM_attr (d : Doc) (i k : Nat) : prevSibsM d (.attr i k) = [] := by
  unfold prevSibsM
  cases d.length with
  | zero => rfl
  | succ n => rfl

theorem sibIndex_attr (d : Doc) (i k : Nat) : sibIndex d (.attr i k) = 1 := by
  unfold sibIndex; rw [prevSibsM_attr]; rfl

/-- an attribute's path is `1` followed by the path of its owner element -/
theorem indexPath_attr (d : Doc) (i k : Nat) :
    indexPath d (.attr i k) = 1 :: pathF d d.length i := by
  unfold indexPath pathF ancestorsM
  simp only [ancestorsFrom, Nav.moveParent, List.map_cons, sibIndex_attr]

theorem indexPath_attr_inj {d : Doc} (wf : WF d) (i j k l : Nat) (hi : i < d.length)
    (hj : j < d.length) (h : indexPath d (.attr i k) = indexPath d (.attr j l)) : i = j := by
  rw [indexPath_attr, indexPath_attr] at h
  injection h with _ h2
  exact pathF_inj wf i j _ _ hi hj hi hj h2

/-! ## Injectivity of the structured key -/

theorem keyStruct_attr (d : Doc) (i k : Nat) :
    keyStruct d (.attr i k) =
      ([(attrAt d i k).pfx, (attrAt d i k).name, (attrAt d i k).value], indexPath d (.attr i k)) :=
  rfl

theorem keyStruct_node (d : Doc) (i : Nat) :
    keyStruct d (.node i) =
      match kindAt d i with
      | .root => ([], [])
      | .elem => ([(recAt d i).pfx, (recAt d i).name], indexPath d (.node i))
      | .text => (["", "", (recAt d i).data], indexPath d (.node i))
      | .comment => (["", "", (recAt d i).data], indexPath d (.node i)) := by
  cases hk : kindAt d i <;>
    simp [keyStruct, nodeType, prefixOf, localName, stringValue, hk]

/-- the second component is the index path, except at the root -/
theorem keyStruct_node_snd (d : Doc) (i : Nat) (h : kindAt d i ≠ .root) :
    (keyStruct d (.node i)).2 = indexPath d (.node i) := by
  rw [keyStruct_node]
  cases hk : kindAt d i <;> first | rfl | exact absurd hk h

theorem indexPath_ne_nil (d : Doc) (r : Ref) : indexPath d r ≠ [] :=
  List.cons_ne_nil _ _

/-- non-attribute nodes: two roots are node 0; a root (empty path) is no other node; otherwise the
index paths decide -/
theorem keyStruct_node_node_inj {d : Doc} (wf : WF d) (i j : Nat) (hi : i < d.length)
    (hj : j < d.length) (h : keyStruct d (.node i) = keyStruct d (.node j)) : i = j := by
  have root0 : ∀ m, m < d.length → kindAt d m = .root → m = 0 := by
    intro m hm hk
    rcases Nat.eq_zero_or_pos m with h0 | h0
    · exact h0
    · exact absurd hk (wf.nonroot m h0 hm)
  have root_snd : ∀ m, kindAt d m = .root → (keyStruct d (.node m)).2 = [] := by
    intro m hk; rw [keyStruct_node, hk]
  have h2 := congrArg Prod.snd h
  by_cases hki : kindAt d i = .root <;> by_cases hkj : kindAt d j = .root
  · rw [root0 i hi hki, root0 j hj hkj]
  · rw [root_snd i hki, keyStruct_node_snd d j hkj] at h2
    exact absurd h2.symm (indexPath_ne_nil d _)
  · rw [keyStruct_node_snd d i hki, root_snd j hkj] at h2
    exact absurd h2 (indexPath_ne_nil d _)
  · rw [keyStruct_node_snd d i hki, keyStruct_node_snd d j hkj] at h2
    exact indexPath_node_inj wf i j hi hj h2

/-- element/text/comment/root vs attribute -/
theorem keyStruct_node_attr_ne {d : Doc} (hne : AttrNamesNonEmpty d) (i j k : Nat)
    (hj : j < d.length) (hk : k < (recAt d j).attrs.length) :
    keyStruct d (.node i) ≠ keyStruct d (.attr j k) := by
  intro h
  rw [keyStruct_node, keyStruct_attr] at h
  have hn := hne j k hj hk
  cases hki : kindAt d i <;> rw [hki] at h <;> simp only [Prod.mk.injEq] at h
  · simp at h
  · simp at h
  -- text and comment: the second part is `""`, an attribute's is its non-empty name
  all_goals
    have := h.1
    simp only [List.cons.injEq] at this
    exact hn this.2.1.symm

/-- attribute vs attribute: the same owner element, the same prefix, name and value -/
theorem keyStruct_attr_attr {d : Doc} (wf : WF d) (i j k l : Nat) (hi : i < d.length)
    (hj : j < d.length) (h : keyStruct d (.attr i k) = keyStruct d (.attr j l)) :
    i = j ∧ (attrAt d i k).pfx = (attrAt d j l).pfx ∧ (attrAt d i k).name = (attrAt d j l).name ∧
      (attrAt d i k).value = (attrAt d j l).value := by
  rw [keyStruct_attr, keyStruct_attr] at h
  simp only [Prod.mk.injEq, List.cons.injEq] at h
  exact ⟨indexPath_attr_inj wf i j k l hi hj h.2, h.1.1, h.1.2.1, h.1.2.2.1⟩

/-- no element has two attributes with the same prefix, local name AND value (weaker than
`AttrNamesDistinct`, which XML well-formedness gives: no two attributes with the same qualified name).
This is exactly what the key cannot see: every attribute has sibling index 1 (`MoveToPrevious` fails
on an attribute), so two attributes of one element differ in the key only by prefix, name and value. -/
def AttrTriplesDistinct (d : Doc) : Prop :=
  ∀ i k₁ k₂, i < d.length → k₁ < (recAt d i).attrs.length → k₂ < (recAt d i).attrs.length →
    (attrAt d i k₁).pfx = (attrAt d i k₂).pfx → (attrAt d i k₁).name = (attrAt d i k₂).name →
    (attrAt d i k₁).value = (attrAt d i k₂).value → k₁ = k₂

theorem AttrNamesDistinct.triples {d : Doc} (h : AttrNamesDistinct d) : AttrTriplesDistinct d :=
  fun i k₁ k₂ hi h₁ h₂ e₁ e₂ _ => h i k₁ k₂ hi h₁ h₂ e₁ e₂

theorem nodeType_node_ne_attr (d : Doc) (i j k : Nat) : nodeType d (.node i) ≠ nodeType d (.attr j k) := by
  cases hk : kindAt d i <;> simp [nodeType, hk]

/-- the structured key separates two valid references unless one is a node and the other an
attribute (`hmix` is what rules that out: the name parts, or the node type) -/
theorem keyStruct_inj_of {d : Doc} (wf : WF d) (hd : AttrTriplesDistinct d)
    (r₁ r₂ : Ref) (h₁ : validRef d r₁ = true) (h₂ : validRef d r₂ = true)
    (hmix : ∀ i j k, (r₁ = .node i → r₂ = .attr j k → False) ∧ (r₁ = .attr j k → r₂ = .node i → False))
    (h : keyStruct d r₁ = keyStruct d r₂) : r₁ = r₂ := by
  cases r₁ with
  | node i =>
    cases r₂ with
    | node j =>
      rw [keyStruct_node_node_inj wf i j (by simpa [validRef] using h₁) (by simpa [validRef] using h₂) h]
    | attr j l => exact absurd rfl ((hmix i j l).1 rfl)
  | attr i k =>
    cases r₂ with
    | node j => exact absurd rfl ((hmix j i k).2 rfl)
    | attr j l =>
      have hi : i < d.length ∧ k < (recAt d i).attrs.length := by simpa [validRef] using h₁
      have hj : j < d.length ∧ l < (recAt d j).attrs.length := by simpa [validRef] using h₂
      obtain ⟨rfl, e₁, e₂, e₃⟩ := keyStruct_attr_attr wf i j k l hi.1 hj.1 h
      rw [hd i k l hi.1 hi.2 hj.2 e₁ e₂ e₃]

/-- the structured key is injective on the valid references of a well-formed document -/
theorem keyStruct_inj {d : Doc} (wf : WF d) (hd : AttrNamesDistinct d) (hne : AttrNamesNonEmpty d)
    (r₁ r₂ : Ref) (h₁ : validRef d r₁ = true) (h₂ : validRef d r₂ = true)
    (h : keyStruct d r₁ = keyStruct d r₂) : r₁ = r₂ := by
  refine keyStruct_inj_of wf hd.triples r₁ r₂ h₁ h₂ (fun i j k => ⟨?_, ?_⟩) h
  · rintro rfl rfl
    have hj : j < d.length ∧ k < (recAt d j).attrs.length := by simpa [validRef] using h₂
    exact keyStruct_node_attr_ne hne i j k hj.1 hj.2 h
  · rintro rfl rfl
    have hj : j < d.length ∧ k < (recAt d j).attrs.length := by simpa [validRef] using h₁
    exact keyStruct_node_attr_ne hne i j k hj.1 hj.2 h.symm

/-- node type and structured key together determine the node -/
theorem typed_keyStruct_inj {d : Doc} (wf : WF d) (hd : AttrTriplesDistinct d)
    (r₁ r₂ : Ref) (h₁ : validRef d r₁ = true) (h₂ : validRef d r₂ = true)
    (ht : nodeType d r₁ = nodeType d r₂) (h : keyStruct d r₁ = keyStruct d r₂) : r₁ = r₂ :=
  keyStruct_inj_of wf hd r₁ r₂ h₁ h₂ (fun i j k =>
    ⟨fun e₁ e₂ => nodeType_node_ne_attr d i j k (e₁ ▸ e₂ ▸ ht),
     fun e₁ e₂ => nodeType_node_ne_attr d i j k (e₁ ▸ e₂ ▸ ht).symm⟩) h

/-! ## Link to the model -/

/-- the model's `indexChain` is the rendering of `indexPath` -/
theorem indexChain_eq (d : Doc) (r : Ref) :
    indexChain d r = (indexPath d r).foldl (fun s n => s ++ "-" ++ toString n) "" := by
  unfold indexChain indexPath
  rw [List.foldl_map]

/-- the node-type tag `getNodeKey` starts with: `strconv.Itoa(int(n.NodeType())) + ":"` -/
def typeTag : NType → String
  | .elem => "1:" | .attr => "2:" | .text => "3:" | .comment => "4:" | _ => "0:"

/-- the model's `identityKey` is a function of `keyStruct` and `nodeType` only: the type tag, then the
length-prefixed parts, then the rendered index path -/
theorem identityKey_of_keyStruct (d : Doc) (cfg : ECfg) (r : Ref) :
    identityKey d cfg r = typeTag (nodeType d r) ++
      ((match (keyStruct d r).1 with
       | [a, b] => keyPart a ++ keyPart b
       | [a, b, c] => keyPart a ++ keyPart b ++ keyPart c
       | _ => "") ++
      (match (keyStruct d r).1 with
       | [] => ""
       | _ => (keyStruct d r).2.foldl (fun s n => s ++ "-" ++ toString n) "")) := by
  unfold identityKey keyStruct typeTag
  cases nodeType d r <;> simp [indexChain_eq]

/-! ## The rendered key determines the structured key and the node type -/

theorem nodeType_ne_all (d : Doc) (r : Ref) : nodeType d r ≠ .all := by
  cases r with
  | node i => cases hk : kindAt d i <;> simp [nodeType, hk]
  | attr i k => simp [nodeType]

theorem typeTag_size (t : NType) : (typeTag t).utf8ByteSize = 2 := by
  cases t <;> decide

theorem typeTag_inj {t₁ t₂ : NType} (h₁ : t₁ ≠ .all) (h₂ : t₂ ≠ .all)
    (h : typeTag t₁ = typeTag t₂) : t₁ = t₂ := by
  cases t₁ <;> cases t₂ <;> simp_all [typeTag]

theorem keyPart_eq_part (s : String) : keyPart s = KeyRender.part s := rfl

theorem indexChain_eq_chainR (d : Doc) (r : Ref) :
    indexChain d r = KeyRender.chainR (indexPath d r) := by
  rw [indexChain_eq, KeyRender.foldl_chain, String.empty_append]

theorem indexPath_inj_of_chain {d : Doc} {r₁ r₂ : Ref} (h : indexChain d r₁ = indexChain d r₂) :
    indexPath d r₁ = indexPath d r₂ := by
  rw [indexChain_eq_chainR, indexChain_eq_chainR] at h
  exact KeyRender.chainR_inj _ _ h

/-- two name parts and the chain -/
theorem body2_inj {a₁ b₁ a₂ b₂ x y : String}
    (h : keyPart a₁ ++ keyPart b₁ ++ x = keyPart a₂ ++ keyPart b₂ ++ y) :
    a₁ = a₂ ∧ b₁ = b₂ ∧ x = y := by
  simp only [keyPart_eq_part, String.append_assoc] at h
  have h1 := KeyRender.part_inj h
  have h2 := KeyRender.part_inj h1.2
  exact ⟨h1.1, h2.1, h2.2⟩

/-- three parts and the chain -/
theorem body3_inj {a₁ b₁ c₁ a₂ b₂ c₂ x y : String}
    (h : keyPart a₁ ++ keyPart b₁ ++ keyPart c₁ ++ x = keyPart a₂ ++ keyPart b₂ ++ keyPart c₂ ++ y) :
    a₁ = a₂ ∧ b₁ = b₂ ∧ c₁ = c₂ ∧ x = y := by
  simp only [keyPart_eq_part, String.append_assoc] at h
  have h1 := KeyRender.part_inj h
  have h2 := KeyRender.part_inj h1.2
  have h3 := KeyRender.part_inj h2.2
  exact ⟨h1.1, h2.1, h3.1, h3.2⟩

/-- the key as tag and body -/
def keyBody (d : Doc) (r : Ref) : String :=
  match nodeType d r with
  | .attr | .text | .comment =>
    keyPart (prefixOf d r) ++ keyPart (localName d r) ++ keyPart (stringValue d r) ++ indexChain d r
  | .elem => keyPart (prefixOf d r) ++ keyPart (localName d r) ++ indexChain d r
  | _ => ""

theorem identityKey_eq_tag_body (d : Doc) (cfg : ECfg) (r : Ref) :
    identityKey d cfg r = typeTag (nodeType d r) ++ keyBody d r := by
  unfold identityKey keyBody typeTag
  cases nodeType d r <;> rfl

/-- **the rendered key is uniquely decodable**: equal key strings come from nodes of the same type
with the same structured key (no hypothesis on the document) -/
theorem identityKey_decode (d : Doc) (cfg : ECfg) (r₁ r₂ : Ref)
    (h : identityKey d cfg r₁ = identityKey d cfg r₂) :
    nodeType d r₁ = nodeType d r₂ ∧ keyStruct d r₁ = keyStruct d r₂ := by
  rw [identityKey_eq_tag_body, identityKey_eq_tag_body] at h
  have h0 := KeyRender.append_inj_of_size h (by rw [typeTag_size, typeTag_size])
  have ht := typeTag_inj (nodeType_ne_all d r₁) (nodeType_ne_all d r₂) h0.1
  refine ⟨ht, ?_⟩
  have hb := h0.2
  unfold keyBody at hb
  unfold keyStruct
  rw [← ht] at hb ⊢
  cases hk : nodeType d r₁ <;> rw [hk] at hb <;> simp only at hb ⊢
  · have := body2_inj hb
    rw [this.1, this.2.1, indexPath_inj_of_chain this.2.2]
  -- attribute, text, comment: three parts
  all_goals
    have := body3_inj hb
    rw [this.1, this.2.1, this.2.2.1, indexPath_inj_of_chain this.2.2.2]

/-- **the node key is injective** on the valid references of a well-formed document in which no element
has two attributes with the same prefix, name and value -/
theorem identityKey_inj {d : Doc} (wf : WF d) (hd : AttrTriplesDistinct d) (cfg : ECfg)
    (r₁ r₂ : Ref) (h₁ : validRef d r₁ = true) (h₂ : validRef d r₂ = true)
    (h : identityKey d cfg r₁ = identityKey d cfg r₂) : r₁ = r₂ :=
  have := identityKey_decode d cfg r₁ r₂ h
  typed_keyStruct_inj wf hd r₁ r₂ h₁ h₂ this.1 this.2

/-- the side condition is necessary: two attributes of one element with the same prefix, name and value
have the same key -/
theorem identityKey_attr_collide (d : Doc) (cfg : ECfg) (i k₁ k₂ : Nat)
    (e₁ : (attrAt d i k₁).pfx = (attrAt d i k₂).pfx) (e₂ : (attrAt d i k₁).name = (attrAt d i k₂).name)
    (e₃ : (attrAt d i k₁).value = (attrAt d i k₂).value) :
    identityKey d cfg (.attr i k₁) = identityKey d cfg (.attr i k₂) := by
  rw [identityKey_of_keyStruct, identityKey_of_keyStruct, keyStruct_attr, keyStruct_attr,
    indexPath_attr, indexPath_attr, e₁, e₂, e₃]
  rfl

/-- any key that factors through an injective function of `keyStruct` is injective on the valid
references (under the hypotheses of `keyStruct_inj`) -/
theorem dedup_by_struct_key {κ : Type} {d : Doc} (wf : WF d) (hd : AttrNamesDistinct d)
    (hne : AttrNamesNonEmpty d) (key : Ref → κ)
    (hkey : ∀ r₁ r₂, validRef d r₁ = true → validRef d r₂ = true → key r₁ = key r₂ →
      keyStruct d r₁ = keyStruct d r₂) :
    ∀ r₁ r₂, validRef d r₁ = true → validRef d r₂ = true → key r₁ = key r₂ → r₁ = r₂ :=
  fun r₁ r₂ h₁ h₂ h => keyStruct_inj wf hd hne r₁ r₂ h₁ h₂ (hkey r₁ r₂ h₁ h₂ h)

end XPathV
