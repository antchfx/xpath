import XPathV.Generated.ExtraFacts
import XPathV.Model.Api
import XPathV.Lemmas.Facts
/-!
# C07 — comparison and boolean operators follow XPath 1.0 (existential on node-sets)
-/
namespace XPathV.Theorems.C07
open XPathV XPathV.Model XPathV.Facts NumAlg

variable {F : Type} [NumAlg F]

/-! Each cell holds by computation: once the operator is fixed, the arm of `cmpM` for the two value
types and the clause of `Spec.compare` unfold to the same term. -/

/-- number vs number -/
theorem cell_numNum (d : Doc) (op : Spec.CmpOp) (a b : F) :
    cmpM d op (.num a) (.num b) = .ok (Spec.compare d op (.num a) (.num b)) := by
  cases op <;> rfl

/-- node-set vs number: true iff some node's number value satisfies the comparison; a
non-numeric string-value is NaN; the outcome is never a crash, whatever the document holds -/
theorem cell_setNum (d : Doc) (op : Spec.CmpOp) (l : List Ref) (b : F) :
    cmpM d op (.nodes l) (.num b) = .ok (Spec.compare d op (.nodes l) (.num b)) :=
  rfl

theorem cell_numSet (d : Doc) (op : Spec.CmpOp) (a : F) (l : List Ref) :
    cmpM d op (.num a) (.nodes l) = .ok (Spec.compare d op (.num a) (.nodes l)) :=
  rfl

/-! ### the cells with a string or two node-sets, all six operators

Since the repairs of `cmpStringStringF` (the four relational operators compare
`stringToNumber(a)` with `stringToNumber(b)`; before, the strings byte-wise), of `cmpNodeSetString`
(operands handed over in order; before, `(literal, node value)`) and of `cmpStringNumeric` (operands
in order; before, `(number, string-as-number)`) every cell below is XPath's comparison for **all
six** operators.  The `_eq` / `_ne` theorems further down are the instances at `=` and `!=`, the two
operators on which the engine agreed with XPath before these repairs. -/

/-- string vs string, all six operators: `=`/`!=` on the strings, the relational operators on their
numbers -/
theorem cell_strStr (d : Doc) (op : Spec.CmpOp) (a b : String) :
    cmpM (F := F) d op (.str a) (.str b) = .ok (Spec.compare (F := F) d op (.str a) (.str b)) := by
  cases op <;> rfl

/-- string vs number, all six operators: the string is converted with `number()`, the operands stay
on their sides -/
theorem cell_strNum (d : Doc) (op : Spec.CmpOp) (s : String) (b : F) :
    cmpM d op (.str s) (.num b) = .ok (Spec.compare d op (.str s) (.num b)) := by
  cases op <;> rfl

/-- number vs string, all six operators -/
theorem cell_numStr (d : Doc) (op : Spec.CmpOp) (a : F) (s : String) :
    cmpM d op (.num a) (.str s) = .ok (Spec.compare d op (.num a) (.str s)) := by
  cases op <;> rfl

/-- node-set vs string, all six operators: true iff some node's string-value (for the relational
operators: its number) compares with the string (its number), the node on the left -/
theorem cell_setStr (d : Doc) (op : Spec.CmpOp) (l : List Ref) (s : String) :
    cmpM (F := F) d op (.nodes l) (.str s) = .ok (Spec.compare (F := F) d op (.nodes l) (.str s)) := by
  cases op <;> rfl

/-- string vs node-set, all six operators -/
theorem cell_strSet (d : Doc) (op : Spec.CmpOp) (s : String) (l : List Ref) :
    cmpM (F := F) d op (.str s) (.nodes l) = .ok (Spec.compare (F := F) d op (.str s) (.nodes l)) := by
  cases op <;> rfl

/-- node-set vs node-set, all six operators: some pair of nodes whose string-values (`=`, `!=`) /
whose numbers (`<`, `<=`, `>`, `>=`) compare -/
theorem cell_setSet (d : Doc) (op : Spec.CmpOp) (la lb : List Ref) :
    cmpM (F := F) d op (.nodes la) (.nodes lb) = .ok (Spec.compare (F := F) d op (.nodes la) (.nodes lb)) := by
  cases op <;> rfl

/-- string vs string, `=` (corollary of `cell_strStr`) -/
theorem cell_strStr_eq (d : Doc) (a b : String) :
    cmpM (F := F) d .eq (.str a) (.str b) = .ok (Spec.compare (F := F) d .eq (.str a) (.str b)) :=
  cell_strStr d .eq a b

theorem cell_strStr_ne (d : Doc) (a b : String) :
    cmpM (F := F) d .ne (.str a) (.str b) = .ok (Spec.compare (F := F) d .ne (.str a) (.str b)) :=
  cell_strStr d .ne a b

/-- node-set vs node-set, `=` : some pair of nodes has equal string-values (corollary of
`cell_setSet`) -/
theorem cell_setSet_eq (d : Doc) (la lb : List Ref) :
    cmpM (F := F) d .eq (.nodes la) (.nodes lb) = .ok (Spec.compare (F := F) d .eq (.nodes la) (.nodes lb)) :=
  cell_setSet d .eq la lb

theorem cell_setSet_ne (d : Doc) (la lb : List Ref) :
    cmpM (F := F) d .ne (.nodes la) (.nodes lb) = .ok (Spec.compare (F := F) d .ne (.nodes la) (.nodes lb)) :=
  cell_setSet d .ne la lb

/-- truth conversion: NaN and zero are false (`asBool` before its repair made NaN true) -/
theorem asBool_spec (v : Spec.Value F) :
    asBoolM (F := F) (match v with | .nodes l => .nodes l | .bool b => .bool b | .num x => .num x | .str s => .str s)
      = .ok (Spec.toBool v) := by
  cases v <;> simp [asBoolM, Spec.toBool]

end XPathV.Theorems.C07
