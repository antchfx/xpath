import XPathV.Lemmas.TemplateSem.FuelFree
/-!
# C16: `replace(s, p, r)` equals `ReplaceAllString` with `$n` read as group `n`

`replace_template_spec`: for every replacement string, every match and every group count below 10^8, Go's
expansion of the template written by `xpathReplacement` equals the specification's reading of the XPath
replacement string: `eg ∘ rwT` satisfies the recursion equation of the specification (`eg_rwT_step`), and that
equation has one solution (`Guarded.unique`).
-/
namespace XPathV.Lemmas.TemplateSem
open XPathV.Model.Template XPathV.Spec.Template

/-! ## a found reference -/

theorem refLen_pos_shape {groups : Nat} {t : List Char} (h : refLen groups t > 0) :
    ∃ c t', t = c :: t' ∧ c ≠ '0' ∧ isDigitCh c = true := by
  match t with
  | [] => simp [refLen_nil] at h
  | c :: t' =>
    refine ⟨c, t', rfl, ?_, ?_⟩
    · intro h0; subst h0; simp [refLen_zero_head] at h
    · cases hc : isDigitCh c
      · rw [refLen_nondigit _ _ hc] at h; omega
      · rfl

theorem refLen_le_length (groups : Nat) (t : List Char) : refLen groups t ≤ t.length :=
  Nat.le_trans (refLen_le groups t) (List.takeWhile_sublist _).length_le

theorem refLen_take_digits (groups : Nat) (t : List Char) :
    ∀ a ∈ t.take (refLen groups t), isDigitCh a = true :=
  take_all_of_le_takeWhile isDigitCh t _ (refLen_le groups t)

theorem refLen_take_val {groups : Nat} {t : List Char} (h : refLen groups t > 0) :
    numVal (t.take (refLen groups t)) ≤ groups := by
  obtain ⟨c, t', rfl, h0, _⟩ := refLen_pos_shape h
  rw [refLen_eq_scan h0, numVal_eq]
  exact scanRef_val groups _ 0 (Nat.zero_le _)

theorem refLen_take_parse {groups : Nat} (hk : groups < 100000000) {t : List Char} (h : refLen groups t > 0) :
    parseNum (t.take (refLen groups t)) = some (numVal (t.take (refLen groups t))) := by
  have hv := refLen_take_val h
  have hd := refLen_take_digits groups t
  obtain ⟨c, t', rfl, h0, _⟩ := refLen_pos_shape h
  obtain ⟨k, hk'⟩ : ∃ k, refLen groups (c :: t') = k + 1 := ⟨refLen groups (c :: t') - 1, by omega⟩
  rw [hk'] at hv hd ⊢
  rw [List.take_succ_cons] at hv hd ⊢
  exact parseNum_digits h0 hd (by omega)

theorem refLen_take_ne_nil {groups : Nat} {t : List Char} (h : refLen groups t > 0) :
    t.take (refLen groups t) ≠ [] := by
  obtain ⟨c, t', rfl, _, _⟩ := refLen_pos_shape h
  obtain ⟨k, hk'⟩ : ∃ k, refLen groups (c :: t') = k + 1 := ⟨refLen groups (c :: t') - 1, by omega⟩
  rw [hk', List.take_succ_cons]
  simp

/-! ## the main theorem -/

/-- expanding the rewritten template satisfies the recursion equation of the specification.  Each case is
one step of `rwT` followed by one step of `eg`; where the recursion goes on (the tail, `t.drop (refLen …)`,
the rest `extract` returns) plays no part, `Guarded.unique` takes care of it -/
theorem eg_rwT_step (g : Groups) (groups : Nat) (hk : groups < 100000000) (r : List Char) :
    eg g (rwT groups r) = expandSpecF g groups r fun r' => eg g (rwT groups r') := by
  match r with
  | [] => rfl
  | c :: t =>
    by_cases hc : c = '$'
    · subst hc
      rcases dollar_or t with ⟨t', rfl⟩ | hnd
      · rw [rwT_dd, eg_dd]
        rfl
      · rw [expandSpecF_dollar _ _ hnd, rwT_dollar _ hnd, longestRef_eq]
        by_cases hpos : refLen groups t > 0
        · -- a group reference: `${digits}`
          simp only [hpos, if_true]
          rw [eg_dollar _ (noDollarHead_cons (by decide)),
            extract_braced _ (refLen_take_ne_nil hpos) (refLen_take_digits groups t),
            refLen_take_parse hk hpos]
          have hlen : (t.take (refLen groups t)).length = refLen groups t := by
            rw [List.length_take]; have := refLen_le_length groups t; omega
          rw [hlen]
          rfl
        · -- no reference: Go reads the `$`
          simp only [hpos, if_false]
          rw [eg_dollar _ (rwT_noDollarHead _ hnd), extract_rwT _ hnd]
          cases extract t with
          | none => rfl
          | some x => rfl
    · rw [rwT_cons_ne _ _ hc, eg_cons_ne _ _ hc, expandSpecF_cons_ne _ _ _ hc]

/-- **C16.**  Expanding, with Go's `Regexp.expand`, the template that `xpathReplacement` writes equals the
specification's direct reading of the XPath replacement string — for every replacement string, every match
and every number of groups below 10^8 (the bound above which Go's `extract` no longer reads a number). -/
theorem replace_template_spec (g : Groups) (groups : Nat) (hk : groups < 100000000) (r : List Char) :
    replaceOne g groups r = replaceOneSpec g groups r :=
  (expandSpec_guarded g groups).unique (U := fun r => eg g (rwT groups r)) (eg_rwT_step g groups hk) r

/-! ## readable corollaries -/

/-- a function that copies every character other than `$` returns a template without `$` as it is -/
theorem copies_noDollar {f : List Char → List Char} (hnil : f [] = [])
    (hcons : ∀ {c : Char} (t : List Char), c ≠ '$' → f (c :: t) = c :: f t) (r : List Char) (h : '$' ∉ r) :
    f r = r := by
  induction r with
  | nil => exact hnil
  | cons c t ih =>
    rw [hcons t fun e => h (e ▸ List.mem_cons_self), ih fun hm => h (List.mem_cons_of_mem _ hm)]

/-- a template without `$` is returned unchanged -/
theorem replaceOne_noDollar (g : Groups) (k : Nat) (r : List Char) (h : '$' ∉ r) : replaceOne g k r = r := by
  rw [replaceOne_eq, copies_noDollar (rwT_nil k) (rwT_cons_ne k) r h]
  exact copies_noDollar (eg_nil g) (eg_cons_ne g) r h

theorem scanRef_append (groups : Nat) (ds rest : List Char) (n : Nat)
    (hall : ∀ a ∈ ds, isDigitCh a = true) (hv : ds.foldl dstep n ≤ groups) :
    scanRef groups (ds ++ rest) n 0 = ds.length + scanRef groups rest (ds.foldl dstep n) 0 := by
  induction ds generalizing n with
  | nil => simp
  | cons c ds ih =>
    have hc : isDigitCh c = true := hall c (by simp)
    simp only [List.foldl_cons] at hv
    have hge := foldl_dstep_ge ds (dstep n c)
    rw [List.cons_append, scanRef_cons_digit _ _ _ hc, if_neg (by omega),
      ih (dstep n c) (fun a ha => hall a (by simp [ha])) hv]
    simp only [List.length_cons, List.foldl_cons]
    omega

/-- the reference, for a numeral given as a digit string: `$ds` followed by `rest` is group `numVal ds` followed
by the reading of `rest`, provided `ds` is a numeral without leading zero naming an existing group and no longer
numeral does (`rest` does not go on with a digit `d` such that `10 * numVal ds + d` is still a group) -/
theorem replaceOne_ref_digits (g : Groups) (k : Nat) (hk : k < 100000000) {c : Char} (ds rest : List Char)
    (h0 : c ≠ '0') (hall : ∀ a ∈ c :: ds, isDigitCh a = true) (hv : numVal (c :: ds) ≤ k)
    (hrest : ∀ d rest', rest = d :: rest' → isDigitCh d = true → k < 10 * numVal (c :: ds) + digitVal d) :
    replaceOne g k ('$' :: (c :: ds) ++ rest) =
      (g.texts.getD (numVal (c :: ds)) none).getD [] ++ replaceOne g k rest := by
  rw [replace_template_spec g k hk, replace_template_spec g k hk, replaceOneSpec_eq, replaceOneSpec_eq]
  have hcd : isDigitCh c = true := hall c (by simp)
  have hc : c ≠ '$' := by intro e; subst e; simp [isDigitCh] at hcd
  have hlen : refLen k ((c :: ds) ++ rest) = (c :: ds).length := by
    rw [List.cons_append, refLen_eq_scan h0, ← List.cons_append,
      scanRef_append k (c :: ds) rest 0 hall (by rw [← numVal_eq]; exact hv), ← numVal_eq]
    have : scanRef k rest (numVal (c :: ds)) 0 = 0 := by
      match rest, hrest with
      | [], _ => rfl
      | d :: rest', hrest =>
        cases hd : isDigitCh d
        · exact scanRef_cons_nondigit _ _ _ hd
        · have := hrest d rest' rfl hd
          rw [scanRef_cons_digit _ _ _ hd, if_pos (by unfold dstep; omega)]
    omega
  rw [List.cons_append, List.cons_append, es_dollar _ _ (noDollarHead_cons hc), longestRef_eq,
    ← List.cons_append, hlen]
  simp

/-- `digitsOf n` is the decimal numeral of `n` -/
theorem digitsOf_eq (n : Nat) : digitsOf n = Nat.toDigits 10 n := by
  simp [digitsOf]

theorem digitsOf_digits (n : Nat) : ∀ a ∈ digitsOf n, isDigitCh a = true := by
  intro a ha
  rw [digitsOf_eq] at ha
  have h := Nat.isDigit_of_mem_toDigits (by decide) (by decide) ha
  simp only [Char.isDigit, Bool.and_eq_true, decide_eq_true_eq] at h
  simp only [isDigitCh, Bool.and_eq_true, decide_eq_true_eq]
  exact h

theorem numVal_digitsOf (n : Nat) : numVal (digitsOf n) = n := by
  have h := @Nat.ofDigitChars_ten_toDigits n
  rw [digitsOf_eq]
  have e : (fun (m : Nat) (c : Char) => m * 10 + digitVal c) =
      (fun sofar c => 10 * sofar + (c.toNat - '0'.toNat)) := by
    funext m c; simp only [digitVal]; omega
  unfold numVal
  rw [e]
  exact h

theorem toDigits_head_ne_zero (n : Nat) (hn : 0 < n) :
    ∃ c ds, Nat.toDigits 10 n = c :: ds ∧ c ≠ '0' := by
  induction n using Nat.strongRecOn with
  | _ n ih =>
    rw [Nat.toDigits_eq_if (by decide)]
    split
    · refine ⟨_, [], rfl, ?_⟩
      have : n = 1 ∨ n = 2 ∨ n = 3 ∨ n = 4 ∨ n = 5 ∨ n = 6 ∨ n = 7 ∨ n = 8 ∨ n = 9 := by omega
      rcases this with h | h | h | h | h | h | h | h | h <;> subst h <;> decide
    · obtain ⟨c, ds, e, hc⟩ := ih (n / 10) (by omega) (by omega)
      exact ⟨c, ds ++ [Nat.digitChar (n % 10)], by rw [e]; rfl, hc⟩

/-- `$n` followed by `rest` is the text of group `n` followed by the reading of `rest`, when `1 ≤ n ≤ k` and `rest`
does not go on with a digit `d` such that `10 * n + d ≤ k` -/
theorem replaceOne_ref (g : Groups) (k : Nat) (hk : k < 100000000) (n : Nat) (h1 : 1 ≤ n) (hn : n ≤ k)
    (rest : List Char)
    (hrest : ∀ d rest', rest = d :: rest' → isDigitCh d = true → k < 10 * n + digitVal d) :
    replaceOne g k ('$' :: digitsOf n ++ rest) = (g.texts.getD n none).getD [] ++ replaceOne g k rest := by
  obtain ⟨c, ds, e, hc⟩ := toDigits_head_ne_zero n (by omega)
  rw [← digitsOf_eq] at e
  have hv := numVal_digitsOf n
  have hall := digitsOf_digits n
  rw [e] at hv hall ⊢
  have := replaceOne_ref_digits g k hk ds rest hc hall (by omega) (by rw [hv]; exact hrest)
  rw [hv] at this
  exact this

/-- in particular when a character that is not a digit follows: `$1x` is group 1 followed by `x`
(Go alone would look for a group *named* `1x`) -/
theorem replaceOne_ref_nondigit (g : Groups) (k : Nat) (hk : k < 100000000) (n : Nat) (h1 : 1 ≤ n) (hn : n ≤ k)
    (d : Char) (rest : List Char) (hd : isDigitCh d = false) :
    replaceOne g k ('$' :: digitsOf n ++ d :: rest) =
      (g.texts.getD n none).getD [] ++ replaceOne g k (d :: rest) :=
  replaceOne_ref g k hk n h1 hn (d :: rest) (by
    intro d' rest' e hd'
    cases e
    rw [hd] at hd'; cases hd')

/-- … and at the end of the template -/
theorem replaceOne_ref_end (g : Groups) (k : Nat) (hk : k < 100000000) (n : Nat) (h1 : 1 ≤ n) (hn : n ≤ k) :
    replaceOne g k ('$' :: digitsOf n) = (g.texts.getD n none).getD [] := by
  have := replaceOne_ref g k hk n h1 hn [] (by intro d rest' e; cases e)
  simpa [replaceOne_noDollar] using this

/-! ## examples (one match: whole match `m`, group 1 = `b`; one group) -/

/-- a match with one group: the whole match is `m`, group 1 is `b` -/
def g1 : Groups := ⟨[some ['m'], some ['b']], [[], []]⟩

-- `$1x`: group 1, then `x` (Go's own reading of `$1x` is the group named `1x`: empty)
example : replaceOne g1 1 ['$', '1', 'x'] = ['b', 'x'] := by decide
example : expandGo g1 4 ['$', '1', 'x'] = [] := by decide
-- `$10` with one group: group 1, then `0`
example : replaceOne g1 1 ['$', '1', '0'] = ['b', '0'] := by decide
-- `$$1`: a literal dollar, then `1`
example : replaceOne g1 1 ['$', '$', '1'] = ['$', '1'] := by decide
-- `$01`: not a numbered reference (leading zero); Go reads the group named `01`: empty
example : replaceOne g1 1 ['$', '0', '1'] = [] := by decide
-- `${1}`: Go's braced form is kept
example : replaceOne g1 1 ['$', '{', '1', '}'] = ['b'] := by decide
-- `x$`: a final `$` is raw text
example : replaceOne g1 1 ['x', '$'] = ['x', '$'] := by decide
-- `$0` is the whole match; `$2` with one group is empty; `$1$1`
example : replaceOne g1 1 ['$', '0'] = ['m'] := by decide
example : replaceOne g1 1 ['$', '2'] = [] := by decide
example : replaceOne g1 1 ['$', '1', '$', '1'] = ['b', 'b'] := by decide
-- the specification gives the same on each of them
example : (([['$', '1', 'x'], ['$', '1', '0'], ['$', '$', '1'], ['$', '0', '1'], ['$', '{', '1', '}'],
    ['x', '$'], ['$', '0'], ['$', '2'], ['$', '1', '$', '1']] : List (List Char)).all
    (fun r => replaceOne g1 1 r == replaceOneSpec g1 1 r)) = true := by decide

end XPathV.Lemmas.TemplateSem

