import XPathV.Lemmas.FullGrammarComplete.Main
import XPathV.Lemmas.FullGrammarComplete.Unique
/-!
# C10 (oracle side): the reference parser is complete for the full XPath 1.0 grammar, and the
grammar is unambiguous

`Spec/FullGrammar.lean` gives the grammar relation `D` (one constructor per production of the
Recommendation), `Parses ns toks a`, the executable reference parser `refParseFull` and its soundness
`refParseFull_sound`.  Here is the converse:

* `refParseFull_complete : Parses ns toks a → refParseFull ns toks = some a`
* `refParseFull_iff      : refParseFull ns toks = some a ↔ Parses ns toks a`
* `Parses_unique         : Parses ns toks a → Parses ns toks b → a = b`
* `D_expr_unique         : D ns .Expr ts a → D ns .Expr ts b → a = b` (any ExprToken list, classified
  or not), and for every non-terminal `D_unique : D ns X ts a → D ns X ts b → a = b`
  (`FullGrammarComplete/Unique.lean`)
* per parser function: `pPath_complete`, `pUnion_complete`, `pRel_complete`, `pStep_complete`,
  `pFilter_complete`, `pPrimary_complete`, `pArgs_complete`, `pPreds_complete`, `pUnary_complete`, and for
  Expr `pTier_complete_rest` (with a continuation) and `pTier_complete` (the whole list)

Structure of the proof (sub-files of `FullGrammarComplete/`):

* `First`  — First sets: `D.first : D ns X ts a → First X ts`;
* `Defs`   — for every parser function a *parse statement* `PX ts a`: "on `ts ++ rest`, for every
  `rest` whose first token does not continue the construct (Follow condition) and every fuel
  `f ≥ 16·|ts| + k_X`, the function returns `(a, rest)`"; the iterative forms `TTail`/`RTail`/`PTail`
  of the left-recursive productions; the induction motive `M`;
* `Loops`  — the accumulator loops read an iterative tail and stop at `rest`;
* `Heads`  — the one-token decisions of the parser, from the First sets;
* `Main`   — `D.complete : D ns X ts a → M ns X ts a` by induction on the derivation;
* `Unique` — `M.unique`, `D_unique`.

The fuel `32·(n+2)` of `refParseFull` is enough because `16·n + 19` is (`PExpr`).
-/
namespace XPathV.Spec.Full
open XPathV

/-! ### completeness of the individual parser functions (each with its Follow condition on `rest`
and its fuel bound, see `Defs`) -/

theorem pPath_complete {ns : Option NsMap} {ts : List ETok} {a : Ast} (h : D ns .PathExpr ts a) :
    ∀ f rest, okHead blkPath rest → 16 * ts.length + 4 ≤ f → pPath ns f (ts ++ rest) = some (a, rest) :=
  D.complete h

theorem pUnion_complete {ns : Option NsMap} {ts : List ETok} {a : Ast} (h : D ns .UnionExpr ts a) :
    ∀ f rest, okHead blkU rest → 16 * ts.length + 5 ≤ f → pUnion ns f (ts ++ rest) = some (a, rest) :=
  union_of_spine (D.complete h)

theorem pUnary_complete {ns : Option NsMap} {n : Nat} {ts : List ETok} {x : Ast}
    (h : D ns (.UnaryRun n) ts x) :
    ∀ f m rest, okHead blkU rest → 16 * ts.length + 6 ≤ f →
      pUnary ns f m (ts ++ rest) = some (negEnc (m + n) x, rest) :=
  D.complete h

theorem pRel_complete {ns : Option NsMap} {inp : Ast} {ts : List ETok} {a : Ast}
    (h : D ns (.RelativeLocationPath inp) ts a) :
    ∀ f rest, okHead isRelCont rest → 16 * ts.length + 3 ≤ f →
      pRel ns f inp (ts ++ rest) = some (a, rest) :=
  rel_of_spine (D.complete h)

theorem pStep_complete {ns : Option NsMap} {inp : Ast} {ts : List ETok} {a : Ast}
    (h : D ns (.Step inp) ts a) :
    ∀ f rest, okHead isLb rest → 16 * ts.length + 2 ≤ f → pStep ns f inp (ts ++ rest) = some (a, rest) :=
  D.complete h

theorem pPreds_complete {ns : Option NsMap} {inp : Ast} {ts : List ETok} {a : Ast}
    (h : D ns (.Predicates inp) ts a) :
    ∀ f rest, okHead isLb rest → 16 * ts.length + 1 ≤ f → pPreds ns f inp (ts ++ rest) = some (a, rest) :=
  preds_loop (D.complete h)

theorem pFilter_complete {ns : Option NsMap} {ts : List ETok} {a : Ast} (h : D ns .FilterExpr ts a) :
    ∀ f rest, okHead isLb rest → 16 * ts.length + 2 ≤ f → pFilter ns f (ts ++ rest) = some (a, rest) :=
  filter_of_spine (D.complete h)

theorem pPrimary_complete {ns : Option NsMap} {ts : List ETok} {a : Ast} (h : D ns .PrimaryExpr ts a) :
    ∀ f rest, 16 * ts.length + 1 ≤ f → pPrimary ns f (ts ++ rest) = some (a, rest) :=
  D.complete h

theorem pArgs_complete {ns : Option NsMap} {ts : List ETok} {a : Ast} (h : D ns .Arguments ts a) :
    ∀ f rest, 16 * ts.length + 20 ≤ f → pArgs ns f (ts ++ .rparen :: rest) = some (a, rest) :=
  D.complete h

/-- Expr [14] with a continuation: `rest` empty or starting with `)`, `]`, `,` or any other token that
is no operator, `/`, `//`, `[`, `|` and starts no step -/
theorem pTier_complete_rest {ns : Option NsMap} {ts : List ETok} {a : Ast} (h : D ns .Expr ts a) :
    ∀ f rest, okHead (blkT upperTiers) rest → 16 * ts.length + 19 ≤ f →
      pTier ns f upperTiers (ts ++ rest) = some (a, rest) :=
  D.complete h

/-- a whole token list: nothing is left -/
theorem pTier_complete {ns : Option NsMap} {ts : List ETok} {a : Ast} (h : D ns .Expr ts a)
    {f : Nat} (hf : 16 * ts.length + 19 ≤ f) : pTier ns f upperTiers ts = some (a, []) := by
  simpa using pTier_complete_rest h f [] trivial hf

/-- **Completeness of the reference parser**: the tree of every derivation of the grammar is the one
the reference parser returns. -/
theorem refParseFull_complete {ns : Option NsMap} {toks : List TokV} {a : Ast}
    (h : Parses ns toks a) : refParseFull ns toks = some a := by
  have e := pTier_complete (f := 32 * ((classify none toks).length + 2)) h (by omega)
  simp only [refParseFull, e]

/-- the reference parser decides the grammar -/
theorem refParseFull_iff {ns : Option NsMap} {toks : List TokV} {a : Ast} :
    refParseFull ns toks = some a ↔ Parses ns toks a :=
  ⟨refParseFull_sound, refParseFull_complete⟩

/-- **Unambiguity of the full XPath 1.0 expression grammar** (after the token classification of
§3.7): the tree is a function of the token stream. -/
theorem Parses_unique {ns : Option NsMap} {toks : List TokV} {a b : Ast}
    (ha : Parses ns toks a) (hb : Parses ns toks b) : a = b :=
  Derives_unique ha hb

/-- unambiguity on ExprToken lists (whether or not they come from `classify`) -/
theorem D_expr_unique {ns : Option NsMap} {ts : List ETok} {a b : Ast}
    (ha : D ns .Expr ts a) (hb : D ns .Expr ts b) : a = b :=
  D_unique ha hb

/-- what the reference parser rejects is not an expression -/
theorem not_Parses_of_none {ns : Option NsMap} {toks : List TokV} (h : refParseFull ns toks = none)
    (a : Ast) : ¬ Parses ns toks a := by
  intro hp
  rw [refParseFull_complete hp] at h
  cases h

instance {ns : Option NsMap} {toks : List TokV} {a : Ast} : Decidable (Parses ns toks a) :=
  decidable_of_iff _ refParseFull_iff

/-! ## Examples -/
section Examples
open TokV

-- a/b[1] has exactly one tree
example (t : Ast) (h : Parses none [nm "a", slash, nm "b", lbracket, num "1", rbracket] t) :
    t = .filter (child "b" (child "a")) (.num "1") :=
  Parses_unique h (refParseFull_sound refParseFull_path_pred)

-- - - - a | b : one run of three minus signs over the union
example (t : Ast) (h : Parses none [minus, minus, minus, nm "a", union, nm "b"] t) :
    t = neg1 (.oper "|" (child "a") (child "b")) :=
  Parses_unique h (refParseFull_sound refParseFull_minus_run)

-- * * * : NameTest, MultiplyOperator, NameTest — and nothing else
example (t : Ast) (h : Parses none [star, star, star] t) : t = .oper "*" childAny childAny :=
  Parses_unique h (refParseFull_sound refParseFull_stars)

-- count(//a) + 1 > 2 and not(b)
example (t : Ast) (h : Parses none
      [fn "count", lparen, slashslash, nm "a", rparen, plus, num "1", gt, num "2", nm "and",
       fn "not", lparen, nm "b", rparen] t) :
    t = .oper "and"
        (.oper ">"
          (.oper "+" (.call "count" "" (.acons (child "a" (dos (.root "/"))) .anil)) (.num "1"))
          (.num "2"))
        (.call "not" "" (.acons (child "b") .anil)) :=
  Parses_unique h (refParseFull_sound refParseFull_count_and_not)

-- the hand derivation of §4 of Spec/FullGrammar.lean is found by the parser
example : refParseFull none [star, star, star] = some (.oper "*" childAny childAny) :=
  refParseFull_complete (by
    show D none .Expr [.wild, .mul, .wild] _
    have w : D none (.Step .none) ([] ++ [.wild] ++ []) childAny := .step (.abbrev .child) .wild .preds_nil
    have p : D none .PathExpr [.wild] childAny := .path_loc (.loc_rel (.rel_step (by simpa using w)))
    have u : D none .UnaryExpr [.wild] childAny := by
      simpa [negEnc] using D.unary (.unary_union (.up rfl p))
    have m : D none .MultiplicativeExpr ([.wild] ++ [.mul] ++ [.wild]) (.oper "*" childAny childAny) :=
      .bin rfl (by simp) (D.of_path p) u
    exact D.expr_of_mul m)

-- no derivation exists for what the parser rejects:  a b,  .[1],  / and b,  a/,  text(1)
example (t : Ast) : ¬ Parses none [nm "a", nm "b"] t := not_Parses_of_none refParseFull_two_names t
example (t : Ast) : ¬ Parses none [dot, lbracket, num "1", rbracket] t := not_Parses_of_none refParseFull_dot_pred t
example (t : Ast) : ¬ Parses none [slash, nm "and", nm "b"] t := not_Parses_of_none refParseFull_slash_and t
example (t : Ast) : ¬ Parses none [nm "a", slash] t := not_Parses_of_none refParseFull_open_path t
example (t : Ast) : ¬ Parses none [fn "text", lparen, num "1", rparen] t := not_Parses_of_none refParseFull_text_arg t

-- `Parses` is decidable
example : Parses none [slash, union, nm "a"] (.oper "|" (.root "/") (child "a")) := by decide +kernel

end Examples

end XPathV.Spec.Full

