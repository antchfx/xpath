import XPathV.Lemmas.CmpSem
import XPathV.Lemmas.PredSem2
import XPathV.Lemmas.Sem.Built
/-!
# C07 — comparisons and boolean operators over *filtered* paths (`PredSem2.Frag2`)

`CmpSem` proves C07 for expressions whose node-set leaves are predicate-free paths (`PathPF`):
the inductive `CmpSem.XExpG NP SP` fixes that leaf.  This module restates the fragment with the
leaf predicate as a parameter — `XExpP PP NP SP` (same constructors; `path p : PP p → …`) — and
instantiates it with the paths of the C02 fragment **with predicates**, `PredSem2.Frag2 true`
(`//a[@x]`, `//b[count(*) = 0]`, `a[b < c]`, `(P)[b]`, …):

* `XExpP`, `XExpP.mono`, `XExpP.of_xexpG` (`CmpSem.XExpG` is the instance `PP := PathPF`)
* `xexpP_built` — the induction through `build`, for any leaf fragments whose members are built
  into plans that compute the oracle's value (`hP`, `hN`, `hS`), at any context
* `CmpSem.build_xexpG`, `CmpSem.build_xexp` — the instance `PP := PathPF`; they are declared here
  (as `_root_.XPathV.CmpSem.…`) because they are instances of `xexpP_built`, and `CmpSem` is imported here
* `sem_frag2_build` — what the induction needs of a path leaf: the built plan of a path of
  `Frag2 true` *evaluates* (`evalP`, not only `sel`) to a node list with the members of the
  oracle's node-set (`PredSem2.operand_pathOK2` on `PredSem2.build_frag2`); the comparison cells
  are existential and `boolean()` is non-emptiness, so membership is all that is used (`VRel`)
* `XExp2`, `XExp2F` — the instances with the leaves of `XExp` / of `C07_main_full`
* `build_xexp2`, `build_xexp2F` — `Sem` for every expression of these fragments (the statements
  about the oracle's boolean are `Theorems.C07.C07_main_filtered_paths…`)
* `xexp2_of_xexpG` — the fragment over predicate-free paths lies in the one over `Frag2 true`

As everywhere for `Frag2`, the builder runs with `smartDescThroughFilter = false` (the value read
off the source: `SourceConfig.smartdesc_stops_at_filters_from_source`) and the `//name` shortcut
guarded by the node test.
-/
namespace XPathV.CmpSem2
open XPathV XPathV.Model XPathV.PathSem XPathV.PredSem XPathV.PredSem2 XPathV.CmpSem XPathV.Sem

variable {F : Type} [NumAlg F]

/-! ## the fragment, parametric in its three kinds of leaves -/

/-- `CmpSem.XExpG` with the node-set leaves as a parameter `PP` too -/
inductive XExpP (PP NP SP : Ast → Prop) : CmpSem.Kind → Ast → Prop
  | num (lex : String) : XExpP PP NP SP .num (.num lex)
  | str (s : String) : XExpP PP NP SP .str (.str s)
  | path (p : Ast) : PP p → XExpP PP NP SP .set p
  | numE (e : Ast) : NP e → XExpP PP NP SP .num e
  | strE (e : Ast) : SP e → XExpP PP NP SP .str e
  | cmp (op : String) (cop : Spec.CmpOp) (ka kb : CmpSem.Kind) (a b : Ast) :
      Spec.CmpOp.ofString op = some cop → XExpP PP NP SP ka a → XExpP PP NP SP kb b →
      XExpP PP NP SP .bool (.oper op a b)
  | and (ka kb : CmpSem.Kind) (a b : Ast) : XExpP PP NP SP ka a → XExpP PP NP SP kb b →
      XExpP PP NP SP .bool (.oper "and" a b)
  | or (ka kb : CmpSem.Kind) (a b : Ast) : XExpP PP NP SP ka a → XExpP PP NP SP kb b →
      XExpP PP NP SP .bool (.oper "or" a b)
  | not (ka : CmpSem.Kind) (a : Ast) (pfx : String) : XExpP PP NP SP ka a →
      XExpP PP NP SP .bool (.call "not" pfx (.acons a .anil))
  | boolean (ka : CmpSem.Kind) (a : Ast) (pfx : String) : XExpP PP NP SP ka a →
      XExpP PP NP SP .bool (.call "boolean" pfx (.acons a .anil))
  | true (pfx : String) : XExpP PP NP SP .bool (.call "true" pfx .anil)
  | false (pfx : String) : XExpP PP NP SP .bool (.call "false" pfx .anil)
  | group (k : CmpSem.Kind) (a : Ast) : XExpP PP NP SP k a → XExpP PP NP SP k (.group a)

theorem XExpP.mono {PP PP' NP NP' SP SP' : Ast → Prop} (hp : ∀ e, PP e → PP' e)
    (hn : ∀ e, NP e → NP' e) (hs : ∀ e, SP e → SP' e)
    {k : CmpSem.Kind} {e : Ast} (h : XExpP PP NP SP k e) : XExpP PP' NP' SP' k e := by
  induction h with
  | num lex => exact .num lex
  | str s => exact .str s
  | path p hp' => exact .path p (hp p hp')
  | numE e he => exact .numE e (hn e he)
  | strE e he => exact .strE e (hs e he)
  | cmp op cop ka kb a b hop _ _ iha ihb => exact .cmp op cop ka kb a b hop iha ihb
  | and ka kb a b _ _ iha ihb => exact .and ka kb a b iha ihb
  | or ka kb a b _ _ iha ihb => exact .or ka kb a b iha ihb
  | not ka a pfx _ ih => exact .not ka a pfx ih
  | boolean ka a pfx _ ih => exact .boolean ka a pfx ih
  | true pfx => exact .true pfx
  | false pfx => exact .false pfx
  | group k a _ ih => exact .group k a ih

/-- the fragment of `CmpSem` is the instance `PP := PathPF` -/
theorem XExpP.of_xexpG {NP SP : Ast → Prop} {k : CmpSem.Kind} {e : Ast} (h : XExpG NP SP k e) :
    XExpP PathPF NP SP k e := by
  induction h with
  | num lex => exact .num lex
  | str s => exact .str s
  | path p hp => exact .path p hp
  | numE e he => exact .numE e he
  | strE e he => exact .strE e he
  | cmp op cop ka kb a b hop _ _ iha ihb => exact .cmp op cop ka kb a b hop iha ihb
  | and ka kb a b _ _ iha ihb => exact .and ka kb a b iha ihb
  | or ka kb a b _ _ iha ihb => exact .or ka kb a b iha ihb
  | not ka a pfx _ ih => exact .not ka a pfx ih
  | boolean ka a pfx _ ih => exact .boolean ka a pfx ih
  | true pfx => exact .true pfx
  | false pfx => exact .false pfx
  | group k a _ ih => exact .group k a ih

/-- … and conversely -/
theorem XExpP.to_xexpG {NP SP : Ast → Prop} {k : CmpSem.Kind} {e : Ast} (h : XExpP PathPF NP SP k e) :
    XExpG NP SP k e := by
  induction h with
  | num lex => exact .num lex
  | str s => exact .str s
  | path p hp => exact .path p hp
  | numE e he => exact .numE e he
  | strE e he => exact .strE e he
  | cmp op cop ka kb a b hop _ _ iha ihb => exact .cmp op cop ka kb a b hop iha ihb
  | and ka kb a b _ _ iha ihb => exact .and ka kb a b iha ihb
  | or ka kb a b _ _ iha ihb => exact .or ka kb a b iha ihb
  | not ka a pfx _ ih => exact .not ka a pfx ih
  | boolean ka a pfx _ ih => exact .boolean ka a pfx ih
  | true pfx => exact .true pfx
  | false pfx => exact .false pfx
  | group k a _ ih => exact .group k a ih

/-! ## the induction through `build` -/

/-- **C07 through `build`, any leaves, any context**: whatever `build` makes of an expression of the
fragment agrees with the oracle up to membership, at every context (node, position, size) at which
what it makes of the leaves does -/
theorem xexpP_built (d : Doc) (cfg : ECfg) (c : Spec.Ctx) (regexOk : RegexOk) (limit : Nat)
    (sdf : Bool) (pin : Option Plan) {PP NP SP : Ast → Prop}
    (hP : ∀ e, PP e →
      Built regexOk limit true sdf pin e fun o => Agree (F := F) d cfg (SetK .set) o.q e c)
    (hN : ∀ e, NP e →
      Built regexOk limit true sdf pin e fun o => Agree (F := F) d cfg (SetK .num) o.q e c)
    (hS : ∀ e, SP e →
      Built regexOk limit true sdf pin e fun o => Agree (F := F) d cfg (SetK .str) o.q e c)
    (k : CmpSem.Kind) (e : Ast) (h : XExpP PP NP SP k e) :
    Built regexOk limit true sdf pin e fun o => Agree (F := F) d cfg (SetK k) o.q e c := by
  induction h with
  | num lex =>
    exact (builtF_num fun o hq _ => hq ▸ (agree0_num_lit d cfg lex c).as ExactK.setK).built
  | str s =>
    exact (builtF_str fun o hq _ => hq ▸ (agree0_str_lit d cfg s c).as ExactK.setK).built
  | path p hp => exact hP p hp
  | numE e he => exact hN e he
  | strE e he => exact hS e he
  | cmp op cop ka kb a b hop _ _ iha ihb =>
    refine (iha.oper ihb fun lo ro o hl hr hq _ => ?_).built
    rw [hq, operPlan_cmp (Spec.CmpOp.ofString_mem hop)]
    exact ((hl.mono SetK.vrel).cmp hop (hr.mono SetK.vrel)).as ExactK.setK
  | and ka kb a b _ _ iha ihb =>
    exact (iha.oper ihb fun lo ro o hl hr hq _ => hq ▸
      ((hl.mono SetK.truth).andor false (hr.mono SetK.truth)).as ExactK.setK).built
  | or ka kb a b _ _ iha ihb =>
    exact (iha.oper ihb fun lo ro o hl hr hq _ => hq ▸
      ((hl.mono SetK.truth).andor true (hr.mono SetK.truth)).as ExactK.setK).built
  | not ka a pfx _ ih =>
    exact (ih.call1 rfl (by decide) fun ao o ha hq _ => hq ▸
      ((ha.mono SetK.truth).not pfx .nil).as ExactK.setK).built
  | boolean ka a pfx _ ih =>
    exact (ih.call1 rfl (by decide) fun ao o ha hq _ => hq ▸
      ((ha.mono SetK.truth).boolean pfx .nil).as ExactK.setK).built
  | true pfx =>
    exact (builtF_call0 (by decide) rfl fun o hq _ => hq ▸
      (agree0_const pfx .nil true (callFn_true ..) (Spec.callFn_true d c)).as ExactK.setK).built
  | false pfx =>
    exact (builtF_call0 (by decide) rfl fun o hq _ => hq ▸
      (agree0_const pfx .nil false (callFn_false ..) (Spec.callFn_false d c)).as ExactK.setK).built
  | group k a _ ih => exact (ih.group fun xo o hx hq _ => hq ▸ hx.group.agree).built

/-! ## the instance with predicate-free paths as node-set leaves: `CmpSem.XExpG` -/

/-- **C07 through `build`** for `CmpSem.XExpG`: for every expression of the fragment, the plan the
builder produces (paths with all their rewrites; comparison nodes as `logicalQuery`, `and`/`or` as
`booleanQuery`, calls as `functionQuery`, parentheses as `groupQuery`) evaluates, at every valid
context node of a well-formed document, to (a representative of) the oracle's value — for any leaf
fragments whose members do (`hN`, `hS`); the path leaves by `CmpSem.sem_path_build` -/
theorem _root_.XPathV.CmpSem.build_xexpG {d : Doc} (wf : WF d) (cfg : ECfg) (hns : cfg.nsIface = true)
    (hinj : HashInj d cfg) (c : Ref) (hc : validRef d c = true) (regexOk : RegexOk) (limit : Nat)
    (sdf : Bool) {NP SP : Ast → Prop}
    (hN : ∀ pin e, NP e →
      Built regexOk limit true sdf pin e fun o => Agree (F := F) d cfg (SetK .num) o.q e ⟨c, 1, 1⟩)
    (hS : ∀ pin e, SP e →
      Built regexOk limit true sdf pin e fun o => Agree (F := F) d cfg (SetK .str) o.q e ⟨c, 1, 1⟩)
    (k : CmpSem.Kind) (e : Ast) (h : XExpG NP SP k e) :
    ∀ (st : BState) (o : BOut), build regexOk limit true sdf e {} st = .ok o →
      Sem (F := F) d cfg c k o.q e := fun st o hb =>
  xexpP_built d cfg ⟨c, 1, 1⟩ regexOk limit sdf st.predInput
    (fun e he st o _ => sem_path_build wf cfg hns hinj c hc regexOk limit sdf e he st o)
    (hN _) (hS _) k e (XExpP.of_xexpG h) st o rfl hb

/-- **C07 through `build`** on `XExp` (arithmetic and string-function leaves) -/
theorem _root_.XPathV.CmpSem.build_xexp {d : Doc} (wf : WF d) (cfg : ECfg) (hns : cfg.nsIface = true)
    (hinj : HashInj d cfg) (c : Ref) (hc : validRef d c = true) (regexOk : RegexOk) (limit : Nat)
    (sdf : Bool) (k : CmpSem.Kind) (e : Ast) (h : XExp k e) :
    ∀ (st : BState) (o : BOut), build regexOk limit true sdf e {} st = .ok o →
      Sem (F := F) d cfg c k o.q e :=
  build_xexpG wf cfg hns hinj c hc regexOk limit sdf
    (sem_numEC_build wf cfg hns hinj c hc regexOk limit sdf)
    (sem_strE_build d cfg c regexOk limit true sdf) k e h

/-! ## the path leaves: `Frag2 true` -/

/-- **a filtered path as an operand**: the plan `build` makes of a path of `Frag2 true` (all
rewrites, merge form included) *evaluates* to a node list whose members are exactly the members
of the oracle's node-set — from `PredSem2.build_frag2` through `PredSem2.operand_pathOK2` -/
theorem sem_frag2_build {d : Doc} (wf : WF d) (cfg : ECfg) (hns : cfg.nsIface = true)
    (hinj : HashInj d cfg) (c : Ref) (hc : validRef d c = true) (regexOk : RegexOk) (limit : Nat)
    (pin : Option Plan) (p : Ast) (hp : Frag2 true p) :
    Built regexOk limit true false pin p fun o => Agree (F := F) d cfg (SetK .set) o.q p ⟨c, 1, 1⟩ := by
  intro st o _ hb
  have ih := ((build_frag2 (F := F) wf cfg hns hinj regexOk limit true p hp).1 rfl).1
  obtain ⟨_, out, ns, g, _, hev, hS, hm, hv, _⟩ :=
    operand_pathOK2 (F := F) wf cfg hns hinj regexOk limit p hp ih st o hb ⟨c, 1, 1⟩ hc
  exact ⟨.nodes (nodesVal d cfg out), .nodes ns, g, hev, hS,
    fun x => mem_nodesVal d cfg out ns hm hv x, rfl⟩

/-! ## the instances -/

/-- **the C07 fragment over filtered paths**: `XExp` with its node-set leaves in `Frag2 true` -/
abbrev XExp2 : CmpSem.Kind → Ast → Prop := XExpP (Frag2 true) ArithSem.NumEC StringFns.StrE

/-- the fragment of `C07_main_full` (number-valued leaves `ArithSem.NumEF`: `mod` and `sum` inside
the oracle's domain at the context) with its node-set leaves in `Frag2 true` -/
abbrev XExp2F (d : Doc) (c : Ref) (F : Type) [NumAlg F] : CmpSem.Kind → Ast → Prop :=
  XExpP (Frag2 true) (ArithSem.NumEF d ⟨c, 1, 1⟩ F) StringFns.StrE

theorem frag2_of_pathPF (p : Ast) (hp : PathPF p) : Frag2 true p :=
  frag2_of_frag true p (frag_of_pathPF p hp)

/-- a predicate-free path is a path of `Frag2 true`: `XExpG` lies in `XExpP (Frag2 true)` -/
theorem xexp2_of_xexpG {NP SP : Ast → Prop} {k : CmpSem.Kind} {e : Ast} (h : XExpG NP SP k e) :
    XExpP (Frag2 true) NP SP k e :=
  (XExpP.of_xexpG h).mono frag2_of_pathPF (fun _ h => h) (fun _ h => h)

/-- a path of `Frag true` (the first C02 fragment) is a leaf too -/
theorem xexp2_of_frag {NP SP : Ast → Prop} (p : Ast) (hp : Frag true p) :
    XExpP (Frag2 true) NP SP .set p := .path p (frag2_of_frag true p hp)

section Main
variable {d : Doc} (wf : WF d) (cfg : ECfg) (hns : cfg.nsIface = true) (hinj : HashInj d cfg)
  (c : Ref) (hc : validRef d c = true) (regexOk : RegexOk) (limit : Nat)
include wf hns hinj hc

/-- `Sem` for every expression of `XExp2` (any kind) -/
theorem build_xexp2 (k : CmpSem.Kind) (e : Ast) (h : XExp2 k e) :
    ∀ (st : BState) (o : BOut), build regexOk limit true false e {} st = .ok o →
      Sem (F := F) d cfg c k o.q e := fun st o hb =>
  xexpP_built d cfg ⟨c, 1, 1⟩ regexOk limit false st.predInput
    (sem_frag2_build wf cfg hns hinj c hc regexOk limit _)
    (sem_numEC_build wf cfg hns hinj c hc regexOk limit false _)
    (sem_strE_build d cfg c regexOk limit true false _) k e h st o rfl hb

/-- `Sem` for every expression of `XExp2F` (any kind) -/
theorem build_xexp2F (k : CmpSem.Kind) (e : Ast) (h : XExp2F d c F k e) :
    ∀ (st : BState) (o : BOut), build regexOk limit true false e {} st = .ok o →
      Sem (F := F) d cfg c k o.q e := fun st o hb =>
  xexpP_built d cfg ⟨c, 1, 1⟩ regexOk limit false st.predInput
    (sem_frag2_build wf cfg hns hinj c hc regexOk limit _)
    (sem_numEF_build wf cfg hns hinj c hc regexOk limit false _)
    (sem_strE_build d cfg c regexOk limit true false _) k e h st o rfl hb

end Main

end XPathV.CmpSem2

