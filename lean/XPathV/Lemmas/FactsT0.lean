import XPathV.Lemmas.Facts
import XPathV.Generated.ExtraFacts
/-!
# Facts about the regenerated source that more than one property quotes

Each is a finite evaluation over `XPathV.Generated.*`; it is made here once, and the property files
(`Theorems/C04`, `Theorems/C05`) state it under the property's name.
-/
namespace XPathV.Facts

/-- F7: every `Clone` builds the expected type, copies every configuration field, copies no
iteration-state field, and clones (never shares) its sub-queries -/
theorem structs_cloneOk : Generated.structs.all cloneOk = true := by decide

/-- F15: `Expr.Select` and `Expr.Evaluate` both operate on `expr.q.Clone()` -/
theorem api_clones : Generated.selectClones = true ∧ Generated.evaluateClonesBeforeEval = true ∧
    Generated.evaluateIterClones = true := by decide

/-- `func.go: functionArgs`: a function evaluates a per-call clone of its argument query; the only
dynamic type used in place is `functionQuery` -/
theorem function_arguments_cloned :
    Generated.functionArgsExempt = ["functionQuery"] ∧ Generated.functionArgsClonesOtherwise = true := by decide

end XPathV.Facts
