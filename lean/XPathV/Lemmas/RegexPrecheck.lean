import XPathV.Lemmas.PathSem.Build
/-!
# C16 — a constant pattern of `matches()` that does not compile is rejected by the builder

`build.go: processFunction, case "matches"` tests a constant second argument with `getRegexp` before it builds the
function query.  The regexp compiler is the parameter `regexOk` of the builder model.
-/
namespace XPathV.Lemmas.RegexPrecheck
open XPathV XPathV.Model XPathV.PathSem

/-- whatever the first argument, the flags, the depth and the builder configuration: `matches(x, 'p')` with a
string-literal pattern that the regexp compiler rejects is never built -/
theorem matches_bad_constant_rejected (rx : RegexOk) (lim : Nat) (a b : Bool) (pfx : String) (x : Ast) (p : String)
    (fl : Flags) (st : BState) (hbad : rx p = false) (o : BOut) :
    build rx lim a b (.call "matches" pfx (.acons x (.acons (.str p) .anil))) fl st ≠ .ok o := by
  intro h
  have hA : fnArity "matches" = some (2, some 2, false) := rfl
  have hU : fnUsed "matches" 2 = 2 := rfl
  rw [build] at h
  have h := Model.enter_ok h
  simp only [Ast.argList, List.length_cons, List.length_nil, Nat.zero_add, Nat.reduceAdd, hA, hU] at h
  simp only [(by decide : ¬ (2 < 2)), (by decide : decide (2 > 2) = false), ↓reduceIte,
    Bool.false_eq_true] at h
  obtain ⟨ao, hao, h⟩ := Model.bind_ok h
  -- the argument list: `x`, then the literal
  obtain ⟨ho, so, _, hso, rfl⟩ := build_args2_ok (k := 0) hao
  cases build_str_ok hso
  simp only [Plan.argList, List.getD_cons_succ, List.getD_cons_zero, hbad, Bool.false_eq_true, ↓reduceIte,
    (by decide : ("matches" == "matches") = true)] at h
  cases h

/-- … and with a pattern the compiler accepts the same call is built: the builder does reach the
precheck on this shape of call, it is the pattern that decides -/
example : ∃ o, build (fun _ => true) 1024 true false (.call "matches" "" (.acons (.str "a") (.acons (.str "a") .anil))) {} ⟨0, none, none⟩ = Except.ok o :=
  ⟨_, rfl⟩

end XPathV.Lemmas.RegexPrecheck
