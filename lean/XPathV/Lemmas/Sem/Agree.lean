import XPathV.Lemmas.Sem.Cells
import XPathV.Lemmas.CallFn
import XPathV.Lemmas.BuildInv
/-!
# Agreement of a plan with a parse tree at a context, and its closure under the constructors

`Agree d cfg R q e c`: at the context `c` the plan `q` and the expression `e` both evaluate, to values
related by `R`.  The relation is a parameter because the operations ask different things of their
operands: a comparison the same members (`VRel`), `and`/`or`/`not`/`boolean` the same truth (`Truth`),
arithmetic the same number (`NumConv`), a function that looks at the order or the first node of a node
list the same value (`ExactK`).  One lemma per constructor says what the node is given its operands —
for any plans and any context; nothing here knows `build`.
-/
namespace XPathV.ArithSem
open XPathV NumAlg

variable {F : Type} [NumAlg F]

/-! ## the operation an arithmetic operator denotes (shared by both sides) -/

def opFn : String → Option (F → F → F)
  | "+" => some add
  | "-" => some sub
  | "*" => some mul
  | "div" => some div
  | "mod" => some fmod
  | _ => none

def arithOps : List String := ["+", "-", "*", "div"]

end XPathV.ArithSem

namespace XPathV.Sem
open XPathV XPathV.Model NumAlg
open XPathV.Theorems.C08 (emb)
open XPathV.CmpSem (VRel vkind)

variable {F : Type} [NumAlg F]

/-! ## the relation -/

def Agree (d : Doc) (cfg : ECfg) (R : MVal F → Spec.Value F → Prop) (q : Plan) (e : Ast)
    (c : Spec.Ctx) : Prop :=
  ∃ m v g, evalP (F := F) d cfg q c.node = .ok m ∧ Spec.eval (F := F) d e c = .ok (.val v g) ∧ R m v

/-- … and the oracle's value comes without grouping, as that of every expression that is not a path
(`Agree.zero`) -/
def Agree0 (d : Doc) (cfg : ECfg) (R : MVal F → Spec.Value F → Prop) (q : Plan) (e : Ast)
    (c : Spec.Ctx) : Prop :=
  ∃ m v, evalP (F := F) d cfg q c.node = .ok m ∧ Spec.eval (F := F) d e c = .ok (.val v none) ∧ R m v

/-- the model's value is the oracle's, of kind `k` -/
def ExactK (k : CmpSem.Kind) (m : MVal F) (v : Spec.Value F) : Prop := m = emb v ∧ vkind v = k

/-- the same members, of kind `k` -/
def SetK (k : CmpSem.Kind) (m : MVal F) (v : Spec.Value F) : Prop := VRel m v ∧ vkind v = k

/-- the same truth value under `boolean()` -/
def Truth (m : MVal F) (v : Spec.Value F) : Prop := asBoolM m = .ok (Spec.toBool v)

/-- the same number under `number()` -/
def NumConv (d : Doc) (m : MVal F) (v : Spec.Value F) : Prop := asNumberM d m = Spec.toNum d v

section
variable {d : Doc} {cfg : ECfg} {c : Spec.Ctx} {q : Plan} {e : Ast}
  {R R' : MVal F → Spec.Value F → Prop}

theorem Agree.mono (hR : ∀ m v, R m v → R' m v) (h : Agree (F := F) d cfg R q e c) :
    Agree (F := F) d cfg R' q e c :=
  let ⟨m, v, g, h1, h2, h3⟩ := h; ⟨m, v, g, h1, h2, hR m v h3⟩

/-- the relation may know that its second component is the oracle's value -/
theorem Agree.withEval (h : Agree (F := F) d cfg R q e c) :
    Agree (F := F) d cfg (fun m v => R m v ∧ ∃ g, Spec.eval (F := F) d e c = .ok (.val v g)) q e c :=
  let ⟨m, v, g, h1, h2, h3⟩ := h; ⟨m, v, g, h1, h2, h3, g, h2⟩

theorem Agree0.agree (h : Agree0 (F := F) d cfg R q e c) : Agree (F := F) d cfg R q e c :=
  let ⟨m, v, h1, h2, h3⟩ := h; ⟨m, v, none, h1, h2, h3⟩

theorem Agree0.as (hR : ∀ m v, R m v → R' m v) (h : Agree0 (F := F) d cfg R q e c) :
    Agree (F := F) d cfg R' q e c := h.agree.mono hR

omit [NumAlg F] in
theorem ExactK.setK {k : CmpSem.Kind} (m : MVal F) (v : Spec.Value F) (h : ExactK k m v) : SetK k m v :=
  ⟨h.1 ▸ CmpSem.vrel_emb_self v, h.2⟩

omit [NumAlg F] in
theorem ExactK.vrel {k : CmpSem.Kind} (m : MVal F) (v : Spec.Value F) (h : ExactK k m v) : VRel m v :=
  h.1 ▸ CmpSem.vrel_emb_self v

omit [NumAlg F] in
theorem SetK.vrel {k : CmpSem.Kind} (m : MVal F) (v : Spec.Value F) (h : SetK k m v) : VRel m v := h.1

theorem VRel.truth (m : MVal F) (v : Spec.Value F) (h : VRel m v) : Truth m v :=
  CmpSem.asBool_vrel m v h

theorem SetK.truth {k : CmpSem.Kind} (m : MVal F) (v : Spec.Value F) (h : SetK k m v) : Truth m v :=
  CmpSem.asBool_vrel m v h.1

/-- Go's `asNumber` maps a boolean to NaN, XPath's `number()` to 0 or 1: every other kind converts alike -/
theorem ExactK.numConv {k : CmpSem.Kind} (hk : k ≠ .bool) (m : MVal F) (v : Spec.Value F)
    (h : ExactK k m v) : NumConv d m v := by
  obtain ⟨rfl, rfl⟩ := h
  exact Theorems.C08.asNumber_spec d v fun b e => hk (e ▸ rfl)

/-- the oracle groups the value of a path only -/
theorem eval_val_none (d : Doc) (e : Ast) (c : Spec.Ctx) (v : Spec.Value F) (g : Option (List (List Ref)))
    (he : match e with | .oper _ _ _ | .call _ _ _ | .num _ | .str _ | .group _ => True | _ => False)
    (h : Spec.eval (F := F) d e c = .ok (.val v g)) : g = none := by
  cases e <;> first | exact he.elim | skip
  all_goals rw [Spec.eval] at h
  · obtain ⟨av, _, h⟩ := Model.bind_ok h
    obtain ⟨w, _, h⟩ := Model.bind_ok h
    cases h; rfl
  · -- an operator: `or`, `and`, a comparison, `|`, `mod`, arithmetic
    obtain ⟨lv, _, h⟩ := Model.bind_ok h
    split at h
    · split at h
      · cases h; rfl
      · obtain ⟨rv, _, h⟩ := Model.bind_ok h; cases h; rfl
    · split at h
      · cases h; rfl
      · obtain ⟨rv, _, h⟩ := Model.bind_ok h; cases h; rfl
    · obtain ⟨rv, _, h⟩ := Model.bind_ok h
      split at h
      · cases h; rfl
      · split at h
        · obtain ⟨a, _, h⟩ := Model.bind_ok h
          obtain ⟨b, _, h⟩ := Model.bind_ok h
          cases h; rfl
        · split at h
          · split at h <;> cases h; rfl
          · split at h <;> cases h; rfl
  · cases h; rfl
  · cases h; rfl
  · obtain ⟨w, _, h⟩ := Model.bind_ok h
    cases h; rfl

theorem Agree.zero
    (he : match e with | .oper _ _ _ | .call _ _ _ | .num _ | .str _ | .group _ => True | _ => False)
    (h : Agree (F := F) d cfg R q e c) : Agree0 (F := F) d cfg R q e c :=
  let ⟨m, v, g, h1, h2, h3⟩ := h; ⟨m, v, h1, eval_val_none d e c v g he h2 ▸ h2, h3⟩

/-- exact agreement on a number, written out -/
theorem agree0_num : Agree0 (F := F) d cfg (ExactK .num) q e c ↔
    ∃ x : F, evalP (F := F) d cfg q c.node = .ok (.num x) ∧
      Spec.eval (F := F) d e c = .ok (.val (.num x) none) := by
  constructor
  · rintro ⟨_, v, h1, h2, rfl, hk⟩
    cases v <;> first | exact ⟨_, h1, h2⟩ | cases hk
  · rintro ⟨x, h1, h2⟩; exact ⟨_, _, h1, h2, rfl, rfl⟩

/-- exact agreement on a node list, written out -/
theorem agree_set : Agree (F := F) d cfg (ExactK .set) q e c ↔
    ∃ ns g, evalP (F := F) d cfg q c.node = .ok (.nodes ns) ∧
      Spec.eval (F := F) d e c = .ok (.val (.nodes ns) g) := by
  constructor
  · rintro ⟨_, v, g, h1, h2, rfl, hk⟩
    cases v <;> first | exact ⟨_, g, h1, h2⟩ | cases hk
  · rintro ⟨ns, g, h1, h2⟩; exact ⟨_, .nodes ns, g, h1, h2, rfl, rfl⟩

/-! ## closure: one lemma per constructor -/

theorem agree0_num_lit (d : Doc) (cfg : ECfg) (l : String) (c : Spec.Ctx) :
    Agree0 (F := F) d cfg (ExactK .num) (.constNum l) (.num l) c :=
  ⟨_, .num (Spec.strToNum l), evalP_constNum d cfg l _, Spec.eval_num d l c, rfl, rfl⟩

theorem agree0_str_lit (d : Doc) (cfg : ECfg) (s : String) (c : Spec.Ctx) :
    Agree0 (F := F) d cfg (ExactK .str) (.constStr s) (.str s) c :=
  ⟨_, .str s, evalP_constStr d cfg s _, Spec.eval_str d s c, rfl, rfl⟩

/-- parentheses: the value goes through, the grouping is forgotten -/
theorem Agree.group (h : Agree (F := F) d cfg R q e c) :
    Agree0 (F := F) d cfg R (.group q) (.group e) c := by
  obtain ⟨m, v, g, h1, h2, h3⟩ := h
  exact ⟨m, v, by rw [evalP, h1], by rw [Spec.eval, h2]; rfl, h3⟩

/-- **comparison**, any two operands whose values have the members of the oracle's — every pair of
types, all six operators (`cmpM_vrel`) —, with its value: XPath's `compare` of the oracle's operand
values -/
theorem Agree.cmp_value {op : String} {cop : Spec.CmpOp} (hop : Spec.CmpOp.ofString op = some cop)
    {ql qr : Plan} {a b : Ast} (ha : Agree (F := F) d cfg VRel ql a c)
    (hb : Agree (F := F) d cfg VRel qr b c) :
    ∃ va vb ga gb, Spec.eval (F := F) d a c = .ok (.val va ga) ∧
      Spec.eval (F := F) d b c = .ok (.val vb gb) ∧
      evalP (F := F) d cfg (.logical op ql qr) c.node = .ok (.bool (Spec.compare d cop va vb)) ∧
      Spec.eval (F := F) d (.oper op a b) c = .ok (.val (.bool (Spec.compare d cop va vb)) none) := by
  obtain ⟨ma, va, ga, hea, hsa, hra⟩ := ha
  obtain ⟨mb, vb, gb, heb, hsb, hrb⟩ := hb
  refine ⟨va, vb, ga, gb, hsa, hsb, ?_, Spec.eval_cmp d op cop hop a b c _ _ hsa hsb⟩
  simp only [evalP, hea, heb, bind, Except.bind, logicalVal, hop, CmpSem.cmpM_vrel d cop ma mb va vb hra hrb]

theorem Agree.cmp {op : String} {cop : Spec.CmpOp} (hop : Spec.CmpOp.ofString op = some cop)
    {ql qr : Plan} {a b : Ast} (ha : Agree (F := F) d cfg VRel ql a c)
    (hb : Agree (F := F) d cfg VRel qr b c) :
    Agree0 (F := F) d cfg (ExactK .bool) (.logical op ql qr) (.oper op a b) c :=
  let ⟨_, _, _, _, _, _, h1, h2⟩ := ha.cmp_value hop hb; ⟨_, .bool _, h1, h2, rfl, rfl⟩

/-- `or` (`isOr`) / `and` whose left operand decides: the right operand is evaluated on neither side,
so it may be any plan and any expression -/
theorem Agree.andor_left (isOr : Bool) {ql : Plan} (qr : Plan) {a : Ast} (b : Ast)
    (ha : Agree (F := F) d cfg Truth ql a c)
    (ht : ∀ v g, Spec.eval (F := F) d a c = .ok (.val v g) → Spec.toBool v = isOr) :
    Agree0 (F := F) d cfg (ExactK .bool) (.boolean isOr ql qr)
      (.oper (if isOr then "or" else "and") a b) c := by
  obtain ⟨ma, va, ga, hea, hsa, hra⟩ := ha
  have hva := ht va ga hsa
  exact ⟨_, .bool isOr, evalP_bool_left isOr d cfg ql qr c.node ma hea (hva ▸ hra),
    (Spec.eval_andor isOr d a b c va ga hsa).1 hva, rfl, rfl⟩

/-- `or` (`isOr`) / `and`, operands of any type: the oracle's value, with the oracle's short-circuit -/
theorem Agree.andor (isOr : Bool) {ql qr : Plan} {a b : Ast} (ha : Agree (F := F) d cfg Truth ql a c)
    (hb : Agree (F := F) d cfg Truth qr b c) :
    Agree0 (F := F) d cfg (ExactK .bool) (.boolean isOr ql qr)
      (.oper (if isOr then "or" else "and") a b) c := by
  obtain ⟨ma, va, ga, hea, hsa, hra⟩ := ha
  by_cases ht : Spec.toBool va = isOr
  · exact Agree.andor_left isOr qr b ⟨ma, va, ga, hea, hsa, hra⟩ fun v g hs => by
      rw [hsa] at hs; cases hs; exact ht
  · obtain ⟨mb, vb, gb, heb, hsb, hrb⟩ := hb
    have ht' : Spec.toBool va = !isOr := by cases isOr <;> simp_all
    exact ⟨_, .bool _, evalP_bool_right isOr d cfg ql qr c.node ma mb _ hea (ht' ▸ hra) heb hrb,
      (Spec.eval_andor isOr d a b c va ga hsa).2 vb gb ht' hsb, rfl, rfl⟩

/-- **a function of one argument**: the call agrees as soon as the two libraries agree on related
values of the argument -/
theorem Agree.call1 {name : String} (pfx : String) (fi : Plan) {k : CmpSem.Kind}
    (hn : (name == "name" || name == "local-name" || name == "namespace-uri") = false)
    {qa : Plan} {a : Ast} (ha : Agree (F := F) d cfg R qa a c)
    (hlib : ∀ m v, R m v → ∃ w, vkind w = k ∧
      callFn d cfg name fi c.node [.ok m] none = .ok (emb w) ∧ Spec.callFn d c name [v] = .ok w) :
    Agree0 (F := F) d cfg (ExactK k) (.func name fi (.pcons qa .pnil))
      (.call name pfx (.acons a .anil)) c := by
  obtain ⟨m, v, g, hea, hsa, hra⟩ := ha
  obtain ⟨w, hk, h1, h2⟩ := hlib m v hra
  exact ⟨_, w, by rw [evalP_func1 d cfg name fi qa c.node hn, hea, h1],
    StringFns.call_eval d c name pfx [a] [v] (.cons ⟨g, hsa⟩ .nil) w h2, rfl, hk⟩

/-- a function of two arguments, each with its own relation -/
theorem Agree.call2 {name : String} (pfx : String) (fi : Plan) {k : CmpSem.Kind}
    {Ra Rb : MVal F → Spec.Value F → Prop}
    (hn : (name == "name" || name == "local-name" || name == "namespace-uri") = false)
    {qa qb : Plan} {a b : Ast} (ha : Agree (F := F) d cfg Ra qa a c) (hb : Agree (F := F) d cfg Rb qb b c)
    (hlib : ∀ ma va mb vb, Ra ma va → Rb mb vb → ∃ w, vkind w = k ∧
      callFn d cfg name fi c.node [.ok ma, .ok mb] none = .ok (emb w) ∧
      Spec.callFn d c name [va, vb] = .ok w) :
    Agree0 (F := F) d cfg (ExactK k) (.func name fi (.pcons qa (.pcons qb .pnil)))
      (.call name pfx (.acons a (.acons b .anil))) c := by
  obtain ⟨ma, va, ga, hea, hsa, hra⟩ := ha
  obtain ⟨mb, vb, gb, heb, hsb, hrb⟩ := hb
  obtain ⟨w, hk, h1, h2⟩ := hlib ma va mb vb hra hrb
  exact ⟨_, w, by rw [evalP_func2 d cfg name fi qa qb c.node hn, hea, heb, h1],
    StringFns.call_eval d c name pfx [a, b] [va, vb] (.cons ⟨ga, hsa⟩ (.cons ⟨gb, hsb⟩ .nil)) w h2,
    rfl, hk⟩

/-- a function without arguments that is a constant on both sides (`true()`, `false()`) -/
theorem agree0_const {name : String} (pfx : String) (fi : Plan) (t : Bool)
    (hM : callFn (F := F) d cfg name fi c.node [] none = .ok (.bool t))
    (hS : Spec.callFn (F := F) d c name [] = .ok (.bool t)) :
    Agree0 (F := F) d cfg (ExactK .bool) (.func name fi .pnil) (.call name pfx .anil) c :=
  ⟨_, .bool t, by rw [evalP_func0, hM]; rfl, StringFns.call_eval d c name pfx [] [] .nil _ hS, rfl, rfl⟩

/-- `not(e)`, `e` of any type -/
theorem Agree.not (pfx : String) (fi : Plan) {qa : Plan} {a : Ast}
    (ha : Agree (F := F) d cfg Truth qa a c) :
    Agree0 (F := F) d cfg (ExactK .bool) (.func "not" fi (.pcons qa .pnil))
      (.call "not" pfx (.acons a .anil)) c :=
  ha.call1 pfx fi rfl fun m v (h : Truth m v) => ⟨.bool (!Spec.toBool v), rfl,
    by rw [Model.callFn_not]; show (asBoolM m >>= _) = _; rw [h]; rfl, Spec.callFn_not d c v⟩

/-- `boolean(e)`, `e` of any type -/
theorem Agree.boolean (pfx : String) (fi : Plan) {qa : Plan} {a : Ast}
    (ha : Agree (F := F) d cfg Truth qa a c) :
    Agree0 (F := F) d cfg (ExactK .bool) (.func "boolean" fi (.pcons qa .pnil))
      (.call "boolean" pfx (.acons a .anil)) c :=
  ha.call1 pfx fi rfl fun m v (h : Truth m v) => ⟨.bool (Spec.toBool v), rfl,
    by rw [Model.callFn_boolean]; show (asBoolM m >>= _) = _; rw [h]; rfl, Spec.callFn_boolean d c v⟩

/-- `count(e)`: the length of the node list, which has to be the oracle's exactly (equal members
leave the repetitions open) -/
theorem Agree.count (pfx : String) (fi : Plan) {qa : Plan} {a : Ast}
    (ha : Agree (F := F) d cfg (ExactK .set) qa a c) :
    Agree0 (F := F) d cfg (ExactK .num) (.func "count" fi (.pcons qa .pnil))
      (.call "count" pfx (.acons a .anil)) c :=
  ha.call1 pfx fi rfl fun m v h => by
    obtain ⟨rfl, hk⟩ := h
    cases v <;> first | cases hk | skip
    exact ⟨_, rfl, by rw [Model.callFn_count]; rfl, Spec.callFn_count d c _⟩

/-- a numeric function of one argument (`floor`, `ceiling`, `number`): `f` of the argument's number -/
theorem Agree.numFn1 {name : String} (pfx : String) (fi : Plan) (f : F → F)
    (hn : (name == "name" || name == "local-name" || name == "namespace-uri") = false)
    (hM : ∀ (a : Except EErr (MVal F)), callFn d cfg name fi c.node [a] none =
      (do let v ← a; .ok (.num (f (asNumberM d v)))))
    (hS : ∀ v : Spec.Value F, Spec.callFn d c name [v] = .ok (.num (f (Spec.toNum d v))))
    {qa : Plan} {a : Ast} (ha : Agree (F := F) d cfg (NumConv d) qa a c) :
    Agree0 (F := F) d cfg (ExactK .num) (.func name fi (.pcons qa .pnil))
      (.call name pfx (.acons a .anil)) c :=
  ha.call1 pfx fi hn fun m v (h : NumConv d m v) => ⟨.num (f (Spec.toNum d v)), rfl,
    by rw [hM]; show Except.ok (MVal.num (f (asNumberM d m))) = _; rw [h]; rfl, hS v⟩

/-- **arithmetic** (`+ - * div`), operands of any type that `number()` converts alike on both sides,
with its value: the same `NumAlg` operation on the same two numbers -/
theorem Agree.arith_value {op : String} (hop : op ∈ ArithSem.arithOps) {ql qr : Plan} {a b : Ast}
    (ha : Agree (F := F) d cfg (NumConv d) ql a c) (hb : Agree (F := F) d cfg (NumConv d) qr b c) :
    ∃ f va vb ga gb, ArithSem.opFn (F := F) op = some f ∧
      Spec.eval (F := F) d a c = .ok (.val va ga) ∧ Spec.eval (F := F) d b c = .ok (.val vb gb) ∧
      evalP (F := F) d cfg (.numeric op ql qr) c.node =
        .ok (.num (f (Spec.toNum d va) (Spec.toNum d vb))) ∧
      Spec.eval (F := F) d (.oper op a b) c =
        .ok (.val (.num (f (Spec.toNum d va) (Spec.toNum d vb))) none) := by
  obtain ⟨ma, va, ga, hea, hsa, hra⟩ := ha
  obtain ⟨mb, vb, gb, heb, hsb, hrb⟩ := hb
  simp only [ArithSem.arithOps, List.mem_cons, List.not_mem_nil, or_false] at hop
  rcases hop with rfl | rfl | rfl | rfl <;> refine ⟨_, va, vb, ga, gb, rfl, hsa, hsb, ?_, ?_⟩
  all_goals first
    | (rw [evalP, hea, heb]
       simp only [bind, Except.bind, show asNumberM d ma = _ from hra, show asNumberM d mb = _ from hrb])
    | (rw [Spec.eval, hsa, hsb]; rfl)

theorem Agree.arith {op : String} (hop : op ∈ ArithSem.arithOps) {ql qr : Plan} {a b : Ast}
    (ha : Agree (F := F) d cfg (NumConv d) ql a c) (hb : Agree (F := F) d cfg (NumConv d) qr b c) :
    Agree0 (F := F) d cfg (ExactK .num) (.numeric op ql qr) (.oper op a b) c :=
  let ⟨_, _, _, _, _, _, _, _, h1, h2⟩ := ha.arith_value hop hb; ⟨_, .num _, h1, h2, rfl, rfl⟩

/-- `mod`, inside the oracle's domain (non-negative integral dividend, positive integral divisor) -/
theorem Agree.mod {ql qr : Plan} {a b : Ast}
    (ha : Agree (F := F) d cfg (NumConv d) ql a c) (hb : Agree (F := F) d cfg (NumConv d) qr b c)
    (hdom : ∀ va vb ga gb, Spec.eval (F := F) d a c = .ok (.val va ga) →
      Spec.eval (F := F) d b c = .ok (.val vb gb) →
      (Spec.modSpec (Spec.toNum d va) (Spec.toNum d vb)).isSome = true) :
    Agree0 (F := F) d cfg (ExactK .num) (.numeric "mod" ql qr) (.oper "mod" a b) c := by
  obtain ⟨ma, va, ga, hea, hsa, hra⟩ := ha
  obtain ⟨mb, vb, gb, heb, hsb, hrb⟩ := hb
  have hm := hdom va vb ga gb hsa hsb
  have hm' : Spec.modSpec (Spec.toNum d va) (Spec.toNum d vb) =
      some (fmod (Spec.toNum d va) (Spec.toNum d vb)) := by
    unfold Spec.modSpec at hm ⊢
    split at hm
    · split at hm
      · rename_i h1 h2 h3; rw [if_pos h3]
      · cases hm
    · cases hm
  refine ⟨_, .num (fmod (Spec.toNum d va) (Spec.toNum d vb)), ?_, ?_, rfl, rfl⟩
  · rw [evalP, hea, heb]
    simp only [bind, Except.bind, show asNumberM d ma = _ from hra, show asNumberM d mb = _ from hrb]
    rfl
  · simp [Spec.eval, hsa, hsb, hm', Spec.CmpOp.ofString, Spec.Res.value, bind, Except.bind]

end

end XPathV.Sem
