import XPathV.Lemmas.Sem.PredInput
/-!
# What `build` makes of an expression that is not a path: transport of any property

`processOperator`, `processFunction` and the group case build their operands and arguments with empty
flags, one after the other, and assemble plan and properties from those of the operands alone.
`BuiltF pin e P` says that every outcome of `build` on `e`, started with `predInput = pin`, has `P`;
`Built pin e P` the same for empty flags (how operands and arguments are built).  One lemma per
constructor of the parse tree passes from the operands to the node, for any `P`; `predInput` is
threaded by `build_predInput`, so `position()` and `last()` are two more leaves (`builtF_posFn`).
-/
namespace XPathV.Sem
open XPathV XPathV.Model

/-- the plan `processOperator` makes of the operands' plans -/
def operPlan (op : String) (lq rq : Plan) : Plan := (operOut op lq rq {}).1

/-- … and the properties, of the operands' joined properties -/
def operProps (op : String) (p : Props) : Props := (operOut op .nil .nil p).2

theorem operOut_fst (op : String) (lq rq : Plan) (p : Props) :
    (operOut op lq rq p).1 = operPlan op lq rq := by
  simp only [operPlan, operOut, apply_ite Prod.fst]

theorem operOut_snd (op : String) (lq rq : Plan) (p : Props) :
    (operOut op lq rq p).2 = operProps op p := by
  simp only [operProps, operOut, apply_ite Prod.snd]

theorem operPlan_cmp {op : String} (hop : op ∈ ["=", "!=", "<", "<=", ">", ">="]) (lq rq : Plan) :
    operPlan op lq rq = .logical op lq rq := by
  rw [operPlan, operOut_cmp hop]

theorem operPlan_arith {op : String} (hop : op ∈ ["+", "-", "*", "div", "mod"]) (lq rq : Plan) :
    operPlan op lq rq = .numeric op lq rq := by
  rw [operPlan, operOut_arith hop]

theorem operPlan_and (lq rq : Plan) : operPlan "and" lq rq = .boolean false lq rq := rfl
theorem operPlan_or (lq rq : Plan) : operPlan "or" lq rq = .boolean true lq rq := rfl
theorem operPlan_union (lq rq : Plan) : operPlan "|" lq rq = .union lq rq := rfl

/-- only `|` changes the properties (it makes the result non-flat) -/
theorem operProps_of_ne_union {op : String} (hop : op ≠ "|") (p : Props) : operProps op p = p := by
  simp only [operProps, operOut, apply_ite Prod.snd, beq_eq_false_iff_ne.2 hop, Bool.false_eq_true,
    ↓reduceIte, ite_self]

theorem operProps_union (p : Props) : operProps "|" p = { p with nonFlat := true } := rfl

section
variable (rx : RegexOk) (lim : Nat) (sn sd : Bool)

/-- every `build` of `e` that starts with `predInput = pin`, whatever the flags, returns an outcome
with `P` -/
def BuiltF (pin : Option Plan) (e : Ast) (P : BOut → Prop) : Prop :=
  ∀ fl st o, st.predInput = pin → build rx lim sn sd e fl st = .ok o → P o

/-- … with empty flags: how operands, arguments and the inside of parentheses are built -/
def Built (pin : Option Plan) (e : Ast) (P : BOut → Prop) : Prop :=
  ∀ st o, st.predInput = pin → build rx lim sn sd e {} st = .ok o → P o

variable {rx lim sn sd} {pin : Option Plan} {P Q R : BOut → Prop}

theorem BuiltF.built {e : Ast} (h : BuiltF rx lim sn sd pin e P) : Built rx lim sn sd pin e P :=
  fun st o hst hb => h {} st o hst hb

theorem BuiltF.imp {e : Ast} (h : BuiltF rx lim sn sd pin e P) (hPQ : ∀ o, P o → Q o) :
    BuiltF rx lim sn sd pin e Q := fun fl st o hst hb => hPQ o (h fl st o hst hb)

theorem Built.imp {e : Ast} (h : Built rx lim sn sd pin e P) (hPQ : ∀ o, P o → Q o) :
    Built rx lim sn sd pin e Q := fun st o hst hb => hPQ o (h st o hst hb)

theorem builtF_num {l : String} (h : ∀ o : BOut, o.q = .constNum l → o.props = {} → P o) :
    BuiltF rx lim sn sd pin (.num l) P := fun _ _ _ _ hb => by
  cases build_num_ok hb
  exact h _ rfl rfl

theorem builtF_str {s : String} (h : ∀ o : BOut, o.q = .constStr s → o.props = {} → P o) :
    BuiltF rx lim sn sd pin (.str s) P := fun _ _ _ _ hb => by
  cases build_str_ok hb
  exact h _ rfl rfl

theorem Built.group {x : Ast} (h : Built rx lim sn sd pin x P)
    (hg : ∀ xo o : BOut, P xo → o.q = .group xo.q → o.props = xo.props → Q o) :
    BuiltF rx lim sn sd pin (.group x) Q := fun _ st _ hst hb => by
  obtain ⟨xo, hxo, hq, hp, -⟩ := build_group_ok hb
  exact hg xo _ (h ⟨st.depth + 1, st.firstInput, st.predInput⟩ xo hst hxo) hq hp

/-- an operator node: the right operand is built from the state the left one leaves -/
theorem Built.oper {op : String} {l r : Ast} (hl : Built rx lim sn sd pin l P)
    (hr : Built rx lim sn sd pin r Q)
    (h : ∀ lo ro o : BOut, P lo → Q ro → o.q = operPlan op lo.q ro.q →
      o.props = operProps op (lo.props.or ro.props) → R o) :
    BuiltF rx lim sn sd pin (.oper op l r) R := fun _ st _ hst hb => by
  obtain ⟨lo, ro, hlo, hro, rfl⟩ := build_oper_ok hb
  exact h lo ro _ (hl ⟨st.depth + 1, st.firstInput, st.predInput⟩ lo hst hlo)
    (hr _ ro ((PosSem.build_predInput rx lim sn sd _ _ _ lo hlo).trans hst) hro)
    (operOut_fst op _ _ _) (operOut_snd op _ _ _)

/-- a call without arguments of an ordinary function -/
theorem builtF_call0 {name pfx : String} (hs : name ∉ ["reverse", "last", "position"])
    (hy : synthSelf name 0 = false)
    (h : ∀ o : BOut, o.q = .func name .nil .pnil → o.props = {} → P o) :
    BuiltF rx lim sn sd pin (.call name pfx .anil) P := fun _ _ _ _ hb => by
  simp only [List.mem_cons, List.not_mem_nil, or_false, not_or] at hs
  obtain ⟨hq, -, hp⟩ := build_call0_plain hs.1 hs.2.1 hs.2.2 hy hb
  exact h _ hq hp

/-- `position()` / `last()`: the call counts in `predInput` -/
theorem builtF_posFn {name pfx : String} (hn : name = "position" ∨ name = "last") {step : Plan}
    (h : ∀ o : BOut, o.q = .func name step .pnil → P o) :
    BuiltF rx lim sn sd (some step) (.call name pfx .anil) P := fun _ st _ hst hb => by
  have hq := (build_call0_ok (name := name) (by rcases hn with rfl | rfl <;> decide)
    (by rcases hn with rfl | rfl <;> rfl) hb).1
  have hpos : (name == "last" || name == "position") = true := by rcases hn with rfl | rfl <;> rfl
  rw [hpos, if_pos rfl] at hq
  have hin : st.positionInput = step := by simp only [BState.positionInput, hst]; rfl
  exact h _ (hin ▸ hq)

/-- a call with one argument of an ordinary function that reads it -/
theorem Built.call1 {name pfx : String} {a : Ast} (hU : fnUsed name 1 = 1)
    (hs : name ∉ ["reverse", "last", "position"]) (h : Built rx lim sn sd pin a P)
    (hc : ∀ ao o : BOut, P ao → o.q = .func name .nil (.pcons ao.q .pnil) → o.props = ao.props → Q o) :
    BuiltF rx lim sn sd pin (.call name pfx (.acons a .anil)) Q := fun _ st _ hst hb => by
  simp only [List.mem_cons, List.not_mem_nil, or_false, not_or] at hs
  obtain ⟨ao, hao, hq, hp, -⟩ := build_call1_ok hU hs.1 hs.2.1 hs.2.2 hb
  exact hc ao _ (h ⟨st.depth + 1, st.firstInput, st.predInput⟩ ao hst hao) hq hp

/-- a call with two arguments, both read: the properties are those of the last one -/
theorem Built.call2 {name pfx : String} {a b : Ast} (hU : fnUsed name 2 = 2)
    (hs : name ∉ ["reverse", "last", "position"]) (ha : Built rx lim sn sd pin a P)
    (hb : Built rx lim sn sd pin b Q)
    (hc : ∀ ao bo o : BOut, P ao → Q bo → o.q = .func name .nil (.pcons ao.q (.pcons bo.q .pnil)) →
      o.props = bo.props → R o) :
    BuiltF rx lim sn sd pin (.call name pfx (.acons a (.acons b .anil))) R := fun _ st _ hst hbd => by
  simp only [List.mem_cons, List.not_mem_nil, or_false, not_or] at hs
  obtain ⟨ao, bo, hao, hbo, hq, hp, -⟩ := build_call2_ok hU hs.1 hs.2.1 hs.2.2 hbd
  exact hc ao bo _ (ha ⟨st.depth + 1, st.firstInput, st.predInput⟩ ao hst hao)
    (hb _ bo ((PosSem.build_predInput rx lim sn sd _ _ _ ao hao).trans hst) hbo) hq hp

end

end XPathV.Sem
