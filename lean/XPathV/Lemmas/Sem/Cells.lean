import XPathV.Lemmas.C07Base
import XPathV.Lemmas.C08Base
/-!
# The comparison matrix as one statement, and the relation it is stated over

`VRel m v`: the model value `m` represents the oracle value `v` — equal atoms, node lists with the same
members.  On related operands the engine's dispatch `cmpM` is XPath's `compare`, for every pair of the
four value types and all six operators (`cmpM_emb_cell`, `cmpM_vrel`); `boolean()` agrees too
(`asBool_vrel`).  Nothing here knows about plans or paths.
-/
namespace XPathV.CmpSem
open XPathV XPathV.Model NumAlg
open XPathV.Theorems.C08 (emb)

variable {F : Type} [NumAlg F]

/-! ## the cells with a boolean operand; the string cells at `=` and `!=` -/

/-! The cells with a string operand and the node-set/node-set cell hold for **all six** operators
(`Theorems.C07.cell_strStr`, `cell_strNum`, `cell_numStr`, `cell_setStr`, `cell_strSet`,
`cell_setSet` in `Lemmas/C07Base.lean`); the `_eq` / `_ne` statements below are their instances at
`=` and `!=`, the two operators on which the engine agreed with XPath before `cmpStringStringF` and
`cmpNodeSetString` were repaired (strings compared lexically, operands handed over in reverse). -/

/-- node-set vs string, `=` -/
theorem cell_setStr_eq (d : Doc) (l : List Ref) (s : String) :
    cmpM (F := F) d .eq (.nodes l) (.str s) = .ok (Spec.compare (F := F) d .eq (.nodes l) (.str s)) :=
  Theorems.C07.cell_setStr d .eq l s

/-- node-set vs string, `!=` -/
theorem cell_setStr_ne (d : Doc) (l : List Ref) (s : String) :
    cmpM (F := F) d .ne (.nodes l) (.str s) = .ok (Spec.compare (F := F) d .ne (.nodes l) (.str s)) :=
  Theorems.C07.cell_setStr d .ne l s

/-- string vs node-set, `=` -/
theorem cell_strSet_eq (d : Doc) (s : String) (l : List Ref) :
    cmpM (F := F) d .eq (.str s) (.nodes l) = .ok (Spec.compare (F := F) d .eq (.str s) (.nodes l)) :=
  Theorems.C07.cell_strSet d .eq s l

/-- string vs node-set, `!=` -/
theorem cell_strSet_ne (d : Doc) (s : String) (l : List Ref) :
    cmpM (F := F) d .ne (.str s) (.nodes l) = .ok (Spec.compare (F := F) d .ne (.str s) (.nodes l)) :=
  Theorems.C07.cell_strSet d .ne s l

/-- the model's truth conversion on an embedded oracle value is `boolean()` -/
theorem asBool_emb (v : Spec.Value F) : asBoolM (emb v) = .ok (Spec.toBool v) := by
  cases v <;> rfl

/-- **boolean vs anything, all six operators** (after the repair of `cmpBooleanAny`): for `=` and
`!=` the other operand is converted with `boolean()`; for the relational operators both operands
are numbers — `0`/`1` for the boolean, the number itself, `number()` of a string, `0`/`1` of
`boolean()` of a node-set.  (Before the repair the relational operators converted the other operand
with `boolean()` as well: `true() < 2` was false.) -/
theorem cell_boolAny (d : Doc) (op : Spec.CmpOp) (a : Bool) (v : Spec.Value F) :
    cmpM d op (.bool a) (emb v) = .ok (Spec.compare d op (.bool a) v) := by
  cases v <;> cases op <;> rfl

/-- **anything vs boolean, all six operators** (after the repair of `cmpAnyBoolean`) -/
theorem cell_anyBool (d : Doc) (op : Spec.CmpOp) (v : Spec.Value F) (b : Bool) :
    cmpM d op (emb v) (.bool b) = .ok (Spec.compare d op v (.bool b)) := by
  cases v <;> cases op <;> rfl

/-- boolean vs anything, `=`: the other operand is converted with `boolean()` -/
theorem cell_boolAny_eq (d : Doc) (a : Bool) (v : Spec.Value F) :
    cmpM d .eq (.bool a) (emb v) = .ok (Spec.compare d .eq (.bool a) v) := cell_boolAny d .eq a v

/-- boolean vs anything, `!=` -/
theorem cell_boolAny_ne (d : Doc) (a : Bool) (v : Spec.Value F) :
    cmpM d .ne (.bool a) (emb v) = .ok (Spec.compare d .ne (.bool a) v) := cell_boolAny d .ne a v

/-- anything vs boolean, `=` -/
theorem cell_anyBool_eq (d : Doc) (v : Spec.Value F) (b : Bool) :
    cmpM d .eq (emb v) (.bool b) = .ok (Spec.compare d .eq v (.bool b)) := cell_anyBool d .eq v b

/-- anything vs boolean, `!=` -/
theorem cell_anyBool_ne (d : Doc) (v : Spec.Value F) (b : Bool) :
    cmpM d .ne (emb v) (.bool b) = .ok (Spec.compare d .ne v (.bool b)) := cell_anyBool d .ne v b

/-- boolean vs boolean, all six operators (relational ones on 0/1) -/
theorem cell_boolBool (d : Doc) (op : Spec.CmpOp) (a b : Bool) :
    cmpM (F := F) d op (.bool a) (.bool b) = .ok (Spec.compare (F := F) d op (.bool a) (.bool b)) :=
  cell_boolAny d op a (.bool b)

/-- boolean vs node-set, all six operators: the node-set is converted with `boolean()` first -/
theorem cell_boolSet (d : Doc) (op : Spec.CmpOp) (a : Bool) (l : List Ref) :
    cmpM (F := F) d op (.bool a) (.nodes l) = .ok (Spec.compare (F := F) d op (.bool a) (.nodes l)) :=
  cell_boolAny d op a (.nodes l)

/-- node-set vs boolean, all six operators -/
theorem cell_setBool (d : Doc) (op : Spec.CmpOp) (l : List Ref) (b : Bool) :
    cmpM (F := F) d op (.nodes l) (.bool b) = .ok (Spec.compare (F := F) d op (.nodes l) (.bool b)) :=
  cell_anyBool d op (.nodes l) b

/-! ## the cells only depend on the *set* of nodes -/

theorem any_congr_mem {α : Type} (l1 l2 : List α) (f : α → Bool) (h : ∀ x, x ∈ l1 ↔ x ∈ l2) :
    l1.any f = l2.any f := by
  rw [Bool.eq_iff_iff, List.any_eq_true, List.any_eq_true]
  constructor
  · rintro ⟨x, hx, hf⟩; exact ⟨x, (h x).1 hx, hf⟩
  · rintro ⟨x, hx, hf⟩; exact ⟨x, (h x).2 hx, hf⟩

theorem isEmpty_congr_mem {α : Type} (l1 l2 : List α) (h : ∀ x, x ∈ l1 ↔ x ∈ l2) :
    l1.isEmpty = l2.isEmpty := by
  cases l1 with
  | nil =>
    cases l2 with
    | nil => rfl
    | cons y t => exact absurd ((h y).2 (List.mem_cons_self)) (List.not_mem_nil)
  | cons x t =>
    cases l2 with
    | nil => exact absurd ((h x).1 (List.mem_cons_self)) (List.not_mem_nil)
    | cons y t' => rfl

theorem compare_congr_left (d : Doc) (op : Spec.CmpOp) (l ns : List Ref) (h : ∀ x, x ∈ l ↔ x ∈ ns)
    (vb : Spec.Value F) :
    Spec.compare d op (.nodes l) vb = Spec.compare d op (.nodes ns) vb := by
  cases vb with
  | nodes lb => simp only [Spec.compare]; exact any_congr_mem _ _ _ h
  | bool b => simp only [Spec.compare, Spec.toBool, isEmpty_congr_mem _ _ h]
  | num y => simp only [Spec.compare]; exact any_congr_mem _ _ _ h
  | str s => simp only [Spec.compare]; exact any_congr_mem _ _ _ h

theorem compare_congr_right (d : Doc) (op : Spec.CmpOp) (l ns : List Ref) (h : ∀ x, x ∈ l ↔ x ∈ ns)
    (va : Spec.Value F) :
    Spec.compare d op va (.nodes l) = Spec.compare d op va (.nodes ns) := by
  cases va with
  | nodes la =>
    simp only [Spec.compare]
    congr 1; funext x; exact any_congr_mem _ _ _ h
  | bool b => simp only [Spec.compare, Spec.toBool, isEmpty_congr_mem _ _ h]
  | num y => simp only [Spec.compare]; exact any_congr_mem _ _ _ h
  | str s => simp only [Spec.compare]; exact any_congr_mem _ _ _ h

/-! ## value kinds, the relation between a model value and an oracle value -/

inductive Kind | num | str | set | bool
  deriving DecidableEq, Repr

def vkind : Spec.Value F → Kind
  | .nodes _ => .set
  | .bool _ => .bool
  | .num _ => .num
  | .str _ => .str

/-- a model value represents an oracle value: equal atoms, node lists with the same members -/
def VRel : MVal F → Spec.Value F → Prop
  | .nodes l, .nodes ns => ∀ x, x ∈ l ↔ x ∈ ns
  | .bool a, .bool b => a = b
  | .num a, .num b => a = b
  | .str a, .str b => a = b
  | _, _ => False

omit [NumAlg F] in
theorem vrel_emb_self (v : Spec.Value F) : VRel (emb v) v := by
  cases v <;> simp [emb, VRel]

/-- a related model value is the embedding of an oracle value of the same kind that no comparison
and no truth conversion can tell from the given one -/
theorem vrel_emb (d : Doc) (m : MVal F) (v : Spec.Value F) (h : VRel m v) :
    ∃ v', m = emb v' ∧ vkind v' = vkind v ∧
      (∀ op w, Spec.compare d op v' w = Spec.compare d op v w) ∧
      (∀ op w, Spec.compare d op w v' = Spec.compare d op w v) ∧
      Spec.toBool v' = Spec.toBool v := by
  cases v with
  | nodes ns =>
    cases m <;> simp only [VRel] at h
    rename_i l
    exact ⟨.nodes l, rfl, rfl, fun op w => compare_congr_left d op l ns h w,
      fun op w => compare_congr_right d op l ns h w, by simp only [Spec.toBool, isEmpty_congr_mem _ _ h]⟩
  | bool b =>
    cases m <;> simp only [VRel] at h
    subst h; exact ⟨_, rfl, rfl, fun _ _ => rfl, fun _ _ => rfl, rfl⟩
  | num x =>
    cases m <;> simp only [VRel] at h
    subst h; exact ⟨_, rfl, rfl, fun _ _ => rfl, fun _ _ => rfl, rfl⟩
  | str s =>
    cases m <;> simp only [VRel] at h
    subst h; exact ⟨_, rfl, rfl, fun _ _ => rfl, fun _ _ => rfl, rfl⟩

theorem asBool_vrel (m : MVal F) (v : Spec.Value F) (h : VRel m v) :
    asBoolM m = .ok (Spec.toBool v) := by
  obtain ⟨v', rfl, _, _, _, ht⟩ := vrel_emb [] m v h
  rw [asBool_emb, ht]

omit [NumAlg F] in
theorem vrel_bool (m : MVal F) (v : Spec.Value F) (h : VRel m v) (hk : vkind v = .bool) :
    ∃ t, m = .bool t ∧ v = .bool t := by
  cases v <;> simp only [vkind, reduceCtorEq] at hk
  cases m <;> simp only [VRel] at h
  subst h; exact ⟨_, rfl, rfl⟩

open XPathV.Theorems.C07 in
/-- **all the cells in one statement, no exception**: on every pair of value types and for all six
operators the model's comparison of two embedded oracle values is XPath's `compare`.  (Before the
repairs of `cmpStringStringF`, `cmpNodeSetString`, `cmpStringNumeric`, `cmpBooleanAny` and
`cmpAnyBoolean` the engine differed from XPath on string/number and on the relational operators on two
strings, on a node-set with a string or a node-set, and on a boolean with a number or a string.) -/
theorem cmpM_emb_cell (d : Doc) (cop : Spec.CmpOp) (va vb : Spec.Value F) :
    cmpM d cop (emb va) (emb vb) = .ok (Spec.compare d cop va vb) := by
  cases va with
  | bool a => exact cell_boolAny d cop a vb
  | nodes la =>
    cases vb with
    | nodes lb => exact cell_setSet d _ _ _
    | bool b => exact cell_setBool d _ _ _
    | num y => exact cell_setNum d _ _ _
    | str s => exact cell_setStr d _ _ _
  | num x =>
    cases vb with
    | nodes lb => exact cell_numSet d _ _ _
    | bool b => exact cell_anyBool d cop (.num x) b
    | num y => exact cell_numNum d _ _ _
    | str s => exact cell_numStr d _ _ _
  | str x =>
    cases vb with
    | nodes lb => exact cell_strSet d _ _ _
    | bool b => exact cell_anyBool d cop (.str x) b
    | num y => exact cell_strNum d _ _ _
    | str s => exact cell_strStr d _ _ _

/-- the comparison of two model values that represent oracle values is the oracle's comparison —
every pair of types, all six operators -/
theorem cmpM_vrel (d : Doc) (cop : Spec.CmpOp) (m n : MVal F) (va vb : Spec.Value F)
    (hm : VRel m va) (hn : VRel n vb) :
    cmpM d cop m n = .ok (Spec.compare d cop va vb) := by
  obtain ⟨va', rfl, _, hal, _, _⟩ := vrel_emb d m va hm
  obtain ⟨vb', rfl, _, _, hbr, _⟩ := vrel_emb d n vb hn
  rw [cmpM_emb_cell d cop va' vb', hal, hbr]

end XPathV.CmpSem
