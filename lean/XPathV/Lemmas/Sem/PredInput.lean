import XPathV.Lemmas.BuildInv
/-!
# `predInput` through the builder

While it builds the condition of a predicate the builder keeps the step the predicate filters in
`BState.predInput`; `position()` and `last()` take it (`BState.positionInput`).  Every step
overwrites `firstInput`, none touches `predInput`, and `processFilter` restores the outer value after
the condition: `build_predInput` (handed back unchanged), `build_posBound` (a plan built while
`predInput = some t` is `posBound t`).
-/
namespace XPathV.PosSem
open XPathV XPathV.Model

/-- every `position()` / `last()` call of the plan that is not inside the condition of a (nested)
filter counts in `t` (a nested filter's condition counts in that filter's own step) -/
def posBound (t : Plan) : Plan → Bool
  | .nil | .context | .absolute | .pnil | .constStr _ | .constNum _ => true
  | .ancestor _ _ i | .attr _ i | .child _ i | .cachedChild _ i | .descendant _ _ i
  | .following _ _ i | .preceding _ _ i | .parent _ i | .self _ i | .group i | .transform _ i
  | .descOverDesc _ _ i => posBound t i
  | .filter i _ => posBound t i
  | .func n fi args => (if n == "last" || n == "position" then fi == t else true) && posBound t args
  | .pcons h tl => posBound t h && posBound t tl
  | .logical _ l r | .numeric _ l r | .boolean _ l r | .union l r => posBound t l && posBound t r
  | .lastFunc i => i == t
  | .merge i c => posBound t i && posBound t c

theorem posBound_inputOf {q p : Plan} (t : Plan) (h : q.inputOf = some p) : posBound t q = posBound t p := by
  cases q <;> cases h <;> rfl

theorem posBound_withInput (t q n : Plan) (hq : posBound t q = true) (hn : posBound t n = true) :
    posBound t (q.withInput n) = true := by
  cases q <;> first | exact hn | exact hq

theorem posBound_arg0 (t q : Plan) (hq : posBound t q = true) :
    posBound t (q.argList.getD 0 .nil) = true := by
  cases q with
  | pcons h tl => exact (Bool.and_eq_true_iff.1 hq).1
  | _ => rfl

section
variable {rx : RegexOk} {lim : Nat} {sn sd : Bool}

/-- the invariant of one `build` call: `predInput` is handed back as it was, and the plan counts in
it -/
def Bound (st : BState) (o : BOut) : Prop :=
  o.st.predInput = st.predInput ∧ ∀ t, st.predInput = some t → posBound t o.q = true

theorem finAxis_bound {q : Plan} {props : Props} {st' st : BState} {o : BOut}
    (h : build.finAxis q props st' = .ok o) (hst : st'.predInput = st.predInput)
    (hq : ∀ t, st.predInput = some t → posBound t q = true) : Bound st o := by
  cases finAxis_ok h
  exact ⟨hst, hq⟩

theorem axisPlan_bound {a : AxisInfo} {fl : Flags} {props props' : Props} {inp q : Plan} (t : Plan)
    (h : axisPlan a fl props inp = .ok (q, props')) (hinp : posBound t inp = true) :
    posBound t q = true := by
  obtain ⟨ha, rfl, -⟩ := axisPlan_eq h
  rwa [posBound_inputOf t (builtStep_plan ha fl props inp).2.1]

theorem fst_ite {t : Plan} {c : Prop} [Decidable c] {x y : Plan × Props}
    (hx : posBound t x.1 = true) (hy : posBound t y.1 = true) :
    posBound t (if c then x else y).1 = true := by
  split
  · exact hx
  · exact hy

theorem operOut_bound (t : Plan) (op : String) (l r : Plan) (p : Props)
    (hl : posBound t l = true) (hr : posBound t r = true) : posBound t (operOut op l r p).1 = true := by
  have h2 : (posBound t l && posBound t r) = true := by rw [hl, hr]; rfl
  exact fst_ite h2 (fst_ite h2 (fst_ite h2 (fst_ite h2 (fst_ite h2 rfl))))

/-- the plan of a call counts in `t` when its arguments do and `position()` / `last()` read `t` -/
theorem callPlan_bound (t : Plan) (name : String) (n : Nat) (ao : BOut)
    (hq : posBound t ao.q = true) (hst : ao.st.predInput = some t) :
    posBound t (callPlan name n ao) = true := by
  unfold callPlan
  extract_lets argsQ
  have hargs : posBound t argsQ = true := by
    show posBound t (if _ then _ else _) = true
    split
    · rfl
    · exact hq
  clear_value argsQ
  split
  · exact posBound_arg0 t _ hargs
  · simp only [posBound, hargs, Bool.and_true]
    split
    · simp [BState.positionInput, hst]
    · rfl

/-- **`predInput` is threaded, and what is built under it is bound to it** (the second half of the
statement carries the induction through the `//name` shortcut, which builds the input of the input) -/
theorem build_bound (ast : Ast) :
    (∀ fl st o, build rx lim sn sd ast fl st = .ok o → Bound st o) ∧
    (∀ b g, ast = .axis b g → ∀ fl st o, build rx lim sn sd g fl st = .ok o → Bound st o) := by
  induction ast with
  | none =>
    refine ⟨fun fl st o h => ?_, fun _ _ e => by cases e⟩
    rw [build_none_error] at h; cases h
  | root s =>
    refine ⟨fun fl st o h => ?_, fun _ _ e => by cases e⟩
    cases build_root_ok h; exact ⟨rfl, fun _ _ => rfl⟩
  | str s =>
    refine ⟨fun fl st o h => ?_, fun _ _ e => by cases e⟩
    cases build_str_ok h; exact ⟨rfl, fun _ _ => rfl⟩
  | num l =>
    refine ⟨fun fl st o h => ?_, fun _ _ e => by cases e⟩
    cases build_num_ok h; exact ⟨rfl, fun _ _ => rfl⟩
  | var pfx name =>
    refine ⟨fun fl st o h => ?_, fun _ _ e => by cases e⟩
    rw [build] at h; cases Model.enter_ok h
  | anil =>
    refine ⟨fun fl st o h => ?_, fun _ _ e => by cases e⟩
    cases build_anil_ok h; exact ⟨rfl, fun _ _ => rfl⟩
  | acons hd tl ihh iht =>
    refine ⟨fun fl st o h => ?_, fun _ _ e => by cases e⟩
    rw [build] at h
    split at h
    · cases h; exact ⟨rfl, fun _ _ => rfl⟩
    · obtain ⟨ho, hho, h⟩ := Model.bind_ok h
      obtain ⟨to, hto, h⟩ := Model.bind_ok h
      cases h
      obtain ⟨h1, h2⟩ := ihh.1 _ _ _ hho
      obtain ⟨h3, h4⟩ := iht.1 _ _ _ hto
      refine ⟨h3.trans h1, fun t ht => ?_⟩
      show (posBound t ho.q && posBound t to.q) = true
      rw [h2 t ht, h4 t (h1.trans ht)]; rfl
  | group x ih =>
    refine ⟨fun fl st o h => ?_, fun _ _ e => by cases e⟩
    obtain ⟨xo, hxo, hq, _, hst⟩ := build_group_ok h
    obtain ⟨h1, h2⟩ := ih.1 _ _ _ hxo
    unfold Bound
    rw [hq, hst]
    exact ⟨h1, h2⟩
  | oper op l r ihl ihr =>
    refine ⟨fun fl st o h => ?_, fun _ _ e => by cases e⟩
    obtain ⟨lo, ro, hlo, hro, rfl⟩ := build_oper_ok h
    obtain ⟨h1, h2⟩ := ihl.1 _ _ _ hlo
    obtain ⟨h3, h4⟩ := ihr.1 _ _ _ hro
    exact ⟨h3.trans h1, fun t ht => operOut_bound t op _ _ _ (h2 t ht) (h4 t (h1.trans ht))⟩
  | call name pfx args ih =>
    refine ⟨fun fl st o h => ?_, fun _ _ e => by cases e⟩
    obtain ⟨_, _, _, ao, _, _, hao, hq, hst, _⟩ := build_call_ok h
    obtain ⟨h1, h2⟩ := ih.1 _ _ _ hao
    unfold Bound
    rw [hq, hst]
    refine ⟨?_, fun t ht => callPlan_bound t name _ ao (h2 t ht) (h1.trans ht)⟩
    unfold callState
    split <;> exact h1
  | axis a inp ih =>
    obtain ⟨ihi, ihg⟩ := ih
    refine ⟨fun fl st o h => ?_, fun b g e => by cases e; exact ihi⟩
    rcases build_axis_ok h with ⟨b, grand, gq, gprops, st', rfl, _, _, _, hg, hfin⟩ |
      ⟨qin, pin, q, props, st', hin, hq, hfin⟩
    · -- the `//name` shortcut: a descendant step over the plan of the grand-input
      have hb : Bound st ⟨gq, gprops, st'⟩ := by
        rcases hg with ⟨_, rfl, _, rfl⟩ | ⟨_, go, hgo, rfl, _, rfl⟩
        · exact ⟨rfl, fun _ _ => rfl⟩
        · have hg := ihg b grand rfl _ _ _ hgo
          exact ⟨hg.1, hg.2⟩
      exact finAxis_bound hfin hb.1 hb.2
    · have hb : Bound st ⟨qin, pin, st'⟩ := by
        rcases hin with ⟨_, rfl, _, rfl⟩ | ⟨_, io, hio, rfl, _, rfl, _⟩
        · exact ⟨rfl, fun _ _ => rfl⟩
        · have hi := ihi _ _ _ hio
          exact ⟨hi.1, hi.2⟩
      exact finAxis_bound hfin hb.1 fun t ht => axisPlan_bound t hq (hb.2 t ht)
  | filter inp cond ihi _ =>
    refine ⟨fun fl st o h => ?_, fun _ _ e => by cases e⟩
    obtain ⟨io, co, _, hio, _, _, hq, _, hst⟩ := build_filter_ok h
    obtain ⟨h1, h2⟩ := ihi.1 _ _ _ hio
    unfold Bound
    rw [hst]
    refine ⟨h1, fun t ht => ?_⟩
    rcases hq with e | ⟨_, parent, hpar, e⟩ <;> rw [e]
    · exact h2 t ht
    · show (posBound t parent && posBound t (io.q.withInput .context)) = true
      rw [← posBound_inputOf t hpar, h2 t ht, posBound_withInput t _ _ (h2 t ht) rfl]; rfl

end

section
variable (regexOk : RegexOk) (limit : Nat) (snt sdf : Bool)

/-- **`predInput` is handed back unchanged** by every successful `build` (`processFilter` restores
the outer value after the condition) -/
theorem build_predInput (ast : Ast) (fl : Flags) (st : BState) (o : BOut)
    (h : build regexOk limit snt sdf ast fl st = .ok o) : o.st.predInput = st.predInput :=
  ((build_bound ast).1 fl st o h).1

/-- **what is built while `predInput = some t` counts in `t`**: every `position()` / `last()` call
of the plan outside the conditions of nested filters has `firstInput = t` — whatever location steps
the builder went through before reaching the call -/
theorem build_posBound (ast : Ast) (fl : Flags) (st : BState) (o : BOut) (t : Plan)
    (hst : st.predInput = some t) (h : build regexOk limit snt sdf ast fl st = .ok o) :
    posBound t o.q = true :=
  ((build_bound ast).1 fl st o h).2 t hst

end

end XPathV.PosSem
