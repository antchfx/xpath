/-!
# The rendering of the node key is uniquely decodable

String-level facts behind `getNodeKey`: a decimal number followed by a separator, a length-prefixed
part (`writeKeyPart`), and a chain of `-<n>` items can each be read back from the front of a string.
-/
namespace XPathV.KeyRender

/-! ## Equal-size prefixes -/

theorem append_inj_of_size {a b x y : String} (h : a ++ x = b ++ y)
    (hs : a.utf8ByteSize = b.utf8ByteSize) : a = b ∧ x = y := by
  have h' := congrArg String.toByteArray h
  rw [String.toByteArray_append, String.toByteArray_append] at h'
  have h'' := congrArg ByteArray.data h'
  rw [ByteArray.data_append, ByteArray.data_append] at h''
  have := Array.append_inj h'' (by
    have e1 : a.toByteArray.data.size = a.utf8ByteSize := rfl
    have e2 : b.toByteArray.data.size = b.utf8ByteSize := rfl
    rw [e1, e2, hs])
  refine ⟨String.toByteArray_inj.1 ?_, String.toByteArray_inj.1 ?_⟩
  · cases ha : a.toByteArray; cases hb : b.toByteArray
    rw [ha, hb] at this; simpa using this.1
  · cases ha : x.toByteArray; cases hb : y.toByteArray
    rw [ha, hb] at this; simpa using this.2

/-! ## Lists: a block free of a separator, followed by nothing or the separator -/

/-- a rest that is empty or starts with the separator does not start with anything else -/
theorem sep_head {α : Type} {c y : α} {r l : List α} (hr : r = [] ∨ ∃ t, r = c :: t) (hy : y ≠ c) :
    r ≠ y :: l := by
  rcases hr with rfl | ⟨t, rfl⟩
  · exact fun h => nomatch h
  · exact fun h => hy (List.cons.inj h).1.symm

theorem split_at_sep {α : Type} (c : α) :
    ∀ (l₁ l₂ r₁ r₂ : List α), (∀ x ∈ l₁, x ≠ c) → (∀ x ∈ l₂, x ≠ c) →
      (r₁ = [] ∨ ∃ t, r₁ = c :: t) → (r₂ = [] ∨ ∃ t, r₂ = c :: t) →
      l₁ ++ r₁ = l₂ ++ r₂ → l₁ = l₂ ∧ r₁ = r₂
  | [], [], _, _, _, _, _, _, h => ⟨rfl, h⟩
  | [], y :: l₂, _, _, _, h2, hr1, _, h => absurd h (sep_head hr1 (h2 y List.mem_cons_self))
  | x :: l₁, [], _, _, h1, _, _, hr2, h => absurd h.symm (sep_head hr2 (h1 x List.mem_cons_self))
  | x :: l₁, y :: l₂, r₁, r₂, h1, h2, hr1, hr2, h => by
    simp only [List.cons_append, List.cons.injEq] at h
    have := split_at_sep c l₁ l₂ r₁ r₂ (fun z hz => h1 z (List.mem_cons_of_mem _ hz))
      (fun z hz => h2 z (List.mem_cons_of_mem _ hz)) hr1 hr2 h.2
    exact ⟨by rw [h.1, this.1], this.2⟩

/-! ## Decimal numbers -/

theorem toDigits_inj {m n : Nat} (h : Nat.toDigits 10 m = Nat.toDigits 10 n) : m = n := by
  have := congrArg (fun l => Nat.ofDigitChars 10 l 0) h
  simpa [Nat.ofDigitChars_ten_toDigits] using this

theorem toString_nat_toList (n : Nat) : (toString n).toList = Nat.toDigits 10 n := by
  rw [Nat.toString_eq_repr, Nat.toList_repr]

theorem toString_nat_inj {m n : Nat} (h : toString m = toString n) : m = n := by
  apply toDigits_inj
  rw [← toString_nat_toList, ← toString_nat_toList, h]

theorem digit_ne_of_not_isDigit (c : Char) (hc : c.isDigit = false) (n : Nat) :
    ∀ x ∈ (toString n).toList, x ≠ c := by
  intro x hx e
  rw [toString_nat_toList] at hx
  have := Nat.isDigit_of_mem_toDigits (by decide) (by decide) hx
  rw [e, hc] at this
  exact absurd this (by decide)

/-- `toString m ++ c ++ x = toString n ++ c ++ y` for a non-digit `c` -/
theorem num_sep_inj (c : Char) (hc : c.isDigit = false) {m n : Nat} {x y : String}
    (h : toString m ++ (String.singleton c ++ x) = toString n ++ (String.singleton c ++ y)) :
    m = n ∧ x = y := by
  have h' := congrArg String.toList h
  simp only [String.toList_append, String.toList_singleton] at h'
  have := split_at_sep c _ _ _ _ (digit_ne_of_not_isDigit c hc m) (digit_ne_of_not_isDigit c hc n)
    (Or.inr ⟨_, rfl⟩) (Or.inr ⟨_, rfl⟩) h'
  refine ⟨toString_nat_inj (String.toList_inj.1 this.1), ?_⟩
  have h2 := this.2
  simp only [List.cons.injEq, true_and] at h2
  exact String.toList_inj.1 h2

/-! ## `writeKeyPart` -/

/-- `writeKeyPart`: the string preceded by its byte length (same as `Model.keyPart`) -/
def part (s : String) : String := toString s.utf8ByteSize ++ ":" ++ s

theorem part_inj {a b x y : String} (h : part a ++ x = part b ++ y) : a = b ∧ x = y := by
  unfold part at h
  have e : (":" : String) = String.singleton ':' := by decide
  rw [String.append_assoc, String.append_assoc, String.append_assoc, String.append_assoc, e] at h
  have h1 := num_sep_inj ':' (by decide) h
  exact append_inj_of_size h1.2 h1.1

/-! ## The index chain -/

def chainR : List Nat → String
  | [] => ""
  | n :: l => "-" ++ (toString n ++ chainR l)

theorem foldl_chain (l : List Nat) (init : String) :
    l.foldl (fun s n => s ++ "-" ++ toString n) init = init ++ chainR l := by
  induction l generalizing init with
  | nil => simp [chainR]
  | cons n l ih =>
    simp only [List.foldl_cons, chainR]
    rw [ih]
    simp only [String.append_assoc]

theorem chainR_head (l : List Nat) : (chainR l).toList = [] ∨ ∃ t, (chainR l).toList = '-' :: t := by
  cases l with
  | nil => left; simp [chainR]
  | cons n l =>
    right
    have e : ("-" : String) = String.singleton '-' := by decide
    exact ⟨_, by simp only [chainR, e, String.toList_append, String.toList_singleton]; rfl⟩

theorem chainR_cons_ne (n : Nat) (l : List Nat) : chainR (n :: l) ≠ chainR [] := by
  intro h
  have := congrArg String.utf8ByteSize h
  have e : ("-" : String).utf8ByteSize = 1 := by decide
  simp only [chainR, String.utf8ByteSize_append, e, String.utf8ByteSize_empty] at this
  omega

theorem chainR_inj : ∀ (l₁ l₂ : List Nat), chainR l₁ = chainR l₂ → l₁ = l₂
  | [], [], _ => rfl
  | [], n :: l, h => absurd h.symm (chainR_cons_ne n l)
  | n :: l, [], h => absurd h (chainR_cons_ne n l)
  | m :: l₁, n :: l₂, h => by
    simp only [chainR] at h
    have h1 := (append_inj_of_size h rfl).2
    have h' := congrArg String.toList h1
    simp only [String.toList_append] at h'
    have := split_at_sep '-' _ _ _ _ (digit_ne_of_not_isDigit '-' (by decide) m)
      (digit_ne_of_not_isDigit '-' (by decide) n) (chainR_head l₁) (chainR_head l₂) h'
    rw [toString_nat_inj (String.toList_inj.1 this.1), chainR_inj l₁ l₂ (String.toList_inj.1 this.2)]

end XPathV.KeyRender
