import XPathV.Lemmas.StringFns.Basic
import XPathV.Lemmas.StringFns.Nested
/-!
# C09 — string functions: the model's function library against the XPath 1.0 oracle

* `StringFns/Basic`  — `Agrees (Model.callFn …) (Spec.callFn …)` for the string tests, `string` and `concat` over
  string-like values (the other functions: `Theorems.C09.C09_each_function`),
  `normalizeSpace_spec` (Go `unicode.IsSpace`/`TrimSpace` loop = XML-whitespace normalisation on
  strings where the two whitespace classes coincide), `nodeset_arg_is_first` (+ the oracle-side
  `spec_nodeset_arg_is_first`); after the repair of
  `contains`/`starts-with`/`ends-with` (second argument read like the first): `nodeset_arg_is_second`,
  `spec_nodeset_arg_is_second`, `fn_strtest_strlike_spec` (a string or a node-set in EITHER position:
  engine = oracle = the test on the two string-values)
* `StringFns/Nested` — nested string expressions: the fragment `StrEP` parametric in its leaves with
  the induction `strEP_good` / `strEP_sem` (model value = oracle value through `build`, to any depth),
  its instance `StrE` with literal leaves only (`strE_sem`), `strE_builds`
  (`build` succeeds when the depth limit suffices: the statements are not vacuous)
-/
namespace XPathV.StringFns
open XPathV XPathV.Model

/-- non-vacuity: `concat(substring-before('a b', ' '), normalize-space(' x  y '), lower-case(string('Q')))`
(as the parser produces it) is in the fragment -/
example : StrE (.call "concat" "" (Ast.ofArgList
    [.call "substring-before" "" (.acons (.str "a b") (.acons (.str " ") .anil)),
     .call "normalize-space" "" (.acons (.str " x  y ") .anil),
     .call "lower-case" "" (.acons (.call "string" "" (.acons (.str "Q") .anil)) .anil)])) := by
  refine .concat "" _ (by decide) ?_
  intro a ha
  simp only [List.mem_cons, List.not_mem_nil, or_false] at ha
  rcases ha with rfl | rfl | rfl
  · exact .substringBefore _ _ _ (.lit _) (.lit _)
  · refine .normalizeSpace _ _ (.lit _) ?_
    intro c hc
    have : " x  y ".toList = [' ', 'x', ' ', ' ', 'y', ' '] := by decide
    rw [this] at hc
    simp only [List.mem_cons, List.not_mem_nil, or_false] at hc
    rcases hc with rfl | rfl | rfl | rfl | rfl | rfl <;> decide
  · exact .lowerCase _ _ (.string _ _ (.lit _))

end XPathV.StringFns

