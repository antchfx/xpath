import XPathV.Lemmas.BuildRejects.ScanName
import XPathV.Lemmas.BuildRejects.RenameText
/-!
# Renaming the leading function of a text, at character level

`G ++ post` and `G' ++ post` with `G`, `G'` plain names and `post` = blanks, `(`, anything: the two
token streams differ in the first token only (`before_first`), so the renaming theorem applies to
**every** such pair of texts: `compile_fails_rename_first`.
-/
namespace XPathV.BuildRejects
open XPathV XPathV.Model
open XPathV.Lemmas.ScanTail (At mkCR Done)
open XPathV.Lemmas.ParserTokens (Toks)

/-- the scanner on `G ++ post`: the name token `G`, marked as a function name -/
theorem init_call (G post rest : List Char) (hG : plainName G = true) (hrun : NameRun G post)
    (hpost : post.dropWhile isSpace = '(' :: rest) :
    Scan.init (G ++ post) = .ok (mkTok (start (G ++ post)) post .name (String.ofList G) "") := by
  rw [init_eq, nextItem_at_name hG (start_at _), nameCont_plain hrun (by rw [hpost]; simp [mkCR]) (start_at _)]

theorem mkTok_setName (t1 t2 post : List Char) (n n' p : String) (typ : Tok) :
    mkTok (start t2) post typ n' p = setName n' (mkTok (start t1) post typ n p) := rfl

/-- **the token streams of `G(…` and `G'(…` differ in the first token only** -/
theorem before_first (G G' post rest : List Char) (hG : plainName G = true) (hG' : plainName G' = true)
    (hrun : NameRun G post) (hrun' : NameRun G' post) (hpost : post.dropWhile isSpace = '(' :: rest)
    {s : Scan} (hi : Scan.init (G ++ post) = .ok s) {ts : List Tok} (ht : Toks s ts) :
    ∃ s', Scan.init (G' ++ post) = .ok s' ∧ Before (String.ofList G) (String.ofList G') 0 s s' := by
  rw [init_call G post rest hG hrun hpost] at hi
  cases hi
  refine ⟨_, init_call G' post rest hG' hrun' hpost, ?_⟩
  rw [mkTok_setName (G ++ post) (G' ++ post) post (String.ofList G) (String.ofList G') "" .name]
  generalize hs : mkTok (start (G ++ post)) post .name (String.ofList G) "" = s at ht ⊢
  have htyp : s.typ = .name := by rw [← hs]; rfl
  have hname : s.name = String.ofList G := by rw [← hs]; rfl
  have hcur : s.curr = '(' := by rw [← hs]; simp [mkTok, hpost, mkCR]
  have hcf : s.canBeFunc = true := by rw [← hs]; simp [mkTok, hpost, mkCR]
  cases ht with
  | eof he => rw [htyp] at he; cases he
  | @cons _ a rest' hne hn hta =>
    have hlp : a.typ = .lparen := Whitespace.nextItem_single (c := '(') (by decide) hcur hn
    have hu := nextItem_setName (String.ofList G') s
    rw [hn] at hu
    rcases hu with hu | ⟨r, hr, hu, k1, k2⟩
    · exact .mark htyp htyp hname rfl rfl hcf hcf hn hu hlp (after_of_toks (x := String.ofList G') hta _ (Or.inl rfl))
    · cases hr
      exact .mark htyp htyp hname rfl rfl hcf hcf hn hu hlp (after_of_toks (x := String.ofList G') hta _ (Or.inr ⟨rfl, k1, k2⟩))

/-- **renaming the leading function of an accepted text to an unknown name** — for *every* text
`G ++ post` (`G` a plain name, `post` = optional blanks, `(`, the rest) that the parser accepts
with a tree without superfluous arguments, and *every* plain name `G'` that is no function of the
builder (nor a node type or operator word): `Compile(G' ++ post)` is an error -/
theorem compile_fails_rename_first (cc : CompileCfg) (ns : Option (List (String × String)))
    (G G' post rest : List Char) (hG : plainName G = true) (hG' : plainName G' = true)
    (hstop : ∀ c cs, post = c :: cs → isName c = false ∧ c.toNat < 0x80)
    (hpost : post.dropWhile isSpace = '(' :: rest)
    (hne : String.ofList G ≠ String.ofList G')
    (hg : String.ofList G ∉ nodeTypes) (hg' : String.ofList G' ∉ nodeTypes)
    (ho : String.ofList G ∉ opWords stages) (ho' : String.ofList G' ∉ opWords stages)
    (hunk : fnArity (String.ofList G') = none) (hacc : acceptedTight ns (G ++ post) = true) :
    ∃ e, compile cc ns (G' ++ post) = .error e := by
  have hascii : (mkCR post).1.toNat < 0x80 := by
    cases post with
    | nil => simp at hpost
    | cons c cs => exact (hstop c cs rfl).2
  have hrun : NameRun G post := nameRun_of_plain hG (fun c cs e => (hstop c cs e).1) hascii
  have hrun' : NameRun G' post := nameRun_of_plain hG' (fun c cs e => (hstop c cs e).1) hascii
  unfold acceptedTight at hacc
  split at hacc
  · rename_i t hp
    obtain ⟨used, ⟨s, hs, ht⟩, _⟩ := Lemmas.ParserTokens.accepted_ends_in_end_token hp
    obtain ⟨s', hs', hB⟩ := before_first G G' post rest hG hG' hrun hrun' hpost hs ht
    exact compile_fails_after_rename cc ns hne hg hg' ho ho' hunk hs hs' hB hp hacc
  · cases hacc

/-- … with `(` directly after the name: `G(rest` ↦ `G'(rest` -/
theorem compile_fails_rename_first_paren (cc : CompileCfg) (ns : Option (List (String × String)))
    (G G' rest : List Char) (hG : plainName G = true) (hG' : plainName G' = true)
    (hne : String.ofList G ≠ String.ofList G')
    (hg : String.ofList G ∉ nodeTypes) (hg' : String.ofList G' ∉ nodeTypes)
    (ho : String.ofList G ∉ opWords stages) (ho' : String.ofList G' ∉ opWords stages)
    (hunk : fnArity (String.ofList G') = none) (hacc : acceptedTight ns (G ++ '(' :: rest) = true) :
    ∃ e, compile cc ns (G' ++ '(' :: rest) = .error e := by
  have h1 : isName '(' = false := by decide
  have h2 : isSpace '(' = false := by decide
  refine compile_fails_rename_first cc ns G G' ('(' :: rest) rest hG hG' ?_ ?_ hne hg hg' ho ho' hunk hacc
  · intro c cs e
    injection e with e1 _
    subst e1
    exact ⟨h1, by decide⟩
  · simp [h2]

end XPathV.BuildRejects
