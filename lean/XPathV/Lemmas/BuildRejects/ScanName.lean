import XPathV.Lemmas.BuildRejects.Scan
import XPathV.Lemmas.BuildRejects.Rename
import XPathV.Lemmas.ParserTokens
/-!
# The scanner does not look at a stale `name` field

`Scan.nextItem` copies the `name` field of its input into its output unless the new token is a name
or an axis specifier (which overwrite it): `nextItem_setName`.  Hence two scanner states that differ
only in a stale name show the parser the same tokens from there to the end (`after_of_toks`).
-/
namespace XPathV.BuildRejects
open XPathV XPathV.Model
open XPathV.Lemmas.ParserTokens (Toks)

def setName (x : String) (s : Scan) : Scan := { s with name := x }

theorem nextChar_typ (s : Scan) : s.nextChar.1.typ = s.typ := Lemmas.ScanCases.nextChar_typ s

def UpTo (x : String) (A B : Except ScanErr Scan) : Prop :=
  A = B ∨ ∃ r, B = .ok r ∧ A = .ok (setName x r) ∧ r.typ ≠ .name ∧ r.typ ≠ .axe

theorem UpTo.mk (x : String) (r : Scan) (h1 : r.typ ≠ .name) (h2 : r.typ ≠ .axe) :
    UpTo x (.ok (setName x r)) (.ok r) := Or.inr ⟨r, rfl, rfl, h1, h2⟩

/-- Both calls read the same unread text, hence the same kind of token (`nextItem_lex`); a name-like kind
overwrites the name, every other kind leaves it where it is. -/
theorem nextItem_setName (x : String) (s : Scan) : UpTo x (setName x s).nextItem s.nextItem := by
  have hat : Lemmas.ScanTail.At (Lex.unread s) (setName x s) := Lex.at_unread s
  rw [Lex.nextItem_lex hat, Lex.nextItem_lex (Lex.at_unread s)]
  cases hq : Lex.lexNext (Lex.unread s) with
  | error e => exact .inl rfl
  | ok p =>
    obtain ⟨k, r⟩ := p
    have hk := Whitespace.lexItem_typed hq
    cases k with
    | nameLike t n p => exact .inl rfl
    | plain t => exact UpTo.mk x (Lex.out s (.plain t, r)) hk.1 hk.2
    | num l => exact UpTo.mk x (Lex.out s (.num l, r)) nofun nofun
    | str v => exact UpTo.mk x (Lex.out s (.str v, r)) nofun nofun

/-- `b` is `a`, or `a` with another (stale) name -/
def NameOnly (x : String) (a b : Scan) : Prop := b = a ∨ (b = setName x a ∧ a.typ ≠ .name ∧ a.typ ≠ .axe)

theorem NameOnly.obs {x : String} {a b : Scan} (h : NameOnly x a b) : obsEq a b := by
  rcases h with rfl | ⟨rfl, h1, h2⟩
  · exact ⟨rfl, fun _ => ⟨rfl, rfl, rfl⟩, fun _ => rfl, fun _ => rfl, fun _ => rfl⟩
  · exact ⟨rfl, fun h => absurd h h1, fun h => absurd h h2, fun _ => rfl, fun _ => rfl⟩

/-- if the scanner reaches the end of the text from `a`, it shows the same tokens from a state that
differs from `a` only in a stale name -/
theorem after_of_toks {x : String} {a : Scan} {ts : List Tok} (ht : Toks a ts) :
    ∀ b, NameOnly x a b → After a b := by
  induction ht with
  | eof he =>
    intro b hb
    refine .eof he ?_
    rw [← hb.obs.1]; exact he
  | @cons s s1 rest hne hn _ ih =>
    intro b hb
    rcases hb with rfl | ⟨rfl, h1, h2⟩
    · exact .step hne (NameOnly.obs (x := x) (Or.inl rfl)) hn hn (ih _ (Or.inl rfl))
    · have hu := nextItem_setName x s
      rw [hn] at hu
      rcases hu with hu | ⟨r, hr, hu, k1, k2⟩
      · exact .step hne (NameOnly.obs (Or.inr ⟨rfl, h1, h2⟩)) hn hu (ih _ (Or.inl rfl))
      · cases hr
        exact .step hne (NameOnly.obs (Or.inr ⟨rfl, h1, h2⟩)) hn hu (ih _ (Or.inr ⟨rfl, k1, k2⟩))

end XPathV.BuildRejects
