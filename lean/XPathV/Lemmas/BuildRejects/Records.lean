import XPathV.Lemmas.ParserRun
/-!
# C17, second half — what the parser records for a function name and an axis name

Local facts (every fuel, every configuration): a name token directly followed by `(` that is no
node-type name becomes a `.call` node carrying the name and prefix *as written*; an axis specifier
`name::` becomes an `.axis` node carrying `name` as its axis, whatever the name (the parser checks
nothing; the builder does).
-/
namespace XPathV.BuildRejects
open XPathV XPathV.Model
open XPathV.Lemmas.ParserShape (bind_ok)

theorem parseMethod_records (f : Nat) (cfg : PCfg) (st st' : PState) (a : Ast)
    (h : parseMethod f cfg st = .ok (a, st')) : ∃ args, a = .call st.s.name st.s.pfx args := by
  cases f with
  | zero => simp [parseMethod] at h
  | succ f =>
    simp only [parseMethod] at h
    obtain ⟨st1, _, h⟩ := bind_ok h
    obtain ⟨st2, _, h⟩ := bind_ok h
    split at h
    · obtain ⟨x, _, h⟩ := bind_ok h
      obtain ⟨st3, _, h⟩ := bind_ok h
      cases h
      exact ⟨_, rfl⟩
    · obtain ⟨x, _, h⟩ := bind_ok h
      obtain ⟨st3, _, h⟩ := bind_ok h
      cases h
      exact ⟨_, rfl⟩

/-- a name token followed by `(` that is no node-type test is parsed as a function call under the
name as written — known function or not -/
theorem parsePrimary_call_records (f : Nat) (cfg : PCfg) (st st' : PState) (a : Ast)
    (ht : st.s.typ = .name) (hc : st.s.canBeFunc = true) (hn : isNodeType st.s = false)
    (h : parsePrimary f cfg st = .ok (a, st')) : ∃ args, a = .call st.s.name st.s.pfx args := by
  cases f with
  | zero => simp [parsePrimary] at h
  | succ f =>
    simp only [parsePrimary, ht, hc, hn, Bool.not_false, Bool.and_self, ↓reduceIte] at h
    exact parseMethod_records f cfg st st' a h

/-- such a token is a primary expression: `parsePathExpr` goes to `parseFilterExpr` -/
theorem isPrimaryExpr_call (s : Scan) (ht : s.typ = .name) (hc : s.canBeFunc = true) (hn : isNodeType s = false) :
    isPrimaryExpr s = true := by
  simp [isPrimaryExpr, ht, hc, hn]

/-- the axis name of a step with its predicates stripped -/
def stepAxis : Ast → Option String
  | .axis a _ => some a.axis
  | .filter i _ => stepAxis i
  | _ => none

theorem parseNodeTest_axis (cfg : PCfg) (inp : Ast) (axis : String) (mt : NType) (st st' : PState) (a : Ast)
    (h : parseNodeTest cfg inp axis mt st = .ok (a, st')) : ∃ info, a = .axis info inp ∧ info.axis = axis := by
  cases Lemmas.ParserRun.nodeTest_ok h with
  | name _ _ _ hi => exact ⟨_, rfl, (NameSem.nameInfo_fields hi).1⟩
  | type => exact ⟨_, rfl, rfl⟩
  | pi => exact ⟨_, rfl, rfl⟩
  | star => exact ⟨_, rfl, rfl⟩

theorem stepPreds_stepAxis : ∀ (f : Nat) (cfg : PCfg) (opnd : Ast) (st st' : PState) (a : Ast),
    stepPreds f cfg opnd st = .ok (a, st') → stepAxis a = stepAxis opnd
  | 0, _, _, _, _, _, h => by simp [stepPreds] at h
  | f+1, cfg, opnd, st, st', a, h => by
    simp only [stepPreds] at h
    split at h
    · obtain ⟨⟨c, st1⟩, _, h⟩ := bind_ok h
      rw [stepPreds_stepAxis f cfg _ st1 st' a h]
      rfl
    · cases h; rfl

/-- **an axis specifier `name::` is recorded as written**: the step (under its predicates) is an
`.axis` node whose axis is the name of the specifier token — `foo::a` parses -/
theorem parseStep_axe_records (f : Nat) (cfg : PCfg) (inp : Ast) (st st' : PState) (a : Ast)
    (ht : st.s.typ = .axe) (h : parseStep f cfg inp st = .ok (a, st')) : stepAxis a = some st.s.name := by
  cases f with
  | zero => simp [parseStep] at h
  | succ f =>
    simp only [parseStep, ht, beq_iff_eq, reduceCtorEq, ↓reduceIte] at h
    obtain ⟨s1, _, h⟩ := bind_ok h
    obtain ⟨⟨opnd, s2⟩, h2, h⟩ := bind_ok h
    obtain ⟨info, rfl, hi⟩ := parseNodeTest_axis _ _ _ _ _ _ _ h2
    rw [stepPreds_stepAxis f cfg _ s2 st' a h]
    simp [stepAxis, hi]

end XPathV.BuildRejects
