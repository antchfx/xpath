import XPathV.Lemmas.ScanTail
import XPathV.Lemmas.Lexeme
/-!
# C17, second half — scanner level: name tokens, axis specifiers, malformed qualified names

What the scanner model does when the next token starts with a name character (`nameCont`, the name
branch of `Scan.nextItem`, defined in `Lemmas/ScanCases.lean`), for each shape of the text that follows
the name: `nameCont_run` reduces it to `Lex.lexAfterName` behind the name.
-/
namespace XPathV.BuildRejects
open XPathV XPathV.Model XPathV.Lex
open XPathV.Lemmas.ScanTail (At mkCR Done)
open XPathV.Whitespace (Head setPos at_setPos setPos_skipSpace)

theorem skipSpace_id (s : Scan) (h : isSpace s.curr = false) : s.skipSpace = s :=
  Lemmas.ScanCases.skipSpace_id s h

theorem nextItem_name (s0 : Scan) (h : startsName s0.skipSpace.curr = true) :
    s0.nextItem = nameCont s0.skipSpace := by
  have hc : Head (unread s0.skipSpace) = s0.skipSpace.curr := (at_unread s0.skipSpace).1.symm
  rw [nextItem_body, itemBody_at (at_unread _), nameCont_at (at_unread _), Whitespace.lexItem_startsName (hc ▸ h)]

theorem mkCR_eta (c : Char) (r : List Char) : mkCR (c :: r) = (c, r) := rfl

theorem at_iff (w : List Char) (s : Scan) : At w s ↔ (s.curr, s.rest) = mkCR w := by
  unfold At
  constructor
  · intro h; rw [h.1, h.2]
  · intro h; rw [← h]; exact ⟨rfl, rfl⟩

/-- a run `w` of `p`-characters followed by `tail` whose first character is no `p`-character -/
theorem takeRun_run (p : Char → Bool) (tail : List Char) (ht : ∀ x xs, tail = x :: xs → p x = false) :
    ∀ (w : List Char) (c : Char), (∀ y ∈ c :: w, p y = true) →
      takeRun p c (w ++ tail) = (c :: w, (mkCR tail).1, (mkCR tail).2) := by
  intro w c hall
  rw [takeRun_cons, ← List.cons_append, List.takeWhile_append_of_pos hall, List.dropWhile_append_of_pos hall]
  cases tail with
  | nil => simp
  | cons x xs => simp [ht x xs rfl]

theorem skipSpace_at {t : List Char} {s : Scan} (h : At t s) :
    s.skipSpace = { s with curr := (mkCR (t.dropWhile isSpace)).1, rest := (mkCR (t.dropWhile isSpace)).2 } :=
  (congrArg Scan.skipSpace (at_setPos h)).trans (setPos_skipSpace s t)

theorem mkTok_at (s : Scan) (t : List Char) (typ : Tok) (name pfx : String) :
    At (t.dropWhile isSpace) (mkTok s t typ name pfx) := ⟨rfl, rfl⟩

section
variable (s : Scan) (t : List Char) (typ : Tok) (name pfx : String)
theorem mkTok_name : (mkTok s t typ name pfx).name = name := rfl
theorem mkTok_pfx : (mkTok s t typ name pfx).pfx = pfx := rfl
theorem mkTok_curr : (mkTok s t typ name pfx).curr = (mkCR (t.dropWhile isSpace)).1 := rfl
theorem mkTok_canBeFunc : (mkTok s t typ name pfx).canBeFunc = ((mkCR (t.dropWhile isSpace)).1 == '(') := rfl
end


/-- `w` is a maximal run of name characters in front of `tail`, and the character after it is
ASCII (the model marks a non-ASCII terminator in the name, see `Scan.scanName`) -/
structure NameRun (w tail : List Char) : Prop where
  ne : w ≠ []
  all : ∀ y ∈ w, isName y = true
  stop : ∀ x xs, tail = x :: xs → isName x = false
  ascii : (mkCR tail).1.toNat < 0x80

/-- the state after the name run: what `nameCont` continues from -/
def afterName (s : Scan) (w tail : List Char) : Scan :=
  { s with curr := (mkCR tail).1, rest := (mkCR tail).2, typ := .name, name := String.ofList w, pfx := "" }

theorem nextChar_eq (s : Scan) :
    s.nextChar.1 = { s with curr := (mkCR s.rest).1, rest := (mkCR s.rest).2 } := by
  unfold Scan.nextChar
  cases s.rest <;> rfl

theorem NameRun.head {w tail : List Char} (hr : NameRun w tail) : isName (Head tail) = false := by
  cases tail with
  | nil => exact Whitespace.isName_nul
  | cons x xs => exact hr.stop x xs rfl

/-- the name branch in front of a name run: `lexAfterName` on what follows the name -/
theorem nameCont_run {w tail : List Char} {s : Scan} (hr : NameRun w tail) (h : At (w ++ tail) s) :
    nameCont s = (lexAfterName (String.ofList w) tail).map (out s) := by
  rw [nameCont_at h, lexName, Whitespace.spanName_ascii hr.all hr.head hr.ascii]

/-- **`name::`** — an axis specifier, whatever the name -/
theorem nameCont_axe {w t2 : List Char} {s : Scan} (hr : NameRun w (':' :: ':' :: t2)) (h : At (w ++ ':' :: ':' :: t2) s) :
    nameCont s = .ok (mkTok s t2 .axe (String.ofList w) "") := by
  rw [nameCont_run hr h]
  rfl

/-- **`prefix:*`** -/
theorem nameCont_pfx_star {w t2 : List Char} {s : Scan} (hr : NameRun w (':' :: '*' :: t2))
    (h : At (w ++ ':' :: '*' :: t2) s) :
    nameCont s = .ok (mkTok s t2 .name "*" (String.ofList w)) := by
  rw [nameCont_run hr h]
  rfl

/-- **`prefix:local`**: a qualified name -/
theorem nameCont_qname {w w2 tail2 : List Char} {s : Scan} (hr : NameRun w (':' :: (w2 ++ tail2)))
    (hr2 : NameRun w2 tail2) (hstar : w2.head? ≠ some '*')
    (hstart : ∀ c, w2.head? = some c → isNameStart c = true)
    (h : At (w ++ ':' :: (w2 ++ tail2)) s) :
    nameCont s = .ok (mkTok s tail2 .name (String.ofList w2) (String.ofList w)) := by
  obtain ⟨c, w2', rfl⟩ := List.exists_cons_of_ne_nil hr2.ne
  have hc : isNameStart c = true := hstart c rfl
  have hcs : c ≠ '*' := fun e => hstar (by rw [e]; rfl)
  have hcc : c ≠ ':' := fun e => by rw [e] at hc; revert hc; decide
  rw [nameCont_run hr h]
  simp only [lexAfterName, show Head (':' :: (c :: w2' ++ tail2)) = ':' from rfl, ↓reduceIte, List.tail_cons,
    show Head (c :: w2' ++ tail2) = c from rfl, hcc, hcs, hc, Whitespace.spanName_ascii hr2.all hr2.head hr2.ascii]
  rfl

/-- **`name:` followed by something that cannot continue a qualified name** (not `:`, not `*`, no
name-start character; in particular a blank, a digit, `-`, `.`, `(`, or the end of the text):
the scanner fails -/
theorem nameCont_colon_bad {w t1 : List Char} {s : Scan} (hr : NameRun w (':' :: t1))
    (h1 : (mkCR t1).1 ≠ ':') (h2 : (mkCR t1).1 ≠ '*') (h3 : isNameStart (mkCR t1).1 = false)
    (h : At (w ++ ':' :: t1) s) :
    nameCont s = .error .invalidQName := by
  rw [nameCont_run hr h]
  simp only [lexAfterName, show Head (':' :: t1) = ':' from rfl, ↓reduceIte, List.tail_cons, h1, h2, h3,
    Bool.false_eq_true]
  rfl

/-- **`name`, blanks, `::`** — still an axis specifier -/
theorem nameCont_space_axe {w tail t3 : List Char} {s : Scan} (hr : NameRun w tail) (hc : (mkCR tail).1 ≠ ':')
    (hsp : tail.dropWhile isSpace = ':' :: ':' :: t3) (h : At (w ++ tail) s) :
    nameCont s = .ok (mkTok s t3 .axe (String.ofList w) "") := by
  rw [nameCont_run hr h]
  simp only [lexAfterName, hc, ↓reduceIte, hsp, List.tail_cons, show Head (':' :: ':' :: t3) = ':' from rfl,
    show Head (':' :: t3) = ':' from rfl]
  rfl

/-- **`name`, blanks, `:` not followed by `:`**: the scanner fails (`a :b`, `a : b`, `a :`) -/
theorem nameCont_space_colon_bad {w tail t3 : List Char} {s : Scan} (hr : NameRun w tail) (hc : (mkCR tail).1 ≠ ':')
    (hsp : tail.dropWhile isSpace = ':' :: t3) (h3 : (mkCR t3).1 ≠ ':') (h : At (w ++ tail) s) :
    nameCont s = .error .invalidQName := by
  rw [nameCont_run hr h]
  simp only [lexAfterName, hc, ↓reduceIte, hsp, List.tail_cons, show Head (':' :: t3) = ':' from rfl, h3]
  rfl

/-- **a plain name** (no colon after it, even after blanks) -/
theorem nameCont_plain {w tail : List Char} {s : Scan} (hr : NameRun w tail)
    (hc : (mkCR (tail.dropWhile isSpace)).1 ≠ ':') (h : At (w ++ tail) s) :
    nameCont s = .ok (mkTok s tail .name (String.ofList w) "") := by
  rw [nameCont_run hr h]
  simp only [lexAfterName, Whitespace.head_ne_colon_of_dropWhile hc, hc, ↓reduceIte]
  rfl

/-- **a token cannot start with `:`** (`:a`, `::a`, the second colon of `a:b:c`, `a:::b`) -/
theorem nextItem_colon (s : Scan) (h : s.skipSpace.curr = ':') : s.nextItem = .error .invalidToken := by
  have hc : Head (unread s.skipSpace) = ':' := (at_unread s.skipSpace).1.symm.trans h
  have hd : isDigit ':' = false := by decide
  rw [nextItem_body, itemBody_at (at_unread _), lexItem_not_punct (by rw [hc]; decide), hc, hd, isName_colon]
  rfl

theorem nextItem_done (s : Scan) (h : At [] s) : ∃ s', s.nextItem = .ok s' ∧ s'.typ = .eof :=
  Lemmas.ScanTail.done_nextItem h

end XPathV.BuildRejects
