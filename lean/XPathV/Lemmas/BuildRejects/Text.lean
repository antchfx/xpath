import XPathV.Lemmas.BuildRejects.Tree
import XPathV.Lemmas.BuildRejects.Scan
import XPathV.Lemmas.NameSem
/-!
# C17, second half — from the text: `compile` fails on a text whose tree has a bad node;
unknown axis names and malformed qualified names on explicit texts
-/
namespace XPathV.BuildRejects
open XPathV XPathV.Model
open XPathV.Lemmas.ScanTail (At mkCR Done)
open XPathV.Lemmas.ParserTokens (Steps reject_scan_error)

/-- an accepted text is not empty -/
theorem text_ne_nil_of_parse_ok {fuel : Nat} {cfg : PCfg} {text : List Char} {t : Ast}
    (hp : parse fuel cfg text = .ok t) : text.isEmpty = false := by
  cases text with
  | cons _ _ => rfl
  | nil =>
    exfalso
    obtain ⟨used, ⟨s, hs, ht⟩, hne, _⟩ := Lemmas.ParserTokens.accepted_ends_in_end_token hp
    have h0 : Scan.init [] = .ok { } := rfl
    rw [h0] at hs; cases hs
    have := ht.det (.eof rfl)
    cases used with
    | nil => exact hne rfl
    | cons a u => cases u <;> simp at this

/-- **from text**: if the parser's tree for `text` has a bad node (where the builder looks), then
`compile` returns a builder error — for every `CompileCfg` (regexp oracle, both source-derived
switches) and every namespace map -/
theorem compile_fails_of_bad (cc : CompileCfg) (ns : Option (List (String × String))) (text : List Char) (t : Ast)
    (hp : parse (fuelFor text) (defaultCfg ns) text = .ok t) (hb : BadNode t = true) :
    ∃ e, compile cc ns text = .error (.build e) := by
  obtain ⟨e, he⟩ := build_fails_of_bad cc.regexOk (Generated.buildDepthLimit.getD 0) cc.shortcutNeedsNodeTest
    cc.smartDescThroughFilter t {} {} hb
  refine ⟨e, ?_⟩
  unfold compile
  simp only [text_ne_nil_of_parse_ok hp, Bool.false_eq_true, ↓reduceIte, hp, he]

/-- … so `compile` never returns an expression for it -/
theorem compile_not_ok_of_bad (cc : CompileCfg) (ns : Option (List (String × String))) (text : List Char) (t : Ast)
    (hp : parse (fuelFor text) (defaultCfg ns) text = .ok t) (hb : BadNode t = true) (p : Plan) :
    compile cc ns text ≠ .ok p := by
  obtain ⟨e, he⟩ := compile_fails_of_bad cc ns text t hp hb
  rw [he]; intro h; cases h

/-- the converse reading: a text that compiles has a parse tree without bad nodes -/
theorem no_bad_node_of_compile_ok (cc : CompileCfg) (ns : Option (List (String × String))) (text : List Char) (p : Plan)
    (hc : compile cc ns text = .ok p) :
    ∃ t, parse (fuelFor text) (defaultCfg ns) text = .ok t ∧ BadNode t = false := by
  cases hp : parse (fuelFor text) (defaultCfg ns) text with
  | error e =>
    unfold compile at hc
    rw [hp] at hc
    split at hc <;> cases hc
  | ok t =>
    refine ⟨t, rfl, ?_⟩
    cases hb : BadNode t with
    | false => rfl
    | true => exact absurd hc (compile_not_ok_of_bad cc ns text t hp hb p)

/-- **renaming a function / using an unknown function**: whatever the rest of the expression is, if
the parse tree has a call the builder visits whose name is not in the function table, `compile` fails -/
theorem compile_fails_unknown_function (cc : CompileCfg) (ns : Option (List (String × String))) (text : List Char)
    (t : Ast) (hp : parse (fuelFor text) (defaultCfg ns) text = .ok t) {g pfx : String} {args : Ast}
    (hv : Visits t 0 (.call g pfx args)) (hg : fnArity g = none) :
    ∃ e, compile cc ns text = .error (.build e) :=
  compile_fails_of_bad cc ns text t hp (bad_of_visits hv (by simp [localBad, badCall, hg]))

/-- **removing required arguments** -/
theorem compile_fails_missing_arguments (cc : CompileCfg) (ns : Option (List (String × String))) (text : List Char)
    (t : Ast) (hp : parse (fuelFor text) (defaultCfg ns) text = .ok t) {g pfx : String} {args : Ast}
    {mn : Nat} {mx : Option Nat} {idx : Bool}
    (hv : Visits t 0 (.call g pfx args)) (hg : fnArity g = some (mn, mx, idx)) (hlt : args.argList.length < mn) :
    ∃ e, compile cc ns text = .error (.build e) :=
  compile_fails_of_bad cc ns text t hp (bad_of_visits hv (by simp [localBad, badCall, hg, hlt]))

/-- **unknown axis name**: `foo::a` parses (the parser is lenient) and the builder rejects it -/
theorem compile_fails_unknown_axis (cc : CompileCfg) (ns : Option (List (String × String))) (text : List Char)
    (t : Ast) (hp : parse (fuelFor text) (defaultCfg ns) text = .ok t) {a : AxisInfo} {inp : Ast}
    (hv : Visits t 0 (.axis a inp)) (ha : a.axis ∉ axisTable) :
    ∃ e, compile cc ns text = .error (.build e) :=
  compile_fails_of_bad cc ns text t hp
    (bad_of_visits hv (by simpa [localBad, badAxis, badAxisName] using ha))

/-- the scanner state in front of a text -/
def start (text : List Char) : Scan := { curr := (mkCR text).1, rest := (mkCR text).2 }

theorem init_eq (text : List Char) : Scan.init text = (start text).nextItem := by
  unfold Scan.init
  simp only [nextChar_eq]
  rfl

theorem start_at (text : List Char) : At text (start text) := ⟨rfl, rfl⟩

/-- a name token at a scanner position: `nextItem` is `nameCont` there -/
theorem nextItem_at_name {w tail : List Char} {s : Scan} (hw : plainName w = true) (h : At (w ++ tail) s) :
    s.nextItem = nameCont s := by
  obtain ⟨c, w', rfl, hc, _⟩ := plainName_cons hw
  rw [Lex.nextItem_lex h, Lex.lexNext, dropWhile_plain hw, Whitespace.lexItem_startsName (w := c :: w' ++ tail) hc,
    Lex.nameCont_at h]

theorem nameRun_of_plain {w tail : List Char} (hw : plainName w = true)
    (hstop : ∀ x xs, tail = x :: xs → isName x = false) (hascii : (mkCR tail).1.toNat < 0x80) : NameRun w tail := by
  obtain ⟨c, w', rfl, _, hall⟩ := plainName_cons hw
  exact ⟨by simp, hall, hstop, hascii⟩

theorem nameRun_colon {w t : List Char} (hw : plainName w = true) : NameRun w (':' :: t) :=
  nameRun_of_plain hw (fun x xs h => by cases h; exact isName_colon) (by simp only [mkCR_eta]; decide)

theorem nameRun_end {w : List Char} (hw : plainName w = true) : NameRun w [] :=
  nameRun_of_plain hw (fun x xs h => by cases h) (by decide)

theorem plain_append_nonempty {w : List Char} (hw : plainName w = true) (tail : List Char) :
    (w ++ tail).isEmpty = false := by
  obtain ⟨c, w', rfl, _, _⟩ := plainName_cons hw
  rfl

/-! ### unknown axis: `name::l` -/

/-- the error `axisPlan` gives for an axis name outside its table -/
def axisErr (n : String) : BErr := if n = "namespace" then .namespaceAxis else .unknownAxis n

theorem axisPlan_err (a : AxisInfo) (fl : Flags) (props : Props) (inp : Plan) (h : badAxis a = true) :
    axisPlan a fl props inp = .error (axisErr a.axis) := by
  rcases axisPlan_cases a fl props inp with ⟨h', _⟩ | ⟨_, he⟩
  · rw [h] at h'; cases h'
  · exact he

theorem buildLimit_pos : ¬ ((0 : Nat) + 1 > Generated.buildDepthLimit.getD 0) := by decide

/-- the builder on a single step over an unknown axis -/
theorem build_step_unknown_axis (cc : CompileCfg) (a : AxisInfo) (h : badAxis a = true) :
    build cc.regexOk (Generated.buildDepthLimit.getD 0) cc.shortcutNeedsNodeTest cc.smartDescThroughFilter
      (.axis a .none) {} {} = .error (axisErr a.axis) := by
  rw [build]
  simp only [build.enter]
  rw [if_neg buildLimit_pos]
  simp only [axisPlan_err a {} {} .context h, bind, Except.bind]

/-- **the family `name::l`**: for every name outside the builder's axis table and every plain name
`l`, `Compile(name::l)` is the builder's error for that axis name — with or without a namespace map -/
theorem compile_unknown_axis_text (cc : CompileCfg) (ns : Option (List (String × String))) (name l : List Char)
    (hn : plainName name = true) (hl : plainName l = true) (hbad : String.ofList name ∉ axisTable) :
    compile cc ns (name ++ ':' :: ':' :: l) = .error (.build (axisErr (String.ofList name))) := by
  have hl0 : l.dropWhile isSpace = l := by simpa using dropWhile_plain hl []
  -- the axis token, standing in front of `l`
  obtain ⟨s, hinit, hstyp, hsname, hsat⟩ : ∃ s, Scan.init (name ++ ':' :: ':' :: l) = .ok s ∧ s.typ = .axe ∧
      s.name = String.ofList name ∧ At (l ++ []) s := by
    refine ⟨mkTok (start (name ++ ':' :: ':' :: l)) l .axe (String.ofList name) "", ?_, rfl, rfl, ?_⟩
    · rw [init_eq, nextItem_at_name hn (start_at _), nameCont_axe (nameRun_colon hn) (start_at _)]
    · rw [List.append_nil]
      have := mkTok_at (start (name ++ ':' :: ':' :: l)) l .axe (String.ofList name) ""
      rwa [hl0] at this
  have hn1 : s.nextItem = .ok (mkTok s [] .name (String.ofList l) "") := by
    rw [nextItem_at_name hl hsat, nameCont_plain (nameRun_end hl) (by decide) hsat]
  obtain ⟨s2, hn2, he⟩ := nextItem_done (mkTok s [] .name (String.ofList l) "") (mkTok_at _ _ _ _ _)
  have hp := NameSem.parse_axis_text ns _ s _ s2 hinit hstyp hn1 rfl (by simp [mkTok_canBeFunc, mkCR]) hn2 he
  simp only [mkTok_name, mkTok_pfx, hsname, NameSem.nameInfo, ↓reduceIte] at hp
  unfold compile
  simp only [plain_append_nonempty hn, Bool.false_eq_true, ↓reduceIte, hp, NameSem.nameAst]
  rw [build_step_unknown_axis cc _ (by simpa [badAxis, badAxisName] using hbad)]

theorem compile_scan_error (cc : CompileCfg) (ns : Option (List (String × String))) (text : List Char) (e : ScanErr)
    (hne : text.isEmpty = false) (h : Scan.init text = .error e) :
    compile cc ns text = .error (.parse (.scan e)) := by
  unfold compile parse
  simp only [hne, Bool.false_eq_true, ↓reduceIte, h]

theorem compile_parse_error (cc : CompileCfg) (ns : Option (List (String × String))) (text : List Char)
    (h : ∃ e, parse (fuelFor text) (defaultCfg ns) text = .error e) : ∃ e, compile cc ns text = .error e := by
  obtain ⟨e, he⟩ := h
  unfold compile
  split
  · exact ⟨_, rfl⟩
  · rw [he]; exact ⟨_, rfl⟩

/-- **`name:` not followed by `:`, `*` or a name-start character** (`a:`, `a: b`, `a:1`, `a:-b`,
`a:.`, `a:(`): the scanner's "invalid QName" error, whatever follows -/
theorem compile_qname_without_local (cc : CompileCfg) (ns : Option (List (String × String))) (w t1 : List Char)
    (hw : plainName w = true) (h1 : (mkCR t1).1 ≠ ':') (h2 : (mkCR t1).1 ≠ '*')
    (h3 : isNameStart (mkCR t1).1 = false) :
    compile cc ns (w ++ ':' :: t1) = .error (.parse (.scan .invalidQName)) := by
  refine compile_scan_error cc ns _ _ (plain_append_nonempty hw _) ?_
  rw [init_eq, nextItem_at_name hw (start_at _), nameCont_colon_bad (nameRun_colon hw) h1 h2 h3 (start_at _)]

/-- **a text that starts with `:`** (after optional blanks: `:a`, `::a`, ` :a`): "invalid token" -/
theorem compile_leading_colon (cc : CompileCfg) (ns : Option (List (String × String))) (text rest : List Char)
    (h : text.dropWhile isSpace = ':' :: rest) :
    compile cc ns text = .error (.parse (.scan .invalidToken)) := by
  have hne : text.isEmpty = false := by
    cases text with
    | nil => simp at h
    | cons _ _ => rfl
  refine compile_scan_error cc ns _ _ hne ?_
  rw [init_eq]
  apply nextItem_colon
  rw [skipSpace_at (start_at text), h]
  rfl

/-- **`name`, blanks, `:` not followed by `:`** (`a :b`, `a : b`, `a :`): "invalid QName" -/
theorem compile_name_blank_colon (cc : CompileCfg) (ns : Option (List (String × String))) (w tail t3 : List Char)
    (hw : plainName w = true) (hr : NameRun w tail) (hc : (mkCR tail).1 ≠ ':')
    (hsp : tail.dropWhile isSpace = ':' :: t3) (h3 : (mkCR t3).1 ≠ ':') :
    compile cc ns (w ++ tail) = .error (.parse (.scan .invalidQName)) := by
  refine compile_scan_error cc ns _ _ (plain_append_nonempty hw _) ?_
  rw [init_eq, nextItem_at_name hw (start_at _), nameCont_space_colon_bad hr hc hsp h3 (start_at _)]

/-- the scanner on `prefix:local:…` — the token `prefix:local`, standing at the second colon -/
theorem init_qname_colon (w w2 rest : List Char) (hw : plainName w = true) (hw2 : localPart w2 = true) :
    Scan.init (w ++ ':' :: (w2 ++ ':' :: rest)) =
      .ok (mkTok (start (w ++ ':' :: (w2 ++ ':' :: rest))) (':' :: rest) .name (String.ofList w2) (String.ofList w)) := by
  have hl := Whitespace.Lexeme.qname (r := ':' :: rest) hw hw2 (Whitespace.isName_head_colon _)
    (Whitespace.ascii_head_colon _)
  have e : w ++ ':' :: w2 ++ ':' :: rest = w ++ ':' :: (w2 ++ ':' :: rest) := by simp
  rw [init_eq, ← e]
  exact Whitespace.nextItem_lexeme hl (start_at _)

/-- **`a:b:c`** (a second colon after a qualified name; also `a:b:`, `a:b::c`, `a:b:*`): the token
`a:b` is scanned, the next token would start with `:` — "invalid token" -/
theorem compile_second_colon (cc : CompileCfg) (ns : Option (List (String × String))) (w w2 rest : List Char)
    (hw : plainName w = true) (hw2 : localPart w2 = true) :
    compile cc ns (w ++ ':' :: (w2 ++ ':' :: rest)) = .error (.parse (.scan .invalidToken)) := by
  have hsp : isSpace ':' = false := by decide
  -- the token `w:w2`, standing at the second colon
  obtain ⟨s, hinit, htyp, hcur, hcf⟩ : ∃ s, Scan.init (w ++ ':' :: (w2 ++ ':' :: rest)) = .ok s ∧ s.typ = .name ∧
      s.curr = ':' ∧ s.canBeFunc = false :=
    ⟨_, init_qname_colon w w2 rest hw hw2, rfl, by simp [mkTok_curr, hsp, mkCR], by simp [mkTok_canBeFunc, hsp, mkCR]⟩
  have hnext : s.nextItem = .error .invalidToken :=
    nextItem_colon s (by rw [skipSpace_id s (by rw [hcur]; exact hsp)]; exact hcur)
  have hR : NameSem.Final (.error (.scan .invalidToken)) := fun a st' h => by cases h
  have hS : ∀ f, parseStep (f+2) (defaultCfg ns) .none ⟨s, 1⟩ = .error (.scan .invalidToken) := by
    intro f
    simp [parseStep, parseNodeTest, htyp, hcf, PState.next, hnext, bind, Except.bind]
  have hp := NameSem.parse_one_step (defaultCfg ns) (NameSem.defaultCfg_depth ns)
    (w ++ ':' :: (w2 ++ ':' :: rest)) s hinit _ hS hR
    (by simp [isPrimaryExpr, htyp, hcf]) (by rw [htyp]; decide) (by rw [htyp]; decide) (by rw [htyp]; decide)
    (fuelFor (w ++ ':' :: (w2 ++ ':' :: rest))) (NameSem.fuelFor_ge (ns := ns) _)
  unfold compile
  simp only [plain_append_nonempty hw, Bool.false_eq_true, ↓reduceIte, hp, NameSem.resAst]

/-! ### … anywhere in a text (scanner-state level; for every fuel and configuration) -/

/-- a malformed qualified name at any token position the scanner reaches: rejected -/
theorem parse_fails_qname_without_local (fuel : Nat) (cfg : PCfg) {text : List Char} {s s1 : Scan} {u : List Tok}
    (hs : Scan.init text = .ok s) (hu : Steps s u s1) (hne : s1.typ ≠ .eof)
    {w t1 : List Char} (hw : plainName w = true) (hat : At (w ++ ':' :: t1) s1)
    (h1 : (mkCR t1).1 ≠ ':') (h2 : (mkCR t1).1 ≠ '*') (h3 : isNameStart (mkCR t1).1 = false) :
    ∃ e, parse fuel cfg text = .error e :=
  reject_scan_error fuel cfg hs hu hne
    (by rw [nextItem_at_name hw hat, nameCont_colon_bad (nameRun_colon hw) h1 h2 h3 hat])

/-- a colon where a token should start, at any token position the scanner reaches: rejected -/
theorem parse_fails_colon_token (fuel : Nat) (cfg : PCfg) {text : List Char} {s s1 : Scan} {u : List Tok}
    (hs : Scan.init text = .ok s) (hu : Steps s u s1) (hne : s1.typ ≠ .eof) (hc : s1.skipSpace.curr = ':') :
    ∃ e, parse fuel cfg text = .error e :=
  reject_scan_error fuel cfg hs hu hne (nextItem_colon s1 hc)

/-- `name`, blanks, `:` (no second colon) at any token position the scanner reaches: rejected -/
theorem parse_fails_name_blank_colon (fuel : Nat) (cfg : PCfg) {text : List Char} {s s1 : Scan} {u : List Tok}
    (hs : Scan.init text = .ok s) (hu : Steps s u s1) (hne : s1.typ ≠ .eof)
    {w tail t3 : List Char} (hw : plainName w = true) (hr : NameRun w tail) (hat : At (w ++ tail) s1)
    (hc : (mkCR tail).1 ≠ ':') (hsp : tail.dropWhile isSpace = ':' :: t3) (h3 : (mkCR t3).1 ≠ ':') :
    ∃ e, parse fuel cfg text = .error e :=
  reject_scan_error fuel cfg hs hu hne
    (by rw [nextItem_at_name hw hat, nameCont_space_colon_bad hr hc hsp h3 hat])

end XPathV.BuildRejects
