import XPathV.Lemmas.Fuel
/-!
# Chains: the states a partial move visits

The fuel-bounded walks of the sequence engine along one navigator move (`sibsFrom`, `prevSibsFrom`,
`ancestorsFrom`, `attrChain`, `walkD`) and `Spec.ancestorsFuel` are all `chain mv`; what holds of a walk
because it follows one move is proved here, about `chain`.
-/
namespace XPathV

variable {α β : Type}

/-- the states the partial move `mv` visits from `a` (without `a`), at most `f` of them -/
def chain (mv : α → Option α) : Nat → α → List α
  | 0, _ => []
  | f+1, a => match mv a with
    | some b => b :: chain mv f b
    | none => []

/-- any function with the two equations of `chain` is `chain` -/
theorem chain_unique {mv : α → Option α} {W : Nat → α → List α} (h0 : ∀ a, W 0 a = [])
    (hs : ∀ f a, W (f+1) a = match mv a with | some b => b :: W f b | none => []) :
    ∀ f a, W f a = chain mv f a
  | 0, a => h0 a
  | f+1, a => by
    rw [hs, chain]
    cases mv a with
    | none => rfl
    | some b => exact congrArg (b :: ·) (chain_unique h0 hs f b)

section
variable {mv : α → Option α}

/-- a property every move preserves holds along the chain -/
theorem chain_all {Q : α → Prop} (hQ : ∀ a b, Q a → mv a = some b → Q b) :
    ∀ f a, Q a → ∀ x ∈ chain mv f a, Q x
  | 0, _, _, _, hx => nomatch hx
  | f+1, a, ha, x, hx => by
    rw [chain] at hx
    cases h : mv a with
    | none => rw [h] at hx; cases hx
    | some b =>
      rw [h] at hx
      rcases List.mem_cons.1 hx with rfl | hx
      · exact hQ a _ ha h
      · exact chain_all hQ f b (hQ a b ha h) x hx

/-- every member of a chain is where some move landed -/
theorem chain_moved : ∀ f a, ∀ x ∈ chain mv f a, ∃ y, mv y = some x
  | 0, _, _, hx => nomatch hx
  | f+1, a, x, hx => by
    rw [chain] at hx
    cases h : mv a with
    | none => rw [h] at hx; cases hx
    | some b =>
      rw [h] at hx
      rcases List.mem_cons.1 hx with rfl | hx
      · exact ⟨a, h⟩
      · exact chain_moved f b x hx

/-- a transitive relation every move respects (from states satisfying a preserved `Q`) holds from
the start to every member, and between the members in order -/
theorem chain_rel {Q : α → Prop} {R : α → α → Prop} (hQ : ∀ a b, Q a → mv a = some b → Q b)
    (hR : ∀ a b, Q a → mv a = some b → R a b) (tr : ∀ a b c, R a b → R b c → R a c) :
    ∀ f a, Q a → (∀ x ∈ chain mv f a, R a x) ∧ (chain mv f a).Pairwise R
  | 0, _, _ => ⟨fun _ hx => (nomatch hx), List.Pairwise.nil⟩
  | f+1, a, ha => by
    rw [chain]
    cases h : mv a with
    | none => exact ⟨fun _ hx => (nomatch hx), List.Pairwise.nil⟩
    | some b =>
      obtain ⟨h1, h2⟩ := chain_rel hQ hR tr f b (hQ a b ha h)
      have hab := hR a b ha h
      refine ⟨fun x hx => ?_, List.pairwise_cons.2 ⟨h1, h2⟩⟩
      rcases List.mem_cons.1 hx with rfl | hx
      · exact hab
      · exact tr _ _ _ hab (h1 x hx)

/-- a chain seen through an embedding `g` of the states that commutes with the moves -/
theorem chain_map {mv' : β → Option β} (g : α → β) (h : ∀ a, mv' (g a) = (mv a).map g) :
    ∀ f a, chain mv' f (g a) = (chain mv f a).map g
  | 0, _ => rfl
  | f+1, a => by
    rw [chain, chain, h]
    cases mv a with
    | none => rfl
    | some b => exact congrArg (g b :: ·) (chain_map g h f b)

variable (μ : α → Nat) (hμ : ∀ a b, mv a = some b → μ b < μ a)
include hμ

/-- when every move decreases `μ`, fuel above `μ` is never the limit -/
theorem chain_stable (f f' : Nat) (a : α) (h : μ a ≤ f) (h' : μ a ≤ f') : chain mv f a = chain mv f' a :=
  Model.fuel_stable (chain mv) (fun a g => match mv a with | some b => b :: g b | none => []) μ
    (fun _ => True)
    (fun _ _ => rfl)
    (fun a g _ h0 => by
      rw [chain]
      cases hm : mv a with
      | none => rfl
      | some b => have := hμ a b hm; omega)
    (fun a g g' _ hgg => by
      cases hm : mv a with
      | none => rfl
      | some b => exact congrArg (b :: ·) (hgg b trivial (hμ a b hm)))
    f f' a trivial h h'

/-- … so the chain at such a fuel satisfies the recursion without fuel -/
theorem chain_unfold {f : Nat} {a : α} (h : μ a ≤ f) :
    chain mv f a = match mv a with | some b => b :: chain mv f b | none => [] := by
  rw [chain_stable μ hμ f (f+1) a h (by omega), chain]

/-- the members of a chain, from a description `P a` of what is still to come from `a`: nothing
after the last move, the next state and what is to come from there after any other -/
theorem chain_mem {G : α → Prop} {P : α → α → Prop} (hG : ∀ a b, G a → mv a = some b → G b)
    (hnone : ∀ a, G a → mv a = none → ∀ x, ¬ P a x)
    (hsome : ∀ a b, G a → mv a = some b → ∀ x, P a x ↔ (x = b ∨ P b x)) :
    ∀ f a, G a → μ a ≤ f → ∀ x, x ∈ chain mv f a ↔ P a x
  | 0, a, ha, h, x => by
    rw [chain]
    cases hm : mv a with
    | none => exact ⟨fun hx => (nomatch hx), fun hx => absurd hx (hnone a ha hm x)⟩
    | some b => have := hμ a b hm; omega
  | f+1, a, ha, h, x => by
    rw [chain]
    cases hm : mv a with
    | none => exact ⟨fun hx => (nomatch hx), fun hx => absurd hx (hnone a ha hm x)⟩
    | some b =>
      have := hμ a b hm
      rw [List.mem_cons, hsome a b ha hm x,
        chain_mem hG hnone hsome f b (hG a b ha hm) (by omega) x]

end

end XPathV
