import XPathV.Lemmas.DocLemmas
import XPathV.Lemmas.Chain
import XPathV.Lemmas.Fuel
import XPathV.Model.Engine
/-!
# The engine's walks without their fuel

Every walk of `Model/Engine` is a recursion along navigator moves, bounded by a fuel its caller picks.
Here the fuel is dealt with once: each move decreases a measure the fuel covers (`fuel_stable`, `chain_stable`),
so each walk satisfies its recursion equation with the fuel gone (`childrenM_unfold`, `nextSibsM_unfold`, …,
`topMost_children`, `PR_unfold`, `FR_unfold`).
What is proved about the walks elsewhere — that they are the axes, that the iterator machines follow them —
rests on these equations.  Only `FR_unfold` needs a well-formed document: its measure is covered by the fuel
because a depth is at most the index.
-/
namespace XPathV
open XPathV.Model

/-! ## The moves on node references, at index level -/

/-- index-level `MoveToNext` -/
def nextOf (d : Doc) (c : Nat) : Option Nat :=
  if c < d.length ∧ endOf d c < d.length ∧ dep d (endOf d c) = dep d c then some (endOf d c)
  else none

theorem moveNext_node (d : Doc) (c : Nat) : Nav.moveNext d (.node c) = (nextOf d c).map .node := by
  unfold Nav.moveNext nextOf
  simp only
  split <;> rfl

theorem moveParent_node (d : Doc) (c : Nat) :
    Nav.moveParent d (.node c) = (parentFrom d (dep d c) c).map .node := rfl

theorem movePrev_node (d : Doc) (c : Nat) :
    Nav.movePrev d (.node c) = (prevFrom d (dep d c) c).map .node := rfl

theorem nextOf_some (d : Doc) (c n : Nat) (h : nextOf d c = some n) :
    n = endOf d c ∧ c < n ∧ n < d.length ∧ dep d n = dep d c := by
  unfold nextOf at h
  split at h
  · rename_i hyes
    cases h; exact ⟨rfl, endOf_gt d c, hyes.2.1, hyes.2.2⟩
  · cases h

theorem nextOf_none_end {d : Doc} (c : Nat) (hc : c < d.length) (h : nextOf d c = none) :
    endOf d c = d.length ∨ dep d (endOf d c) < dep d c := by
  have hle := endOf_le d c hc
  rcases Nat.lt_or_ge (endOf d c) d.length with h1 | h1
  · right
    have := endOf_at d c h1
    unfold nextOf at h
    split at h
    · cases h
    · rename_i hno
      rcases Nat.lt_or_ge (dep d (endOf d c)) (dep d c) with h2 | h2
      · exact h2
      · exact absurd ⟨hc, h1, by omega⟩ hno
  · left; omega

end XPathV

namespace XPathV.Model
open XPathV

/-! ## What the moves do to the index -/

theorem moveNext_some {d : Doc} {r r' : Ref} (h : Nav.moveNext d r = some r') :
    ∃ i j, r = .node i ∧ r' = .node j ∧ i < j ∧ j < d.length ∧ dep d j = dep d i := by
  cases r with
  | attr i k => simp [Nav.moveNext] at h
  | node i =>
    simp only [Nav.moveNext] at h
    split at h
    · rename_i hc
      injection h with h
      refine ⟨i, _, rfl, h.symm, ?_, hc.2.1, hc.2.2⟩
      have := endFrom_ge (dep d i) (d.drop (i+1)) (i+1)
      simp only [endOf]; omega
    · cases h

theorem moveChild_some {d : Doc} {r r' : Ref} (h : Nav.moveChild d r = some r') :
    ∃ i, r = .node i ∧ r' = .node (i+1) ∧ i + 1 < d.length := by
  cases r with
  | attr i k => simp [Nav.moveChild] at h
  | node i =>
    simp only [Nav.moveChild] at h
    split at h
    · rename_i hc
      injection h with h
      exact ⟨i, rfl, h.symm, hc.1⟩
    · cases h

/-- climbing from `p`, with every index in `(p, i]` strictly deeper than `p`, lands beyond `i` -/
theorem climb_gt {d : Doc} : ∀ (level : Nat) (p : Ref) (i : Nat) {r' : Ref} {l' : Nat},
    p.idx ≤ i → (∀ k, p.idx < k → k ≤ i → dep d p.idx < dep d k) →
    climb d level p = some (r', l') → i < r'.idx ∧ r'.idx < d.length
  | 0, _, _, _, _, _, _, h => by simp [climb] at h
  | level+1, p, i, r', l', hp, hdeep, h => by
    simp only [climb] at h
    split at h
    · rename_i n hn
      injection h with h
      obtain ⟨a, b, rfl, rfl, hab, hb, hdep⟩ := moveNext_some hn
      injection h with h1 h2
      subst h1
      simp only [Ref.idx] at *
      refine ⟨?_, hb⟩
      apply Nat.lt_of_not_le
      intro hbi
      have := hdeep b hab hbi
      omega
    · split at h
      · rename_i q hq
        cases p with
        | attr a k =>
          simp only [Nav.moveParent] at hq
          injection hq with hq; subst hq
          exact climb_gt level (.node a) i hp hdeep h
        | node a =>
          simp only [Nav.moveParent] at hq
          cases hpf : parentFrom d (dep d a) a with
          | none => simp [hpf] at hq
          | some q' =>
            simp only [hpf, Option.map] at hq
            injection hq with hq; subst hq
            obtain ⟨h1, h2, h3⟩ := parentFrom_some _ _ _ _ hpf
            simp only [Ref.idx] at *
            refine climb_gt level (.node q') i (by simp only [Ref.idx]; omega) ?_ h
            intro k hk1 hk2
            simp only [Ref.idx] at *
            by_cases hka : k < a
            · have := h3 k hk1 hka; omega
            · by_cases hka' : k = a
              · subst hka'; exact h2
              · have := hdeep k (by omega) hk2; omega
      · cases h

theorem stepD_gt {d : Doc} {r r' : Ref} {l l' : Nat} (h : stepD d r l = some (r', l')) :
    r.idx < r'.idx ∧ r'.idx < d.length := by
  simp only [stepD] at h
  split at h
  · rename_i c hc
    obtain ⟨i, rfl, rfl, hi⟩ := moveChild_some hc
    injection h with h; injection h with h1 h2; subst h1
    simp only [Ref.idx]; omega
  · exact climb_gt l r r.idx (Nat.le_refl _) (fun k h1 h2 => by omega) h

theorem movePrev_some (d : Doc) {r p : Ref} (h : Nav.movePrev d r = some p) :
    ∃ i j, r = .node i ∧ p = .node j ∧ j < i := by
  cases r with
  | attr i k => simp [Nav.movePrev] at h
  | node i =>
    simp only [Nav.movePrev] at h
    cases hp : prevFrom d (dep d i) i with
    | none => simp [hp] at h
    | some q =>
      simp only [hp, Option.map] at h
      injection h with h; subst h
      exact ⟨i, q, rfl, rfl, (prevFrom_some d _ _ _ hp).1⟩

/-- the measure that `MoveToParent` decreases -/
def ancM : Ref → Nat
  | .node i => i
  | .attr i _ => i + 1

theorem moveParent_lt {d : Doc} {r p : Ref} (h : Nav.moveParent d r = some p) :
    ancM p < ancM r ∧ p.idx ≤ r.idx := by
  cases r with
  | attr i k =>
    simp only [Nav.moveParent] at h
    injection h with h; subst h
    exact ⟨Nat.lt_succ_self i, Nat.le_refl i⟩
  | node i =>
    simp only [Nav.moveParent] at h
    cases hp : parentFrom d (dep d i) i with
    | none => simp [hp] at h
    | some q =>
      simp only [hp, Option.map] at h
      injection h with h; subst h
      have := (parentFrom_some _ _ _ _ hp).1
      exact ⟨this, Nat.le_of_lt this⟩

/-- the measure that `MoveToNextAttribute` decreases -/
def attrM (d : Doc) : Ref → Nat
  | .node i => (recAt d i).attrs.length + 1
  | .attr i k => (recAt d i).attrs.length - k

theorem attrM_le (d : Doc) (r : Ref) : attrM d r ≤ (recAt d r.idx).attrs.length + 1 := by
  cases r with
  | node i => exact Nat.le_refl _
  | attr i k => simp only [attrM, Ref.idx]; omega

theorem moveNextAttr_lt {d : Doc} {r a : Ref} (h : Nav.moveNextAttr d r = some a) :
    attrM d a < attrM d r ∧ a.idx = r.idx := by
  cases r with
  | node i =>
    simp only [Nav.moveNextAttr] at h
    split at h
    · cases h; exact ⟨by simp only [attrM]; omega, rfl⟩
    · cases h
  | attr i k =>
    simp only [Nav.moveNextAttr] at h
    split at h
    · cases h; exact ⟨by simp only [attrM]; omega, rfl⟩
    · cases h

/-! ## The walks along one move are chains -/

theorem sibsFrom_chain (d : Doc) : ∀ f r, sibsFrom d (f+1) r = r :: chain (Nav.moveNext d) f r
  | 0, r => by rw [sibsFrom, chain]; cases Nav.moveNext d r <;> rfl
  | f+1, r => by
    rw [sibsFrom, chain]
    cases Nav.moveNext d r with
    | none => rfl
    | some n => exact congrArg (r :: ·) (sibsFrom_chain d f n)

theorem prevSibsFrom_chain (d : Doc) : ∀ f r, prevSibsFrom d f r = chain (Nav.movePrev d) f r :=
  chain_unique (fun _ => rfl) (fun f r => by rw [prevSibsFrom]; cases Nav.movePrev d r <;> rfl)

theorem ancestorsFrom_chain (d : Doc) : ∀ f r, ancestorsFrom d f r = chain (Nav.moveParent d) f r :=
  chain_unique (fun _ => rfl) (fun f r => by rw [ancestorsFrom]; cases Nav.moveParent d r <;> rfl)

theorem attrChain_chain (d : Doc) : ∀ f r, attrChain d f r = chain (Nav.moveNextAttr d) f r :=
  chain_unique (fun _ => rfl) (fun f r => by rw [attrChain]; cases Nav.moveNextAttr d r <;> rfl)

theorem walkD_chain (d : Doc) (f : Nat) (r : Ref) (l : Nat) :
    walkD d f r l = chain (fun s : Ref × Nat => stepD d s.1 s.2) f (r, l) :=
  chain_unique (W := fun f (s : Ref × Nat) => walkD d f s.1 s.2) (fun _ => rfl)
    (fun f s => by simp only [walkD]; cases stepD d s.1 s.2 <;> rfl) f (r, l)

theorem moveNext_lt {d : Doc} (a b : Ref) (h : Nav.moveNext d a = some b) :
    d.length - b.idx < d.length - a.idx := by
  obtain ⟨i, j, rfl, rfl, hij, hj, _⟩ := moveNext_some h
  simp only [Ref.idx]; omega

theorem nextSibsM_chain (d : Doc) (r : Ref) : nextSibsM d r = chain (Nav.moveNext d) d.length r := by
  rw [nextSibsM]
  cases h : Nav.moveNext d r with
  | none => cases d.length <;> simp only [chain, h]
  | some n =>
    -- the move succeeded, so the document is not empty and `sibsFrom` has fuel for its first node
    obtain ⟨i, j, rfl, rfl, _, hj, _⟩ := moveNext_some h
    obtain ⟨f, hf⟩ : ∃ f, d.length = f + 1 := ⟨d.length - 1, by omega⟩
    simp only [hf, sibsFrom_chain, chain, h]

/-! ## The recursion equations of the walks -/

theorem nextSibsM_unfold (d : Doc) (r : Ref) :
    nextSibsM d r = match Nav.moveNext d r with | some n => n :: nextSibsM d n | none => [] := by
  simp only [nextSibsM_chain]
  rw [chain_unfold (fun r : Ref => d.length - r.idx) moveNext_lt (Nat.sub_le _ _)]
  cases Nav.moveNext d r <;> rfl

theorem childrenM_unfold (d : Doc) (r : Ref) :
    childrenM d r = match Nav.moveChild d r with | some c => c :: nextSibsM d c | none => [] := by
  rw [childrenM]
  cases h : Nav.moveChild d r with
  | none => rfl
  | some c =>
    obtain ⟨i, rfl, rfl, hi⟩ := moveChild_some h
    obtain ⟨f, hf⟩ : ∃ f, d.length = f + 1 := ⟨d.length - 1, by omega⟩
    simp only [nextSibsM_chain]
    rw [hf, sibsFrom_chain, ← hf]
    -- `childrenM` walks the siblings with one unit of fuel less than `nextSibsM`
    exact congrArg (_ :: ·) (chain_stable (fun r : Ref => d.length - r.idx) moveNext_lt _ _ _
      (by simp only [Ref.idx]; omega) (Nat.sub_le _ _))

theorem prevSibsM_unfold (d : Doc) {r : Ref} (hg : r.idx < d.length) :
    prevSibsM d r =
      match Nav.movePrev d r with
      | none => []
      | some p => p :: prevSibsM d p := by
  simp only [prevSibsM, prevSibsFrom_chain]
  rw [chain_unfold Ref.idx (fun a b h => by obtain ⟨i, j, rfl, rfl, hij⟩ := movePrev_some d h; exact hij)
    (Nat.le_of_lt hg)]
  cases Nav.movePrev d r <;> rfl

theorem ancestorsM_unfold (d : Doc) {r : Ref} (hg : r.idx < d.length) :
    ancestorsM d r =
      match Nav.moveParent d r with
      | none => []
      | some p => p :: ancestorsM d p := by
  have hr : ancM r ≤ d.length + 1 := by
    cases r <;> simp only [Ref.idx] at hg <;> simp only [ancM] <;> omega
  simp only [ancestorsM, ancestorsFrom_chain]
  rw [chain_unfold ancM (fun a b h => (moveParent_lt h).1) hr]
  cases Nav.moveParent d r <;> rfl

theorem walkD_unfold (d : Doc) (r : Ref) (l : Nat) :
    walkD d d.length r l =
      match stepD d r l with
      | none => []
      | some (n, l') => (n, l') :: walkD d d.length n l' := by
  simp only [walkD_chain]
  rw [chain_unfold (fun s : Ref × Nat => d.length - 1 - s.1.idx)
    (fun a b h => by have := stepD_gt (r' := b.1) (l' := b.2) h; omega) (by simp only; omega)]
  cases stepD d r l <;> rfl

/-- `attrsM` gives the walk of a node the fuel "number of its attributes + 1" -/
theorem attrChain_unfold (d : Doc) (n : Ref) :
    attrChain d ((recAt d n.idx).attrs.length + 1) n =
      match Nav.moveNextAttr d n with
      | none => []
      | some c => c :: attrChain d ((recAt d c.idx).attrs.length + 1) c := by
  simp only [attrChain_chain]
  rw [chain_unfold (attrM d) (fun a b h => (moveNextAttr_lt h).1) (attrM_le d n)]
  cases h : Nav.moveNextAttr d n with
  | none => rfl
  | some c =>
    have := moveNextAttr_lt h
    have := attrM_le d n
    exact congrArg (c :: ·) (chain_stable (attrM d) (fun a b h => (moveNextAttr_lt h).1) _ _ _
      (by omega) (attrM_le d c))

/-! ## `topMostFrom` -/

theorem moveChild_lt {d : Doc} (a b : Ref) (h : Nav.moveChild d a = some b) :
    d.length - b.idx < d.length - a.idx := by
  obtain ⟨i, rfl, rfl, hi⟩ := moveChild_some h
  simp only [Ref.idx]; omega

theorem topMostFrom_nil (d : Doc) (t : Ref → Bool) (f : Nat) : topMostFrom d t f [] = [] := by
  cases f <;> rfl

/-- `topMostFrom` runs on a node with its following siblings (or on `[]`); from there it goes on with
the first child and its siblings and with the next sibling and its siblings, both of larger index, so
the fuel `2·|d|+2` that `topMost` gives it is never the limit -/
theorem topMostFrom_unfold (d : Doc) (t : Ref → Bool) {c : Ref} (hc : c.idx < d.length) :
    topMostFrom d t (2 * d.length + 2) (c :: nextSibsM d c) =
      (if t c then [c] else topMost d t c) ++ topMostFrom d t (2 * d.length + 2) (nextSibsM d c) := by
  have h := fuel_unfold (fun f c => topMostFrom d t f (c :: nextSibsM d c))
    (fun c g => (if t c then [c] else match Nav.moveChild d c with | some c' => g c' | none => []) ++
      (match Nav.moveNext d c with | some n => g n | none => []))
    (fun c => d.length - c.idx) (fun c => c.idx < d.length)
    (fun f c => by
      simp only
      rw [topMostFrom, childrenM_unfold, nextSibsM_unfold]
      cases Nav.moveChild d c <;> cases Nav.moveNext d c <;> simp only [topMostFrom_nil])
    (fun c g (hc : c.idx < d.length) (h0 : d.length - c.idx = 0) => by omega)
    (fun c g g' _ hgg => by
      have e1 : (match Nav.moveChild d c with | some c' => g c' | none => []) =
          match Nav.moveChild d c with | some c' => g' c' | none => [] := by
        cases h : Nav.moveChild d c with
        | none => rfl
        | some c' =>
          exact hgg c' (by obtain ⟨i, rfl, rfl, hi⟩ := moveChild_some h; exact hi) (moveChild_lt c c' h)
      have e2 : (match Nav.moveNext d c with | some n => g n | none => []) =
          match Nav.moveNext d c with | some n => g' n | none => [] := by
        cases h : Nav.moveNext d c with
        | none => rfl
        | some n =>
          exact hgg n (by obtain ⟨i, j, rfl, rfl, _, hj, _⟩ := moveNext_some h; exact hj) (moveNext_lt c n h)
      simp only [e1, e2])
    (2 * d.length + 1) c hc (by omega)
  rw [h, topMost, childrenM_unfold, nextSibsM_unfold]
  cases Nav.moveChild d c <;> cases Nav.moveNext d c <;> simp only [topMostFrom_nil]

/-- the top-most matching proper descendants of `s`: from every child, the child itself if it matches,
else its own top-most matching descendants -/
theorem topMost_children (d : Doc) (t : Ref → Bool) (s : Ref) :
    topMost d t s = (childrenM d s).flatMap (fun c => if t c then [c] else topMost d t c) := by
  have sibs : ∀ n c, c.idx < d.length → d.length - c.idx ≤ n →
      topMostFrom d t (2 * d.length + 2) (c :: nextSibsM d c) =
        (c :: nextSibsM d c).flatMap (fun c => if t c then [c] else topMost d t c) := by
    intro n
    induction n with
    | zero => intro c hc hn; omega
    | succ n ih =>
      intro c hc hn
      rw [topMostFrom_unfold d t hc, List.flatMap_cons, nextSibsM_unfold]
      cases h : Nav.moveNext d c with
      | none => rw [topMostFrom_nil]; rfl
      | some m =>
        have := moveNext_lt c m h
        obtain ⟨i, j, rfl, rfl, _, hj, _⟩ := moveNext_some h
        exact congrArg (_ ++ ·) (ih (.node j) hj (by omega))
  rw [topMost, childrenM_unfold]
  cases h : Nav.moveChild d s with
  | none => exact topMostFrom_nil d t _
  | some c =>
    obtain ⟨i, rfl, rfl, hi⟩ := moveChild_some h
    exact sibs _ _ hi (Nat.le_refl _)

/-! ## The roots of `precedingQuery` and `followingQuery` -/

section
variable (d : Doc)

/-- the roots `precedingQuery` visits from `r`, at the fuel the sequence model uses -/
def PR (r : Ref) (b : Bool) : List (Ref × Bool) := precRoots d (2 * d.length + 2) r b

/-- both moves of `precRoots` decrease `ancM` -/
theorem PR_unfold {r : Ref} (hg : r.idx < d.length) (b : Bool) :
    PR d r b =
      match Nav.movePrev d r with
      | some p => (p, b) :: PR d p false
      | none =>
        match Nav.moveParent d r with
        | some q => PR d q true
        | none => [] := by
  have prev : ∀ {r p : Ref}, Nav.movePrev d r = some p → ancM p < ancM r := fun h => by
    obtain ⟨i, j, rfl, rfl, hij⟩ := movePrev_some d h
    exact hij
  exact fuel_unfold (fun f (s : Ref × Bool) => precRoots d f s.1 s.2)
    (fun s g => match Nav.movePrev d s.1 with
      | some p => (p, s.2) :: g (p, false)
      | none => match Nav.moveParent d s.1 with
        | some q => g (q, true)
        | none => [])
    (fun s => ancM s.1) (fun _ => True)
    (fun f s => by
      rw [precRoots]
      cases Nav.movePrev d s.1 with
      | some p => rfl
      | none => cases Nav.moveParent d s.1 <;> rfl)
    (fun s g _ h0 => by
      cases hp : Nav.movePrev d s.1 with
      | some p => have := prev hp; omega
      | none =>
        cases hq : Nav.moveParent d s.1 with
        | none => rfl
        | some q => have := (moveParent_lt hq).1; omega)
    (fun s g g' _ hgg => by
      cases hp : Nav.movePrev d s.1 with
      | some p => simp only; rw [hgg (p, false) trivial (prev hp)]
      | none =>
        cases hq : Nav.moveParent d s.1 with
        | none => rfl
        | some q => exact hgg (q, true) trivial (moveParent_lt hq).1)
    (2 * d.length + 1) (r, b) trivial
    (by show ancM r ≤ _; cases r <;> simp only [Ref.idx] at hg <;> simp only [ancM] <;> omega)

/-- the measure that the climbing loop of the non-sibling `followingQuery` decreases: what lies after
the subtree, plus the depth (on a well-formed document) -/
def folM : Ref → Nat
  | .node c => (d.length - endOf d c) + dep d c
  | .attr i _ => (d.length - endOf d i) + dep d i + 1

theorem folM_lt {r : Ref} (wf : WF d) (hg : r.idx < d.length) : folM d r < 2 * d.length + 1 := by
  have h1 := dep_le_idx wf r.idx hg
  have h2 := endOf_gt d r.idx
  cases r <;> simp only [Ref.idx] at hg h1 h2 <;> simp only [folM] <;> omega

theorem moveNext_folM {r n : Ref} (h : Nav.moveNext d r = some n) :
    folM d n < folM d r ∧ n.idx < d.length := by
  obtain ⟨i, j, rfl, rfl, hij, hj, hdep⟩ := moveNext_some h
  rw [moveNext_node] at h
  cases hn : nextOf d i with
  | none => rw [hn] at h; cases h
  | some j' =>
    rw [hn] at h
    injection h with h; injection h with h; subst h
    have hje := (nextOf_some d i j' hn).1
    have h2 := endOf_gt d j'
    have h3 := endOf_le d j' hj
    refine ⟨?_, hj⟩
    simp only [folM, hdep]
    rw [← hje]; omega

theorem moveParent_folM {r q : Ref} (wf : WF d) (hg : r.idx < d.length) (hn : Nav.moveNext d r = none)
    (h : Nav.moveParent d r = some q) : folM d q < folM d r ∧ q.idx < d.length := by
  cases r with
  | attr i k =>
    simp only [Nav.moveParent] at h
    injection h with h; subst h
    exact ⟨by simp only [folM]; omega, hg⟩
  | node c =>
    have hc : c < d.length := hg
    rw [moveNext_node] at hn
    rw [moveParent_node] at h
    cases hnx : nextOf d c with
    | some n => rw [hnx] at hn; cases hn
    | none =>
      cases hq : parentFrom d (dep d c) c with
      | none => rw [hq] at h; cases h
      | some p =>
        rw [hq] at h
        simp only [Option.map_some] at h
        injection h with h; subst h
        -- a last child: the subtree of the parent ends where its own does
        have hqq := endOf_parent wf c p hc hq (nextOf_none_end c hc hnx)
        have hqc := (parent_endOf wf p c hc hq).1
        have hdep := parent_depth wf c p hc hq
        refine ⟨?_, by simp only [Ref.idx]; omega⟩
        simp only [folM, hqq]; omega

/-- the roots `followingQuery` visits from `r`, at the fuel the sequence model uses -/
def FR (r : Ref) : List Ref := followRoots d (2 * d.length + 2) r

theorem FR_unfold (wf : WF d) {r : Ref} (hg : r.idx < d.length) :
    FR d r =
      match Nav.moveNext d r with
      | some n => n :: FR d n
      | none =>
        match Nav.moveParent d r with
        | some q => FR d q
        | none => [] :=
  fuel_unfold (followRoots d)
    (fun r g => match Nav.moveNext d r with
      | some n => n :: g n
      | none => match Nav.moveParent d r with
        | some q => g q
        | none => [])
    (folM d) (fun r => r.idx < d.length)
    (fun f r => by
      rw [followRoots]
      cases Nav.moveNext d r with
      | some n => rfl
      | none => cases Nav.moveParent d r <;> rfl)
    (fun r g hg h0 => by
      cases hn : Nav.moveNext d r with
      | some n => have := (moveNext_folM d hn).1; omega
      | none =>
        cases hq : Nav.moveParent d r with
        | none => rfl
        | some q => have := (moveParent_folM d wf hg hn hq).1; omega)
    (fun r g g' hg hgg => by
      cases hn : Nav.moveNext d r with
      | some n => simp only; rw [hgg n (moveNext_folM d hn).2 (moveNext_folM d hn).1]
      | none =>
        cases hq : Nav.moveParent d r with
        | none => rfl
        | some q => exact hgg q (moveParent_folM d wf hg hn hq).2 (moveParent_folM d wf hg hn hq).1)
    (2 * d.length + 1) r hg (by have := folM_lt d wf hg; omega)

end

end XPathV.Model
