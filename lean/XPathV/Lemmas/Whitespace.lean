import XPathV.Lemmas.Whitespace.Boundary
import XPathV.Lemmas.Whitespace.Parse
import XPathV.Lemmas.Whitespace.FuelStable
import XPathV.Lemmas.Whitespace.Complete
import XPathV.Lemmas.Whitespace.Examples
import XPathV.Lemmas.ParserFull
import XPathV.Lemmas.FullGrammarComplete
/-!
# C10, second clause — inserting or removing optional whitespace between tokens never changes the meaning

Proved about the model (`Model/Scanner.lean`, `Model/Parser.lean`).  Whitespace: the characters
`Scan.skipSpace` skips (`isSpace` = Go's `unicode.IsSpace`; `Blank ws`).

* **Token boundary** — `LexPrefix u v` (`Whitespace/Boundary.lean`; `Boundary` is an alias): `u` is made of
  complete scanner items (`Lexeme`, `Whitespace/Lexeme.lean`: one constructor per kind of token, with the
  condition on the following character that ends the token) with blanks before/between/after them, or `u` ends in
  the optional blanks between an axis name and its `::` (constructor `.axisGap`).  Walk lemmas: `LexPrefix.start`,
  `.snoc` (over a lexeme), `.shift` (over blanks); `.insert_left/.insert_right`: still boundaries after the insertion.
* **Scanner level** — `tokVs_insert_blanks : LexPrefix u v → Blank ws → AsciiHead ws →
  tokVs (u ++ ws ++ v) = tokVs (u ++ v)` (`some` of the same list or both `none`); `tokVs_remove_blanks`.
  The look-ahead after a name (over blanks, for `(` and `::`) is part of `Lexeme.name` / `Lexeme.axis` /
  `LexPrefix.axisGap`.  `AsciiHead ws`: only needed directly behind a name (`Examples.nbsp_after_name`).
* **Completeness of the boundaries** (ASCII texts) — `scan_positions_are_boundaries`
  (`Whitespace/Complete.lean`, from `itemBody_inv`: every item the scanner returns is a `Lexeme`): every position
  between two items of a successful scanner run is a `LexPrefix` boundary; `tokVs_insert_blanks_at_scanner_position`.
* **Parser level, every fuel and configuration** — `parse_insert_blanks :
  parse fuel cfg (u ++ ws ++ v) = .ok a ↔ parse fuel cfg (u ++ v) = .ok a` (the same `Ast`, not only up to
  `normConv`; grammatical or not), from `parse_eq_of_sync` (`Whitespace/Parse.lean`): the parser model sees a text
  only through the scanner's tokens.  With `Compile`'s fuel: `parse_insert_blanks_fuelFor`
  (`Whitespace/FuelStable.lean`: more fuel never changes a result that is not the out-of-fuel error).
* **Meaning level** — `same_tokens_same_tree`, `whitespace_insertion_same_grammar_tree`
  (and `Theorems.C10.C10_whitespace_grammar_tree`).
* `Whitespace/Examples.lean`: concrete texts, and the non-optional blanks (`a b`, `/ /`, `1 .5`, `! =`, `. .`,
  `: :`, `p :a`, `a -b` vs `a-b`, NBSP behind a name).
-/
namespace XPathV.Whitespace
open XPathV XPathV.Model XPathV.Bridge XPathV.Spec.Full
open XPathV.BuildRejects (start plainName localPart)
open XPathV.Lemmas.ParserFull (nesting full_complete_tokVs)

/-- **Blanks inserted at a token boundary do not change what the parser model does**: the text with the
blanks is accepted iff the text without them is, and with the same tree (syntactically the same `Ast`). -/
theorem parse_insert_blanks {u v ws : List Char} (hb : LexPrefix u v) (hws : Blank ws) (ha : AsciiHead ws)
    (fuel : Nat) (cfg : PCfg) (a : Ast) :
    parse fuel cfg (u ++ ws ++ v) = .ok a ↔ parse fuel cfg (u ++ v) = .ok a := by
  rw [List.append_assoc]
  exact (parse_eq_of_sync fuel cfg (hb.sync_start hws ha) a).symm

theorem fuelFor_mono {t t' : List Char} (h : t.length ≤ t'.length) : fuelFor t ≤ fuelFor t' := by
  unfold fuelFor; omega

/-- the same with the fuel `Compile` uses (`fuelFor`, which grows with the text) and the library's
configuration -/
theorem parse_insert_blanks_fuelFor {u v ws : List Char} (hb : LexPrefix u v) (hws : Blank ws) (ha : AsciiHead ws)
    (ns : Option NsMap) (a : Ast) :
    parse (fuelFor (u ++ ws ++ v)) (defaultCfg ns) (u ++ ws ++ v) = .ok a ↔
      parse (fuelFor (u ++ v)) (defaultCfg ns) (u ++ v) = .ok a := by
  have hle : fuelFor (u ++ v) ≤ fuelFor (u ++ ws ++ v) := fuelFor_mono (by simp)
  rw [parse_insert_blanks hb hws ha, FuelStable.parse_fuelFor_stable ns (u ++ v) hle]


/-- removal is the same statement read from right to left: blanks that stand at a token boundary of the
text without them may be removed -/
theorem tokVs_remove_blanks {u v ws : List Char} (hb : LexPrefix u v) (hws : Blank ws) (ha : AsciiHead ws) :
    tokVs (u ++ v) = tokVs (u ++ ws ++ v) := (tokVs_insert_blanks hb hws ha).symm

/-- ASCII blanks (tab, line feed, vertical tab, form feed, carriage return, space) anywhere at a boundary;
XPath's own white space `S` is `#x20 | #x9 | #xD | #xA` -/
theorem tokVs_insert_ascii_blanks {u v ws : List Char} (hb : LexPrefix u v)
    (hws : ∀ c ∈ ws, c ∈ ['\t', '\n', '\x0b', '\x0c', '\r', ' ']) : tokVs (u ++ ws ++ v) = tokVs (u ++ v) := by
  have hall : ∀ c ∈ ['\t', '\n', '\x0b', '\x0c', '\r', ' '], isSpace c = true ∧ c.toNat < 0x80 := by decide
  refine tokVs_insert_blanks hb (fun c hc => (hall c (hws c hc)).1) ?_
  intro c hc
  cases ws with
  | nil => cases hc
  | cons x ws =>
    simp only [List.head?_cons, Option.some.injEq] at hc
    subst hc
    exact (hall _ (hws _ (List.mem_cons_self ..))).2

/-- two texts with the same token stream, which the XPath 1.0 grammar derives with a tree `b` nesting
fewer than 200 deep: the model parser accepts both, with trees equal to `b` — hence to each other — up
to the representation conventions of `normConv` -/
theorem same_tokens_same_tree {ns : Option NsMap} {t1 t2 : List Char} {toks : List TokV} {b : Ast}
    (h1 : tokVs t1 = some toks) (h2 : tokVs t2 = some toks) (hp : Parses ns toks b) (hd : nesting b < 200) :
    ∃ a1 a2, parse (fuelFor t1) (defaultCfg ns) t1 = .ok a1 ∧ parse (fuelFor t2) (defaultCfg ns) t2 = .ok a2 ∧
      normConv a1 = normConv b ∧ normConv a2 = normConv b := by
  have href := refParseFull_iff.mpr hp
  obtain ⟨a1, p1, n1⟩ := full_complete_tokVs h1 href hd
  obtain ⟨a2, p2, n2⟩ := full_complete_tokVs h2 href hd
  exact ⟨a1, a2, p1, p2, n1, n2⟩

/-- the two texts have the same token stream (`tokVs_insert_blanks`), so the expression with the blanks is
in the grammar exactly when the one without is, with the same tree -/
theorem whitespace_insertion_same_grammar_tree {ns : Option NsMap} {u v ws : List Char} (hb : LexPrefix u v)
    (hws : Blank ws) (ha : AsciiHead ws) (b : Ast) :
    (∃ toks, tokVs (u ++ ws ++ v) = some toks ∧ Parses ns toks b) ↔
      (∃ toks, tokVs (u ++ v) = some toks ∧ Parses ns toks b) := by
  rw [tokVs_insert_blanks hb hws ha]


/-- another name for `LexPrefix` -/
abbrev Boundary (u v : List Char) : Prop := LexPrefix u v

/-- **Blanks may be inserted wherever the scanner stands between two items** (ASCII texts): after any
number of successful `nextItem` calls the text is `u ++ w` with the scanner in front of `w` (for a
name-like token: of `w` without its leading blanks, which it has skipped already), and blanks inserted
anywhere in the run of blanks `w` starts with — in particular directly behind the last token and directly
in front of the next one — do not change the token stream. -/
theorem tokVs_insert_blanks_at_scanner_position {text : List Char} (hasc : Ascii text) {s : Scan}
    (h : Items (start text) s) :
    ∃ u w, text = u ++ w ∧ (Lemmas.ScanTail.At w s ∨ Lemmas.ScanTail.At (w.dropWhile isSpace) s) ∧
      ∀ b v ws, w = b ++ v → Blank b → Blank ws → AsciiHead ws → tokVs (u ++ b ++ ws ++ v) = tokVs text := by
  obtain ⟨u, w, e, hat, hb⟩ := scan_positions_are_boundaries hasc h
  refine ⟨u, w, e, hat, fun b v ws ew hbl hws ha => ?_⟩
  rw [tokVs_insert_blanks (hb b v ew hbl) hws ha, e, ew, List.append_assoc]

end XPathV.Whitespace

