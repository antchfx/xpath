import XPathV.Lemmas.AxesLemmas
/-!
# Flat paths yield their nodes in document order (C12); child positions are proximity positions (C03)

First half (C12): the separation invariant `Flat`, kept by every child/attribute/self step, and a
single descendant step.  Second half (C03): the `pos` a child step reports is the XPath proximity
position (`child::a[n]` as the n-th matching child on both sides: end of `PosSem/Group`).
-/
namespace XPathV
open XPathV.Model NumAlg

variable {F : Type} [NumAlg F]

/-! ## Item lists and their references -/

theorem flatMap_map_r (ins : List Item) (f : Ref → List Item) (g : Ref → List Ref)
    (h : ∀ r, (f r).map (·.r) = g r) :
    (ins.flatMap (fun it => f it.r)).map (·.r) = (ins.map (·.r)).flatMap g := by
  induction ins with
  | nil => rfl
  | cons x xs ih =>
    simp only [List.flatMap_cons, List.map_append, List.map_cons, ih, h]

/-! ## The separation invariant -/

/-- `a` comes before `b` and nothing below `a` (children, attributes) can reach `b` or anything
below `b`: for non-attribute `a` the subtree of `a` ends before `b`; attributes are ordered by
owner, then index -/
def SepRel (d : Doc) : Ref → Ref → Prop
  | .node i, .node j => endOf d i ≤ j
  | .node i, .attr j _ => endOf d i ≤ j
  | .attr i _, .node j => i < j
  | .attr i k, .attr j k' => i < j ∨ (i = j ∧ k < k')

theorem ref_lt_iff (a b : Ref) : Ref.lt a b = true ↔
    (a.ord.1 < b.ord.1 ∨ (a.ord.1 = b.ord.1 ∧ a.ord.2 < b.ord.2)) := by
  unfold Ref.lt
  simp only [Bool.or_eq_true, Bool.and_eq_true, decide_eq_true_eq, beq_iff_eq]

theorem ref_lt_irrefl (a : Ref) : Ref.lt a a = false := by
  cases h : Ref.lt a a with
  | false => rfl
  | true => rw [ref_lt_iff] at h; omega

/-! ## Document order is a strict order; strictly increasing lists of references -/
namespace DocOrder

theorem lt_asymm (a b : Ref) (h : Ref.lt a b = true) : Ref.lt b a = false := by
  cases h' : Ref.lt b a with
  | false => rfl
  | true => rw [ref_lt_iff] at h h'; omega

theorem lt_trans (a b c : Ref) (h₁ : Ref.lt a b = true) (h₂ : Ref.lt b c = true) :
    Ref.lt a c = true := by
  rw [ref_lt_iff] at h₁ h₂ ⊢; omega

/-- two strictly increasing sequences with the same members are the same sequence -/
theorem sorted_ext (l₁ l₂ : List Ref) : l₁.Pairwise (fun a b => Ref.lt a b = true) →
    l₂.Pairwise (fun a b => Ref.lt a b = true) → (∀ x, x ∈ l₁ ↔ x ∈ l₂) → l₁ = l₂ :=
  pairwise_ext (fun a b h h' => by rw [lt_asymm a b h] at h'; cases h') l₁ l₂

theorem sorted_nodup {l : List Ref} (h : l.Pairwise (fun a b => Ref.lt a b = true)) : l.Nodup :=
  h.imp (fun {a b} hab e => by subst e; rw [ref_lt_irrefl] at hab; cases hab)

theorem allRefs_sorted (d : Doc) : (allRefs d).Pairwise (fun a b => Ref.lt a b = true) := by
  unfold allRefs
  rw [List.pairwise_flatMap]
  constructor
  · intro i _
    rw [List.pairwise_cons]
    constructor
    · intro x hx
      obtain ⟨k, _, rfl⟩ := List.mem_map.1 hx
      exact (ref_lt_iff _ _).2 (Or.inr ⟨rfl, Nat.succ_pos _⟩)
    · unfold attrsOf
      rw [List.pairwise_map]
      exact List.pairwise_lt_range.imp (fun {a b} hab =>
        (ref_lt_iff (.attr i a) (.attr i b)).2 (Or.inr ⟨rfl, Nat.succ_lt_succ hab⟩))
  · refine List.pairwise_lt_range.imp (fun {i j} hij x hx y hy => ?_)
    -- every reference of the block of `i` has `i` as first component of its `ord`
    have owner : ∀ {i : Nat} {x : Ref}, x ∈ Ref.node i :: attrsOf d i → x.ord.1 = i := by
      intro i x hx
      rcases List.mem_cons.1 hx with rfl | hx
      · rfl
      · obtain ⟨k, _, rfl⟩ := List.mem_map.1 hx; rfl
    exact (ref_lt_iff _ _).2 (Or.inl (by rw [owner hx, owner hy]; exact hij))

theorem docOrder_sorted (d : Doc) (l : List Ref) :
    (Spec.docOrder d l).Pairwise (fun a b => Ref.lt a b = true) :=
  List.Pairwise.filter _ (allRefs_sorted d)

end DocOrder

theorem SepRel.lt {d : Doc} {a b : Ref} (h : SepRel d a b) : Ref.lt a b = true := by
  rw [ref_lt_iff]
  cases a with
  | node i =>
    have := endOf_gt d i
    cases b with
    | node j =>
      simp only [SepRel] at h
      simp only [Ref.ord]
      omega
    | attr j k' =>
      simp only [SepRel] at h
      simp only [Ref.ord]
      omega
  | attr i k =>
    cases b with
    | node j =>
      simp only [SepRel] at h
      simp only [Ref.ord]
      omega
    | attr j k' =>
      simp only [SepRel] at h
      simp only [Ref.ord]
      omega

/-- the induction invariant -/
def Flat (d : Doc) (l : List Ref) : Prop := l.Pairwise (SepRel d)

theorem Flat.sorted {d : Doc} {l : List Ref} (h : Flat d l) :
    l.Pairwise (fun a b => Ref.lt a b = true) :=
  List.Pairwise.imp (fun h => h.lt) h

theorem Flat.filter {d : Doc} {l : List Ref} (p : Ref → Bool) (h : Flat d l) : Flat d (l.filter p) :=
  List.Pairwise.filter p h

theorem flat_single (d : Doc) (c : Ref) : Flat d [c] := List.pairwise_singleton _ _

/-! ## One step keeps the invariant -/

/-- a step that sends every origin to a separated block, and separated origins to separated blocks -/
theorem flat_flatMap {d : Doc} (g : Ref → List Ref) (own : ∀ r, (g r).Pairwise (SepRel d))
    (cross : ∀ r₁ r₂, SepRel d r₁ r₂ → ∀ x ∈ g r₁, ∀ y ∈ g r₂, SepRel d x y)
    (l : List Ref) (h : Flat d l) : Flat d (l.flatMap g) :=
  List.pairwise_flatMap.2 ⟨fun r _ => own r, h.imp (fun hab x hx y hy => cross _ _ hab x hx y hy)⟩

theorem children_own_sep {d : Doc} (wf : WF d) (r : Ref) :
    (childrenM d r).Pairwise (SepRel d) := by
  cases r with
  | attr i k => rw [childrenM_attr]; exact List.Pairwise.nil
  | node i =>
    rcases Nat.lt_or_ge i d.length with hr | hr
    · obtain ⟨e, _, _, hp⟩ := children_sorted wf i hr
      rw [e, List.pairwise_map]
      exact hp
    · rw [childrenM_oob d i hr]; exact List.Pairwise.nil

theorem children_cross_sep {d : Doc} (wf : WF d) (r₁ r₂ : Ref)
    (h : SepRel d r₁ r₂) : ∀ x ∈ childrenM d r₁, ∀ y ∈ childrenM d r₂, SepRel d x y := by
  intro x hx y hy
  cases r₁ with
  | attr i k => rw [childrenM_attr] at hx; cases hx
  | node i =>
    cases r₂ with
    | attr j k => rw [childrenM_attr] at hy; cases hy
    | node j =>
      rcases Nat.lt_or_ge i d.length with h₁ | h₁
      · rcases Nat.lt_or_ge j d.length with h₂ | h₂
        · obtain ⟨e₁, _, hm₁, _⟩ := children_sorted wf i h₁
          obtain ⟨e₂, _, hm₂, _⟩ := children_sorted wf j h₂
          rw [e₁, List.mem_map] at hx
          rw [e₂, List.mem_map] at hy
          obtain ⟨a, ha, rfl⟩ := hx
          obtain ⟨b, hb, rfl⟩ := hy
          have := hm₁ a ha
          have := hm₂ b hb
          simp only [SepRel] at h ⊢
          omega
        · rw [childrenM_oob d j h₂] at hy; cases hy
      · rw [childrenM_oob d i h₁] at hx; cases hx

theorem flat_children_step {d : Doc} (wf : WF d) (t : Ref → Bool) (l : List Ref) (h : Flat d l) :
    Flat d (l.flatMap (fun r => (childrenM d r).filter t)) :=
  flat_flatMap _ (fun r => (children_own_sep wf r).filter t) (fun a b hab x hx y hy =>
    children_cross_sep wf a b hab x (List.mem_filter.1 hx).1 y (List.mem_filter.1 hy).1) l h

theorem attrs_own_sep (d : Doc) (r : Ref) : (attrsM d r).Pairwise (SepRel d) := by
  cases r with
  | attr i k => rw [attrsM_attr]; exact List.Pairwise.nil
  | node i =>
    rw [attrsM_node]
    unfold attrsOf
    rw [List.pairwise_map]
    exact List.pairwise_lt_range.imp (fun {a b} h => Or.inr ⟨rfl, h⟩)

theorem attrs_cross_sep (d : Doc) (r₁ r₂ : Ref) (h : SepRel d r₁ r₂) :
    ∀ x ∈ attrsM d r₁, ∀ y ∈ attrsM d r₂, SepRel d x y := by
  intro x hx y hy
  cases r₁ with
  | attr i k => rw [attrsM_attr] at hx; cases hx
  | node i =>
    cases r₂ with
    | attr j k => rw [attrsM_attr] at hy; cases hy
    | node j =>
      rw [attrsM_node] at hx hy
      unfold attrsOf at hx hy
      rw [List.mem_map] at hx hy
      obtain ⟨a, _, rfl⟩ := hx
      obtain ⟨b, _, rfl⟩ := hy
      have := endOf_gt d i
      simp only [SepRel] at h ⊢
      left; omega

theorem flat_attrs_step {d : Doc} (t : Ref → Bool) (l : List Ref) (h : Flat d l) :
    Flat d (l.flatMap (fun r => (attrsM d r).filter t)) :=
  flat_flatMap _ (fun r => (attrs_own_sep d r).filter t) (fun a b hab x hx y hy =>
    attrs_cross_sep d a b hab x (List.mem_filter.1 hx).1 y (List.mem_filter.1 hy).1) l h

/-! ## C12: flat plans -/

/-- plans made of `child`, `attribute` and `self` steps from the context node -/
inductive FlatPlan : Plan → Prop
  | context : FlatPlan .context
  | child (a : AxisInfo) {p : Plan} : FlatPlan p → FlatPlan (.child a p)
  | cachedChild (a : AxisInfo) {p : Plan} : FlatPlan p → FlatPlan (.cachedChild a p)
  | attr (a : AxisInfo) {p : Plan} : FlatPlan p → FlatPlan (.attr a p)
  | self (a : AxisInfo) {p : Plan} : FlatPlan p → FlatPlan (.self a p)

theorem sel_child_refs (d : Doc) (cfg : ECfg) (a : AxisInfo) (ins : List Item) :
    (ins.flatMap (fun it => numbered ((childrenM d it.r).filter (test d cfg a)))).map (·.r) =
      (ins.map (·.r)).flatMap (fun r => (childrenM d r).filter (test d cfg a)) :=
  flatMap_map_r ins (fun r => numbered ((childrenM d r).filter (test d cfg a))) _
    (fun _ => numbered_map_r _)

theorem sel_attr_refs (d : Doc) (cfg : ECfg) (a : AxisInfo) (ins : List Item) :
    (ins.flatMap (fun it => plain ((attrsM d it.r).filter (test d cfg a)))).map (·.r) =
      (ins.map (·.r)).flatMap (fun r => (attrsM d r).filter (test d cfg a)) :=
  flatMap_map_r ins (fun r => plain ((attrsM d r).filter (test d cfg a))) _
    (fun _ => plain_map_r _)

/-- a step that maps the whole input sequence through `G` keeps what `G` keeps -/
theorem flat_of_step {d : Doc} {cfg : ECfg} {c : Ref} {q inp : Plan} {G : List Item → List Item}
    (hq : sel (F := F) d cfg q c = (sel (F := F) d cfg inp c >>= fun ins => .ok (G ins)))
    (hG : ∀ ins, Flat d (ins.map (·.r)) → Flat d ((G ins).map (·.r)))
    (ih : ∀ l, sel (F := F) d cfg inp c = .ok l → Flat d (l.map (·.r))) :
    ∀ l, sel (F := F) d cfg q c = .ok l → Flat d (l.map (·.r)) := by
  intro l h
  rw [hq] at h
  cases hi : sel (F := F) d cfg inp c with
  | error e => rw [hi] at h; cases h
  | ok ins => rw [hi] at h; cases h; exact hG ins (ih ins hi)

/-- the invariant holds for the output of every flat plan -/
theorem flat_inv {d : Doc} (wf : WF d) (cfg : ECfg) (c : Ref) {p : Plan}
    (hp : FlatPlan p) : ∀ l, sel (F := F) d cfg p c = .ok l → Flat d (l.map (·.r)) := by
  induction hp with
  | context =>
    intro l h
    rw [sel] at h
    cases h
    exact flat_single d c
  | child a _ ih =>
    exact flat_of_step (by rw [sel])
      (fun ins h => by rw [sel_child_refs]; exact flat_children_step wf _ _ h) ih
  | cachedChild a _ ih =>
    exact flat_of_step (by rw [sel])
      (fun ins h => by rw [sel_child_refs]; exact flat_children_step wf _ _ h) ih
  | attr a _ ih =>
    exact flat_of_step (by rw [sel])
      (fun ins h => by rw [sel_attr_refs]; exact flat_attrs_step _ _ h) ih
  | self a _ ih =>
    exact flat_of_step (by rw [sel]) (fun ins h => by rw [plain_map_r]; exact h.filter _) ih

/-- **C12**: a flat path yields its nodes strictly increasing in document order (hence ordered and
without repetition), from every context reference (node or attribute) -/
theorem flat_sorted {d : Doc} (wf : WF d) (cfg : ECfg) (c : Ref) {p : Plan}
    (hp : FlatPlan p) (l : List Item) (h : sel (F := F) d cfg p c = .ok l) :
    (l.map (·.r)).Pairwise (fun a b => Ref.lt a b = true) :=
  (flat_inv wf cfg c hp l h).sorted

/-- **C12**: no node is reported twice by a flat path -/
theorem flat_nodup {d : Doc} (wf : WF d) (cfg : ECfg) (c : Ref) {p : Plan}
    (hp : FlatPlan p) (l : List Item) (h : sel (F := F) d cfg p c = .ok l) :
    (l.map (·.r)).Nodup :=
  DocOrder.sorted_nodup (flat_sorted wf cfg c hp l h)

/-! ## A single descendant step -/

/-- the references a descendant step yields below one node: the node itself when
`descendant-or-self` matches it, then the matching nodes of the open interval `(i, endOf i)` -/
theorem desc_refs {d : Doc} (wf : WF d) (t : Ref → Bool) (self : Bool) (i : Nat) (hi : i < d.length) :
    ((if self && t (.node i) then [(Ref.node i, 0)] else []) ++
        (descM d (.node i)).filter (fun p : Ref × Nat => t p.1)).map (fun p : Ref × Nat => p.1) =
      (if self && t (.node i) then [Ref.node i] else []) ++
        ((List.range' (i+1) (endOf d i - (i+1))).map Ref.node).filter t := by
  rw [List.map_append, ← desc_range wf i hi, List.filter_map]
  congr 1
  split <;> rfl

/-- the block of one origin is strictly increasing and lies in the closed-open interval `[i, endOf i)` -/
theorem desc_block {d : Doc} (wf : WF d) (t : Ref → Bool) (self : Bool) (i : Nat) (hi : i < d.length) :
    (((if self && t (.node i) then [(Ref.node i, 0)] else []) ++
        (descM d (.node i)).filter (fun p : Ref × Nat => t p.1)).map (fun p : Ref × Nat => p.1)).Pairwise
      (fun a b => Ref.lt a b = true) ∧
    ∀ x ∈ ((if self && t (.node i) then [(Ref.node i, 0)] else []) ++
        (descM d (.node i)).filter (fun p : Ref × Nat => t p.1)).map (fun p : Ref × Nat => p.1),
      ∃ a, x = .node a ∧ i ≤ a ∧ a < endOf d i := by
  rw [desc_refs wf t self i hi]
  have hown : ∀ x ∈ (if self && t (.node i) then [Ref.node i] else []), x = .node i := fun x hx => by
    split at hx
    · exact List.mem_singleton.1 hx
    · cases hx
  have hsub : ∀ x ∈ ((List.range' (i+1) (endOf d i - (i+1))).map Ref.node).filter t,
      ∃ a, x = .node a ∧ i < a ∧ a < endOf d i := fun x hx => by
    obtain ⟨a, ha, rfl⟩ := List.mem_map.1 (List.mem_filter.1 hx).1
    rw [List.mem_range'_1] at ha
    exact ⟨a, rfl, by omega, by omega⟩
  refine ⟨List.pairwise_append.2 ⟨?_, ?_, fun a ha b hb => ?_⟩, fun x hx => ?_⟩
  · split
    · exact List.pairwise_singleton _ _
    · exact List.Pairwise.nil
  · apply List.Pairwise.filter
    rw [List.pairwise_map]
    exact (List.pairwise_lt_range' (s := i+1) (n := endOf d i - (i+1)) 1).imp
      (fun {a b} h => (lt_node a b).2 h)
  · obtain ⟨j, rfl, hj, _⟩ := hsub b hb
    rw [hown a ha]
    exact (lt_node i j).2 hj
  · rcases List.mem_append.1 hx with hx | hx
    · exact ⟨i, hown x hx, Nat.le_refl _, endOf_gt d i⟩
    · obtain ⟨a, e, h1, h2⟩ := hsub x hx
      exact ⟨a, e, Nat.le_of_lt h1, h2⟩

/-- **C12**, a descendant(-or-self) step over separated origins (what a flat path yields): strictly
increasing in document order — the block of an earlier origin ends before the later origin -/
theorem desc_over_flat_sorted {d : Doc} (wf : WF d) (t : Ref → Bool) (self : Bool) (l : List Nat)
    (hl : ∀ i ∈ l, i < d.length) (h : Flat d (l.map .node)) :
    (l.flatMap (fun i => ((if self && t (.node i) then [(Ref.node i, 0)] else []) ++
        (descM d (.node i)).filter (fun p : Ref × Nat => t p.1)).map (fun p : Ref × Nat => p.1))).Pairwise
      (fun a b => Ref.lt a b = true) := by
  rw [List.pairwise_flatMap]
  refine ⟨fun i hi => (desc_block wf t self i (hl i hi)).1, ?_⟩
  unfold Flat at h
  rw [List.pairwise_map] at h
  refine h.imp_of_mem fun {i j} hi hj hij x hx y hy => ?_
  obtain ⟨a, rfl, _, ha⟩ := (desc_block wf t self i (hl i hi)).2 x hx
  obtain ⟨b, rfl, hb, _⟩ := (desc_block wf t self j (hl j hj)).2 y hy
  exact (lt_node a b).2 (by simp only [SepRel] at hij; omega)

/-- **C12**, descendant step from the context node: strictly increasing in document order -/
theorem desc_sorted {d : Doc} (wf : WF d) (cfg : ECfg) (a : AxisInfo) (self : Bool) (i : Nat)
    (hi : i < d.length) (l : List Item)
    (h : sel (F := F) d cfg (.descendant a self .context) (.node i) = .ok l) :
    (l.map (·.r)).Pairwise (fun a b => Ref.lt a b = true) := by
  simp only [sel, bind, Except.bind, List.flatMap_cons, List.flatMap_nil, List.append_nil] at h
  cases h
  rw [descItems_map_r]
  have := desc_over_flat_sorted wf (test d cfg a) self [i]
    (fun j hj => by rw [List.mem_singleton.1 hj]; exact hi) (flat_single d _)
  rwa [List.flatMap_cons, List.flatMap_nil, List.append_nil] at this

/-- **C12**, descendant step from the root (`//x`, `/descendant::x`) -/
theorem desc_abs_sorted {d : Doc} (wf : WF d) (cfg : ECfg) (a : AxisInfo) (self : Bool) (c : Ref)
    (l : List Item)
    (h : sel (F := F) d cfg (.descendant a self .absolute) c = .ok l) :
    (l.map (·.r)).Pairwise (fun a b => Ref.lt a b = true) := by
  simp only [sel, bind, Except.bind, List.flatMap_cons, List.flatMap_nil, List.append_nil,
    Nav.root] at h
  cases h
  rw [descItems_map_r]
  have := desc_over_flat_sorted wf (test d cfg a) self [0]
    (fun j hj => by rw [List.mem_singleton.1 hj]; exact wf.pos) (flat_single d _)
  rwa [List.flatMap_cons, List.flatMap_nil, List.append_nil] at this

/-! ## C03: child positions are proximity positions -/

/-- every candidate of a child step has the step's origin as its parent -/
theorem children_parent {d : Doc} (wf : WF d) (r x : Ref) (hx : x ∈ childrenM d r) :
    Spec.parent? d x = some r := by
  rw [children_spec_all wf] at hx
  unfold Spec.children at hx
  exact beq_iff_eq.1 (List.mem_filter.1 hx).2

/-- the candidates of the step `child::a` below `r`, in document order -/
def childCands (d : Doc) (cfg : ECfg) (a : AxisInfo) (r : Ref) : List Ref :=
  (Spec.children d r).filter (nodeTestM d cfg a)

/-- `Theorems/C03.child_positions_restart` against the specification's child axis: a child step
yields, for each input node in turn, the matching children (in document order) numbered 1, 2, 3, … -/
theorem child_step_eq {d : Doc} (wf : WF d) (cfg : ECfg) (a : AxisInfo) (p : Plan) (c : Ref)
    (ins : List Item) (h : sel (F := F) d cfg p c = .ok ins) :
    sel (F := F) d cfg (.child a p) c =
      .ok (ins.flatMap (fun it => numbered (childCands d cfg a it.r))) := by
  simp only [sel, h, bind, Except.bind, test, childCands, children_spec_all wf]

theorem child_step_inv {d : Doc} (wf : WF d) (cfg : ECfg) (a : AxisInfo) (p : Plan) (c : Ref)
    (l : List Item) (h : sel (F := F) d cfg (.child a p) c = .ok l) :
    ∃ ins, sel (F := F) d cfg p c = .ok ins ∧
      l = ins.flatMap (fun it => numbered (childCands d cfg a it.r)) := by
  cases hp : sel (F := F) d cfg p c with
  | error e => simp only [sel, hp, bind, Except.bind] at h; cases h
  | ok ins =>
    rw [child_step_eq wf cfg a p c ins hp] at h
    cases h
    exact ⟨ins, rfl, rfl⟩

/-! ### positions inside `numbered` -/

theorem numbered_getElem? (cs : List Ref) (k : Nat) :
    (numbered cs)[k]? = (cs[k]?).map (fun r => (⟨r, k + 1, 0⟩ : Item)) := by
  unfold numbered
  rw [List.getElem?_map, List.getElem?_zipIdx]
  cases cs[k]? with
  | none => rfl
  | some r => simp only [Option.map_some, Nat.zero_add]

theorem numbered_length (cs : List Ref) : (numbered cs).length = cs.length := by
  unfold numbered
  rw [List.length_map, List.length_zipIdx]

/-- an item of `numbered cs` carries 1 + the number of items before it -/
theorem numbered_split (cs : List Ref) (A B : List Item) (x : Item) (h : numbered cs = A ++ x :: B) :
    x.pos = A.length + 1 ∧ cs[A.length]? = some x.r ∧ x.lvl = 0 := by
  have h1 : (numbered cs)[A.length]? = some x := by
    rw [h, List.getElem?_append_right (Nat.le_refl _), Nat.sub_self]
    rfl
  rw [numbered_getElem?] at h1
  cases hc : cs[A.length]? with
  | none => rw [hc] at h1; cases h1
  | some r =>
    rw [hc] at h1
    simp only [Option.map_some, Option.some.injEq] at h1
    subst h1
    exact ⟨rfl, rfl, rfl⟩

theorem mem_numbered (cs : List Ref) (y : Item) (h : y ∈ numbered cs) : y.r ∈ cs := by
  have : y.r ∈ (numbered cs).map (·.r) := List.mem_map.2 ⟨y, h, rfl⟩
  rwa [numbered_map_r] at this

/-- splitting a concatenation of blocks at an element: the element sits in one block -/
theorem flatMap_split {α β : Type} (f : α → List β) :
    ∀ (ins : List α) (A B : List β) (x : β), ins.flatMap f = A ++ x :: B →
      ∃ pre it post a b, ins = pre ++ it :: post ∧ f it = a ++ x :: b ∧
        A = pre.flatMap f ++ a ∧ B = b ++ post.flatMap f := by
  intro ins
  induction ins with
  | nil => intro A B x h; cases A <;> cases h
  | cons y ys ih =>
    intro A B x h
    rw [List.flatMap_cons, List.append_eq_append_iff] at h
    rcases h with ⟨a', h1, h2⟩ | ⟨c', h1, h2⟩
    · -- A = f y ++ a', the element lies in a later block
      obtain ⟨pre, it, post, a, b, e1, e2, e3, e4⟩ := ih a' B x h2
      refine ⟨y :: pre, it, post, a, b, ?_, e2, ?_, e4⟩
      · rw [e1]; rfl
      · rw [h1, e3, List.flatMap_cons, List.append_assoc]
    · -- f y = A ++ c', x :: B = c' ++ ys.flatMap f
      cases c' with
      | nil =>
        rw [List.nil_append] at h2
        obtain ⟨pre, it, post, a, b, e1, e2, e3, e4⟩ := ih [] B x (by rw [← h2]; rfl)
        refine ⟨y :: pre, it, post, a, b, ?_, e2, ?_, e4⟩
        · rw [e1]; rfl
        · rw [List.flatMap_cons, List.append_assoc, ← e3, h1, List.append_nil, List.append_nil]
      | cons z zs =>
        rw [List.cons_append, List.cons.injEq] at h2
        obtain ⟨rfl, h3⟩ := h2
        exact ⟨[], y, ys, A, zs, rfl, h1, rfl, h3⟩

/-- **C03**, block form (every input plan): an item of a child step's output lies in the block of
one input node `it`; its `pos` is 1 + the number of earlier items *of that block*, and it is the
candidate with that 1-based index among the matching children of `it.r` in document order — the
XPath proximity position for the forward axis `child` -/
theorem child_pos_block {d : Doc} (wf : WF d) (cfg : ECfg) (a : AxisInfo) (p : Plan) (c : Ref)
    (l : List Item) (h : sel (F := F) d cfg (.child a p) c = .ok l)
    (A B : List Item) (x : Item) (hl : l = A ++ x :: B) :
    ∃ ins pre it post blk rest, sel (F := F) d cfg p c = .ok ins ∧ ins = pre ++ it :: post ∧
      A = pre.flatMap (fun it => numbered (childCands d cfg a it.r)) ++ blk ∧
      numbered (childCands d cfg a it.r) = blk ++ x :: rest ∧
      x.pos = blk.length + 1 ∧ (childCands d cfg a it.r)[x.pos - 1]? = some x.r := by
  obtain ⟨ins, hins, e⟩ := child_step_inv wf cfg a p c l h
  rw [e] at hl
  obtain ⟨pre, it, post, blk, rest, e1, e2, e3, _⟩ := flatMap_split _ ins A B x hl
  obtain ⟨hp, hr, _⟩ := numbered_split _ blk rest x e2
  refine ⟨ins, pre, it, post, blk, rest, hins, e1, e3, e2, hp, ?_⟩
  rw [hp, Nat.add_sub_cancel]
  exact hr

/-- **C03**, counting form, for flat input paths: `pos` of an output item equals 1 + the number of
earlier output items that have the same parent -/
theorem child_pos_is_proximity {d : Doc} (wf : WF d) (cfg : ECfg) (a : AxisInfo) {p : Plan}
    (hp : FlatPlan p) (c : Ref) (l : List Item)
    (h : sel (F := F) d cfg (.child a p) c = .ok l)
    (A B : List Item) (x : Item) (hl : l = A ++ x :: B) :
    x.pos = 1 + (A.filter (fun y => Spec.parent? d y.r == Spec.parent? d x.r)).length := by
  obtain ⟨ins, pre, it, post, blk, rest, hins, e1, e3, e2, hpos, _⟩ :=
    child_pos_block wf cfg a p c l h A B x hl
  have cand_parent : ∀ (it' : Item) (y : Item), y ∈ numbered (childCands d cfg a it'.r) →
      Spec.parent? d y.r = some it'.r := by
    intro it' y hy
    have := mem_numbered _ y hy
    unfold childCands at this
    rw [← children_spec_all wf] at this
    exact children_parent wf it'.r y.r (List.mem_filter.1 this).1
  have hx : Spec.parent? d x.r = some it.r :=
    cand_parent it x (by rw [e2]; simp)
  -- the inputs are distinct
  have hnd := flat_nodup (F := F) wf cfg c hp ins hins
  rw [e1, List.map_append, List.map_cons, List.nodup_append] at hnd
  have hpre : ∀ it' ∈ pre, it'.r ≠ it.r := fun it' hit' =>
    hnd.2.2 it'.r (List.mem_map.2 ⟨it', hit', rfl⟩) it.r List.mem_cons_self
  rw [e3, List.filter_append, List.length_append]
  have h1 : (pre.flatMap (fun it => numbered (childCands d cfg a it.r))).filter
      (fun y => Spec.parent? d y.r == Spec.parent? d x.r) = [] := by
    rw [List.filter_eq_nil_iff]
    intro y hy
    rw [List.mem_flatMap] at hy
    obtain ⟨it', hit', hy⟩ := hy
    rw [cand_parent it' y hy, hx]
    intro e
    rw [beq_iff_eq, Option.some.injEq] at e
    exact hpre it' hit' e
  have h2 : blk.filter (fun y => Spec.parent? d y.r == Spec.parent? d x.r) = blk := by
    rw [List.filter_eq_self]
    intro y hy
    rw [cand_parent it y (by rw [e2]; simp [hy]), hx]
    exact beq_self_eq_true _
  rw [h1, h2, hpos, List.length_nil, Nat.zero_add, Nat.add_comm]

/-- index form of `child_pos_is_proximity` -/
theorem child_pos_getElem {d : Doc} (wf : WF d) (cfg : ECfg) (a : AxisInfo) {p : Plan}
    (hp : FlatPlan p) (c : Ref) (l : List Item)
    (h : sel (F := F) d cfg (.child a p) c = .ok l) (k : Nat) (hk : k < l.length) :
    l[k].pos = 1 + ((l.take k).filter
      (fun y => Spec.parent? d y.r == Spec.parent? d l[k].r)).length := by
  apply child_pos_is_proximity wf cfg a hp c l h (l.take k) (l.drop (k+1)) l[k]
  rw [← List.drop_eq_getElem_cons hk, List.take_append_drop]

/-! ### numbered lists filtered by position (the general lemmas are in `PosSem/Filter`) -/

def mkItem (p : Ref × Nat) : Item := ⟨p.1, p.2 + 1, 0⟩

theorem numbered_eq (cs : List Ref) : numbered cs = (cs.zipIdx 0).map mkItem := rfl

/-- of a list numbered from `k` on, a `filterMap` that rejects every index but `i` keeps at most
the element with index `i` -/
theorem zipIdx_filterMap_at {α β : Type} (f : α × Nat → Option β) (i : Nat)
    (hf : ∀ x m, m ≠ i → f (x, m) = none) :
    ∀ (l : List α) (k : Nat), (l.zipIdx k).filterMap f =
      if k ≤ i then ((l[i - k]?).bind (fun x => f (x, i))).toList else []
  | [], k => by split <;> rfl
  | x :: l, k => by
    rw [List.zipIdx_cons, List.filterMap_cons, zipIdx_filterMap_at f i hf l (k+1)]
    rcases Nat.lt_trichotomy k i with h | h | h
    · rw [hf x k (Nat.ne_of_lt h), if_pos (Nat.succ_le_of_lt h), if_pos (Nat.le_of_lt h),
        show i - k = (i - (k+1)) + 1 by omega, List.getElem?_cons_succ]
    · subst h
      rw [if_neg (Nat.not_succ_le_self k), if_pos (Nat.le_refl k), Nat.sub_self,
        List.getElem?_cons_zero, Option.bind_some]
      cases f (x, k) <;> rfl
    · rw [hf x k (Nat.ne_of_gt h), if_neg (Nat.not_le_of_gt (Nat.lt_succ_of_lt h)),
        if_neg (Nat.not_le_of_gt h)]

theorem filterPositions_nil : filterPositions [] = [] := rfl

def keepFlag {α : Type} (p : α × Bool) : Option α := if p.2 then some p.1 else none

theorem specKeep_nth (E : Nat → Bool) (n : Nat) (hE : ∀ m, 1 ≤ m → (E m = true ↔ m = n)) :
    ∀ (l : List Ref) (k : Nat), k + 1 ≤ n →
      (l.zip ((l.zipIdx k).map (fun p => E (p.2 + 1)))).filterMap keepFlag =
        (l[n - 1 - k]?).toList := by
  intro l k hk
  have e : l.zip ((l.zipIdx k).map (fun p => E (p.2 + 1))) =
      (l.zipIdx k).map (fun p => (p.1, E (p.2 + 1))) := by
    rw [← List.zip_map', List.zipIdx_map_fst]
  have hn : n - 1 + 1 = n := by omega
  rw [e, List.filterMap_map, zipIdx_filterMap_at _ (n - 1) (fun r m hm => ?_) l k,
    if_pos (by omega)]
  · cases l[n - 1 - k]? with
    | none => rfl
    | some r =>
      simp only [Option.bind_some, Function.comp_apply, keepFlag, hn, (hE n (by omega)).2 rfl,
        ↓reduceIte]
  · have : E (m + 1) = false := by
      cases h : E (m + 1) with
      | false => rfl
      | true => have := (hE (m + 1) (by omega)).1 h; omega
    simp only [Function.comp_apply, keepFlag, this, Bool.false_eq_true, ↓reduceIte]

end XPathV

/-! ## Axiom audit -/
section AxiomAudit
open XPathV
#print axioms flat_inv
#print axioms flat_sorted
#print axioms flat_nodup
#print axioms desc_sorted
#print axioms desc_abs_sorted
#print axioms children_spec_all
#print axioms child_step_eq
#print axioms child_pos_block
#print axioms child_pos_is_proximity
#print axioms child_pos_getElem
end AxiomAudit
