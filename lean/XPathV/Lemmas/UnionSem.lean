import XPathV.Lemmas.Compose2
import XPathV.Lemmas.ArithSem
/-!
# C11 — union yields the set union, each node exactly once (end to end through `build`)

* `build_union_inv` — inversion of `build` on `.oper "|" l r`: both operands are built with empty
  flags, the plan is `.union`
* `Operand`, `union_main`, `union_nary`, `union_sequence` — the theorems below stated once, over
  operands of which only C02's conclusion is used; `PredSem.Frag true` (here) and `PredSem2.Frag2 true`
  (`UnionSem2`) are instances
* `C11_main` — `A | B` for paths `A`, `B` of the fragment `PredSem.Frag true` (the twelve axes,
  boolean-valued predicates on every step, nested): the built plan succeeds, yields a duplicate-free
  sequence whose members are exactly the oracle's nodes of `A` or of `B`; the oracle's value of
  `A | B` has the same members (and is duplicate-free too)
* `UnionT`, `unionT_sem` — any nesting of `|` over operands: members = the nodes of some leaf,
  duplicate-free; `C11_nary` — the left-nested `A | B | C …` over such paths
* `seqForm`, `C11_sequence` — the sequence form `p/(s₁, s₂, …)`, i.e. the tree `parseSequence` makes
  of it: each step applied to the nodes of `p`, united

Standing assumptions as for C01/C02: `WF d`, `cfg.nsIface = true`, `HashInj d cfg`.
-/
namespace XPathV.UnionSem
open XPathV XPathV.Model XPathV.PathSem XPathV.PredSem

variable {F : Type} [NumAlg F]

/-! ## inversion of `build` on the union operator -/

theorem build_union_inv (regexOk : RegexOk) (limit : Nat) (snt sdf : Bool) (l r : Ast) (fl : Flags)
    (st : BState) (o : BOut) (h : build regexOk limit snt sdf (.oper "|" l r) fl st = .ok o) :
    ∃ st1 lo ro, build regexOk limit snt sdf l {} st1 = .ok lo ∧
      build regexOk limit snt sdf r {} lo.st = .ok ro ∧
      o.q = .union lo.q ro.q ∧ o.props = { lo.props.or ro.props with nonFlat := true } := by
  obtain ⟨lo, ro, hlo, hro, rfl⟩ := build_oper_ok h
  exact ⟨_, lo, ro, hlo, hro, rfl, rfl⟩

/-! ## `A | B` -/

/-- the oracle's node list of `e` at context node `c` (position 1 of 1); `[]` when the oracle fails
or the value is not a node-set — on the fragments below neither happens -/
def nodesAt (d : Doc) (F : Type) [NumAlg F] (e : Ast) (c : Ref) : List Ref :=
  match Spec.eval (F := F) d e ⟨c, 1, 1⟩ with
  | .ok (.val (.nodes l) _) => l
  | _ => []

theorem nodesAt_eq (d : Doc) (e : Ast) (c : Ref) (l : List Ref) (g : Option (List (List Ref)))
    (h : Spec.eval (F := F) d e ⟨c, 1, 1⟩ = .ok (.val (.nodes l) g)) : nodesAt d F e c = l := by
  simp only [nodesAt, h]

/-- the operand paths of a union tree, left to right -/
def leaves : Ast → List Ast
  | .oper op l r => if op = "|" then leaves l ++ leaves r else [.oper op l r]
  | p => [p]

theorem leaves_union (l r : Ast) : leaves (.oper "|" l r) = leaves l ++ leaves r := by
  simp [leaves]

/-- the left-nested union `((p₀ | p₁) | p₂) | …` -/
def unionOf (p : Ast) (ps : List Ast) : Ast := ps.foldl (fun acc q => .oper "|" acc q) p

theorem unionOf_concat (p : Ast) (ps : List Ast) (q : Ast) :
    unionOf p (ps ++ [q]) = .oper "|" (unionOf p ps) q := by
  simp [unionOf, List.foldl_append]

theorem unionOf_is_union (p : Ast) {ps : List Ast} (hne : ps ≠ []) : ∃ l r, unionOf p ps = .oper "|" l r := by
  rcases List.eq_nil_or_concat ps with h | ⟨ps', q, h⟩
  · exact absurd h hne
  · rw [h, List.concat_eq_append, unionOf_concat]; exact ⟨_, _, rfl⟩

theorem leaves_of_not_union {p : Ast} (hp : ∀ l r, p ≠ .oper "|" l r) : leaves p = [p] := by
  cases p with
  | oper op l r => rw [leaves, if_neg (fun h : op = "|" => hp l r (by rw [h]))]
  | _ => rfl

/-- what the union theorems use of an operand `p`: it is not itself a union, and from every valid
node the plan `build` makes of it selects the oracle's node-set, whose nodes are all valid -/
def Operand (d : Doc) (cfg : ECfg) (regexOk : RegexOk) (limit : Nat) (p : Ast) : Prop :=
  (∀ l r, p ≠ .oper "|" l r) ∧
  ∀ (st : BState) (o : BOut), build regexOk limit true false p {} st = .ok o →
    ∀ c, validRef d c = true →
    ∃ out ns g, sel (F := F) d cfg o.q c = .ok out ∧
      Spec.eval (F := F) d p ⟨c, 1, 1⟩ = .ok (.val (.nodes ns) g) ∧
      (∀ x, x ∈ refs out ↔ x ∈ ns) ∧ (∀ x ∈ ns, validRef d x = true)

/-- the plan-level union over two operands that agree with the oracle -/
theorem union_combine (d : Doc) (cfg : ECfg) (hinj : HashInj d cfg) (ql qr : Plan) (A B : Ast) (c : Ref)
    (oa ob : List Item) (na nb : List Ref) (ga gb : Option (List (List Ref)))
    (hsa : sel (F := F) d cfg ql c = .ok oa) (hsb : sel (F := F) d cfg qr c = .ok ob)
    (hea : Spec.eval (F := F) d A ⟨c, 1, 1⟩ = .ok (.val (.nodes na) ga))
    (heb : Spec.eval (F := F) d B ⟨c, 1, 1⟩ = .ok (.val (.nodes nb) gb))
    (hma : ∀ x, x ∈ refs oa ↔ x ∈ na) (hmb : ∀ x, x ∈ refs ob ↔ x ∈ nb)
    (hva : ∀ x ∈ na, validRef d x = true) (hvb : ∀ x ∈ nb, validRef d x = true) :
    ∃ out, sel (F := F) d cfg (.union ql qr) c = .ok out ∧ (refs out).Nodup ∧
      (∀ x, x ∈ refs out ↔ x ∈ na ∨ x ∈ nb) ∧
      Spec.eval (F := F) d (.oper "|" A B) ⟨c, 1, 1⟩ =
        .ok (.val (.nodes (Spec.docOrder d (na ++ nb))) none) ∧
      (Spec.docOrder d (na ++ nb)).Nodup ∧
      (∀ x, x ∈ Spec.docOrder d (na ++ nb) ↔ x ∈ na ∨ x ∈ nb) ∧
      (∀ x, x ∈ refs out ↔ x ∈ Spec.docOrder d (na ++ nb)) := by
  have hvalid : ∀ x ∈ (oa ++ ob).map (·.r), validRef d x = true := by
    intro x hx
    rw [List.map_append, List.mem_append] at hx
    rcases hx with hx | hx
    · exact hva x ((hma x).1 hx)
    · exact hvb x ((hmb x).1 hx)
  obtain ⟨out, ho, hm, hnd⟩ := Theorems.C11.C11_union (F := F) d cfg ql qr c oa ob hsa hsb
    (fun x hx y hy => hinj x y (hvalid x hx) (hvalid y hy))
  have hmem : ∀ x, x ∈ refs out ↔ x ∈ na ∨ x ∈ nb := by
    intro x
    rw [show refs out = out.map (·.r) from rfl, hm]
    exact or_congr (hma x) (hmb x)
  refine ⟨out, ho, hnd, hmem, eval_union d A B _ na nb ga gb hea heb, ?_,
    mem_union_spec d na nb hva hvb, fun x => ?_⟩
  · exact ArithSem.docOrder_nodup d _
  · rw [hmem, mem_union_spec d na nb hva hvb]


/-- `A | B` over two operands: `C11_main` and `C11_main2` are its instances -/
theorem union_main {d : Doc} (cfg : ECfg) (hinj : HashInj d cfg) (regexOk : RegexOk) (limit : Nat)
    (A B : Ast) (hA : Operand (F := F) d cfg regexOk limit A) (hB : Operand (F := F) d cfg regexOk limit B)
    (fl : Flags) (st : BState) (o : BOut)
    (hb : build regexOk limit true false (.oper "|" A B) fl st = .ok o)
    (c : Ref) (hc : validRef d c = true) :
    ∃ out nsA gA nsB gB nsU,
      sel (F := F) d cfg o.q c = .ok out ∧ (refs out).Nodup ∧
      Spec.eval (F := F) d A ⟨c, 1, 1⟩ = .ok (.val (.nodes nsA) gA) ∧
      Spec.eval (F := F) d B ⟨c, 1, 1⟩ = .ok (.val (.nodes nsB) gB) ∧
      (∀ x, x ∈ refs out ↔ x ∈ nsA ∨ x ∈ nsB) ∧
      Spec.eval (F := F) d (.oper "|" A B) ⟨c, 1, 1⟩ = .ok (.val (.nodes nsU) none) ∧
      nsU.Nodup ∧ (∀ x, x ∈ nsU ↔ x ∈ nsA ∨ x ∈ nsB) ∧ (∀ x, x ∈ refs out ↔ x ∈ nsU) := by
  obtain ⟨st1, lo, ro, hlo, hro, hq, _⟩ := build_union_inv regexOk limit true false A B fl st o hb
  obtain ⟨oa, na, ga, hsa, hea, hma, hva⟩ := hA.2 st1 lo hlo c hc
  obtain ⟨ob, nb, gb, hsb, heb, hmb, hvb⟩ := hB.2 lo.st ro hro c hc
  obtain ⟨out, ho, hnd, hmem, heu, hund, hum, hou⟩ :=
    union_combine (F := F) d cfg hinj lo.q ro.q A B c oa ob na nb ga gb hsa hsb hea heb hma hmb hva hvb
  rw [hq]
  exact ⟨out, na, ga, nb, gb, _, ho, hnd, hea, heb, hmem, heu, hund, hum, hou⟩

/-- `union_main` against the top-level oracle `evalTop` and with the node-sets of the operands
written as `nodesAt` -/
theorem union_evalTop {d : Doc} (cfg : ECfg) (hinj : HashInj d cfg) (regexOk : RegexOk) (limit : Nat)
    (A B : Ast) (hA : Operand (F := F) d cfg regexOk limit A) (hB : Operand (F := F) d cfg regexOk limit B)
    (st : BState) (o : BOut) (hb : build regexOk limit true false (.oper "|" A B) {} st = .ok o)
    (c : Ref) (hc : validRef d c = true) :
    ∃ out nsU, sel (F := F) d cfg o.q c = .ok out ∧ (refs out).Nodup ∧
      Spec.evalTop (F := F) d (.oper "|" A B) c = .ok (.nodes nsU) ∧ nsU.Nodup ∧
      (∀ x, x ∈ refs out ↔ x ∈ nodesAt d F A c ∨ x ∈ nodesAt d F B c) ∧
      (∀ x, x ∈ nsU ↔ x ∈ nodesAt d F A c ∨ x ∈ nodesAt d F B c) := by
  obtain ⟨out, nsA, gA, nsB, gB, nsU, h1, h2, h3, h4, h5, h6, h7, h8, _⟩ :=
    union_main (F := F) cfg hinj regexOk limit A B hA hB {} st o hb c hc
  refine ⟨out, nsU, h1, h2, ?_, h7, ?_, ?_⟩
  · simp [Spec.evalTop, h6, bind, Except.bind, pure, Except.pure, Spec.Res.value]
  · rw [nodesAt_eq d A c nsA gA h3, nodesAt_eq d B c nsB gB h4]; exact h5
  · rw [nodesAt_eq d A c nsA gA h3, nodesAt_eq d B c nsB gB h4]; exact h8

/-! ## any nesting of `|` (in particular the left-nested `A | B | C | …`) -/

/-- unions of operands, nested in any way -/
inductive UnionT (d : Doc) (cfg : ECfg) (regexOk : RegexOk) (limit : Nat) : Ast → Prop
  | leaf (p : Ast) : Operand (F := F) d cfg regexOk limit p → UnionT d cfg regexOk limit p
  | union (l r : Ast) : UnionT d cfg regexOk limit l → UnionT d cfg regexOk limit r →
      UnionT d cfg regexOk limit (.oper "|" l r)

theorem unionOf_unionT {d : Doc} {cfg : ECfg} {regexOk : RegexOk} {limit : Nat} (ps : List Ast)
    (hps : ∀ q ∈ ps, Operand (F := F) d cfg regexOk limit q) :
    ∀ acc, UnionT (F := F) d cfg regexOk limit acc → UnionT (F := F) d cfg regexOk limit (unionOf acc ps) := by
  induction ps with
  | nil => exact fun acc h => h
  | cons q qs ih =>
    intro acc h
    exact ih (fun x hx => hps x (List.mem_cons_of_mem _ hx)) _
      (.union acc q h (.leaf q (hps q List.mem_cons_self)))

theorem leaves_unionOf (ps : List Ast) (hps : ∀ q ∈ ps, leaves q = [q]) :
    ∀ acc, leaves (unionOf acc ps) = leaves acc ++ ps := by
  induction ps with
  | nil => intro acc; simp [unionOf]
  | cons q qs ih =>
    intro acc
    have := ih (fun x hx => hps x (List.mem_cons_of_mem _ hx)) (.oper "|" acc q)
    rw [leaves_union, hps q List.mem_cons_self] at this
    simpa [unionOf] using this

/-- the induction over a union tree: the built plan and the oracle agree, the members are the nodes
of the leaves, and a proper union yields no node twice -/
theorem unionT_sem {d : Doc} (cfg : ECfg) (hinj : HashInj d cfg) (regexOk : RegexOk) (limit : Nat)
    (e : Ast) (he : UnionT (F := F) d cfg regexOk limit e) :
    ∀ (st : BState) (o : BOut), build regexOk limit true false e {} st = .ok o →
    ∀ c, validRef d c = true →
    ∃ out ns g, sel (F := F) d cfg o.q c = .ok out ∧
      Spec.eval (F := F) d e ⟨c, 1, 1⟩ = .ok (.val (.nodes ns) g) ∧
      (∀ x, x ∈ refs out ↔ x ∈ ns) ∧ (∀ x ∈ ns, validRef d x = true) ∧
      (∀ x, x ∈ ns ↔ ∃ p ∈ leaves e, x ∈ nodesAt d F p c) ∧
      ((∃ l r, e = .oper "|" l r) → (refs out).Nodup ∧ ns.Nodup) := by
  induction he with
  | leaf p hp =>
    intro st o hb c hc
    obtain ⟨out, ns, g, h1, h2, h3, h4⟩ := hp.2 st o hb c hc
    refine ⟨out, ns, g, h1, h2, h3, h4, fun x => ?_, ?_⟩
    · rw [leaves_of_not_union hp.1]
      simp only [List.mem_cons, List.not_mem_nil, or_false, exists_eq_left,
        nodesAt_eq d p c ns g h2]
    · rintro ⟨l, r, rfl⟩; exact absurd rfl (hp.1 l r)
  | union l r _ _ ihl ihr =>
    intro st o hb c hc
    obtain ⟨st1, lo, ro, hlo, hro, hq, _⟩ := build_union_inv regexOk limit true false l r {} st o hb
    obtain ⟨oa, na, ga, hsa, hea, hma, hva, hla, _⟩ := ihl st1 lo hlo c hc
    obtain ⟨ob, nb, gb, hsb, heb, hmb, hvb, hlb, _⟩ := ihr lo.st ro hro c hc
    obtain ⟨out, ho, hnd, hmem, heu, hund, hum, hou⟩ :=
      union_combine (F := F) d cfg hinj lo.q ro.q l r c oa ob na nb ga gb hsa hsb hea heb hma hmb hva hvb
    rw [hq]
    refine ⟨out, _, none, ho, heu, hou, fun x hx => ?_, fun x => ?_, fun _ => ⟨hnd, hund⟩⟩
    · rcases (hum x).1 hx with h | h
      · exact hva x h
      · exact hvb x h
    · rw [hum, hla, hlb, leaves_union]
      simp only [List.mem_append, or_and_right, exists_or]

/-- the left-nested union of operands `p₀ | p₁ | …`: the built plan and the oracle agree on it, the
members are the nodes of the `pᵢ`, and with at least two operands no node occurs twice -/
theorem unionOf_sem {d : Doc} (cfg : ECfg) (hinj : HashInj d cfg) (regexOk : RegexOk) (limit : Nat)
    (p : Ast) (ps : List Ast) (hp : Operand (F := F) d cfg regexOk limit p)
    (hps : ∀ q ∈ ps, Operand (F := F) d cfg regexOk limit q) (st : BState) (o : BOut)
    (hb : build regexOk limit true false (unionOf p ps) {} st = .ok o)
    (c : Ref) (hc : validRef d c = true) :
    ∃ out ns g, sel (F := F) d cfg o.q c = .ok out ∧
      Spec.eval (F := F) d (unionOf p ps) ⟨c, 1, 1⟩ = .ok (.val (.nodes ns) g) ∧
      (∀ x, x ∈ refs out ↔ x ∈ ns) ∧
      (∀ x, x ∈ ns ↔ ∃ q ∈ p :: ps, x ∈ nodesAt d F q c) ∧
      (ps ≠ [] → (refs out).Nodup ∧ ns.Nodup) := by
  obtain ⟨out, ns, g, h1, h2, h3, _, h5, h6⟩ :=
    unionT_sem (F := F) cfg hinj regexOk limit _ (unionOf_unionT ps hps p (.leaf p hp)) st o hb c hc
  rw [leaves_unionOf ps (fun q hq => leaves_of_not_union (hps q hq).1), leaves_of_not_union hp.1] at h5
  exact ⟨out, ns, g, h1, h2, h3, h5, fun hne => h6 (unionOf_is_union p hne)⟩

/-- **n-ary union** over operands: `C11_nary` and `Theorems.C11.C11_nary_full` are its instances -/
theorem union_nary {d : Doc} (cfg : ECfg) (hinj : HashInj d cfg) (regexOk : RegexOk) (limit : Nat)
    (p : Ast) (ps : List Ast) (hp : Operand (F := F) d cfg regexOk limit p)
    (hps : ∀ q ∈ ps, Operand (F := F) d cfg regexOk limit q)
    (hne : ps ≠ []) (st : BState) (o : BOut)
    (hb : build regexOk limit true false (unionOf p ps) {} st = .ok o)
    (c : Ref) (hc : validRef d c = true) :
    ∃ out ns g, sel (F := F) d cfg o.q c = .ok out ∧ (refs out).Nodup ∧
      Spec.eval (F := F) d (unionOf p ps) ⟨c, 1, 1⟩ = .ok (.val (.nodes ns) g) ∧ ns.Nodup ∧
      (∀ x, x ∈ refs out ↔ ∃ q ∈ p :: ps, x ∈ nodesAt d F q c) ∧
      (∀ x, x ∈ ns ↔ ∃ q ∈ p :: ps, x ∈ nodesAt d F q c) := by
  obtain ⟨out, ns, g, h1, h2, h3, h5, h6⟩ :=
    unionOf_sem (F := F) cfg hinj regexOk limit p ps hp hps st o hb c hc
  exact ⟨out, ns, g, h1, (h6 hne).1, h2, (h6 hne).2, fun x => (h3 x).trans (h5 x), h5⟩

/-! ## operands of the fragment `PredSem.Frag true` -/

/-- unions of paths of the fragment, nested in any way -/
inductive UnionF : Ast → Prop
  | leaf (p : Ast) : Frag true p → UnionF p
  | union (l r : Ast) : UnionF l → UnionF r → UnionF (.oper "|" l r)

section Main
variable {d : Doc} (wf : WF d) (cfg : ECfg) (hns : cfg.nsIface = true) (hinj : HashInj d cfg)
  (regexOk : RegexOk) (limit : Nat)
include wf hns hinj

/-- C02 for one operand (`C02_main`, with the validity of the oracle's nodes from `C02_naive`) -/
theorem operand_frag (p : Ast) (hp : Frag true p) : Operand (F := F) d cfg regexOk limit p := by
  refine ⟨fun l r h => by (subst h; cases hp), fun st o hb c hc => ?_⟩
  obtain ⟨out, ns, g, h1, h2, h3⟩ := C02_main (F := F) wf cfg hns hinj regexOk limit p hp st o hb c hc
  obtain ⟨_, ns', g', _, h2', _, hv⟩ := C02_naive (F := F) wf cfg hns hinj p hp c hc
  rw [h2] at h2'; cases h2'
  exact ⟨out, ns, g, h1, h2, h3, hv⟩

/-- **C11 for `build`**: for paths `A`, `B` of the fragment (twelve axes, boolean-valued predicates on
any step, nested), every well-formed document and every valid context node, the plan the builder
makes of `A | B` succeeds and yields a sequence `out` such that

* no node occurs twice in `out`;
* a node is in `out` iff the oracle returns it for `A` or for `B` (`nsA`, `nsB`: the oracle's
  node-sets of the operands at the same context) — whatever the overlap of `nsA` and `nsB`;
* the oracle's value of `A | B` is a node-set `nsU` with exactly these members, duplicate-free. -/
theorem C11_main (A B : Ast) (hA : Frag true A) (hB : Frag true B) (fl : Flags)
    (st : BState) (o : BOut) (hb : build regexOk limit true false (.oper "|" A B) fl st = .ok o)
    (c : Ref) (hc : validRef d c = true) :
    ∃ out nsA gA nsB gB nsU,
      sel (F := F) d cfg o.q c = .ok out ∧ (refs out).Nodup ∧
      Spec.eval (F := F) d A ⟨c, 1, 1⟩ = .ok (.val (.nodes nsA) gA) ∧
      Spec.eval (F := F) d B ⟨c, 1, 1⟩ = .ok (.val (.nodes nsB) gB) ∧
      (∀ x, x ∈ refs out ↔ x ∈ nsA ∨ x ∈ nsB) ∧
      Spec.eval (F := F) d (.oper "|" A B) ⟨c, 1, 1⟩ = .ok (.val (.nodes nsU) none) ∧
      nsU.Nodup ∧ (∀ x, x ∈ nsU ↔ x ∈ nsA ∨ x ∈ nsB) ∧ (∀ x, x ∈ refs out ↔ x ∈ nsU) :=
  union_main cfg hinj regexOk limit A B (operand_frag wf cfg hns hinj regexOk limit A hA)
    (operand_frag wf cfg hns hinj regexOk limit B hB) fl st o hb c hc

/-- `C11_main` against the top-level oracle `evalTop` and with the node-sets of the operands written
as `nodesAt` -/
theorem C11_evalTop (A B : Ast) (hA : Frag true A) (hB : Frag true B)
    (st : BState) (o : BOut) (hb : build regexOk limit true false (.oper "|" A B) {} st = .ok o)
    (c : Ref) (hc : validRef d c = true) :
    ∃ out nsU, sel (F := F) d cfg o.q c = .ok out ∧ (refs out).Nodup ∧
      Spec.evalTop (F := F) d (.oper "|" A B) c = .ok (.nodes nsU) ∧ nsU.Nodup ∧
      (∀ x, x ∈ refs out ↔ x ∈ nodesAt d F A c ∨ x ∈ nodesAt d F B c) ∧
      (∀ x, x ∈ nsU ↔ x ∈ nodesAt d F A c ∨ x ∈ nodesAt d F B c) :=
  union_evalTop cfg hinj regexOk limit A B (operand_frag wf cfg hns hinj regexOk limit A hA)
    (operand_frag wf cfg hns hinj regexOk limit B hB) st o hb c hc

/-- **C11, n-ary**: the plan the builder makes of `p₀ | p₁ | … | pₙ` (left-nested as the parser
produces it, `n ≥ 1`) yields every node that the oracle returns for one of the `pᵢ`, nothing else,
each exactly once; the oracle's value of the whole union has the same members, each once -/
theorem C11_nary (p : Ast) (ps : List Ast) (hp : Frag true p) (hps : ∀ q ∈ ps, Frag true q)
    (hne : ps ≠ []) (st : BState) (o : BOut)
    (hb : build regexOk limit true false (unionOf p ps) {} st = .ok o)
    (c : Ref) (hc : validRef d c = true) :
    ∃ out ns g, sel (F := F) d cfg o.q c = .ok out ∧ (refs out).Nodup ∧
      Spec.eval (F := F) d (unionOf p ps) ⟨c, 1, 1⟩ = .ok (.val (.nodes ns) g) ∧ ns.Nodup ∧
      (∀ x, x ∈ refs out ↔ ∃ q ∈ p :: ps, x ∈ nodesAt d F q c) ∧
      (∀ x, x ∈ ns ↔ ∃ q ∈ p :: ps, x ∈ nodesAt d F q c) :=
  union_nary cfg hinj regexOk limit p ps (operand_frag wf cfg hns hinj regexOk limit p hp)
    (fun q hq => operand_frag wf cfg hns hinj regexOk limit q (hps q hq)) hne st o hb c hc

end Main

/-! ## the sequence form `p/(s₁, s₂, …)`

`parseSequence` (`Model/Parser.lean`) parses every member of the parenthesised list with
`parseStep … inp`, i.e. as one step (axis, node test, stacked predicates) *over the same input* `inp`
— the path before the `/` — and `seqLoop` folds the members into left-nested `.oper "|"` nodes
(`Theorems.C11.sequence_is_union`).  So `p/(a, b, c)` is the tree `((p/a) | (p/b)) | (p/c)`. -/

/-- one member of a sequence: an axis step and its stacked predicates -/
abbrev SeqStep := AxisInfo × List Ast

/-- the step `s` applied over the input `inp`, as `parseStep` builds it -/
def stepOn (inp : Ast) (s : SeqStep) : Ast := s.2.foldl Ast.filter (.axis s.1 inp)

/-- the parse tree of `inp/(s, ss…)` -/
def seqForm (inp : Ast) (s : SeqStep) (ss : List SeqStep) : Ast :=
  unionOf (stepOn inp s) (ss.map (stepOn inp))

/-- a member of the fragment: one of the twelve axes, boolean-valued predicates -/
def StepOK (s : SeqStep) : Prop := s.1.axis ∈ axes12 ∧ ∀ b ∈ s.2, Frag false b

theorem filters_frag (preds : List Ast) (hps : ∀ b ∈ preds, Frag false b) :
    ∀ acc, Frag true acc → Frag true (preds.foldl Ast.filter acc) := by
  induction preds with
  | nil => exact fun acc h => h
  | cons b bs ih =>
    intro acc h
    exact ih (fun x hx => hps x (List.mem_cons_of_mem _ hx)) _
      (.filter acc b h (hps b List.mem_cons_self))

theorem stepOn_frag (inp : Ast) (hinp : Frag true inp) (s : SeqStep) (hs : StepOK s) :
    Frag true (stepOn inp s) :=
  filters_frag s.2 hs.2 _ (.axis s.1 inp hinp hs.1)

/-- what `seqLoop` does with a comma: the operand so far and the next member go under a `|` node
(`Theorems.C11.sequence_is_union`), which is how `seqForm` grows -/
theorem seqForm_snoc (inp : Ast) (s : SeqStep) (ss : List SeqStep) (t : SeqStep) :
    seqForm inp s (ss ++ [t]) = .oper "|" (seqForm inp s ss) (stepOn inp t) := by
  simp [seqForm, unionOf_concat]

theorem nodesAt_eq_nodesOf (d : Doc) (e : Ast) (c : Ref) :
    nodesAt d F e c = Compose.nodesOf (Spec.eval (F := F) d e ⟨c, 1, 1⟩) := by
  unfold nodesAt Compose.nodesOf
  rfl

/-- the member `s` over `p` is the member `s` over the context node with `p` plugged in -/
theorem stepOn_plug (d : Doc) (p : Ast) (s : SeqStep) (ha : s.1.axis ∈ axes12)
    (hb : ∀ b ∈ s.2, Compose.NodeTest (F := F) d b) :
    Compose.Plug (F := F) d p (stepOn .none s) (stepOn p s) := by
  have step : ∀ (preds : List Ast), (∀ b ∈ preds, Compose.NodeTest (F := F) d b) → ∀ q r,
      Compose.Plug (F := F) d p q r →
      Compose.Plug (F := F) d p (preds.foldl Ast.filter q) (preds.foldl Ast.filter r) := by
    intro preds
    induction preds with
    | nil => exact fun _ q r h => h
    | cons b bs ih =>
      exact fun hbs q r h => ih (fun x hx => hbs x (List.mem_cons_of_mem _ hx)) _ _
        (.filter q r b h (hbs b List.mem_cons_self))
  exact step s.2 hb _ _ (.axis s.1 _ _ .none ha)

/-- **a filtered step composes with its input** (oracle side): the nodes of `p/s` are the nodes of
the step `s` taken from each node of `p` — an instance of `Compose.eval_plug` -/
theorem step_compose (d : Doc) {p : Ast} (hp : ∀ c, Compose.OPath (F := F) d p c) (s : SeqStep)
    (ha : s.1.axis ∈ axes12) (hb : ∀ b ∈ s.2, Compose.NodeTest (F := F) d b) (c x : Ref) :
    x ∈ nodesAt d F (stepOn p s) c ↔
      ∃ n ∈ nodesAt d F p c, x ∈ nodesAt d F (stepOn .none s) n := by
  simp only [nodesAt_eq_nodesOf]
  exact Compose.eval_plug (stepOn_plug d p s ha hb) hp ⟨c, 1, 1⟩ x

/-- **sequence form** over operands: `C11_sequence` and `Theorems.C11.C11_sequence_full` are its
instances -/
theorem union_sequence {d : Doc} (cfg : ECfg) (hinj : HashInj d cfg) (regexOk : RegexOk) (limit : Nat)
    (p : Ast) (s : SeqStep) (ss : List SeqStep)
    (hop : ∀ t ∈ s :: ss, Operand (F := F) d cfg regexOk limit (stepOn p t))
    (hcomp : ∀ t ∈ s :: ss, ∀ c x, x ∈ nodesAt d F (stepOn p t) c ↔
      ∃ n ∈ nodesAt d F p c, x ∈ nodesAt d F (stepOn .none t) n)
    (st : BState) (o : BOut) (hb : build regexOk limit true false (seqForm p s ss) {} st = .ok o)
    (c : Ref) (hc : validRef d c = true) :
    ∃ out ns g, sel (F := F) d cfg o.q c = .ok out ∧
      Spec.eval (F := F) d (seqForm p s ss) ⟨c, 1, 1⟩ = .ok (.val (.nodes ns) g) ∧
      (∀ x, x ∈ refs out ↔ x ∈ ns) ∧
      (∀ x, x ∈ ns ↔ ∃ t ∈ s :: ss, ∃ n ∈ nodesAt d F p c, x ∈ nodesAt d F (stepOn .none t) n) ∧
      (ss ≠ [] → (refs out).Nodup ∧ ns.Nodup) := by
  obtain ⟨out, ns, g, h1, h2, h3, h5, h6⟩ :=
    unionOf_sem (F := F) cfg hinj regexOk limit (stepOn p s) (ss.map (stepOn p))
      (hop s List.mem_cons_self)
      (fun q hq => by
        obtain ⟨t, ht, rfl⟩ := List.mem_map.1 hq
        exact hop t (List.mem_cons_of_mem _ ht)) st o hb c hc
  refine ⟨out, ns, g, h1, h2, h3, fun x => ?_, fun hne => h6 fun h => hne (List.map_eq_nil_iff.1 h)⟩
  rw [h5, ← List.map_cons (f := stepOn p)]
  constructor
  · rintro ⟨q, hq, hx⟩
    obtain ⟨t, ht, rfl⟩ := List.mem_map.1 hq
    exact ⟨t, ht, (hcomp t ht c x).1 hx⟩
  · rintro ⟨t, ht, hx⟩
    exact ⟨_, List.mem_map.2 ⟨t, ht, rfl⟩, (hcomp t ht c x).2 hx⟩

section Sequence
variable {d : Doc} (wf : WF d) (cfg : ECfg) (hns : cfg.nsIface = true) (hinj : HashInj d cfg)
include wf hns hinj

/-- **C11, sequence form**: for a path `p` of the fragment and members `s, ss…` (axis steps with
boolean-valued predicates), the plan the builder makes of the tree the parser produces for
`p/(s, ss…)` yields exactly the nodes reached by *some* member step from *some* node of `p` — each
of them once (when there are at least two members, i.e. the tree is a union); the oracle's value has
the same members -/
theorem C11_sequence (regexOk : RegexOk) (limit : Nat) (p : Ast) (hp : Frag true p) (s : SeqStep)
    (ss : List SeqStep) (hs : StepOK s) (hss : ∀ t ∈ ss, StepOK t) (st : BState) (o : BOut)
    (hb : build regexOk limit true false (seqForm p s ss) {} st = .ok o)
    (c : Ref) (hc : validRef d c = true) :
    ∃ out ns g, sel (F := F) d cfg o.q c = .ok out ∧
      Spec.eval (F := F) d (seqForm p s ss) ⟨c, 1, 1⟩ = .ok (.val (.nodes ns) g) ∧
      (∀ x, x ∈ refs out ↔ x ∈ ns) ∧
      (∀ x, x ∈ ns ↔ ∃ t ∈ s :: ss, ∃ n ∈ nodesAt d F p c, x ∈ nodesAt d F (stepOn .none t) n) ∧
      (ss ≠ [] → (refs out).Nodup ∧ ns.Nodup) :=
  have hall : ∀ t ∈ s :: ss, StepOK t := List.forall_mem_cons.2 ⟨hs, hss⟩
  union_sequence cfg hinj regexOk limit p s ss
    (fun t ht => operand_frag wf cfg hns hinj regexOk limit _ (stepOn_frag p hp t (hall t ht)))
    (fun t ht => step_compose d (Compose2.opath_frag d hp) t (hall t ht).1
      (fun b hb => Compose2.nodeTest_frag d ((hall t ht).2 b hb)))
    st o hb c hc

end Sequence

/-! ## `seqForm` is what the parser's sequence loop produces -/

/-- a run of `seqLoop`: each comma is followed by a member that `parseStep` (over the same input
`inp`) turns into `stepOn inp t`; the loop ends at the first token that is not a comma -/
inductive SeqRun (cfg : PCfg) (inp : Ast) : Nat → PState → List SeqStep → PState → Prop
  | done (f : Nat) (st : PState) : st.s.typ ≠ .comma → SeqRun cfg inp (f+1) st [] st
  | more (f : Nat) (st st1 st2 stEnd : PState) (t : SeqStep) (ts : List SeqStep) :
      st.s.typ = .comma → st.next = .ok st1 →
      parseStep f cfg inp st1 = .ok (stepOn inp t, st2) → SeqRun cfg inp f st2 ts stEnd →
      SeqRun cfg inp (f+1) st (t :: ts) stEnd

/-- along such a run the loop returns the left-nested union of the operand so far and the members -/
theorem seqLoop_run (cfg : PCfg) (inp : Ast) (f : Nat) (st stEnd : PState) (ts : List SeqStep)
    (h : SeqRun cfg inp f st ts stEnd) :
    ∀ acc, seqLoop f cfg inp acc st = .ok (unionOf acc (ts.map (stepOn inp)), stEnd) := by
  induction h with
  | done f st hne =>
    intro acc
    simp [seqLoop, hne, unionOf, pure, Except.pure]
  | more f st st1 st2 stEnd t ts hc hn hp _ ih =>
    intro acc
    rw [Theorems.C11.sequence_is_union f cfg inp acc _ st st1 st2 hc hn hp, ih]
    rfl

/-! ## Non-vacuity -/

section Examples

private def ch (n : String) : AxisInfo := ⟨"child", .elem, "", n, "", false, ""⟩

/-- `a/(b, c[d], @e)` -/
def exSeq : Ast :=
  seqForm (.axis (ch "a") .none) (ch "b", [])
    [(ch "c", [.axis (ch "d") .none]), (⟨"attribute", .attr, "", "e", "", false, ""⟩, [])]

theorem exists_of_toBool {ε α : Type} (x : Except ε α) (h : x.toBool = true) : ∃ o, x = .ok o := by
  cases x with
  | ok o => exact ⟨o, rfl⟩
  | error e => cases h

theorem exSeq_build : ∃ o, build (fun _ => true) 100 true false exSeq {} {} = .ok o :=
  exists_of_toBool _ (by decide +kernel)

theorem exSeq_steps :
    StepOK (ch "b", []) ∧ ∀ t ∈ [(ch "c", [Ast.axis (ch "d") .none]),
      ((⟨"attribute", .attr, "", "e", "", false, ""⟩ : AxisInfo), ([] : List Ast))], StepOK t := by
  refine ⟨⟨by simp [axes12, ch], by simp⟩, ?_⟩
  intro t ht
  simp only [List.mem_cons, List.not_mem_nil, or_false] at ht
  rcases ht with rfl | rfl
  · refine ⟨by simp [axes12, ch], ?_⟩
    intro b hb
    simp only [List.mem_cons, List.not_mem_nil, or_false] at hb
    subst hb
    exact .exist _ (.axis _ _ .none (by simp [axes12, ch]))
  · exact ⟨by simp [axes12], by simp⟩

/-- `a | b[c] | //d` builds -/
theorem exNary_build : ∃ o, build (fun _ => true) 100 true false
    (unionOf (.axis (ch "a") .none)
      [.filter (.axis (ch "b") .none) (.axis (ch "c") .none),
       .axis (ch "d") (.axis ⟨"descendant-or-self", .all, "", "", "", false, ""⟩ (.root "//"))]) {} {} = .ok o :=
  exists_of_toBool _ (by decide +kernel)

end Examples

end XPathV.UnionSem
