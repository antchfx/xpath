import XPathV.Lemmas.ParserFull.Sim
/-!
# C10 — every expression of the full XPath 1.0 grammar is parsed by the model, with the grammar's tree

`Spec/FullGrammar.lean` is the whole XPath 1.0 expression grammar (`D`, `Parses`) with the executable
reference parser `refParseFull` (sound for the grammar: `refParseFull_sound`).  The model parser is
more lenient than the grammar, so the provable direction is completeness of the model with respect to
the reference parser:

  `full_complete : tokVsRel text toks → refParseFull ns toks = some b → nesting b < 200 →
     ∃ a, parse (fuelFor text) (defaultCfg ns) text = .ok a ∧ normConv a = normConv b`

(`nesting b`, `ParserFull/Depth.lean`: the number of Expr levels nested through predicates,
parentheses and function arguments below the top one; 200 is the model's depth limit.  `full_complete'`
states the hypothesis as "`parse` does not stop with `.tooComplex`"; `full_complete_or_deep`: the model
rejects an expression of the reference parser only with `.tooComplex`, and only when `200 ≤ nesting b`
— stated as `Theorems.C10.C10_full_grammar_reject_only_deep`.)

The proof is a simulation (`ParserFull/Sim.lean`, `Simu`): one lemma per function of the reference
parser (`pTier pTierLoop pUnary pUnion pUnionLoop pPath pRel pRelLoop pStep pPreds pFilter pPrimary
pArgs`, with `pNodeTest` in `ParserFull/NodeTest.lean` and `pAxisSpec` inside the lemma for `pStep`), by induction on the reference
parser's fuel, for every amount of model fuel; the model call either runs out of fuel, or exceeds the
depth limit (only if `depthLimit < st.d + nesting b`), or returns a tree equal to the reference tree up
to `normConv` in a scanner state whose classified token stream is what the reference parser left, with
the depth counter restored.  `ParserFuel.parse_fuel_enough_default` removes the first alternative for
`fuelFor`; the hypothesis on `nesting b` removes the second.
-/
namespace XPathV.Lemmas.ParserFull
open XPathV XPathV.Model XPathV.Bridge XPathV.Spec.Full

theorem defaultCfg_chain (ns : Option NsMap) : (defaultCfg ns).chain = stagesOf upperTiers :=
  stagesOf_upper.symm

/-- the simulation for the configuration the library uses -/
theorem simu_default (ns : Option NsMap) (rf : Nat) : Simu (defaultCfg ns) ns rf :=
  simu_all rfl (defaultCfg_chain ns) rf

/-- the expression level: from a scanner state whose classified stream is `ets`, if the reference
parser reads an Expr `b` and leaves `rest` (something that can follow an operand), then
`parseExpression` — unless it runs out of fuel, or stops at the depth limit, which it does only if
`depthLimit < st.d + nesting b + 1` — returns `b` up to `normConv`, leaves the scanner at `rest` and
the depth counter where it was -/
theorem parseExpression_complete {ns : Option NsMap} {rf : Nat} {ets rest : List ETok} {b : Ast} {st : PState}
    {prev : Option ETok} (hes : ES prev st.s ets) (h : pTier ns rf upperTiers ets = some (b, rest))
    (hf : follow rest = true) (f : Nat) :
    Sim (parseExpression f (defaultCfg ns) st) b (Post rest) st.d (defaultCfg ns).depthLimit (nesting b + 1) :=
  expr_sim (defaultCfg_chain ns) (simu_default ns rf) h hf ⟨prev, hes⟩ f

/-- the depth limit of the configuration the library uses (regenerated from `parse.go`) -/
theorem depthLimit_default (ns : Option NsMap) : (defaultCfg ns).depthLimit = 200 := rfl

/-- the common form: `parse` returns the reference tree up to `normConv`, or stops at the depth limit
and then the tree nests at least as deep as the limit -/
theorem full_complete_or_deep {ns : Option NsMap} {text : List Char} {toks : List TokV} {b : Ast}
    (htoks : tokVsRel text toks) (href : refParseFull ns toks = some b) :
    (parse (fuelFor text) (defaultCfg ns) text = .error .tooComplex ∧ 200 ≤ nesting b) ∨
    ∃ a, parse (fuelFor text) (defaultCfg ns) text = .ok a ∧ normConv a = normConv b := by
  obtain ⟨s, hs, hes⟩ := htoks.es
  have hfuel := ParserFuel.parse_fuel_enough_default ns text
  unfold refParseFull at href
  simp only at href
  split at href
  · rename_i b' hp
    cases href
    have hsim := parseExpression_complete (st := { s := s, d := 0 }) hes hp rfl (fuelFor text)
    unfold parse at hfuel ⊢
    simp only [hs] at hfuel ⊢
    rcases hsim with e | ⟨e, hl⟩ | ⟨a, st', e, ha, ⟨p, hes', _⟩, _⟩
    · rw [e] at hfuel; exact absurd rfl hfuel
    · left
      rw [e]
      rw [depthLimit_default] at hl
      exact ⟨rfl, by simp only at hl; omega⟩
    · right
      have heof := hes'.nil_inv
      refine ⟨a, ?_, ha⟩
      rw [e]
      simp [bind, Except.bind, heof, pure, Except.pure]
  · cases href

/-- **Completeness of the model parser for the full grammar's reference parser.**  If the scanner's
token stream of `text` is `toks` and the reference parser of the full XPath 1.0 grammar accepts `toks`
with a tree `b` whose predicates / parentheses / function arguments nest fewer than 200 deep (the
model's depth limit, counting the top level), then the model parser accepts `text` with a tree that
equals `b` up to the four representation conventions of `normConv`. -/
theorem full_complete {ns : Option NsMap} {text : List Char} {toks : List TokV} {b : Ast}
    (htoks : tokVsRel text toks) (href : refParseFull ns toks = some b) (hdepth : nesting b < 200) :
    ∃ a, parse (fuelFor text) (defaultCfg ns) text = .ok a ∧ normConv a = normConv b := by
  rcases full_complete_or_deep htoks href with ⟨_, h⟩ | h
  · omega
  · exact h

/-- the same, with the depth hypothesis stated on the model's run: it does not stop with `.tooComplex` -/
theorem full_complete' {ns : Option NsMap} {text : List Char} {toks : List TokV} {b : Ast}
    (htoks : tokVsRel text toks) (href : refParseFull ns toks = some b)
    (hdeep : parse (fuelFor text) (defaultCfg ns) text ≠ .error .tooComplex) :
    ∃ a, parse (fuelFor text) (defaultCfg ns) text = .ok a ∧ normConv a = normConv b := by
  rcases full_complete_or_deep htoks href with ⟨h, _⟩ | h
  · exact absurd h hdeep
  · exact h

/-- the same with the driver's function `tokVs` -/
theorem full_complete_tokVs {ns : Option NsMap} {text : List Char} {toks : List TokV} {b : Ast}
    (htoks : tokVs text = some toks) (href : refParseFull ns toks = some b) (hdepth : nesting b < 200) :
    ∃ a, parse (fuelFor text) (defaultCfg ns) text = .ok a ∧ normConv a = normConv b :=
  full_complete (tokVs_sound htoks) href hdepth

/-- the statement of the property as one closed proposition -/
def FullCompleteStatement : Prop :=
  ∀ (ns : Option NsMap) (text : List Char) (toks : List TokV) (b : Ast),
    tokVsRel text toks → refParseFull ns toks = some b → nesting b < 200 →
    ∃ a, parse (fuelFor text) (defaultCfg ns) text = .ok a ∧ normConv a = normConv b

theorem full_complete_statement : FullCompleteStatement :=
  fun _ _ _ _ htoks href hdepth => full_complete htoks href hdepth

/-! ## The hypotheses are satisfiable; the converse direction is false

(kernel evaluation of the scanner model, `tokVs` and `refParseFull`; no `native_decide`) -/
section Examples

/-- model tree and reference tree of a text, when both parsers accept it -/
def bothTrees (ns : Option NsMap) (t : String) : Option (Ast × Ast) :=
  match parse (fuelFor t.toList) (defaultCfg ns) t.toList, (tokVs t.toList).bind (refParseFull ns) with
  | .ok a, some b => some (a, b)
  | _, _ => none

example : ((tokVs "a/b[1]".toList).bind (refParseFull none)).isSome = true := by decide +kernel
example : ((tokVs "//a[@k='x'] | f(1, $v)/..".toList).bind (refParseFull none)).isSome = true := by
  decide +kernel
example : ((tokVs "-(a and b)[2]".toList).bind (refParseFull none)).map nesting = some 1 := by decide +kernel
-- the two trees differ before `normConv` (`//` keeps its spelling in the root node, `node()` its name):
example : (bothTrees none "//node()").map (fun p => (p.1 == p.2, normConv p.1 == normConv p.2))
    = some (false, true) := by decide +kernel

-- the model is more lenient than the grammar: predicates on `.` (the reference parser stops before `[`, which
-- cannot follow an operand), the sequence form and unknown axis names (the reference parser's `pStep` fails)
example : (parse 100 (defaultCfg none) ".[1]".toList).isOk = true ∧
    (tokVs ".[1]".toList).bind (refParseFull none) = none := by decide +kernel
example : (parse 100 (defaultCfg none) "a/(b, c)".toList).isOk = true ∧
    (tokVs "a/(b, c)".toList).bind (refParseFull none) = none := by decide +kernel
example : (parse 100 (defaultCfg none) "foo::a".toList).isOk = true ∧
    (tokVs "foo::a".toList).bind (refParseFull none) = none := by decide +kernel

end Examples

end XPathV.Lemmas.ParserFull

