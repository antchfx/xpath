import XPathV.Lemmas.FlatFiltered
import XPathV.Lemmas.ParserFuel
import XPathV.Lemmas.ParserShape
import XPathV.Lemmas.BuildRejects.Records
import XPathV.Lemmas.NameSem.RePrefix
/-!
# C14 — name tests, namespaces and the name functions, end to end

What `parseNodeTest` records for a name token (`nameInfo`, defined in `Lemmas/ParserRun.lean`); what one step with such a test selects on
each of the twelve axes in the three regimes of the name test (no namespace map, a bound prefix with and
without `NamespaceURL()`); that the prefixes a document uses are irrelevant under a binding (helper
`NameSem/RePrefix.lean`); predicate-free paths of name tests, given as parse trees, through `build`
(`C14_main`, `nameDen`; a step of such a path has a local name, so `p:*` is not among them); one-step
texts through `parse` and `compile` (`compileWithNS_name/_attr/_axis`, `compile_name_noMap`,
`compileWithNS_unprefixed`), concrete ones through the real scanner (`ex_*`, among them `p:*`); the name
functions through the builder.

The section on one-step texts begins with facts about the parser that do not mention names (`Final`,
`parseStep_*`, `parseChain_one`, `parse_one_step`, `resAst`, `fuelFor_ge`, `defaultCfg_depth`);
`BuildRejects/Text.lean` uses them for the malformed names of C17.
-/
namespace XPathV.NameSem
open XPathV XPathV.Model XPathV.PathSem XPathV.ArithSem XPathV.FlatFiltered

variable {F : Type} [NumAlg F]

/-! ## the parser: what a name token becomes -/

/-- **parser, name tokens**: for a name token that is not a node-type test, `parseNodeTest` consumes
exactly that token and yields the step whose `AxisInfo` is `nameInfo …`, or fails with
`prefixUndefined` when there is a map that does not bind the prefix -/
theorem parseNodeTest_name_spec (cfg : PCfg) (inp : Ast) (axis : String) (mt : NType) (st st1 : PState)
    (ht : st.s.typ = .name) (hnf : (st.s.canBeFunc && isNodeType st.s) = false)
    (hnext : st.next = .ok st1) :
    parseNodeTest cfg inp axis mt st =
      match nameInfo cfg.ns axis mt st.s.pfx (scannedLocal st) with
      | some a => .ok (.axis a inp, st1)
      | none => .error .prefixUndefined := by
  rw [parseNodeTest_name_eq cfg inp axis mt st ht hnf, hnext]
  rfl

/-- the `*` token: any name, no namespace -/
theorem parseNodeTest_star_spec (cfg : PCfg) (inp : Ast) (axis : String) (mt : NType) (st st1 : PState)
    (ht : st.s.typ = .star) (hnext : st.next = .ok st1) :
    parseNodeTest cfg inp axis mt st = .ok (.axis ⟨axis, mt, "", "", "", false, ""⟩ inp, st1) := by
  simp [parseNodeTest, ht, hnext, bind, Except.bind, mkAxis, pure, Except.pure]

/-- no namespace map (`Compile`): `hasNS = false`, prefix and local name as scanned -/
theorem parse_name_noMap (cfg : PCfg) (inp : Ast) (axis : String) (mt : NType) (st st1 : PState)
    (hns : cfg.ns = none)
    (ht : st.s.typ = .name) (hnf : (st.s.canBeFunc && isNodeType st.s) = false)
    (hnext : st.next = .ok st1) :
    parseNodeTest cfg inp axis mt st =
      .ok (.axis ⟨axis, mt, st.s.pfx, scannedLocal st, "", false, ""⟩ inp, st1) := by
  rw [parseNodeTest_name_spec cfg inp axis mt st st1 ht hnf hnext, hns]
  unfold nameInfo
  by_cases hp : st.s.pfx = ""
  · simp [hp]
  · simp [hp]

/-- a map that binds the prefix (`CompileWithNS`): `hasNS = true`, `nsURI` = the bound URI -/
theorem parse_name_bound (cfg : PCfg) (m : List (String × String)) (uri : String) (inp : Ast) (axis : String)
    (mt : NType) (st st1 : PState) (hns : cfg.ns = some m)
    (ht : st.s.typ = .name) (hnf : (st.s.canBeFunc && isNodeType st.s) = false)
    (hp : st.s.pfx ≠ "") (hl : m.lookup st.s.pfx = some uri) (hnext : st.next = .ok st1) :
    parseNodeTest cfg inp axis mt st =
      .ok (.axis ⟨axis, mt, st.s.pfx, scannedLocal st, "", true, uri⟩ inp, st1) := by
  rw [parseNodeTest_name_spec cfg inp axis mt st st1 ht hnf hnext, hns]
  simp [nameInfo, hp, hl]

/-- an unprefixed name is never given a namespace, whatever the map says (XPath 1.0 §2.3: an
unprefixed name test is in no namespace; there is no default namespace for name tests) -/
theorem parse_name_unprefixed (cfg : PCfg) (inp : Ast) (axis : String) (mt : NType) (st st1 : PState)
    (ht : st.s.typ = .name) (hnf : (st.s.canBeFunc && isNodeType st.s) = false)
    (hp : st.s.pfx = "") (hnext : st.next = .ok st1) :
    parseNodeTest cfg inp axis mt st =
      .ok (.axis ⟨axis, mt, "", scannedLocal st, "", false, ""⟩ inp, st1) := by
  rw [parseNodeTest_name_spec cfg inp axis mt st st1 ht hnf hnext]
  simp [nameInfo, hp]

/-- a map that does not bind the prefix: compile error -/
theorem parse_name_unbound (cfg : PCfg) (m : List (String × String)) (inp : Ast) (axis : String)
    (mt : NType) (st st1 : PState) (hns : cfg.ns = some m)
    (ht : st.s.typ = .name) (hnf : (st.s.canBeFunc && isNodeType st.s) = false)
    (hp : st.s.pfx ≠ "") (hl : m.lookup st.s.pfx = none) (hnext : st.next = .ok st1) :
    parseNodeTest cfg inp axis mt st = .error .prefixUndefined := by
  rw [parseNodeTest_name_spec cfg inp axis mt st st1 ht hnf hnext, hns]
  simp [nameInfo, hp, hl]

/-- `pfx:local` / `local`: when the token's name is not `*`, the recorded local name is the scanned
one (whatever token follows) -/
theorem scannedLocal_name (st : PState) (hne : st.s.name ≠ "*") :
    scannedLocal st = st.s.name := by
  simp [scannedLocal, hne]

/-- `pfx:*`: the scanner delivers the name `*`; the recorded local name is empty -/
theorem scannedLocal_star (st : PState) (he : st.s.name = "*") :
    scannedLocal st = "" := by
  simp [scannedLocal, he]

/-! ## one step, every axis -/

/-- **one step from the context node, any of the twelve axes, any node test**: the plain plan of the
step yields exactly the nodes of the XPath axis (oracle `Spec.axisNodes`) that pass the engine's
node test.  No assumption on `cfg.nsIface`. -/
theorem step_ctx {d : Doc} (wf : WF d) (cfg : ECfg) (hinj : HashInj d cfg) (a : AxisInfo)
    (ha : a.axis ∈ axes12) (c : Ref) (hc : validRef d c = true) :
    ∃ out, sel (F := F) d cfg (stepPlan a .context) c = .ok out ∧
      ∀ x, x ∈ refs out ↔
        (x ∈ (Spec.axisNodes d a.axis c).getD [] ∧ nodeTestM d cfg a x = true) := by
  obtain ⟨out, hout, hmem⟩ := stepPlan_sem (F := F) d cfg hinj a ha .context c [⟨c, 1, 0⟩]
    (by intro o ho; simp only [refs, List.map_cons, List.map_nil, List.mem_cons, List.not_mem_nil,
          or_false] at ho; rw [ho]; exact hc)
    (sel_context d cfg c)
  refine ⟨out, hout, fun x => ?_⟩
  rw [hmem]
  simp only [refs, List.map_cons, List.map_nil, List.mem_cons, List.not_mem_nil, or_false,
    exists_eq_left, List.mem_filter, test]
  rw [axisRefsM_spec wf c hc a.axis ha x]

/-- the engine's test for a name with a local part: principal node type, equal local name, and — the
three regimes — the namespace URI of the step under a binding and a navigator with `NamespaceURL()`,
the prefix as written otherwise -/
theorem test_named (d : Doc) (cfg : ECfg) (axis : String) (mt : NType) (pfx lname prop : String) (hn : Bool)
    (uri : String) (hmt : mt ≠ .all) (hl : lname ≠ "") (x : Ref) :
    nodeTestM d cfg ⟨axis, mt, pfx, lname, prop, hn, uri⟩ x = true ↔
      (nodeType d x = mt ∧ (if (cfg.nsIface && hn) = true then nsURL d x = uri else prefixOf d x = pfx) ∧
        localName d x = lname) := by
  dsimp only [nodeTestM]
  cases (cfg.nsIface && hn) <;>
    simp only [hl, false_or, bne_iff_ne, ne_eq, not_false_eq_true, true_or, ↓reduceIte, Bool.false_eq_true,
      Bool.and_eq_true, Bool.or_eq_true, beq_iff_eq]
  all_goals
    constructor
    · rintro ⟨h1 | h1, h2, h3⟩
      · exact ⟨h1.symm, h3.symm, h2.symm⟩
      · exact absurd h1 hmt
    · rintro ⟨h1, h2, h3⟩
      exact ⟨Or.inl h1.symm, h3.symm, h2.symm⟩

/-- no namespace information in the step (`Compile`, or an unprefixed name): principal node type,
equal prefix, equal local name -/
theorem test_noNS (d : Doc) (cfg : ECfg) (axis : String) (mt : NType) (pfx lname prop : String) (uri : String)
    (hmt : mt ≠ .all) (hl : lname ≠ "") (x : Ref) :
    nodeTestM d cfg ⟨axis, mt, pfx, lname, prop, false, uri⟩ x = true ↔
      (nodeType d x = mt ∧ prefixOf d x = pfx ∧ localName d x = lname) := by
  simpa using test_named d cfg axis mt pfx lname prop false uri hmt hl x

/-- a bound prefix (`CompileWithNS`) and a navigator with `NamespaceURL()`: principal node type,
equal namespace URI, equal local name — the prefix of the node is not looked at -/
theorem test_NS (d : Doc) (cfg : ECfg) (hi : cfg.nsIface = true) (axis : String) (mt : NType)
    (pfx lname prop uri : String) (hmt : mt ≠ .all) (hl : lname ≠ "") (x : Ref) :
    nodeTestM d cfg ⟨axis, mt, pfx, lname, prop, true, uri⟩ x = true ↔
      (nodeType d x = mt ∧ nsURL d x = uri ∧ localName d x = lname) := by
  simpa [hi] using test_named d cfg axis mt pfx lname prop true uri hmt hl x

/-- a bound prefix but a navigator *without* `NamespaceURL()` (`cfg.nsIface = false`): Go's
`axisPredicate` falls back to the textual comparison — the URI is ignored and the prefix written in
the expression is compared with the prefix used in the document -/
theorem test_NS_noIface (d : Doc) (cfg : ECfg) (hi : cfg.nsIface = false) (axis : String) (mt : NType)
    (pfx lname prop uri : String) (hmt : mt ≠ .all) (hl : lname ≠ "") (x : Ref) :
    nodeTestM d cfg ⟨axis, mt, pfx, lname, prop, true, uri⟩ x = true ↔
      (nodeType d x = mt ∧ prefixOf d x = pfx ∧ localName d x = lname) := by
  simpa [hi] using test_named d cfg axis mt pfx lname prop true uri hmt hl x

/-- `*`: every node of the principal type -/
theorem test_star (d : Doc) (cfg : ECfg) (axis : String) (mt : NType) (prop uri : String) (hn : Bool)
    (hmt : mt ≠ .all) (x : Ref) :
    nodeTestM d cfg ⟨axis, mt, "", "", prop, hn, uri⟩ x = true ↔ nodeType d x = mt := by
  simp only [nodeTestM, bne_self_eq_false, Bool.or_self, Bool.false_eq_true, ↓reduceIte, Bool.and_true,
    Bool.or_eq_true, beq_iff_eq]
  constructor
  · rintro (h | h)
    · exact h.symm
    · exact absurd h hmt
  · intro h; exact Or.inl h.symm

section Steps
variable {d : Doc} (wf : WF d) (cfg : ECfg) (hinj : HashInj d cfg)
include wf hinj

/-- **no namespace map** (or an unprefixed name under any map): from every valid context node, on
each of the twelve axes, the step `axis::pfx:lname` (`pfx` possibly empty) selects exactly the nodes
on the axis of the principal node type whose prefix *and* local name are those of the test; in
particular an unprefixed test (`pfx = ""`) selects only unprefixed nodes -/
theorem step_noNS (axis : String) (ha : axis ∈ axes12) (mt : NType) (hmt : mt ≠ .all)
    (pfx lname : String) (hl : lname ≠ "") (c : Ref) (hc : validRef d c = true) :
    ∃ out, sel (F := F) d cfg (stepPlan ⟨axis, mt, pfx, lname, "", false, ""⟩ .context) c = .ok out ∧
      ∀ x, x ∈ refs out ↔
        (x ∈ (Spec.axisNodes d axis c).getD [] ∧
          nodeType d x = mt ∧ prefixOf d x = pfx ∧ localName d x = lname) := by
  obtain ⟨out, h1, h2⟩ := step_ctx (F := F) wf cfg hinj ⟨axis, mt, pfx, lname, "", false, ""⟩ ha c hc
  exact ⟨out, h1, fun x => by rw [h2 x, test_noNS d cfg axis mt pfx lname "" "" hmt hl x]⟩

/-- an unprefixed test selects only unprefixed nodes -/
theorem step_unprefixed_only (axis : String) (ha : axis ∈ axes12) (mt : NType) (hmt : mt ≠ .all)
    (lname : String) (hl : lname ≠ "") (c : Ref) (hc : validRef d c = true) (out : List Item)
    (h : sel (F := F) d cfg (stepPlan ⟨axis, mt, "", lname, "", false, ""⟩ .context) c = .ok out) :
    ∀ x ∈ refs out, prefixOf d x = "" := by
  obtain ⟨out', h1, h2⟩ := step_noNS (F := F) wf cfg hinj axis ha mt hmt "" lname hl c hc
  rw [h] at h1; cases h1
  intro x hx
  exact ((h2 x).1 hx).2.2.1

/-- **bound prefix, navigator with `NamespaceURL()`**: the step selects exactly the nodes on the
axis of the principal node type whose namespace URI is the one bound to the prefix and whose local
name is the test's — `prefixOf d x` does not occur -/
theorem step_NS (hi : cfg.nsIface = true) (axis : String) (ha : axis ∈ axes12) (mt : NType) (hmt : mt ≠ .all)
    (pfx lname uri : String) (hl : lname ≠ "") (c : Ref) (hc : validRef d c = true) :
    ∃ out, sel (F := F) d cfg (stepPlan ⟨axis, mt, pfx, lname, "", true, uri⟩ .context) c = .ok out ∧
      ∀ x, x ∈ refs out ↔
        (x ∈ (Spec.axisNodes d axis c).getD [] ∧
          nodeType d x = mt ∧ nsURL d x = uri ∧ localName d x = lname) := by
  obtain ⟨out, h1, h2⟩ := step_ctx (F := F) wf cfg hinj ⟨axis, mt, pfx, lname, "", true, uri⟩ ha c hc
  exact ⟨out, h1, fun x => by rw [h2 x, test_NS d cfg hi axis mt pfx lname "" uri hmt hl x]⟩

/-- `axis::*`: all nodes of the principal type on the axis -/
theorem step_star (axis : String) (ha : axis ∈ axes12) (mt : NType) (hmt : mt ≠ .all)
    (c : Ref) (hc : validRef d c = true) :
    ∃ out, sel (F := F) d cfg (stepPlan ⟨axis, mt, "", "", "", false, ""⟩ .context) c = .ok out ∧
      ∀ x, x ∈ refs out ↔ (x ∈ (Spec.axisNodes d axis c).getD [] ∧ nodeType d x = mt) := by
  obtain ⟨out, h1, h2⟩ := step_ctx (F := F) wf cfg hinj ⟨axis, mt, "", "", "", false, ""⟩ ha c hc
  exact ⟨out, h1, fun x => by rw [h2 x, test_star d cfg axis mt "" "" false hmt x]⟩

end Steps

/-- the step as the *builder* makes it (`axisPlan`, outermost step over the context node) has the
sequence of the plain plan -/
theorem step_built (d : Doc) (cfg : ECfg) (a : AxisInfo) (ha : a.axis ∈ axes12) (c : Ref) :
    ∃ p pr, axisPlan a {} {} .context = .ok (p, pr) ∧
      sel (F := F) d cfg p c = sel (F := F) d cfg (stepPlan a .context) c := by
  obtain ⟨q, pr', hq, hsel⟩ := axisPlan_sel (F := F) a ha {} rfl {} .context
  exact ⟨q, pr', hq, hsel d cfg c⟩

/-! ### the prefix used in the document is irrelevant under a namespace map -/

/-- node level: under a binding (and `NamespaceURL()`), two nodes — of the same or of different
documents — with the same node type, namespace URI and local name are matched alike by every
name test, whatever their prefixes -/
theorem prefix_irrelevant (d₁ d₂ : Doc) (cfg : ECfg) (hi : cfg.nsIface = true) (a : AxisInfo)
    (hn : a.hasNS = true) (r₁ r₂ : Ref) (ht : nodeType d₁ r₁ = nodeType d₂ r₂)
    (hu : nsURL d₁ r₁ = nsURL d₂ r₂) (hl : localName d₁ r₁ = localName d₂ r₂) :
    nodeTestM d₁ cfg a r₁ = nodeTestM d₂ cfg a r₂ := by
  simp only [nodeTestM, hi, hn, Bool.and_self, ↓reduceIte, ht, hu, hl]

/-! ## the name functions through the builder -/

def nameFns : List String := ["name", "local-name", "namespace-uri"]

/-- the qualified name of a node: `prefix:local`, or `local` when there is no prefix -/
def qname (d : Doc) (r : Ref) : String :=
  if prefixOf d r == "" then localName d r else prefixOf d r ++ ":" ++ localName d r

/-- what XPath 1.0 §4.1 says `name`, `local-name`, `namespace-uri` report of a node -/
def specName (d : Doc) (nm : String) (r : Ref) : String :=
  if nm == "local-name" then localName d r
  else if nm == "namespace-uri" then nsURL d r
  else qname d r

/-- what the engine reports of a node: as `specName`, except that `namespace-uri` falls back to the
*prefix* when the navigator has no `NamespaceURL()` -/
def engineName (d : Doc) (cfg : ECfg) (nm : String) (r : Ref) : String :=
  if nm == "local-name" then localName d r
  else if nm == "namespace-uri" then (if cfg.nsIface then nsURL d r else prefixOf d r)
  else qname d r

theorem engineName_eq (d : Doc) (cfg : ECfg) (hi : cfg.nsIface = true) (nm : String) (r : Ref) :
    engineName d cfg nm r = specName d nm r := by
  simp [engineName, specName, hi]

/-- of the first node of a list, `""` for the empty list -/
def firstOr (f : Ref → String) : List Ref → String
  | [] => ""
  | r :: _ => f r

theorem specName_name (d : Doc) (r : Ref) : specName d "name" r = qname d r := by
  simp [specName]
theorem specName_local (d : Doc) (r : Ref) : specName d "local-name" r = localName d r := by
  simp [specName]
theorem specName_uri (d : Doc) (r : Ref) : specName d "namespace-uri" r = nsURL d r := by
  simp [specName]

section BuildInv
variable (regexOk : RegexOk) (limit : Nat) (snt sdf : Bool)

theorem fnArity_name {nm : String} (h : nm ∈ nameFns) : fnArity nm = some (0, some 1, false) := by
  simp only [nameFns, List.mem_cons, List.not_mem_nil, or_false] at h
  rcases h with h | h | h <;> subst h <;> rfl

theorem fnUsed_name {nm : String} (h : nm ∈ nameFns) (n : Nat) : fnUsed nm n = min n 1 := by
  simp only [nameFns, List.mem_cons, List.not_mem_nil, or_false] at h
  rcases h with h | h | h <;> subst h <;> rfl

theorem name_not_others {nm : String} (h : nm ∈ nameFns) :
    (nm == "normalize-space" || nm == "string" || nm == "number") = false ∧
    (nm == "matches") = false ∧ (nm == "last") = false ∧ (nm == "position") = false ∧
    (nm == "reverse") = false := by
  simp only [nameFns, List.mem_cons, List.not_mem_nil, or_false] at h
  rcases h with h | h | h <;> subst h <;> decide

theorem name_is_namefn {nm : String} (h : nm ∈ nameFns) :
    (nm == "name" || nm == "local-name" || nm == "namespace-uri") = true := by
  simp only [nameFns, List.mem_cons, List.not_mem_nil, or_false] at h
  rcases h with h | h | h <;> subst h <;> decide

/-- `name()`, `local-name()`, `namespace-uri()`: the builder makes a function query without
arguments (and without a first input) -/
theorem build_name0 (nm pfx : String) (hnm : nm ∈ nameFns) (fl : Flags) (st : BState) (o : BOut)
    (h : build regexOk limit snt sdf (.call nm pfx .anil) fl st = .ok o) :
    o.q = .func nm .nil .pnil := by
  obtain ⟨h1, _, h2, h2', h3⟩ := name_not_others hnm
  rw [(build_call0_ok (beq_eq_false_iff_ne.1 h3) (by simp only [synthSelf, h1, Bool.false_and]) h).1, h2, h2']
  rfl

/-- `name(P)` …: a function query over the plan of `P` -/
theorem build_name1 (nm pfx : String) (hnm : nm ∈ nameFns) (a : Ast) (fl : Flags) (st : BState) (o : BOut)
    (h : build regexOk limit snt sdf (.call nm pfx (.acons a .anil)) fl st = .ok o) :
    ∃ st' ao, build regexOk limit snt sdf a {} st' = .ok ao ∧
      o.q = .func nm .nil (.pcons ao.q .pnil) := by
  obtain ⟨_, _, h2, h2', h3⟩ := name_not_others hnm
  obtain ⟨ao, hao, hq, _⟩ := build_call1_ok (by rw [fnUsed_name hnm]; rfl) (beq_eq_false_iff_ne.1 h3)
    (beq_eq_false_iff_ne.1 h2) (beq_eq_false_iff_ne.1 h2') h
  exact ⟨_, ao, hao, hq⟩

end BuildInv

section Engine
variable (d : Doc) (cfg : ECfg)

/-- the name-function arm of `callFn`: the node is the context node when there is no argument
(`asel = none`), else the first node the argument's `Select` yields -/
theorem callFn_name (nm : String) (hnm : nm ∈ nameFns) (fi : Plan) (c : Ref)
    (avs : List (Except EErr (MVal F))) (asel : Option (List Ref)) :
    callFn (F := F) d cfg nm fi c avs asel =
      .ok (.str (match asel with
        | none => engineName d cfg nm c
        | some l => firstOr (engineName d cfg nm) l)) := by
  simp only [nameFns, List.mem_cons, List.not_mem_nil, or_false] at hnm
  rcases hnm with h | h | h <;> subst h
  · rw [Model.callFn_name]
    cases asel with
    | none => rfl
    | some l => cases l <;> rfl
  · rw [callFn_localName]
    cases asel with
    | none => rfl
    | some l => cases l <;> rfl
  · rw [callFn_namespaceUri]
    cases asel with
    | none => rfl
    | some l => cases l <;> rfl

theorem evalP_name0 (nm : String) (hnm : nm ∈ nameFns) (fi : Plan) (c : Ref) :
    evalP (F := F) d cfg (.func nm fi .pnil) c = .ok (.str (engineName d cfg nm c)) := by
  rw [evalP]
  simp only [argVals, bind, Except.bind, pure, Except.pure]
  rw [callFn_name d cfg nm hnm]

theorem evalP_name1 (nm : String) (hnm : nm ∈ nameFns) (fi h : Plan) (c : Ref) (out : List Item)
    (hsel : sel (F := F) d cfg h c = .ok out) :
    evalP (F := F) d cfg (.func nm fi (.pcons h .pnil)) c =
      .ok (.str (firstOr (engineName d cfg nm) (refs out))) := by
  rw [evalP]
  simp only [argVals, name_is_namefn hnm, hsel, bind, Except.bind, pure, Except.pure, ↓reduceIte]
  rw [callFn_name d cfg nm hnm]

end Engine

theorem spec_callFn_name0 (d : Doc) (ctx : Spec.Ctx) (nm : String) (hnm : nm ∈ nameFns) :
    Spec.callFn (F := F) d ctx nm [] = .ok (.str (specName d nm ctx.node)) := by
  simp only [nameFns, List.mem_cons, List.not_mem_nil, or_false] at hnm
  rcases hnm with h | h | h <;> subst h
  · rw [specName_name]; exact Spec.callFn_name0 d ctx
  · rw [specName_local]; exact Spec.callFn_localName0 d ctx
  · rw [specName_uri]; exact Spec.callFn_namespaceUri0 d ctx

theorem spec_callFn_name1 (d : Doc) (ctx : Spec.Ctx) (nm : String) (hnm : nm ∈ nameFns) (l : List Ref) :
    Spec.callFn (F := F) d ctx nm [.nodes l] = .ok (.str (firstOr (specName d nm) l)) := by
  simp only [nameFns, List.mem_cons, List.not_mem_nil, or_false] at hnm
  rcases hnm with h | h | h <;> subst h
  · rw [Spec.callFn_name1]
    cases l with
    | nil => rfl
    | cons r t => simp only [firstOr]; rw [specName_name]; rfl
  · rw [Spec.callFn_localName1]
    cases l with
    | nil => rfl
    | cons r t => simp only [firstOr]; rw [specName_local]
  · rw [Spec.callFn_namespaceUri1]
    cases l with
    | nil => rfl
    | cons r t => simp only [firstOr]; rw [specName_uri]

theorem eval_name0 (d : Doc) (ctx : Spec.Ctx) (nm pfx : String) (hnm : nm ∈ nameFns) :
    Spec.eval (F := F) d (.call nm pfx .anil) ctx = .ok (.val (.str (specName d nm ctx.node)) none) :=
  StringFns.call_eval d ctx nm pfx [] [] .nil _ (spec_callFn_name0 d ctx nm hnm)

theorem eval_name1 (d : Doc) (ctx : Spec.Ctx) (nm pfx : String) (hnm : nm ∈ nameFns) (p : Ast)
    (ns : List Ref) (g : Option (List (List Ref)))
    (hp : Spec.eval (F := F) d p ctx = .ok (.val (.nodes ns) g)) :
    Spec.eval (F := F) d (.call nm pfx (.acons p .anil)) ctx =
      .ok (.val (.str (firstOr (specName d nm) ns)) none) :=
  StringFns.call_eval d ctx nm pfx [p] [.nodes ns] (.cons ⟨g, hp⟩ .nil) _ (spec_callFn_name1 d ctx nm hnm ns)

/-- without `NamespaceURL()` the engine's `namespace-uri()` reports the *prefix* of the context node -/
theorem namespace_uri0_noIface (d : Doc) (cfg : ECfg) (hi : cfg.nsIface = false) (regexOk : RegexOk)
    (limit : Nat) (snt sdf : Bool) (pfx : String) (fl : Flags) (st : BState) (o : BOut)
    (hb : build regexOk limit snt sdf (.call "namespace-uri" pfx .anil) fl st = .ok o) (c : Ref) :
    evalP (F := F) d cfg o.q c = .ok (.str (prefixOf d c)) := by
  rw [build_name0 regexOk limit snt sdf _ pfx (by simp [nameFns]) fl st o hb,
    evalP_name0 d cfg _ (by simp [nameFns])]
  simp [engineName, hi]

/-- **a name function over a predicate-free path (any axes)**: the engine reports the first node *of
the sequence its plan selects*; that sequence has exactly the members of the oracle's node-set, so
the answer is `""` exactly when the oracle's set is empty and otherwise names a node of the set.
(For the *first in document order* see `Theorems.C14.C14_name_functions_nodeset_argument`.) -/
theorem name1_path_sem {d : Doc} (wf : WF d) (cfg : ECfg) (hi : cfg.nsIface = true)
    (hinj : HashInj d cfg) (regexOk : RegexOk) (limit : Nat) (sdf : Bool) (nm pfx : String)
    (hnm : nm ∈ nameFns) (p : Ast) (hp : PathPF p) (fl : Flags) (st : BState) (o : BOut)
    (hb : build regexOk limit true sdf (.call nm pfx (.acons p .anil)) fl st = .ok o)
    (c : Ref) (hc : validRef d c = true) (i n : Nat) :
    ∃ (out : List Item) (ns : List Ref),
      evalP (F := F) d cfg o.q c = .ok (.str (firstOr (specName d nm) (refs out))) ∧
      Spec.eval (F := F) d (.call nm pfx (.acons p .anil)) ⟨c, i, n⟩ =
        .ok (.val (.str (firstOr (specName d nm) ns)) none) ∧
      (∀ x, x ∈ refs out ↔ x ∈ ns) := by
  obtain ⟨st', ao, hao, hq⟩ := build_name1 regexOk limit true sdf nm pfx hnm p fl st o hb
  obtain ⟨out, ns, g, hsel, hev, hmem⟩ :=
    C01_main (F := F) wf cfg hi hinj regexOk limit sdf p hp st' ao hao c hc
  refine ⟨out, ns, ?_, ?_, hmem⟩
  · rw [hq, evalP_name1 d cfg nm hnm .nil ao.q c out hsel]
    congr 2
    cases refs out with
    | nil => rfl
    | cons r t => exact engineName_eq d cfg hi nm r
  · exact eval_name1 d ⟨c, i, n⟩ nm pfx hnm p ns g (by rw [eval_pathpf_ctx d hp]; exact hev)

/-! ## predicate-free paths of name tests through `build` -/

/-- the documented meaning of a name test recorded as `a`: principal node type, local name, and
the namespace URI bound to the prefix (with a map) or the prefix itself (without) -/
def NameCond (d : Doc) (a : AxisInfo) (x : Ref) : Prop :=
  nodeType d x = a.typeTest ∧ localName d x = a.lname ∧
    (if a.hasNS = true then nsURL d x = a.nsURI else prefixOf d x = a.pfx)

/-- the oracle's node test on a name test is `NameCond`: it compares (URI, local name) under a
binding and (prefix, local name) without -/
theorem spec_nodeTest_name (d : Doc) (a : AxisInfo) (hmt : a.typeTest ≠ .all) (hl : a.lname ≠ "") (x : Ref) :
    Spec.nodeTest d a x = true ↔ NameCond d a x := by
  simp only [Spec.nodeTest, NameCond, hl, false_or, bne_iff_ne, ne_eq, not_false_eq_true, true_or, ↓reduceIte,
    Bool.and_eq_true, Bool.or_eq_true, beq_iff_eq]
  constructor
  · rintro ⟨h1 | h1, h2, h3⟩
    · exact absurd h1 hmt
    · refine ⟨h1.symm, h2.symm, ?_⟩
      split at h3
      · rename_i hn; rw [if_pos hn]; exact (beq_iff_eq.1 h3).symm
      · rename_i hn; rw [if_neg hn]; exact (beq_iff_eq.1 h3).symm
  · rintro ⟨h1, h2, h3⟩
    refine ⟨Or.inr h1.symm, h2.symm, ?_⟩
    split
    · rename_i hn; rw [if_pos hn] at h3; exact beq_iff_eq.2 h3.symm
    · rename_i hn; rw [if_neg hn] at h3; exact beq_iff_eq.2 h3.symm

/-- predicate-free paths all of whose steps are name tests as the parser records them under the
namespace map `ns` (`nameInfo`), on any of the twelve axes -/
inductive NamePath (ns : Option (List (String × String))) : Ast → Prop
  | none : NamePath ns .none
  | root (s : String) : NamePath ns (.root s)
  | axis (a : AxisInfo) (inp : Ast) (axis : String) (mt : NType) (pfx lname : String) :
      NamePath ns inp → axis ∈ axes12 → mt ≠ .all → lname ≠ "" →
      nameInfo ns axis mt pfx lname = some a → NamePath ns (.axis a inp)

theorem NamePath.pathPF {ns : Option (List (String × String))} {p : Ast} (h : NamePath ns p) : PathPF p := by
  induction h with
  | none => exact .none
  | root s => exact .root s
  | axis a inp axis mt pfx lname _ hax _ _ hi ih =>
    exact .axis a inp ih (by rw [(nameInfo_fields hi).1]; exact hax)

/-- the node-set a path of name tests denotes, stated with the axes of the oracle and the
documented meaning of the name test only -/
def nameDen (d : Doc) : Ast → Ref → Ref → Prop
  | .none, c, x => x = c
  | .root _, _, x => x = .node 0
  | .axis a inp, c, x =>
      ∃ o, nameDen d inp c o ∧ x ∈ (Spec.axisNodes d a.axis o).getD [] ∧ NameCond d a x
  | _, _, _ => False

/-- the oracle's value of a path of name tests is `nameDen` -/
theorem eval_nameDen {d : Doc} (wf : WF d) (ns : Option (List (String × String))) (p : Ast)
    (hp : NamePath ns p) (c : Ref) (hc : validRef d c = true) :
    ∃ nodes g, Spec.eval (F := F) d p ⟨c, 1, 1⟩ = .ok (.val (.nodes nodes) g) ∧
      (∀ x, x ∈ nodes ↔ nameDen d p c x) ∧ (∀ x ∈ nodes, validRef d x = true) := by
  induction hp with
  | none =>
    refine ⟨[c], none, by simp [Spec.eval], by simp [nameDen], ?_⟩
    intro x hx; simp only [List.mem_cons, List.not_mem_nil, or_false] at hx; rw [hx]; exact hc
  | root s =>
    refine ⟨[.node 0], none, by simp [Spec.eval], by simp [nameDen], ?_⟩
    intro x hx; simp only [List.mem_cons, List.not_mem_nil, or_false] at hx; rw [hx]
    exact (validRef_node d 0).2 wf.pos
  | axis a inp axis mt pfx lname _ hax hmt hl hi ih =>
    obtain ⟨origins, g, hev, hmem, hval⟩ := ih
    obtain ⟨e1, e2, e3, _, _⟩ := nameInfo_fields hi
    have ha : a.axis ∈ axes12 := by rw [e1]; exact hax
    obtain ⟨g', hev'⟩ := eval_axis (F := F) d a ha inp ⟨c, 1, 1⟩ origins g hev
    refine ⟨_, g', hev', fun x => ?_, fun x hx => ((mem_docOrder d _ x).1 hx).2⟩
    rw [mem_docOrder, List.mem_flatten]
    simp only [nameDen]
    constructor
    · rintro ⟨⟨l, hl', hx⟩, _⟩
      obtain ⟨o, ho, rfl⟩ := List.mem_map.1 hl'
      rw [List.mem_filter, mem_axisProx] at hx
      exact ⟨o, (hmem o).1 ho, hx.1,
        (spec_nodeTest_name d a (by rw [e2]; exact hmt) (by rw [e3]; exact hl) x).1 hx.2⟩
    · rintro ⟨o, ho, hx, hcnd⟩
      have ho' := (hmem o).2 ho
      refine ⟨⟨_, List.mem_map.2 ⟨o, ho', rfl⟩, ?_⟩, axisNodes_valid wf o (hval o ho') a.axis ha x hx⟩
      rw [List.mem_filter, mem_axisProx]
      exact ⟨hx, (spec_nodeTest_name d a (by rw [e2]; exact hmt) (by rw [e3]; exact hl) x).2 hcnd⟩

/-- **C14, predicate-free paths of name tests, through `build`**: for every well-formed document,
every valid context node, every namespace map `ns` (absent, binding, re-binding) and every
predicate-free path over the twelve axes whose steps are name tests as the parser records them
under `ns`, the plan the builder makes (with all its rewrites) yields exactly

* the oracle's node-set of the path (`Spec.eval`, whose `Spec.nodeTest` compares URI and local name
  under a binding), which is
* `nameDen`: the nodes reached along the oracle's axes through nodes of the principal type with the
  local name of the test and the namespace URI bound to its prefix (the *prefix itself* when there
  is no map or the name is unprefixed) — the prefix a node uses in the document is not consulted
  when a binding exists.

Standing assumptions as for C01: `cfg.nsIface = true`, `HashInj`. -/
theorem C14_main {d : Doc} (wf : WF d) (cfg : ECfg) (hns : cfg.nsIface = true)
    (hinj : HashInj d cfg) (regexOk : RegexOk) (limit : Nat) (sdf : Bool)
    (ns : Option (List (String × String))) (p : Ast) (hp : NamePath ns p)
    (st : BState) (o : BOut) (hb : build regexOk limit true sdf p {} st = .ok o)
    (c : Ref) (hc : validRef d c = true) :
    ∃ out nodes g, sel (F := F) d cfg o.q c = .ok out ∧
      Spec.eval (F := F) d p ⟨c, 1, 1⟩ = .ok (.val (.nodes nodes) g) ∧
      (∀ x, x ∈ refs out ↔ x ∈ nodes) ∧ (∀ x, x ∈ refs out ↔ nameDen d p c x) := by
  obtain ⟨out, nodes, g, h1, h2, h3⟩ :=
    C01_main (F := F) wf cfg hns hinj regexOk limit sdf p hp.pathPF st o hb c hc
  obtain ⟨nodes', g', h2', h4, _⟩ := eval_nameDen (F := F) wf ns p hp c hc
  rw [h2] at h2'; cases h2'
  exact ⟨out, nodes, g, h1, h2, h3, fun x => (h3 x).trans (h4 x)⟩

/-! ### document level: the prefixes a document uses are irrelevant under a namespace map -/

/-- **one step**: two documents with the same tree, local names and namespace URIs (they may differ
in every prefix, `SameNames`) yield the same node set for every bound name test on every axis -/
theorem prefix_irrelevant_step {d₁ d₂ : Doc} (wf₁ : WF d₁) (hs : SameNames d₁ d₂) (cfg : ECfg)
    (hi : cfg.nsIface = true) (hinj₁ : HashInj d₁ cfg) (hinj₂ : HashInj d₂ cfg)
    (axis : String) (ha : axis ∈ axes12) (mt : NType) (hmt : mt ≠ .all)
    (pfx lname uri : String) (hl : lname ≠ "") (c : Ref) (hc : validRef d₁ c = true) :
    ∃ out₁ out₂,
      sel (F := F) d₁ cfg (stepPlan ⟨axis, mt, pfx, lname, "", true, uri⟩ .context) c = .ok out₁ ∧
      sel (F := F) d₂ cfg (stepPlan ⟨axis, mt, pfx, lname, "", true, uri⟩ .context) c = .ok out₂ ∧
      ∀ x, x ∈ refs out₁ ↔ x ∈ refs out₂ := by
  have wf₂ : WF d₂ := hs.toSameShape.wf wf₁
  have hc₂ : validRef d₂ c = true := by rw [← validRef_shape hs.toSameShape]; exact hc
  obtain ⟨o1, h1, m1⟩ := step_NS (F := F) wf₁ cfg hinj₁ hi axis ha mt hmt pfx lname uri hl c hc
  obtain ⟨o2, h2, m2⟩ := step_NS (F := F) wf₂ cfg hinj₂ hi axis ha mt hmt pfx lname uri hl c hc₂
  refine ⟨o1, o2, h1, h2, fun x => ?_⟩
  rw [m1, m2, axisNodes_shape hs.toSameShape, nodeType_shape hs.toSameShape, hs.uri, hs.lname]

/-- every step of the path carries a namespace binding -/
def AllBound : Ast → Prop
  | .axis a inp => a.hasNS = true ∧ AllBound inp
  | _ => True

theorem nameCond_same {d₁ d₂ : Doc} (hs : SameNames d₁ d₂) (a : AxisInfo) (hn : a.hasNS = true) (x : Ref) :
    NameCond d₁ a x ↔ NameCond d₂ a x := by
  simp only [NameCond, hn, ↓reduceIte, nodeType_shape hs.toSameShape, hs.uri, hs.lname]

theorem nameDen_same {d₁ d₂ : Doc} (hs : SameNames d₁ d₂) : ∀ (p : Ast), AllBound p →
    ∀ c x, nameDen d₁ p c x ↔ nameDen d₂ p c x
  | .none, _, _, _ => Iff.rfl
  | .root _, _, _, _ => Iff.rfl
  | .axis a inp, hb, c, x => by
    simp only [nameDen, axisNodes_shape hs.toSameShape]
    constructor
    · rintro ⟨o, h1, h2, h3⟩
      exact ⟨o, (nameDen_same hs inp hb.2 c o).1 h1, h2, (nameCond_same hs a hb.1 x).1 h3⟩
    · rintro ⟨o, h1, h2, h3⟩
      exact ⟨o, (nameDen_same hs inp hb.2 c o).2 h1, h2, (nameCond_same hs a hb.1 x).2 h3⟩
  | .filter _ _, _, _, _ => Iff.rfl
  | .call _ _ _, _, _, _ => Iff.rfl
  | .anil, _, _, _ => Iff.rfl
  | .acons _ _, _, _, _ => Iff.rfl
  | .oper _ _ _, _, _, _ => Iff.rfl
  | .str _, _, _, _ => Iff.rfl
  | .num _, _, _, _ => Iff.rfl
  | .group _, _, _, _ => Iff.rfl
  | .var _ _, _, _, _ => Iff.rfl

/-- instance: rewriting every prefix of the document with an arbitrary function `f` (renaming,
merging, dropping prefixes) does not change what a bound name test selects -/
theorem prefix_irrelevant_rePrefix {d : Doc} (wf : WF d) (f : String → String) (cfg : ECfg)
    (hi : cfg.nsIface = true) (hinj₁ : HashInj d cfg) (hinj₂ : HashInj (rePrefix f d) cfg)
    (axis : String) (ha : axis ∈ axes12) (mt : NType) (hmt : mt ≠ .all)
    (pfx lname uri : String) (hl : lname ≠ "") (c : Ref) (hc : validRef d c = true) :
    ∃ out₁ out₂,
      sel (F := F) d cfg (stepPlan ⟨axis, mt, pfx, lname, "", true, uri⟩ .context) c = .ok out₁ ∧
      sel (F := F) (rePrefix f d) cfg (stepPlan ⟨axis, mt, pfx, lname, "", true, uri⟩ .context) c = .ok out₂ ∧
      ∀ x, x ∈ refs out₁ ↔ x ∈ refs out₂ :=
  prefix_irrelevant_step wf (rePrefix_same f d) cfg hi hinj₁ hinj₂ axis ha mt hmt pfx lname uri hl c hc

/-! ## a one-step text through `parse` and `compile`

Stated on the scanner states the text produces (`Scan.init text`, `nextItem`): the step token(s)
followed by end of input.  Everything between the scanner and the plan — the whole precedence chain
of `parseExpression`, `parseNodeTest`, `build`, the `nil`-query check of `compile` — is derived. -/

/-- a parser result that, when it succeeds, has consumed the whole input -/
def Final (R : PRes) : Prop := ∀ a st', R = .ok (a, st') → st'.s.typ = .eof

theorem stepPreds_done (f : Nat) (cfg : PCfg) (opnd : Ast) (st : PState) (h : st.s.typ ≠ .lbracket) :
    stepPreds (f+1) cfg opnd st = .ok (opnd, st) := by
  simp only [stepPreds, beq_iff_eq, h, ↓reduceIte]; rfl

theorem bind_final (R : PRes) (hR : Final R) (k : Ast × PState → PRes)
    (hk : ∀ a st', st'.s.typ = .eof → k (a, st') = .ok (a, st')) : (R >>= k) = R := by
  cases R with
  | error e => rfl
  | ok p =>
    obtain ⟨a, st'⟩ := p
    exact hk a st' (hR a st' rfl)

/-- `name` as a step: `child::name` -/
theorem parseStep_name (f : Nat) (cfg : PCfg) (inp : Ast) (st : PState) (ht : st.s.typ = .name)
    (hR : Final (parseNodeTest cfg inp "child" .elem st)) :
    parseStep (f+2) cfg inp st = parseNodeTest cfg inp "child" .elem st := by
  simp only [parseStep, ht, beq_iff_eq, reduceCtorEq, ↓reduceIte]
  exact bind_final _ hR _ (fun a st' he => stepPreds_done f cfg a st' (by rw [he]; decide))

/-- `@name` -/
theorem parseStep_at (f : Nat) (cfg : PCfg) (inp : Ast) (st st1 : PState) (ht : st.s.typ = .at)
    (hn : st.next = .ok st1) (hR : Final (parseNodeTest cfg inp "attribute" .attr st1)) :
    parseStep (f+2) cfg inp st = parseNodeTest cfg inp "attribute" .attr st1 := by
  simp only [parseStep, ht, beq_iff_eq, reduceCtorEq, ↓reduceIte, hn, bind, Except.bind]
  exact bind_final _ hR _ (fun a st' he => stepPreds_done f cfg a st' (by rw [he]; decide))

/-- `axis::name` -/
theorem parseStep_axe (f : Nat) (cfg : PCfg) (inp : Ast) (st st1 : PState) (ht : st.s.typ = .axe)
    (hn : st.next = .ok st1)
    (hR : Final (parseNodeTest cfg inp st.s.name (if st.s.name == "attribute" then .attr else .elem) st1)) :
    parseStep (f+2) cfg inp st =
      parseNodeTest cfg inp st.s.name (if st.s.name == "attribute" then .attr else .elem) st1 := by
  simp only [parseStep, ht, (by decide : (Tok.axe == Tok.dot || Tok.axe == Tok.dotdot) = false),
    Bool.false_eq_true, ↓reduceIte, hn, bind, Except.bind]
  generalize parseNodeTest cfg inp _ _ st1 = R' at hR ⊢
  cases R' with
  | error e => rfl
  | ok p =>
    obtain ⟨a, st'⟩ := p
    exact stepPreds_done f cfg a st' (by rw [hR a st' rfl]; decide)

theorem find_none_eof (ops : List String) (s : Scan) (h : s.typ = .eof) :
    ops.find? (tokMatches s) = none := by
  rw [List.find?_eq_none]
  intro op _ hm
  exact Lemmas.ParserFuel.tokMatches_ne_eof s op hm h

section OneStep
variable (cfg : PCfg) (st : PState) (R : PRes)
  (hS : ∀ f, parseStep (f+2) cfg .none st = R) (hR : Final R)
  (hprim : isPrimaryExpr st.s = false) (h1 : st.s.typ ≠ .slash) (h2 : st.s.typ ≠ .slashslash)
  (h3 : st.s.typ ≠ .minus)
include hS hR

theorem parseRelLoc_one (f : Nat) : parseRelLoc (f+3) cfg .none st = R := by
  simp only [parseRelLoc, hS f]
  refine bind_final _ hR _ (fun a st' he => ?_)
  simp only [he]; rfl

include h1 h2 in
theorem parseLocationPath_one (f : Nat) : parseLocationPath (f+4) cfg st = R := by
  simp only [parseLocationPath]
  exact parseRelLoc_one cfg st R hS hR f

include hprim h1 h2 in
theorem parsePathExpr_one (f : Nat) : parsePathExpr (f+5) cfg st = R := by
  simp only [parsePathExpr, hprim, Bool.false_eq_true, ↓reduceIte]
  exact parseLocationPath_one cfg st R hS hR h1 h2 f

include hprim h1 h2 h3 in
theorem parseChain_one : ∀ (stages : List Stage) (f : Nat),
    parseChain (f + 6 + stages.length) cfg stages st = R
  | [], f => by
    simp only [List.length_nil, Nat.add_zero, parseChain]
    exact parsePathExpr_one cfg st R hS hR hprim h1 h2 f
  | .tier ops :: rest, f => by
    have ih := parseChain_one rest f
    have e : f + 6 + (Stage.tier ops :: rest).length = (f + 5 + rest.length) + 1 + 1 := by
      simp only [List.length_cons]; omega
    rw [e]
    simp only [parseChain]
    have e' : f + 5 + rest.length + 1 = f + 6 + rest.length := by omega
    rw [e', ih]
    refine bind_final _ hR _ (fun a st' he => ?_)
    rw [← e']
    simp only [tierLoop, find_none_eof ops st'.s he]; rfl
  | .unary :: rest, f => by
    have ih := parseChain_one rest f
    have e : f + 6 + (Stage.unary :: rest).length = (f + 6 + rest.length) + 1 := by
      simp only [List.length_cons]; omega
    rw [e]
    simp only [parseChain, skipMinus, beq_iff_eq, h3, ↓reduceIte, bind, Except.bind, pure, Except.pure, ih]
    cases R with
    | error e => rfl
    | ok p => rfl

end OneStep

/-- the parse tree of a parser result -/
def resAst : PRes → Except PErr Ast
  | .ok (a, _) => .ok a
  | .error e => .error e

/-- **the whole parser on a one-step text**: when the first token starts a step (it is no primary
expression, `/`, `//` or `-`), `parseStep` yields `R` on it and `R` consumes the input, then
`parse` yields the parse tree of `R`, or its error -/
theorem parse_one_step (cfg : PCfg) (hdl : 1 ≤ cfg.depthLimit) (text : List Char) (s : Scan)
    (hinit : Scan.init text = .ok s) (R : PRes)
    (hS : ∀ f, parseStep (f+2) cfg .none ⟨s, 1⟩ = R) (hR : Final R)
    (hprim : isPrimaryExpr s = false) (h1 : s.typ ≠ .slash) (h2 : s.typ ≠ .slashslash)
    (h3 : s.typ ≠ .minus) (fuel : Nat) (hf : 7 + cfg.chain.length ≤ fuel) :
    parse fuel cfg text = resAst R := by
  obtain ⟨f, rfl⟩ : ∃ f, fuel = (f + 6 + cfg.chain.length) + 1 := ⟨fuel - 7 - cfg.chain.length, by omega⟩
  have hd : ¬ (0 + 1 > cfg.depthLimit) := by omega
  simp only [parse, hinit, parseExpression, hd, ↓reduceIte]
  rw [parseChain_one cfg ⟨s, 1⟩ R hS hR hprim h1 h2 h3 cfg.chain f]
  cases hRe : R with
  | error e => rfl
  | ok p =>
    obtain ⟨a, st'⟩ := p
    have := hR a st' hRe
    simp only [bind, Except.bind, pure, Except.pure, this, beq_self_eq_true, ↓reduceIte, resAst]

theorem fuelFor_ge (text : List Char) : 7 + (defaultCfg ns).chain.length ≤ fuelFor text := by
  rw [Lemmas.ParserShape.defaultCfg_eq]
  show 7 + 8 ≤ 40 * (text.length + 2)
  omega

theorem defaultCfg_depth (ns : Option (List (String × String))) : 1 ≤ (defaultCfg ns).depthLimit := by
  rw [Lemmas.ParserShape.defaultCfg_eq]; exact Nat.le_of_ble_eq_true rfl

/-- the result of `parseNodeTest` on a name token, as a function of the `nameInfo` -/
def nameRes (o : Option AxisInfo) (inp : Ast) (st : PState) : PRes :=
  match o with
  | some a => .ok (.axis a inp, st)
  | none => .error .prefixUndefined

theorem parseNodeTest_name_res (cfg : PCfg) (inp : Ast) (axis : String) (mt : NType) (st st1 : PState)
    (ht : st.s.typ = .name) (hnf : (st.s.canBeFunc && isNodeType st.s) = false)
    (hnext : st.next = .ok st1) :
    parseNodeTest cfg inp axis mt st =
      nameRes (nameInfo cfg.ns axis mt st.s.pfx (scannedLocal st)) inp st1 := by
  rw [parseNodeTest_name_spec cfg inp axis mt st st1 ht hnf hnext]
  generalize nameInfo cfg.ns axis mt st.s.pfx (scannedLocal st) = o
  cases o <;> rfl

theorem nameRes_final (o : Option AxisInfo) (inp : Ast) (st : PState) (h : st.s.typ = .eof) :
    Final (nameRes o inp st) := by
  intro a st' e
  cases o with
  | none => cases e
  | some b => cases e; exact h

/-- the parse tree (or error) of a one-step text whose node test is a name -/
def nameAst (o : Option AxisInfo) : Except PErr Ast :=
  match o with
  | some a => .ok (.axis a .none)
  | none => .error .prefixUndefined

theorem resAst_nameRes (o : Option AxisInfo) (st : PState) : resAst (nameRes o .none st) = nameAst o := by
  cases o <;> rfl

theorem pstate_next (s s1 : Scan) (n : Nat) (h : s.nextItem = .ok s1) :
    (⟨s, n⟩ : PState).next = .ok ⟨s1, n⟩ := by
  simp [PState.next, h]

/-- the local name recorded for a scanned name: `*` (from `pfx:*`) becomes the empty name -/
def localOf (n : String) : String := if n == "*" then "" else n

/-- **a one-step text whose node test is a name**: the first token(s) `s` lead `parseStep` to the node
test on the name token `s1` (`hS`: as soon as that test consumes the input), and the end of the input
follows.  `parse` then yields the step with the `AxisInfo` of `nameInfo`, or `prefixUndefined`. -/
theorem parse_step_name_text (ns : Option (List (String × String))) (text : List Char) (s s1 s2 : Scan)
    (axis : String) (mt : NType) (hinit : Scan.init text = .ok s)
    (hS : Final (parseNodeTest (defaultCfg ns) .none axis mt ⟨s1, 1⟩) → ∀ f,
      parseStep (f+2) (defaultCfg ns) .none ⟨s, 1⟩ = parseNodeTest (defaultCfg ns) .none axis mt ⟨s1, 1⟩)
    (hprim : isPrimaryExpr s = false) (h1 : s.typ ≠ .slash) (h2 : s.typ ≠ .slashslash) (h3 : s.typ ≠ .minus)
    (ht1 : s1.typ = .name) (hnf : (s1.canBeFunc && isNodeType s1) = false)
    (hn2 : s1.nextItem = .ok s2) (he : s2.typ = .eof) :
    parse (fuelFor text) (defaultCfg ns) text = nameAst (nameInfo ns axis mt s1.pfx (localOf s1.name)) := by
  have hspec := parseNodeTest_name_res (defaultCfg ns) .none axis mt ⟨s1, 1⟩ ⟨s2, 1⟩ ht1 hnf
    (pstate_next s1 s2 1 hn2)
  have hR : Final (parseNodeTest (defaultCfg ns) .none axis mt ⟨s1, 1⟩) := by
    rw [hspec]; exact nameRes_final _ _ _ he
  rw [parse_one_step (defaultCfg ns) (defaultCfg_depth ns) text s hinit _ (hS hR) hR hprim h1 h2 h3
    (fuelFor text) (fuelFor_ge text), hspec, resAst_nameRes]
  rfl

/-- `name` / `pfx:name` (one name token that is not a function call): the step `child::…` -/
theorem parse_name_text' (ns : Option (List (String × String))) (text : List Char) (s s1 : Scan)
    (hinit : Scan.init text = .ok s) (ht : s.typ = .name) (hcf : s.canBeFunc = false)
    (hnext : s.nextItem = .ok s1) (he : s1.typ = .eof) :
    parse (fuelFor text) (defaultCfg ns) text = nameAst (nameInfo ns "child" .elem s.pfx (localOf s.name)) :=
  parse_step_name_text ns text s s s1 "child" .elem hinit (fun hR f => parseStep_name f _ .none ⟨s, 1⟩ ht hR)
    (by simp [isPrimaryExpr, ht, hcf]) (by rw [ht]; decide) (by rw [ht]; decide) (by rw [ht]; decide)
    ht (by simp [hcf]) hnext he

/-- `@name`, `@pfx:name`: the step `attribute::…` with principal node type *attribute* -/
theorem parse_attr_text (ns : Option (List (String × String))) (text : List Char) (s s1 s2 : Scan)
    (hinit : Scan.init text = .ok s) (ht : s.typ = .at) (hn1 : s.nextItem = .ok s1)
    (ht1 : s1.typ = .name) (hnf : (s1.canBeFunc && isNodeType s1) = false)
    (hn2 : s1.nextItem = .ok s2) (he : s2.typ = .eof) :
    parse (fuelFor text) (defaultCfg ns) text =
      nameAst (nameInfo ns "attribute" .attr s1.pfx (localOf s1.name)) :=
  parse_step_name_text ns text s s1 s2 "attribute" .attr hinit
    (fun hR f => parseStep_at f _ .none ⟨s, 1⟩ ⟨s1, 1⟩ ht (pstate_next s s1 1 hn1) hR)
    (by simp [isPrimaryExpr, ht]) (by rw [ht]; decide) (by rw [ht]; decide) (by rw [ht]; decide) ht1 hnf hn2 he

/-- `axis::name`, `axis::pfx:name`: the step on that axis; the principal node type is *attribute*
on the attribute axis and *element* otherwise -/
theorem parse_axis_text (ns : Option (List (String × String))) (text : List Char) (s s1 s2 : Scan)
    (hinit : Scan.init text = .ok s) (ht : s.typ = .axe) (hn1 : s.nextItem = .ok s1)
    (ht1 : s1.typ = .name) (hnf : (s1.canBeFunc && isNodeType s1) = false)
    (hn2 : s1.nextItem = .ok s2) (he : s2.typ = .eof) :
    parse (fuelFor text) (defaultCfg ns) text =
      nameAst (nameInfo ns s.name (if s.name == "attribute" then .attr else .elem) s1.pfx
        (localOf s1.name)) :=
  parse_step_name_text ns text s s1 s2 _ _ hinit
    (fun hR f => parseStep_axe f _ .none ⟨s, 1⟩ ⟨s1, 1⟩ ht (pstate_next s s1 1 hn1) hR)
    (by simp [isPrimaryExpr, ht]) (by rw [ht]; decide) (by rw [ht]; decide) (by rw [ht]; decide) ht1 hnf hn2 he

/-! ### from the parse tree of one step to the compiled plan -/

theorem init_nonempty (text : List Char) (s : Scan) (hinit : Scan.init text = .ok s) (ht : s.typ ≠ .eof) :
    text.isEmpty = false := by
  cases text with
  | nil =>
    have : Scan.init [] = .ok { } := rfl
    rw [this] at hinit; cases hinit; exact absurd rfl ht
  | cons _ _ => rfl

/-- **`compile` on a text that parses to one step**: the compiled plan has the sequence of the plain
plan of that step over the context node -/
theorem compile_step (cc : CompileCfg) (ns : Option (List (String × String))) (text : List Char)
    (hne : text.isEmpty = false) (a : AxisInfo) (ha : a.axis ∈ axes12)
    (hp : parse (fuelFor text) (defaultCfg ns) text = .ok (.axis a .none)) :
    ∃ q, compile cc ns text = .ok q ∧
      ∀ (d : Doc) (cfg : ECfg) (c : Ref),
        sel (F := F) d cfg q c = sel (F := F) d cfg (stepPlan a .context) c := by
  obtain ⟨q, pr', hq, hsel⟩ := axisPlan_sel (F := F) a ha {} rfl {} .context
  have hnil := axisPlan_ne_nil hq
  refine ⟨q, ?_, hsel⟩
  have hlim : ¬ ((0 : Nat) + 1 > Generated.buildDepthLimit.getD 0) := by decide
  have hb : build cc.regexOk (Generated.buildDepthLimit.getD 0) cc.shortcutNeedsNodeTest
      cc.smartDescThroughFilter (.axis a .none) {} {} =
      .ok ⟨q, pr', { depth := 0, firstInput := if q == .nil then none else some q }⟩ := by
    rw [build]
    simp only [build.enter]
    rw [if_neg hlim]
    simp only [hq, bind, Except.bind, build.finAxis]
  unfold compile
  simp only [hne, Bool.false_eq_true, ↓reduceIte, hp, hb]
  have : (q == Plan.nil) = false := by
    cases hqq : (q == Plan.nil)
    · rfl
    · exact absurd (beq_iff_eq.1 hqq) hnil
  simp [this]

/-! ### end to end: text → tokens → parse tree → plan → node set

`hp` is what `parse_name_text'`, `parse_attr_text`, `parse_axis_text` deliver for the three
spellings of a one-step expression. -/

section EndToEnd
variable {d : Doc} (wf : WF d) (cfg : ECfg) (hinj : HashInj d cfg) (cc : CompileCfg)
include wf hinj

/-- **`CompileWithNS`, bound prefix**: the compiled expression selects, from every valid context
node, exactly the nodes on the axis of the principal type whose *namespace URI* is the one the map
binds to the prefix and whose local name is the test's — whatever prefix they carry -/
theorem compile_sem_bound (hi : cfg.nsIface = true) (m : List (String × String)) (text : List Char)
    (hne : text.isEmpty = false) (axis : String) (ha : axis ∈ axes12) (mt : NType) (hmt : mt ≠ .all)
    (pfx lname uri : String) (hl : lname ≠ "") (hpfx : pfx ≠ "") (hb : m.lookup pfx = some uri)
    (hp : parse (fuelFor text) (defaultCfg (some m)) text = nameAst (nameInfo (some m) axis mt pfx lname))
    (c : Ref) (hc : validRef d c = true) :
    ∃ q out, compile cc (some m) text = .ok q ∧ sel (F := F) d cfg q c = .ok out ∧
      ∀ x, x ∈ refs out ↔
        (x ∈ (Spec.axisNodes d axis c).getD [] ∧
          nodeType d x = mt ∧ nsURL d x = uri ∧ localName d x = lname) := by
  have hinfo : nameInfo (some m) axis mt pfx lname = some ⟨axis, mt, pfx, lname, "", true, uri⟩ := by
    simp [nameInfo, hpfx, hb]
  rw [hinfo] at hp
  obtain ⟨q, hq, hsel⟩ := compile_step (F := F) cc (some m) text hne _ (by exact ha) hp
  obtain ⟨out, ho, hmem⟩ := step_NS (F := F) wf cfg hinj hi axis ha mt hmt pfx lname uri hl c hc
  exact ⟨q, out, hq, by rw [hsel, ho], hmem⟩

/-- **`Compile` (no map), or an unprefixed name under any map**: prefix and local name are compared
textually; an unprefixed test (`pfx = ""`) selects unprefixed nodes only -/
theorem compile_sem_noNS (ns : Option (List (String × String))) (text : List Char)
    (hne : text.isEmpty = false) (axis : String) (ha : axis ∈ axes12) (mt : NType) (hmt : mt ≠ .all)
    (pfx lname : String) (hl : lname ≠ "") (hno : ns = none ∨ pfx = "")
    (hp : parse (fuelFor text) (defaultCfg ns) text = nameAst (nameInfo ns axis mt pfx lname))
    (c : Ref) (hc : validRef d c = true) :
    ∃ q out, compile cc ns text = .ok q ∧ sel (F := F) d cfg q c = .ok out ∧
      ∀ x, x ∈ refs out ↔
        (x ∈ (Spec.axisNodes d axis c).getD [] ∧
          nodeType d x = mt ∧ prefixOf d x = pfx ∧ localName d x = lname) := by
  have hinfo : nameInfo ns axis mt pfx lname = some ⟨axis, mt, pfx, lname, "", false, ""⟩ := by
    rcases hno with h | h
    · subst h
      by_cases hp0 : pfx = ""
      · simp [nameInfo, hp0]
      · simp [nameInfo, hp0]
    · simp [nameInfo, h]
  rw [hinfo] at hp
  obtain ⟨q, hq, hsel⟩ := compile_step (F := F) cc ns text hne _ (by exact ha) hp
  obtain ⟨out, ho, hmem⟩ := step_noNS (F := F) wf cfg hinj axis ha mt hmt pfx lname hl c hc
  exact ⟨q, out, hq, by rw [hsel, ho], hmem⟩

end EndToEnd

/-- **`CompileWithNS`, unbound prefix**: compile error, for each spelling of the step -/
theorem compile_err_unbound (cc : CompileCfg) (m : List (String × String)) (text : List Char)
    (hne : text.isEmpty = false) (axis : String) (mt : NType) (pfx lname : String)
    (hpfx : pfx ≠ "") (hb : m.lookup pfx = none)
    (hp : parse (fuelFor text) (defaultCfg (some m)) text = nameAst (nameInfo (some m) axis mt pfx lname)) :
    compile cc (some m) text = .error (.parse .prefixUndefined) := by
  have hinfo : nameInfo (some m) axis mt pfx lname = none := by simp [nameInfo, hpfx, hb]
  rw [hinfo] at hp
  unfold compile
  simp only [hne, Bool.false_eq_true, ↓reduceIte, hp, nameAst]

/-! ### the statements of the property, per spelling of the step -/

theorem localOf_name {n : String} (h : n ≠ "*") : localOf n = n := by simp [localOf, h]

section Spellings
variable {d : Doc} (wf : WF d) (cfg : ECfg) (hinj : HashInj d cfg) (cc : CompileCfg)
include wf hinj

/-- **`CompileWithNS("pfx:local", m)`, `m` binds `pfx ↦ uri`**: child elements with namespace URI
`uri` and local name `local`, under any prefix -/
theorem compileWithNS_name (hi : cfg.nsIface = true) (m : List (String × String)) (text : List Char)
    (s s1 : Scan) (hinit : Scan.init text = .ok s) (ht : s.typ = .name) (hcf : s.canBeFunc = false)
    (hnext : s.nextItem = .ok s1) (he : s1.typ = .eof)
    (hpfx : s.pfx ≠ "") (uri : String) (hb : m.lookup s.pfx = some uri)
    (hstar : s.name ≠ "*") (hl : s.name ≠ "") (c : Ref) (hc : validRef d c = true) :
    ∃ q out, compile cc (some m) text = .ok q ∧ sel (F := F) d cfg q c = .ok out ∧
      ∀ x, x ∈ refs out ↔
        (x ∈ (Spec.axisNodes d "child" c).getD [] ∧
          nodeType d x = .elem ∧ nsURL d x = uri ∧ localName d x = s.name) := by
  have hp := parse_name_text' (some m) text s s1 hinit ht hcf hnext he
  rw [localOf_name hstar] at hp
  exact compile_sem_bound (F := F) wf cfg hinj cc hi m text
    (init_nonempty text s hinit (by rw [ht]; decide)) "child" (by decide) .elem (by decide)
    s.pfx s.name uri hl hpfx hb hp c hc

/-- **`CompileWithNS("@pfx:local", m)`**: attributes of the context node by (URI, local name) -/
theorem compileWithNS_attr (hi : cfg.nsIface = true) (m : List (String × String)) (text : List Char)
    (s s1 s2 : Scan) (hinit : Scan.init text = .ok s) (ht : s.typ = .at) (hn1 : s.nextItem = .ok s1)
    (ht1 : s1.typ = .name) (hnf : (s1.canBeFunc && isNodeType s1) = false)
    (hn2 : s1.nextItem = .ok s2) (he : s2.typ = .eof)
    (hpfx : s1.pfx ≠ "") (uri : String) (hb : m.lookup s1.pfx = some uri)
    (hstar : s1.name ≠ "*") (hl : s1.name ≠ "") (c : Ref) (hc : validRef d c = true) :
    ∃ q out, compile cc (some m) text = .ok q ∧ sel (F := F) d cfg q c = .ok out ∧
      ∀ x, x ∈ refs out ↔
        (x ∈ (Spec.axisNodes d "attribute" c).getD [] ∧
          nodeType d x = .attr ∧ nsURL d x = uri ∧ localName d x = s1.name) := by
  have hp := parse_attr_text (some m) text s s1 s2 hinit ht hn1 ht1 hnf hn2 he
  rw [localOf_name hstar] at hp
  exact compile_sem_bound (F := F) wf cfg hinj cc hi m text
    (init_nonempty text s hinit (by rw [ht]; decide)) "attribute" (by decide) .attr (by decide)
    s1.pfx s1.name uri hl hpfx hb hp c hc

/-- **`CompileWithNS("axis::pfx:local", m)`, each of the twelve axes** -/
theorem compileWithNS_axis (hi : cfg.nsIface = true) (m : List (String × String)) (text : List Char)
    (s s1 s2 : Scan) (hinit : Scan.init text = .ok s) (ht : s.typ = .axe) (hax : s.name ∈ axes12)
    (hn1 : s.nextItem = .ok s1)
    (ht1 : s1.typ = .name) (hnf : (s1.canBeFunc && isNodeType s1) = false)
    (hn2 : s1.nextItem = .ok s2) (he : s2.typ = .eof)
    (hpfx : s1.pfx ≠ "") (uri : String) (hb : m.lookup s1.pfx = some uri)
    (hstar : s1.name ≠ "*") (hl : s1.name ≠ "") (c : Ref) (hc : validRef d c = true) :
    ∃ q out, compile cc (some m) text = .ok q ∧ sel (F := F) d cfg q c = .ok out ∧
      ∀ x, x ∈ refs out ↔
        (x ∈ (Spec.axisNodes d s.name c).getD [] ∧
          nodeType d x = (if s.name == "attribute" then NType.attr else .elem) ∧
          nsURL d x = uri ∧ localName d x = s1.name) := by
  have hp := parse_axis_text (some m) text s s1 s2 hinit ht hn1 ht1 hnf hn2 he
  rw [localOf_name hstar] at hp
  exact compile_sem_bound (F := F) wf cfg hinj cc hi m text
    (init_nonempty text s hinit (by rw [ht]; decide)) s.name hax _ (by split <;> decide)
    s1.pfx s1.name uri hl hpfx hb hp c hc

/-- **`Compile("pfx:local")` / `Compile("local")` (no map)**: child elements whose prefix *and*
local name are the test's; `Compile("local")` selects unprefixed elements only -/
theorem compile_name_noMap (text : List Char)
    (s s1 : Scan) (hinit : Scan.init text = .ok s) (ht : s.typ = .name) (hcf : s.canBeFunc = false)
    (hnext : s.nextItem = .ok s1) (he : s1.typ = .eof)
    (hstar : s.name ≠ "*") (hl : s.name ≠ "") (c : Ref) (hc : validRef d c = true) :
    ∃ q out, compile cc none text = .ok q ∧ sel (F := F) d cfg q c = .ok out ∧
      ∀ x, x ∈ refs out ↔
        (x ∈ (Spec.axisNodes d "child" c).getD [] ∧
          nodeType d x = .elem ∧ prefixOf d x = s.pfx ∧ localName d x = s.name) := by
  have hp := parse_name_text' none text s s1 hinit ht hcf hnext he
  rw [localOf_name hstar] at hp
  exact compile_sem_noNS (F := F) wf cfg hinj cc none text
    (init_nonempty text s hinit (by rw [ht]; decide)) "child" (by decide) .elem (by decide)
    s.pfx s.name hl (Or.inl rfl) hp c hc

/-- **`CompileWithNS("local", m)`, any map**: an unprefixed name gets no namespace from the map; it
selects unprefixed child elements named `local` -/
theorem compileWithNS_unprefixed (m : List (String × String)) (text : List Char)
    (s s1 : Scan) (hinit : Scan.init text = .ok s) (ht : s.typ = .name) (hcf : s.canBeFunc = false)
    (hnext : s.nextItem = .ok s1) (he : s1.typ = .eof) (hpfx : s.pfx = "")
    (hstar : s.name ≠ "*") (hl : s.name ≠ "") (c : Ref) (hc : validRef d c = true) :
    ∃ q out, compile cc (some m) text = .ok q ∧ sel (F := F) d cfg q c = .ok out ∧
      ∀ x, x ∈ refs out ↔
        (x ∈ (Spec.axisNodes d "child" c).getD [] ∧
          nodeType d x = .elem ∧ prefixOf d x = "" ∧ localName d x = s.name) := by
  have hp := parse_name_text' (some m) text s s1 hinit ht hcf hnext he
  rw [localOf_name hstar, hpfx] at hp
  exact compile_sem_noNS (F := F) wf cfg hinj cc (some m) text
    (init_nonempty text s hinit (by rw [ht]; decide)) "child" (by decide) .elem (by decide)
    "" s.name hl (Or.inr rfl) hp c hc

end Spellings

/-- unbound prefix in `@pfx:local` -/
theorem compile_unbound_prefix_attr (cc : CompileCfg) (m : List (String × String)) (text : List Char)
    (s s1 s2 : Scan) (hinit : Scan.init text = .ok s) (ht : s.typ = .at) (hn1 : s.nextItem = .ok s1)
    (ht1 : s1.typ = .name) (hnf : (s1.canBeFunc && isNodeType s1) = false)
    (hn2 : s1.nextItem = .ok s2) (he : s2.typ = .eof)
    (hpfx : s1.pfx ≠ "") (hb : m.lookup s1.pfx = none) :
    compile cc (some m) text = .error (.parse .prefixUndefined) :=
  compile_err_unbound cc m text (init_nonempty text s hinit (by rw [ht]; decide)) _ _ _ _ hpfx hb
    (parse_attr_text (some m) text s s1 s2 hinit ht hn1 ht1 hnf hn2 he)

/-- unbound prefix in `axis::pfx:local` -/
theorem compile_unbound_prefix_axis (cc : CompileCfg) (m : List (String × String)) (text : List Char)
    (s s1 s2 : Scan) (hinit : Scan.init text = .ok s) (ht : s.typ = .axe) (hn1 : s.nextItem = .ok s1)
    (ht1 : s1.typ = .name) (hnf : (s1.canBeFunc && isNodeType s1) = false)
    (hn2 : s1.nextItem = .ok s2) (he : s2.typ = .eof)
    (hpfx : s1.pfx ≠ "") (hb : m.lookup s1.pfx = none) :
    compile cc (some m) text = .error (.parse .prefixUndefined) :=
  compile_err_unbound cc m text (init_nonempty text s hinit (by rw [ht]; decide)) _ _ _ _ hpfx hb
    (parse_axis_text (some m) text s s1 s2 hinit ht hn1 ht1 hnf hn2 he)

/-! ### the hypotheses are satisfiable: concrete texts through the real scanner

(kernel evaluation of `compile`; `errOf`/`toOption` only because `Except` has no `DecidableEq`) -/

def errOf {ε α : Type} : Except ε α → Option ε
  | .error e => some e
  | .ok _ => none

/-- `p:a` under a map binding `p` (second entry): URI recorded, `hasNS = true` -/
theorem ex_bound : (compile {} (some [("q", "urn:y"), ("p", "urn:x")]) "p:a".toList).toOption =
    some (.child ⟨"child", .elem, "p", "a", "", true, "urn:x"⟩ .context) := by
  rw [compile, Lemmas.ParserShape.defaultCfg_eq]; decide +kernel

/-- re-binding: the first binding of the prefix in the list wins (`List.lookup`) -/
theorem ex_rebound : (compile {} (some [("p", "urn:z"), ("p", "urn:x")]) "p:a".toList).toOption =
    some (.child ⟨"child", .elem, "p", "a", "", true, "urn:z"⟩ .context) := by
  rw [compile, Lemmas.ParserShape.defaultCfg_eq]; decide +kernel

theorem ex_unbound : errOf (compile {} (some [("q", "urn:y")]) "p:a".toList) =
    some (.parse .prefixUndefined) := by
  rw [compile, Lemmas.ParserShape.defaultCfg_eq]; decide +kernel

theorem ex_noMap : (compile {} none "p:a".toList).toOption =
    some (.child ⟨"child", .elem, "p", "a", "", false, ""⟩ .context) := by
  rw [compile, Lemmas.ParserShape.defaultCfg_eq]; decide +kernel

theorem ex_unprefixed : (compile {} (some [("", "urn:d"), ("p", "urn:x")]) "a".toList).toOption =
    some (.child ⟨"child", .elem, "", "a", "", false, ""⟩ .context) := by
  rw [compile, Lemmas.ParserShape.defaultCfg_eq]; decide +kernel

theorem ex_attr : (compile {} (some [("p", "urn:x")]) "@p:a".toList).toOption =
    some (.attr ⟨"attribute", .attr, "p", "a", "", true, "urn:x"⟩ .context) := by
  rw [compile, Lemmas.ParserShape.defaultCfg_eq]; decide +kernel

theorem ex_axis : (compile {} (some [("p", "urn:x")]) "ancestor::p:a".toList).toOption =
    some (.ancestor ⟨"ancestor", .elem, "p", "a", "", true, "urn:x"⟩ false .context) := by
  rw [compile, Lemmas.ParserShape.defaultCfg_eq]; decide +kernel

theorem ex_prefix_star : (compile {} (some [("p", "urn:x")]) "p:*".toList).toOption =
    some (.child ⟨"child", .elem, "p", "", "", true, "urn:x"⟩ .context) := by
  rw [compile, Lemmas.ParserShape.defaultCfg_eq]; decide +kernel

end XPathV.NameSem
