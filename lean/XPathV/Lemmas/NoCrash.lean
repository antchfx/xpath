import XPathV.Model.Engine
import XPathV.Lemmas.BuildInv
import XPathV.Lemmas.CallFn
import XPathV.Lemmas.Sem.Cells
/-!
# C15 (model level): a clean plan never ends in a Go runtime error

First third: the engine side.  Values have the engine's own XPath types (`MVal.xtype`), the function
library has a signature table (`fnType`, `callFn_typed`: one case per function name), and `safe`
(induction over the 27 plan constructors) shows that a clean plan evaluates without crash to a value of
the static type the builder computed for it (`evalP_typed`); `no_crash`, `evalP_not_int`, … are
corollaries.  The rest: the builder side — every plan `build`
returns from a parse tree of parser shape that does not call `round` is clean (`build_inv`, one
induction over `build` for any plan predicate the constructors preserve, instantiated with `noNil` and
with `good`; `build_clean`, `built_plan_no_crash`).
-/
namespace XPathV.Model
open XPathV NumAlg

/-! ## Syntactic predicates on plans -/

mutual
/-- no `.nil`, no `round`, argument lists only below `.func` -/
def Plan.clean : Plan → Bool
  | .nil => false
  | .context => true
  | .absolute => true
  | .ancestor _ _ i => i.clean
  | .attr _ i => i.clean
  | .child _ i => i.clean
  | .cachedChild _ i => i.clean
  | .descendant _ _ i => i.clean
  | .following _ _ i => i.clean
  | .preceding _ _ i => i.clean
  | .parent _ i => i.clean
  | .self _ i => i.clean
  | .filter i p => i.clean && p.clean
  | .func name _ args => name != "round" && args.cleanArgs
  | .pnil => false
  | .pcons _ _ => false
  | .transform _ i => i.clean
  | .constStr _ => true
  | .constNum _ => true
  | .group i => i.clean
  | .logical _ l r => l.clean && r.clean
  | .numeric _ l r => l.clean && r.clean
  | .boolean _ l r => l.clean && r.clean
  | .union l r => l.clean && r.clean
  | .lastFunc i => i.clean
  | .descOverDesc _ _ i => i.clean
  | .merge i c => i.clean && c.clean
/-- an argument list (anything that is not a `pcons` is the empty list for `argVals`) -/
def Plan.cleanArgs : Plan → Bool
  | .pcons h t => h.clean && t.cleanArgs
  | _ => true
end

variable {F : Type} [NumAlg F]

/-- a value of a documented XPath type -/
def MVal.ok : MVal F → Bool
  | .int _ => false
  | .nilv => false
  | _ => true

/-- anything but a Go `int` -/
def MVal.notInt : MVal F → Bool
  | .int _ => false
  | _ => true

theorem MVal.ok_notInt {v : MVal F} (h : v.ok = true) : v.notInt = true := by
  cases v <;> simp_all [MVal.ok, MVal.notInt]

/-- the XPath type of a value as the engine itself sees it (`xtypeOf`, Go's `getXPathType`): `none` for
the two Go values that have none, an `int` and `nil` -/
def MVal.xtype (v : MVal F) : Option XType := (xtypeOf v).toOption

omit [NumAlg F] in
theorem MVal.ok_eq_xtype (v : MVal F) : v.ok = v.xtype.isSome := by
  cases v <;> rfl

/-! ## Outcome predicate: not a crash, and `P` on a value -/

/-- on engine outcomes (`EErr`): a crash is excluded, the errors the package raises on purpose are
allowed.  (`BSat` below and `ParseShape.PSat` are the same shape on builder and parser outcomes, where
every error is allowed.) -/
def Sat {α : Type} (P : α → Prop) : Except EErr α → Prop
  | .error (.crash _) => False
  | .error _ => True
  | .ok v => P v

theorem Sat.ok {α} {P : α → Prop} {v : α} (h : P v) : Sat P (.ok v : Except EErr α) := h
theorem Sat.pure {α} {P : α → Prop} {v : α} (h : P v) : Sat P (Pure.pure v : Except EErr α) := h
theorem Sat.raised {α} {P : α → Prop} (s) : Sat P (.error (.raised s) : Except EErr α) := trivial
theorem Sat.unmodelled {α} {P : α → Prop} (s) : Sat P (.error (.unmodelled s) : Except EErr α) := trivial

theorem Sat.mono {α} {P Q : α → Prop} {x : Except EErr α} (h : Sat P x) (hpq : ∀ v, P v → Q v) : Sat Q x := by
  cases x with
  | error e => cases e <;> simp_all [Sat]
  | ok v => exact hpq v h

theorem Sat.bind {α β} {P : α → Prop} {Q : β → Prop} {x : Except EErr α} {f : α → Except EErr β}
    (hx : Sat P x) (hf : ∀ v, P v → Sat Q (f v)) : Sat Q (x >>= f) := by
  cases x with
  | error e => cases e <;> simp_all [Sat, Bind.bind, Except.bind]
  | ok v => exact hf v hx

theorem Sat.noCrash {α} {P : α → Prop} {x : Except EErr α} (h : Sat P x) : ∀ k, x ≠ .error (.crash k) := by
  intro k hk; subst hk; exact h

theorem Sat.val {α} {P : α → Prop} {x : Except EErr α} (h : Sat P x) : ∀ v, x = .ok v → P v := by
  intro v hv; subst hv; exact h

theorem Sat.intro {α} {P : α → Prop} {x : Except EErr α} (h1 : ∀ k, x ≠ .error (.crash k))
    (h2 : ∀ v, x = .ok v → P v) : Sat P x := by
  cases x with
  | error e => cases e <;> simp_all [Sat]
  | ok v => exact h2 v rfl

theorem Sat.mapM {α β} {P : β → Prop} (f : α → Except EErr β) (l : List α)
    (h : ∀ a ∈ l, Sat P (f a)) : Sat (fun bs => ∀ b ∈ bs, P b) (l.mapM f) := by
  induction l with
  | nil => simp [Sat, Pure.pure, Except.pure]
  | cons a l ih =>
    rw [List.mapM_cons]
    refine Sat.bind (h a (by simp)) fun b hb => ?_
    refine Sat.bind (ih fun a' ha' => h a' (by simp [ha'])) fun bs hbs => ?_
    apply Sat.pure
    intro b' hb'
    cases hb' with
    | head => exact hb
    | tail _ hm => exact hbs _ hm

theorem asBoolM_sat {v : MVal F} (h : v.notInt = true) : Sat (fun _ => True) (asBoolM v) := by
  cases v <;> first | exact Sat.ok trivial | cases h

theorem asStringM_sat (d : Doc) {v : MVal F} (h : v.notInt = true) : Sat (fun _ => True) (asStringM d v) := by
  cases v <;> first | exact Sat.ok trivial | cases h

/-! ## The function library is typed -/

/-- **the signature table**: the XPath type of the value each function of `callFn` returns, in the order
of its arms.  `none`: the name is not modelled, the call is the error `unmodelled`; `some none`: `round`,
whose value is a Go `int` and has no XPath type (the known finding). -/
def fnType : String → Option (Option XType)
  | "true" | "false" => some (some .boolean)
  | "position" | "last" | "count" | "sum" | "ceiling" | "floor" => some (some .number)
  | "round" => some none
  | "name" | "local-name" | "namespace-uri" => some (some .string)
  | "boolean" => some (some .boolean)
  | "number" => some (some .number)
  | "string" => some (some .string)
  | "starts-with" | "ends-with" | "contains" => some (some .boolean)
  | "matches" | "replace" => none
  | "normalize-space" | "substring" | "substring-before" | "substring-after" => some (some .string)
  | "string-length" => some (some .number)
  | "translate" => some (some .string)
  | "not" => some (some .boolean)
  | "concat" | "string-join" | "lower-case" => some (some .string)
  | _ => none

/-- every function but `round` returns a value that has an XPath type -/
theorem fnType_isSome {name : String} {t : Option XType} (h : fnType name = some t) (hname : name ≠ "round") :
    t.isSome = true := by
  unfold fnType at h
  split at h
  -- `round` is excluded; a typed name has `t = some _`; an unmodelled one has no `t`
  all_goals first
    | exact absurd rfl hname
    | (cases h; rfl)
    | cases h

/-- an argument outcome, present or not (a missing one is Go's `nil`), is no crash and no `int` -/
theorem argAt_sat {args : List (Except EErr (MVal F))} (hargs : ∀ a ∈ args, Sat (fun v => v.notInt = true) a)
    (i : Nat) : Sat (fun v => v.notInt = true) (argAt args i) := by
  unfold argAt
  cases h : args[i]? with
  | none => exact Sat.ok rfl
  | some a => exact hargs a (List.mem_of_getElem? h)

/-- reading a string crashes only where the fallback does -/
theorem readStr_sat (d : Doc) (v : MVal F) {other : Except EErr (Option String)}
    (ho : Sat (fun _ => True) other) : Sat (fun _ => True) (readStr d v other) := by
  unfold readStr
  split
  · exact Sat.ok trivial
  · exact Sat.ok trivial
  · exact Sat.ok trivial
  · exact ho

/-- **every function returns a value of its type in the table**, whatever the name (`round` included:
it does not crash, it returns the `int` that crashes a later conversion), provided no argument outcome
is a crash or an `int`.  One case per name, from its equation in `Lemmas/CallFn`: how the arguments are
read, and that each leaf is a value of the type, a raised error or `unmodelled`. -/
theorem callFn_typed (d : Doc) (cfg : ECfg) (name : String) (fi : Plan) (c : Ref)
    (args : List (Except EErr (MVal F))) (asel : Option (List Ref))
    (hargs : ∀ a ∈ args, Sat (fun v => v.notInt = true) a) :
    Sat (fun v => fnType name = some v.xtype) (callFn d cfg name fi c args asel) := by
  have harg := argAt_sat hargs
  -- a string read with the two fallbacks the library uses: raise, or the empty string
  have hraise : ∀ (v : MVal F) s, Sat (fun _ => True) (readStr d v (.error (.raised s))) :=
    fun v s => readStr_sat d v (Sat.raised s)
  have hempty : ∀ v : MVal F, Sat (fun _ => True) (readStr d v (.ok (some ""))) :=
    fun v => readStr_sat d v (Sat.ok trivial)
  -- `boolean`, `number`, `string`: the argument, or the context node when there is none
  have hctx : Sat (fun v : MVal F => v.notInt = true) (pure (.nodes [c])) := Sat.pure rfl
  unfold fnType
  split
  · rw [callFn_true]
    exact Sat.ok rfl
  · rw [callFn_false]
    exact Sat.ok rfl
  · rw [callFn_position]
    exact Sat.ok rfl
  · rw [callFn_last]
    exact Sat.ok rfl
  · rw [callFn_count]
    refine (harg 0).bind fun v _ => ?_
    split <;> exact Sat.ok rfl
  · rw [callFn_sum]
    refine (harg 0).bind fun v _ => ?_
    split
    · exact Sat.ok rfl
    · exact Sat.ok rfl
    · -- a string that is no number is the one error `sum` raises
      dsimp only
      split
      · exact Sat.raised _
      · exact Sat.ok rfl
    · exact Sat.ok rfl
  · rw [callFn_ceiling]
    exact (harg 0).bind fun _ _ => Sat.ok rfl
  · rw [callFn_floor]
    exact (harg 0).bind fun _ _ => Sat.ok rfl
  · rw [callFn_round]
    refine (harg 0).bind fun v _ => ?_
    split <;> exact Sat.ok rfl
  · rw [callFn_name]
    split <;> exact Sat.ok rfl
  · rw [callFn_localName]
    split <;> exact Sat.ok rfl
  · rw [callFn_namespaceUri]
    split <;> exact Sat.ok rfl
  · rw [callFn_boolean]
    split
    · exact hctx.bind fun v hv => (asBoolM_sat hv).bind fun _ _ => Sat.ok rfl
    · exact (harg 0).bind fun v hv => (asBoolM_sat hv).bind fun _ _ => Sat.ok rfl
  · rw [callFn_number]
    split
    · exact hctx.bind fun _ _ => Sat.ok rfl
    · exact (harg 0).bind fun _ _ => Sat.ok rfl
  · rw [callFn_string]
    split
    · exact hctx.bind fun v hv => (asStringM_sat d hv).bind fun _ _ => Sat.ok rfl
    · exact (harg 0).bind fun v hv => (asStringM_sat d hv).bind fun _ _ => Sat.ok rfl
  · rw [callFn_startsWith]
    exact (harg 0).bind fun _ _ => (hraise _ _).bind fun _ _ => (harg 1).bind fun _ _ =>
      (hraise _ _).bind fun _ _ => Sat.ok rfl
  · rw [callFn_endsWith]
    exact (harg 0).bind fun _ _ => (hraise _ _).bind fun _ _ => (harg 1).bind fun _ _ =>
      (hraise _ _).bind fun _ _ => Sat.ok rfl
  · rw [callFn_contains]
    exact (harg 0).bind fun _ _ => (hraise _ _).bind fun _ _ => (harg 1).bind fun _ _ =>
      (hraise _ _).bind fun _ _ => Sat.ok rfl
  · rw [callFn]
    exact Sat.unmodelled _
  · rw [callFn]
    exact Sat.unmodelled _
  · rw [callFn_normalizeSpace]
    refine (harg 0).bind fun _ _ => (hempty _).bind fun m _ => ?_
    split <;> exact Sat.ok rfl
  · rw [callFn_substring]
    refine (harg 0).bind fun _ _ => (hempty _).bind fun m _ => ?_
    split
    · exact Sat.ok rfl
    · -- start and length must be numbers, anything else raises
      refine (harg 1).bind fun start _ => ?_
      split
      · split
        · exact Sat.ok rfl
        · refine (harg 2).bind fun len _ => ?_
          split
          · exact Sat.ok rfl
          · exact Sat.raised _
      · exact Sat.raised _
  · rw [callFn_substringBefore]
    refine (harg 0).bind fun _ _ => (hempty _).bind fun m _ => ?_
    split
    · exact Sat.ok rfl
    · exact (harg 1).bind fun _ _ => (hempty _).bind fun _ _ => Sat.ok rfl
  · rw [callFn_substringAfter]
    refine (harg 0).bind fun _ _ => (hempty _).bind fun m _ => ?_
    split
    · exact Sat.ok rfl
    · exact (harg 1).bind fun _ _ => (hempty _).bind fun _ _ => Sat.ok rfl
  · rw [callFn_stringLength]
    refine (harg 0).bind fun _ _ => (hempty _).bind fun m _ => ?_
    split <;> exact Sat.ok rfl
  · rw [callFn_translate]
    exact (harg 0).bind fun _ h0 => (asStringM_sat d h0).bind fun _ _ =>
      (harg 1).bind fun _ h1 => (asStringM_sat d h1).bind fun _ _ =>
      (harg 2).bind fun _ h2 => (asStringM_sat d h2).bind fun _ _ => Sat.ok rfl
  · rw [callFn_not]
    exact (harg 0).bind fun _ hv => (asBoolM_sat hv).bind fun _ _ => Sat.ok rfl
  · -- `concat`: every argument outcome is forced, none is converted
    rw [callFn_concat]
    refine Sat.bind (Sat.mapM (P := fun _ => True) _ _ fun a ha => ?_) fun _ _ => Sat.ok rfl
    refine (hargs a ha).bind fun _ _ => ?_
    split <;> exact Sat.pure trivial
  · rw [callFn_stringJoin]
    refine (harg 1).bind fun _ _ => (harg 0).bind fun _ _ => ?_
    split <;> exact Sat.ok rfl
  · rw [callFn_lowerCase]
    exact (harg 0).bind fun _ h0 => (asStringM_sat d h0).bind fun _ _ => Sat.ok rfl
  · -- any other name: the side goals of the last equation of `callFn` are the hypotheses `split` left
    rw [callFn]
    exact Sat.unmodelled _
    all_goals assumption

omit [NumAlg F] in
/-- the values that have an XPath type are the oracle's values -/
theorem MVal.ok_emb {m : MVal F} (h : m.ok = true) : ∃ v : Spec.Value F, m = Theorems.C08.emb v := by
  cases m with
  | nodes l => exact ⟨.nodes l, rfl⟩
  | bool b => exact ⟨.bool b, rfl⟩
  | num x => exact ⟨.num x, rfl⟩
  | str s => exact ⟨.str s, rfl⟩
  | int _ | nilv => cases h

/-- every pair of operands with an XPath type has a cell in the comparison table: the sixteen cells of C07
(`CmpSem.cmpM_emb_cell`) say what it holds, here only that it is there -/
theorem cmpM_total (d : Doc) (op : Spec.CmpOp) {m n : MVal F} (hm : m.ok = true) (hn : n.ok = true) :
    ∃ b, cmpM d op m n = .ok b := by
  obtain ⟨va, rfl⟩ := MVal.ok_emb hm
  obtain ⟨vb, rfl⟩ := MVal.ok_emb hn
  exact ⟨_, CmpSem.cmpM_emb_cell d op va vb⟩

theorem cmpM_sat (d : Doc) (op : Spec.CmpOp) {m n : MVal F} (hm : m.ok = true) (hn : n.ok = true) :
    Sat (fun _ => True) (cmpM d op m n) := by
  obtain ⟨b, hb⟩ := cmpM_total d op hm hn
  rw [hb]
  exact Sat.ok trivial

theorem logicalVal_sat (d : Doc) (op : String) {m n : MVal F} (hm : m.ok = true) (hn : n.ok = true) :
    Sat (fun v => v.xtype = some .boolean) (logicalVal d op m n) := by
  unfold logicalVal
  split
  · exact Sat.bind (cmpM_sat d _ hm hn) fun _ _ => Sat.ok rfl
  · exact Sat.unmodelled _

/-! ## The builder's static type is sound -/

/-- the static type `ValueType()` admits the XPath type of a value: the type itself, or `any` for every
XPath type; a value without XPath type is admitted nowhere -/
def Plan.VType.admits : Plan.VType → Option XType → Bool
  | .boolean, some .boolean | .number, some .number | .string, some .string | .nodeSet, some .nodeSet => true
  | .any, some _ => true
  | _, _ => false

theorem Plan.VType.any_admits {x : Option XType} (h : x.isSome = true) : Plan.VType.any.admits x = true := by
  cases x with
  | some _ => rfl
  | none => cases h

theorem Plan.VType.admits_isSome {t : Plan.VType} {x : Option XType} (h : t.admits x = true) : x.isSome = true := by
  cases x with
  | some _ => rfl
  | none => cases t <;> cases h

/-- `v` is a value of the type the builder computed for `p` -/
def Typed (p : Plan) (v : MVal F) : Prop := ∃ t, p.valueType = some t ∧ t.admits v.xtype = true

omit [NumAlg F] in
theorem Typed.ok {p : Plan} {v : MVal F} (h : Typed p v) : v.ok = true := by
  obtain ⟨t, _, h⟩ := h
  rw [MVal.ok_eq_xtype]
  exact Plan.VType.admits_isSome h

/-- the combined statement of the induction: for an expression plan its two evaluators (`evalP` returns
a value of the plan's static type), for an argument list the values of `argVals` — and, because `evalP`
of a name function also runs `sel` on the first argument (the `func` arm of `safe`), the `sel` of the
head of a non-empty list -/
def Safe (d : Doc) (cfg : ECfg) (F : Type) [NumAlg F] (p : Plan) : Prop :=
  (p.clean = true → ∀ c, Sat (fun _ => True) (sel (F := F) d cfg p c) ∧
      Sat (Typed p) (evalP (F := F) d cfg p c)) ∧
  (p.cleanArgs = true → ∀ c,
      Sat (fun l => ∀ a ∈ l, Sat (fun v => v.ok = true) a) (argVals (F := F) d cfg p c) ∧
      ∀ h t, p = .pcons h t → Sat (fun _ => True) (sel (F := F) d cfg h c))

/-- for a plan that is not an argument list only the first half of `Safe` says anything -/
theorem Safe.of_expr {d : Doc} {cfg : ECfg} {p : Plan} (hp : ∀ h t, p ≠ .pcons h t)
    (h : p.clean = true → ∀ c, Sat (fun _ => True) (sel (F := F) d cfg p c) ∧
      Sat (Typed p) (evalP (F := F) d cfg p c)) : Safe d cfg F p := by
  refine ⟨h, fun _ c => ⟨?_, fun _ _ e => absurd e (hp _ _)⟩⟩
  cases p <;> first
    | exact absurd rfl (hp _ _)
    | (simp only [argVals]; exact Sat.ok (fun _ h => nomatch h))

theorem safe (d : Doc) (cfg : ECfg) (p : Plan) : Safe d cfg F p := by
  induction p with
  | nil | pnil => exact .of_expr nofun fun hc => by simp [Plan.clean] at hc
  | context | absolute =>
    refine .of_expr nofun fun _ c => ?_
    simp only [evalP, sel]
    -- a value leaf `⟨_, rfl, rfl⟩`: the static type of the constructor, and the value is of it
    exact ⟨Sat.ok trivial, Sat.bind (P := fun _ => True) (Sat.ok trivial) fun _ _ => Sat.ok ⟨_, rfl, rfl⟩⟩
  | constStr s | constNum s =>
    refine .of_expr nofun fun _ c => ?_
    simp only [evalP, sel]
    exact ⟨Sat.ok trivial, Sat.ok ⟨_, rfl, rfl⟩⟩
  -- a step query: `sel` maps over its input, `evalP` is the default arm
  | ancestor a s inp ih | attr a inp ih | child a inp ih | cachedChild a inp ih | descendant a s inp ih
  | following a s inp ih | preceding a s inp ih | parent a inp ih | self a inp ih | transform n inp ih
  | descOverDesc a m inp ih =>
    refine .of_expr nofun fun hc c => ?_
    simp only [Plan.clean] at hc
    refine (fun hs => And.intro hs ?_) ?_
    · simp only [evalP]; exact Sat.bind hs fun _ _ => Sat.ok ⟨_, rfl, rfl⟩
    · simp only [sel]; exact Sat.bind (ih.1 hc c).1 fun _ _ => Sat.ok trivial
  | group inp ih =>
    refine .of_expr nofun fun hc c => ?_
    simp only [Plan.clean] at hc
    refine ⟨?_, ?_⟩
    · simp only [sel]; exact Sat.bind (ih.1 hc c).1 fun _ _ => Sat.ok trivial
    · simp only [evalP]; exact (ih.1 hc c).2
  | lastFunc inp ih =>
    refine .of_expr nofun fun hc c => ?_
    simp only [Plan.clean] at hc
    refine ⟨?_, ?_⟩
    · simp only [sel]; exact Sat.ok trivial
    · simp only [evalP]; exact Sat.bind (ih.1 hc c).1 fun _ _ => Sat.ok ⟨_, rfl, rfl⟩
  | pcons h t ihh iht =>
    refine ⟨fun hc => by simp [Plan.clean] at hc, fun hc c => ?_⟩
    simp only [Plan.cleanArgs, Bool.and_eq_true] at hc
    refine ⟨?_, ?_⟩
    · simp only [argVals]
      refine Sat.bind (iht.2 hc.2 c).1 fun rest hrest => Sat.ok ?_
      intro a ha
      cases ha with
      | head => exact (ihh.1 hc.1 c).2.mono fun _ => Typed.ok
      | tail _ hm => exact hrest a hm
    · intro h' t' e
      cases e
      exact (ihh.1 hc.1 c).1
  | union l r ihl ihr =>
    refine .of_expr nofun fun hc c => ?_
    simp only [Plan.clean, Bool.and_eq_true] at hc
    have hs : Sat (fun _ => True) (sel (F := F) d cfg (.union l r) c) := by
      simp only [sel]
      exact Sat.bind (ihl.1 hc.1 c).1 fun _ _ => Sat.bind (ihr.1 hc.2 c).1 fun _ _ => Sat.ok trivial
    refine ⟨hs, ?_⟩
    simp only [evalP]; exact Sat.bind hs fun _ _ => Sat.ok ⟨_, rfl, rfl⟩
  | merge inp ch ihi ihc =>
    refine .of_expr nofun fun hc c => ?_
    simp only [Plan.clean, Bool.and_eq_true] at hc
    have hs : Sat (fun _ => True) (sel (F := F) d cfg (.merge inp ch) c) := by
      simp only [sel]
      refine Sat.bind (ihi.1 hc.1 c).1 fun ins _ => ?_
      refine Sat.bind (Sat.mapM (P := fun _ => True) _ ins fun it _ => (ihc.1 hc.2 it.r).1) fun _ _ => ?_
      exact Sat.ok trivial
    refine ⟨hs, ?_⟩
    simp only [evalP]; exact Sat.bind hs fun _ _ => Sat.ok ⟨_, rfl, rfl⟩
  | filter inp pred ihi ihp =>
    refine .of_expr nofun fun hc c => ?_
    simp only [Plan.clean, Bool.and_eq_true] at hc
    have hs : Sat (fun _ => True) (sel (F := F) d cfg (.filter inp pred) c) := by
      simp only [sel]
      refine Sat.bind (ihi.1 hc.1 c).1 fun ins _ => ?_
      refine Sat.bind (Sat.mapM (P := fun _ => True) _ ins fun it _ => ?_) fun _ _ => Sat.ok trivial
      refine Sat.bind (ihp.1 hc.2 it.r).2 fun v _ => ?_
      split
      all_goals first
        | exact Sat.pure trivial
        | exact Sat.bind (ihp.1 hc.2 it.r).1 fun _ _ => Sat.pure trivial
    refine ⟨hs, ?_⟩
    simp only [evalP]; exact Sat.bind hs fun _ _ => Sat.ok ⟨_, rfl, rfl⟩
  | logical op l r ihl ihr =>
    refine .of_expr nofun fun hc c => ?_
    simp only [Plan.clean, Bool.and_eq_true] at hc
    have hv : Sat (fun v => v.xtype = some .boolean) (evalP (F := F) d cfg (.logical op l r) c) := by
      simp only [evalP]
      exact Sat.bind (ihl.1 hc.1 c).2 fun m hm => Sat.bind (ihr.1 hc.2 c).2 fun n hn =>
        logicalVal_sat d op hm.ok hn.ok
    refine ⟨?_, hv.mono fun v h => ⟨_, rfl, by rw [h]; rfl⟩⟩
    simp only [sel]
    refine Sat.bind (ihl.1 hc.1 c).2 fun m hm => Sat.bind (ihr.1 hc.2 c).2 fun n hn => ?_
    refine Sat.bind (logicalVal_sat d op hm.ok hn.ok) fun v _ => ?_
    split <;> exact Sat.ok trivial
  | numeric op l r ihl ihr =>
    refine .of_expr nofun fun hc c => ?_
    simp only [Plan.clean, Bool.and_eq_true] at hc
    refine ⟨?_, ?_⟩
    · simp only [sel]; exact Sat.ok trivial
    · simp only [evalP]
      refine Sat.bind (ihl.1 hc.1 c).2 fun m hm => Sat.bind (ihr.1 hc.2 c).2 fun n hn => ?_
      split <;> first | exact Sat.ok ⟨_, rfl, rfl⟩ | exact Sat.unmodelled _
  | boolean isOr l r ihl ihr =>
    refine .of_expr nofun fun hc c => ?_
    simp only [Plan.clean, Bool.and_eq_true] at hc
    refine ⟨?_, ?_⟩
    · simp only [sel]
      refine Sat.bind (ihl.1 hc.1 c).1 fun _ _ => Sat.bind (ihr.1 hc.2 c).1 fun _ _ => ?_
      split <;> exact Sat.ok trivial
    · simp only [evalP]
      refine Sat.bind (ihl.1 hc.1 c).2 fun m hm => ?_
      refine Sat.bind (asBoolM_sat (MVal.ok_notInt hm.ok)) fun _ _ => ?_
      split
      · exact Sat.ok ⟨_, rfl, rfl⟩
      · split
        · exact Sat.ok ⟨_, rfl, rfl⟩
        · refine Sat.bind (ihr.1 hc.2 c).2 fun n hn => ?_
          exact Sat.bind (asBoolM_sat (MVal.ok_notInt hn.ok)) fun _ _ => Sat.ok ⟨_, rfl, rfl⟩
  | func name fi args _ iha =>
    refine .of_expr nofun fun hc c => ?_
    simp only [Plan.clean, Bool.and_eq_true, bne_iff_ne, ne_eq] at hc
    refine ⟨?_, ?_⟩
    · simp only [sel]; exact Sat.ok trivial
    · simp only [evalP]
      have ha := iha.2 hc.2 c
      refine Sat.bind ha.1 fun avs havs => ?_
      -- a function plan has static type `any`, which admits every XPath type; `round` is excluded by `clean`
      have hcall : ∀ asel, Sat (Typed (.func name fi args)) (callFn d cfg name fi c avs asel) := fun asel =>
        (callFn_typed d cfg name fi c avs asel fun a h => (havs a h).mono fun v => MVal.ok_notInt).mono
          fun _ hv => ⟨_, rfl, Plan.VType.any_admits (fnType_isSome hv hc.1)⟩
      split
      · split
        · refine Sat.bind (P := fun _ => True) ?_ fun asel _ => hcall asel
          exact Sat.bind (ha.2 _ _ rfl) fun _ _ => Sat.pure trivial
        · exact Sat.bind (P := fun _ => True) (Sat.pure trivial) fun asel _ => hcall asel
      · exact Sat.bind (P := fun _ => True) (Sat.pure trivial) fun asel _ => hcall asel

/-! ## The invariant in the terms of the property -/

/-- **type soundness**: a clean plan evaluates to a value of the type the builder computed for it -/
theorem evalP_typed (d : Doc) (cfg : ECfg) (p : Plan) (c : Ref) (hp : p.clean = true) (v : MVal F)
    (h : evalP (F := F) d cfg p c = .ok v) : ∃ t, p.valueType = some t ∧ t.admits v.xtype = true :=
  ((safe (F := F) d cfg p).1 hp c).2.val v h

/-- value invariant: a clean plan never evaluates to a Go `int` or to `nil` -/
theorem evalP_value_ok (d : Doc) (cfg : ECfg) (p : Plan) (c : Ref) (hp : p.clean = true) (v : MVal F)
    (h : evalP (F := F) d cfg p c = .ok v) : v.ok = true :=
  Typed.ok (evalP_typed d cfg p c hp v h)

theorem evalP_not_int (d : Doc) (cfg : ECfg) (p : Plan) (c : Ref) (hp : p.clean = true) (v : MVal F)
    (h : evalP (F := F) d cfg p c = .ok v) : (∀ i, v ≠ .int i) ∧ v ≠ .nilv := by
  have := evalP_value_ok d cfg p c hp v h
  cases v with
  | int _ | nilv => cases this
  | _ => exact ⟨nofun, nofun⟩

/-- `argVals` itself never fails (each argument carries its own outcome) -/
theorem argVals_total (d : Doc) (cfg : ECfg) (args : Plan) (c : Ref) :
    ∃ l, argVals (F := F) d cfg args c = .ok l := by
  induction args with
  | pcons h t _ iht =>
    obtain ⟨l, hl⟩ := iht
    exact ⟨evalP d cfg h c :: l, by simp only [argVals, hl]; rfl⟩
  | _ => exact ⟨[], by simp only [argVals]⟩

/-- every argument value of a clean argument list is a non-crash outcome of a documented type -/
theorem argVals_ok (d : Doc) (cfg : ECfg) (args : Plan) (c : Ref) (hp : args.cleanArgs = true) :
    ∃ l, argVals (F := F) d cfg args c = .ok l ∧
      ∀ a ∈ l, (∀ k, a ≠ .error (.crash k)) ∧ ∀ v, a = .ok v → v.ok = true := by
  have h := ((safe (F := F) d cfg args).2 hp c).1
  obtain ⟨l, hl⟩ := argVals_total (F := F) d cfg args c
  rw [hl] at h
  exact ⟨l, hl, fun a ha => ⟨(h a ha).noCrash, (h a ha).val⟩⟩

theorem cmpM_no_crash (d : Doc) (op : Spec.CmpOp) (m n : MVal F) (hm : m.ok = true) (hn : n.ok = true) :
    ∀ k, cmpM d op m n ≠ .error (.crash k) :=
  (cmpM_sat d op hm hn).noCrash

omit [NumAlg F] in
theorem MVal.notInt_of_ne {v : MVal F} (h : ∀ i, v ≠ .int i) : v.notInt = true := by
  cases v <;> first | rfl | exact absurd rfl (h _)

/-- `callFn_typed` for a function other than `round`, with the hypothesis on the arguments spelt out -/
theorem callFn_sat' (d : Doc) (cfg : ECfg) (name : String) (fi : Plan) (c : Ref)
    (args : List (Except EErr (MVal F))) (asel : Option (List Ref))
    (h1 : ∀ a ∈ args, ∀ k, a ≠ .error (.crash k))
    (h2 : ∀ a ∈ args, ∀ v, a = .ok v → ∀ i, v ≠ .int i) (hname : name ≠ "round") :
    Sat (fun v => v.ok = true) (callFn d cfg name fi c args asel) := by
  refine (callFn_typed d cfg name fi c args asel fun a ha =>
    Sat.intro (h1 a ha) fun v hv => MVal.notInt_of_ne (h2 a ha v hv)).mono fun v hv => ?_
  rw [MVal.ok_eq_xtype]
  exact fnType_isSome hv hname

theorem callFn_no_crash (d : Doc) (cfg : ECfg) (name : String) (fi : Plan) (c : Ref)
    (args : List (Except EErr (MVal F))) (asel : Option (List Ref))
    (h1 : ∀ a ∈ args, ∀ k, a ≠ .error (.crash k))
    (h2 : ∀ a ∈ args, ∀ v, a = .ok v → ∀ i, v ≠ .int i)
    (hname : name ≠ "round") :
    ∀ k, callFn d cfg name fi c args asel ≠ .error (.crash k) :=
  (callFn_sat' d cfg name fi c args asel h1 h2 hname).noCrash

/-- a function other than `round` never returns a Go `int` (nor `nil`) -/
theorem callFn_value_ok (d : Doc) (cfg : ECfg) (name : String) (fi : Plan) (c : Ref)
    (args : List (Except EErr (MVal F))) (asel : Option (List Ref))
    (h1 : ∀ a ∈ args, ∀ k, a ≠ .error (.crash k))
    (h2 : ∀ a ∈ args, ∀ v, a = .ok v → ∀ i, v ≠ .int i)
    (hname : name ≠ "round") (v : MVal F) (h : callFn d cfg name fi c args asel = .ok v) : v.ok = true :=
  (callFn_sat' d cfg name fi c args asel h1 h2 hname).val v h

/-- **C15 at the model level**: a clean plan never ends in a Go runtime error, for every numeric
algebra, every document (no well-formedness), every configuration and context -/
theorem no_crash (d : Doc) (cfg : ECfg) (p : Plan) (c : Ref) (hp : p.clean = true) :
    (∀ k, sel (F := F) d cfg p c ≠ .error (.crash k)) ∧ (∀ k, evalP (F := F) d cfg p c ≠ .error (.crash k)) :=
  ⟨((safe (F := F) d cfg p).1 hp c).1.noCrash, ((safe (F := F) d cfg p).1 hp c).2.noCrash⟩

/-! ## Builder side: what `build` guarantees of its plans -/

/-- no `.nil` anywhere, except as the never-evaluated `firstInput` field of a `func` -/
def Plan.noNil : Plan → Bool
  | .nil => false
  | .context => true
  | .absolute => true
  | .ancestor _ _ i => i.noNil
  | .attr _ i => i.noNil
  | .child _ i => i.noNil
  | .cachedChild _ i => i.noNil
  | .descendant _ _ i => i.noNil
  | .following _ _ i => i.noNil
  | .preceding _ _ i => i.noNil
  | .parent _ i => i.noNil
  | .self _ i => i.noNil
  | .filter i p => i.noNil && p.noNil
  | .func _ fi args => (fi == .nil || fi.noNil) && args.noNil
  | .pnil => true
  | .pcons h t => h.noNil && t.noNil
  | .transform _ i => i.noNil
  | .constStr _ => true
  | .constNum _ => true
  | .group i => i.noNil
  | .logical _ l r => l.noNil && r.noNil
  | .numeric _ l r => l.noNil && r.noNil
  | .boolean _ l r => l.noNil && r.noNil
  | .union l r => l.noNil && r.noNil
  | .lastFunc i => i.noNil
  | .descOverDesc _ _ i => i.noNil
  | .merge i c => i.noNil && c.noNil

def knownOp (op : String) : Bool :=
  op == "+" || op == "-" || op == "*" || op == "div" || op == "mod" ||
  op == "=" || op == ">" || op == ">=" || op == "<" || op == "<=" || op == "!=" ||
  op == "or" || op == "and" || op == "|"

/-- every operator node carries one of the 14 operator strings the parser produces -/
def _root_.XPathV.Ast.opsKnown : Ast → Bool
  | .oper op l r => knownOp op && l.opsKnown && r.opsKnown
  | .axis _ i => i.opsKnown
  | .filter i c => i.opsKnown && c.opsKnown
  | .call _ _ a => a.opsKnown
  | .acons h t => h.opsKnown && t.opsKnown
  | .group x => x.opsKnown
  | _ => true

def _root_.XPathV.Ast.isExpr : Ast → Bool
  | .anil | .acons _ _ => false
  | _ => true

def _root_.XPathV.Ast.isArgs : Ast → Bool
  | .anil | .acons _ _ => true
  | _ => false

/-- on builder outcomes: every `BErr` is allowed (the builder recovers its own panics) -/
def BSat {α : Type} (P : α → Prop) : Except BErr α → Prop
  | .error _ => True
  | .ok v => P v

theorem BSat.bind {α β} {P : α → Prop} {Q : β → Prop} {x : Except BErr α} {f : α → Except BErr β}
    (hx : BSat P x) (hf : ∀ v, P v → BSat Q (f v)) : BSat Q (x >>= f) := by
  cases x with
  | error e => trivial
  | ok v => exact hf v hx

theorem BSat.ok {α} {P : α → Prop} {v : α} (h : P v) : BSat P (.ok v : Except BErr α) := h
theorem BSat.pure {α} {P : α → Prop} {v : α} (h : P v) : BSat P (Pure.pure v : Except BErr α) := h
theorem BSat.error {α} {P : α → Prop} (e) : BSat P (.error e : Except BErr α) := trivial
theorem BSat.val {α} {P : α → Prop} {x : Except BErr α} (h : BSat P x) {v} (hv : x = .ok v) : P v := by
  subst hv; exact h
theorem BSat.of_ok {α} {P : α → Prop} {x : Except BErr α} (h : ∀ v, x = .ok v → P v) : BSat P x := by
  cases x with
  | error e => trivial
  | ok v => exact h v rfl

theorem enter_sat {lim : Nat} {st : BState} {k : BState → Except BErr BOut} {P : BOut → Prop}
    (h : ∀ n, BSat P (k { st with depth := n })) : BSat P (build.enter lim st k) := by
  unfold build.enter
  split
  · exact BSat.error _
  · exact h _

theorem build_acons_shape (rx : RegexOk) (lim : Nat) (sn sd : Bool) (h t : Ast) (fl : Flags) (st : BState)
    (o : BOut) (htake : fl.take ≠ 0) (hb : build rx lim sn sd (.acons h t) fl st = .ok o) :
    ∃ hq tq, o.q = .pcons hq tq := by
  simp only [build, beq_iff_eq, htake, if_false] at hb
  obtain ⟨ho, -, hb⟩ := Model.bind_ok hb
  obtain ⟨to, -, hb⟩ := Model.bind_ok hb
  cases hb
  exact ⟨_, _, rfl⟩

/-- `reverse` is only built with an argument to reverse -/
theorem build_reverse_args {rx : RegexOk} {lim : Nat} {sn sd : Bool} {args : Ast} {st : BState} {ao : BOut}
    {mn : Nat} {mx : Option Nat} {idx : Bool} (harity : fnArity "reverse" = some (mn, mx, idx))
    (hmn : mn ≤ args.argList.length)
    (hao : build rx lim sn sd args { take := fnUsed "reverse" args.argList.length } st = .ok ao) :
    ∃ h t, ao.q = .pcons h t := by
  cases (show fnArity "reverse" = some (1, none, false) from rfl).symm.trans harity
  cases args with
  | acons h t => exact build_acons_shape rx lim sn sd h t _ st ao (Nat.succ_ne_zero 0) hao
  | _ => exact absurd hmn (Nat.not_succ_le_zero 0)

theorem inputOf_withInput {q i : Plan} (n : Plan) (h : q.inputOf = some i) : (q.withInput n).inputOf = some n := by
  cases q <;> first | rfl | cases h

/-! ### Plan predicates that every step of the builder preserves -/

/-- `P` (on the plans of expressions) and `A` (on the plans of argument chains) are preserved by every
constructor the builder applies, and given back by those it takes apart; `N` is what the predicate asks
of a function name -/
structure PlanInv (N : String → Prop) (P A : Plan → Prop) : Prop where
  context : P .context
  absolute : P .absolute
  constStr (s : String) : P (.constStr s)
  constNum (l : String) : P (.constNum l)
  pnil : A .pnil
  pcons {h t : Plan} : P h → A t → A (.pcons h t)
  head {h t : Plan} : A (.pcons h t) → P h
  /-- the axis steps and `group` -/
  step {q i : Plan} : q.inputOf = some i → (P q ↔ P i)
  numeric {op : String} {l r : Plan} : P l → P r → P (.numeric op l r)
  logical {op : String} {l r : Plan} : P l → P r → P (.logical op l r)
  boolean {b : Bool} {l r : Plan} : P l → P r → P (.boolean b l r)
  union {l r : Plan} : P l → P r → P (.union l r)
  filter {i c : Plan} : P i → P c → P (.filter i c)
  merge {i c : Plan} : P i → P c → P (.merge i c)
  transform {n : String} {q : Plan} : P q → P (.transform n q)
  lastFunc {q : Plan} : P q → P (.lastFunc q)
  func {name : String} {fi args : Plan} : N name → (fi = .nil ∨ P fi) → A args → P (.func name fi args)
  funcInput {name : String} {fi args : Plan} : P (.func name fi args) → fi = .nil ∨ P fi

/-- the predicate that applies to the plan of `x`: `A` for an argument chain, `P` otherwise -/
def Fits (P A : Plan → Prop) (x : Ast) (q : Plan) : Prop := bif x.isArgs then A q else P q

/-- a plan of `x` may stand where an expression is wanted -/
def AsExpr (P A : Plan → Prop) (x : Ast) : Prop := ∀ q, Fits P A x q → P q

/-- a plan of `x` may stand where an argument chain is wanted -/
def AsArgs (P A : Plan → Prop) (x : Ast) : Prop := ∀ q, Fits P A x q → A q

theorem fits_self {P : Plan → Prop} (x : Ast) (q : Plan) (h : Fits P P x q) : P q := by
  revert h
  unfold Fits
  cases x.isArgs <;> exact id

theorem asExpr_of_isExpr {P A : Plan → Prop} {x : Ast} (h : x.isExpr = true) : AsExpr P A x := by
  intro q hq
  have e : x.isArgs = false := by cases x <;> first | rfl | cases h
  rwa [Fits, e] at hq

theorem asArgs_of_isArgs {P A : Plan → Prop} {x : Ast} (h : x.isArgs = true) : AsArgs P A x := by
  intro q hq
  rwa [Fits, h] at hq

/-- the hypothesis `W` on parse trees descends to the children, in the role the builder uses them in -/
structure AstInv (N : String → Prop) (P A : Plan → Prop) (W : Ast → Prop) : Prop where
  acons {h t : Ast} : W (.acons h t) → (W h ∧ AsExpr P A h) ∧ W t ∧ AsArgs P A t
  group {x : Ast} : W (.group x) → W x ∧ AsExpr P A x
  oper {op : String} {l r : Ast} : W (.oper op l r) → knownOp op = true ∧ (W l ∧ AsExpr P A l) ∧ W r ∧ AsExpr P A r
  call {n p : String} {a : Ast} : W (.call n p a) → N n ∧ W a ∧ AsArgs P A a
  axis {a : AxisInfo} {i : Ast} : W (.axis a i) → W i ∧ AsExpr P A i
  filter {i c : Ast} : W (.filter i c) → (W i ∧ AsExpr P A i) ∧ W c ∧ AsExpr P A c

def BState.inv (P : Plan → Prop) (st : BState) : Prop :=
  (∀ f, st.firstInput = some f → P f) ∧ (∀ f, st.predInput = some f → P f)

theorem BState.inv_none {P : Plan → Prop} {n : Nat} {p : Option Plan} (hp : ∀ f, p = some f → P f) :
    BState.inv P { depth := n, predInput := p } := ⟨fun _ hf => (by cases hf), hp⟩

section
variable {N : String → Prop} {P A : Plan → Prop} {W : Ast → Prop}

theorem axisPlan_inv (I : PlanInv N P A) (a : AxisInfo) (fl : Flags) (props : Props) {inp : Plan} (h : P inp) :
    BSat (fun r => P r.1) (axisPlan a fl props inp) := by
  unfold axisPlan
  split <;> first | exact BSat.error _ | (apply BSat.ok; dsimp only; try split) <;> exact (I.step rfl).2 h

theorem finAxis_inv {q : Plan} (props : Props) {st : BState} (h : P q) (hp : ∀ f, st.predInput = some f → P f) :
    BSat (fun o : BOut => P o.q ∧ o.st.inv P) (build.finAxis q props st) := by
  unfold build.finAxis
  refine BSat.ok ⟨h, ?_, hp⟩
  intro f hf
  dsimp only at hf
  split at hf
  · cases hf
  · cases hf; exact h

theorem knownOp_cases {op : String} (h : knownOp op = true) :
    (op == "+" || op == "-" || op == "*" || op == "div" || op == "mod") = true ∨
    (op == "=" || op == ">" || op == ">=" || op == "<" || op == "<=" || op == "!=") = true ∨
    (op == "or") = true ∨ (op == "and") = true ∨ (op == "|") = true := by
  simpa only [knownOp, Bool.or_eq_true, or_assoc] using h

theorem oper_inv (I : PlanInv N P A) {op : String} {l r : Plan} (p : Props)
    (hop : knownOp op = true) (hl : P l) (hr : P r) : P (operOut op l r p).fst := by
  unfold operOut
  have pick : ∀ {c : Prop} [Decidable c] {a b : Plan × Props}, (c → P a.fst) → (¬c → P b.fst) →
      P (if c then a else b).fst := fun ha hb => by split; exact ha ‹_›; exact hb ‹_›
  refine pick (fun _ => I.numeric hl hr) fun h1 => pick (fun _ => I.logical hl hr) fun h2 =>
    pick (fun _ => I.boolean hl hr) fun h3 => pick (fun _ => I.boolean hl hr) fun h4 =>
    pick (fun _ => I.union hl hr) fun h5 => ?_
  rcases knownOp_cases hop with h | h | h | h | h <;> contradiction

theorem positionInput_inv {st : BState} (hst : st.inv P) : st.positionInput = .nil ∨ P st.positionInput := by
  unfold BState.positionInput
  cases hpi : st.predInput with
  | some f => exact .inr (hst.2 f hpi)
  | none =>
    cases hfi : st.firstInput with
    | none => exact .inl rfl
    | some f => exact .inr (hst.1 f hfi)

theorem callPlan_inv (I : PlanInv N P A) {name : String} (n : Nat) {ao : BOut} (hN : N name) (hA : A ao.q)
    (hst : ao.st.inv P) (hrev : name = "reverse" → ∃ h t, ao.q = .pcons h t) : P (callPlan name n ao) := by
  unfold callPlan
  extract_lets argsQ
  have hargs : A argsQ := by
    dsimp only [argsQ]
    split
    · exact I.pcons ((I.step rfl).2 I.context) I.pnil
    · exact hA
  split
  · rename_i hr
    have hcons : ∃ h t, argsQ = .pcons h t := by
      dsimp only [argsQ]
      split
      · exact ⟨_, _, rfl⟩
      · exact hrev (eq_of_beq hr)
    obtain ⟨h, t, e⟩ := hcons
    rw [e] at hargs ⊢
    exact I.transform (I.head hargs)
  · refine I.func hN ?_ hargs
    split
    · exact positionInput_inv hst
    · exact .inl rfl

theorem callState_inv (I : PlanInv N P A) (name : String) (n : Nat) {ao : BOut} (hst : ao.st.inv P) :
    (callState name n ao).inv P := by
  unfold callState
  split
  · exact ⟨fun f hf => by cases hf; exact (I.step rfl).2 I.context, hst.2⟩
  · exact hst

/-- **the builder preserves plan predicates**: whatever `P`/`A` the plan constructors preserve holds of
the plan built from a tree satisfying `W`, and of the inputs the builder remembers -/
theorem build_inv (I : PlanInv N P A) (J : AstInv N P A W) (rx : RegexOk) (lim : Nat) (sn sd : Bool)
    (ast : Ast) (fl : Flags) (st : BState) :
    W ast → st.inv P → BSat (fun o => Fits P A ast o.q ∧ o.st.inv P) (build rx lim sn sd ast fl st) := by
  induction ast, fl, st using build.induct sd with
  | case1 s fl st =>
    intro _ hst; simp only [build]
    exact enter_sat fun n => BSat.ok ⟨I.constStr s, hst⟩
  | case2 s fl st =>
    intro _ hst; simp only [build]
    exact enter_sat fun n => BSat.ok ⟨I.constNum s, hst⟩
  | case3 s fl st =>
    intro _ hst; simp only [build]
    exact enter_sat fun n => BSat.ok ⟨I.absolute, hst⟩
  | case4 p n fl st =>
    intro _ hst; simp only [build]
    exact enter_sat fun n => BSat.error _
  | case5 fl st => intro _ _; simp only [build]; exact BSat.error _
  | case6 fl st => intro _ hst; simp only [build]; exact BSat.ok ⟨I.pnil, hst⟩
  | case7 h t fl st htake =>
    intro _ hst; simp only [build, htake, if_true]; exact BSat.ok ⟨I.pnil, hst⟩
  | case8 h t fl st htake ihh iht =>
    intro hk hst
    obtain ⟨⟨hWh, hEh⟩, hWt, hAt⟩ := J.acons hk
    simp only [build, htake]
    refine BSat.bind (ihh hWh hst) fun ho hho => ?_
    refine BSat.bind (iht ho hWt hho.2) fun to hto => ?_
    exact BSat.ok ⟨I.pcons (hEh _ hho.1) (hAt _ hto.1), hto.2⟩
  | case9 x fl st ih =>
    intro hk hst
    obtain ⟨hW, hE⟩ := J.group hk
    simp only [build]
    refine enter_sat fun n => ?_
    refine BSat.bind (ih _ hW hst) fun o ho => ?_
    have hq : P (.group o.q) := (I.step rfl).2 (hE _ ho.1)
    refine BSat.ok ⟨hq, ?_, ho.2.2⟩
    intro f hf
    simp only [build.leave] at hf
    split at hf
    · cases hf; exact hq
    · rename_i f' hf'
      cases hf; exact ho.2.1 _ hf'
  | case10 op l r fl st ihl ihr =>
    intro hk hst
    obtain ⟨hop, ⟨hWl, hEl⟩, hWr, hEr⟩ := J.oper hk
    simp only [build]
    refine enter_sat fun n => ?_
    refine BSat.bind (ihl _ hWl hst) fun lo hlo => ?_
    refine BSat.bind (ihr lo hWr hlo.2) fun ro hro => ?_
    exact BSat.ok ⟨oper_inv I _ hop (hEl _ hlo.1) (hEr _ hro.1), hro.2⟩
  | case11 name pfx args fl st ih =>
    intro hk hst
    obtain ⟨hN, hW, hA⟩ := J.call hk
    refine BSat.of_ok fun o ho => ?_
    obtain ⟨mn, mx, idx, ao, harity, hmn, hao, hq, hst', _⟩ := build_call_ok ho
    have hao' := (ih { st with depth := st.depth + 1 } hW hst).val hao
    refine ⟨?_, ?_⟩
    · show P o.q
      rw [hq]
      exact callPlan_inv I _ hN (hA _ hao'.1) hao'.2 fun e => by subst e; exact build_reverse_args harity hmn hao
    · rw [hst']
      exact callState_inv I _ _ hao'.2
  | case12 a fl st =>
    intro hk hst
    simp only [build]
    refine enter_sat fun n => ?_
    exact BSat.bind (axisPlan_inv I a fl {} I.context) fun r hr => finAxis_inv _ hr hst.2
  | case13 a b grand fl st ihg ihi =>
    intro hk hst
    obtain ⟨hWi, hEi⟩ := J.axis hk
    simp only [build]
    refine enter_sat fun n => ?_
    split
    · split
      · exact BSat.bind (P := fun x => P x.1 ∧ ∀ f, x.2.2.predInput = some f → P f)
          (BSat.pure ⟨I.context, hst.2⟩) fun x hx => finAxis_inv _ ((I.step rfl).2 hx.1) hx.2
      · rename_i hne
        have h := ihg ⟨n, st.firstInput, st.predInput⟩
        dsimp only at h
        split at h
        · exact absurd rfl (hne · )
        · obtain ⟨hWg, hEg⟩ := J.axis hWi
          refine BSat.bind (h hWg (BState.inv_none hst.2)) fun o ho => ?_
          exact BSat.bind (P := fun x => P x.1 ∧ ∀ f, x.2.2.predInput = some f → P f)
            (BSat.pure ⟨hEg _ ho.1, ho.2.2⟩) fun x hx => finAxis_inv _ ((I.step rfl).2 hx.1) hx.2
    · refine BSat.bind (ihi ⟨n, st.firstInput, st.predInput⟩ hWi (BState.inv_none hst.2)) fun o ho => ?_
      exact BSat.bind (axisPlan_inv I a fl _ (hEi _ ho.1)) fun r hr => finAxis_inv _ hr ho.2.2
  | case14 a other fl st h1 h2 ih =>
    intro hk hst
    obtain ⟨hWi, hEi⟩ := J.axis hk
    simp only [build]
    refine enter_sat fun n => ?_
    refine BSat.bind (ih ⟨n, st.firstInput, st.predInput⟩ hWi (BState.inv_none hst.2)) fun o ho => ?_
    exact BSat.bind (axisPlan_inv I a fl _ (hEi _ ho.1)) fun r hr => finAxis_inv _ hr ho.2.2
  | case15 inp cond fl st ihi ihc =>
    intro hk hst
    obtain ⟨⟨hWi, hEi⟩, hWc, hEc⟩ := J.filter hk
    refine BSat.of_ok fun o ho => ?_
    obtain ⟨io, co, _, hio, hco, _, hq, _, hso⟩ := build_filter_ok ho
    have hio' := (ihi { st with depth := st.depth + 1 } hWi hst).val hio
    have hco' := (ihc io hWc ⟨hio'.2.1, hio'.2.1⟩).val hco
    have hPi : P io.q := hEi _ hio'.1
    have hPc : P (filterCond co) := by
      rcases filterCond_cases co with e | ⟨n, fi, fp, a, e, e'⟩
      · rw [e]; exact hEc _ hco'.1
      · have := hEc _ hco'.1
        rw [e] at this
        rw [e']
        exact I.lastFunc ((I.funcInput this).resolve_left Plan.noConfusion)
    have hPo : P o.q := by
      rcases hq with e | ⟨_, parent, hpar, e⟩ <;> rw [e]
      · exact I.filter hPi hPc
      · exact I.merge ((I.step hpar).1 hPi) (I.filter ((I.step (inputOf_withInput _ hpar)).2 I.context) hPc)
    rw [hso]
    exact ⟨hPo, fun f hf => by cases hf; exact hPo, fun f hf => hio'.2.2 f hf⟩

end

/-! ### No `.nil` in built plans -/

theorem noNil_planInv : PlanInv (fun _ => True) (fun q => q.noNil = true) (fun q => q.noNil = true) where
  context := rfl
  absolute := rfl
  constStr _ := rfl
  constNum _ := rfl
  pnil := rfl
  pcons hh ht := by simp only [Plan.noNil, hh, ht, Bool.and_self]
  head h := by simp only [Plan.noNil, Bool.and_eq_true] at h; exact h.1
  step {q i} h := by cases q <;> cases h <;> exact Iff.rfl
  numeric hl hr := by simp only [Plan.noNil, hl, hr, Bool.and_self]
  logical hl hr := by simp only [Plan.noNil, hl, hr, Bool.and_self]
  boolean hl hr := by simp only [Plan.noNil, hl, hr, Bool.and_self]
  union hl hr := by simp only [Plan.noNil, hl, hr, Bool.and_self]
  filter hl hr := by simp only [Plan.noNil, hl, hr, Bool.and_self]
  merge hl hr := by simp only [Plan.noNil, hl, hr, Bool.and_self]
  transform h := by simpa only [Plan.noNil] using h
  lastFunc h := by simpa only [Plan.noNil] using h
  func _ hfi ha := by
    simp only [Plan.noNil, ha, Bool.and_true, Bool.or_eq_true, beq_iff_eq]; exact hfi
  funcInput h := by
    simp only [Plan.noNil, Bool.and_eq_true, Bool.or_eq_true, beq_iff_eq] at h; exact h.1

theorem opsKnown_astInv :
    AstInv (fun _ => True) (fun q => q.noNil = true) (fun q => q.noNil = true) (fun x => x.opsKnown = true) where
  acons h := by
    simp only [Ast.opsKnown, Bool.and_eq_true] at h
    exact ⟨⟨h.1, fits_self _⟩, h.2, fits_self _⟩
  group h := ⟨h, fits_self _⟩
  oper h := by
    simp only [Ast.opsKnown, Bool.and_eq_true] at h
    exact ⟨h.1.1, ⟨h.1.2, fits_self _⟩, h.2, fits_self _⟩
  call h := ⟨trivial, h, fits_self _⟩
  axis h := ⟨h, fits_self _⟩
  filter h := by
    simp only [Ast.opsKnown, Bool.and_eq_true] at h
    exact ⟨⟨h.1, fits_self _⟩, h.2, fits_self _⟩

/-- **builder side**: if every operator node of the parse tree carries one of the 14 operator strings,
the built plan contains no `.nil` (outside the never-evaluated `firstInput` field of a function),
and neither does the `firstInput` the builder leaves behind -/
theorem build_noNil (rx : RegexOk) (lim : Nat) (sn sd : Bool) (ast : Ast) (fl : Flags) (st : BState) (o : BOut)
    (hops : ast.opsKnown = true) (hst : ∀ f, st.firstInput = some f → f.noNil = true)
    (hpi : ∀ f, st.predInput = some f → f.noNil = true)
    (hb : build rx lim sn sd ast fl st = .ok o) :
    o.q.noNil = true ∧ ∀ f, o.st.firstInput = some f → f.noNil = true :=
  have h := (build_inv noNil_planInv opsKnown_astInv rx lim sn sd ast fl st hops ⟨hst, hpi⟩).val hb
  ⟨fits_self _ _ h.1, h.2.1⟩

/-- with the switches as `compile` sets them (`shortcutNeedsNodeTest = true`,
`smartDescThroughFilter = false`), from the initial builder state -/
theorem build_clean_modulo_round (rx : RegexOk) (lim : Nat) (ast : Ast) (fl : Flags) (o : BOut)
    (hops : ast.opsKnown = true) (hb : build rx lim true false ast fl {} = .ok o) : o.q.noNil = true :=
  (build_noNil rx lim true false ast fl {} o hops (fun _ h => by cases h) (fun _ h => by cases h) hb).1

/-! ### Clean plans from well-shaped, `round`-free parse trees -/

mutual
/-- what the builder guarantees: `clean`, and additionally every `firstInput` is `.nil` or good.
`clean` alone is not preserved by `processFilter`, which lifts the `firstInput` of a `last()` call into
the plan (`lastFunc`), so the induction over `build` needs the stronger predicate; `noNil` is the part
of it that holds for every tree with known operators, `round` or not -/
def Plan.good : Plan → Bool
  | .nil => false
  | .context => true
  | .absolute => true
  | .ancestor _ _ i => i.good
  | .attr _ i => i.good
  | .child _ i => i.good
  | .cachedChild _ i => i.good
  | .descendant _ _ i => i.good
  | .following _ _ i => i.good
  | .preceding _ _ i => i.good
  | .parent _ i => i.good
  | .self _ i => i.good
  | .filter i p => i.good && p.good
  | .func name fi args => name != "round" && (fi == .nil || fi.good) && args.goodArgs
  | .pnil => false
  | .pcons _ _ => false
  | .transform _ i => i.good
  | .constStr _ => true
  | .constNum _ => true
  | .group i => i.good
  | .logical _ l r => l.good && r.good
  | .numeric _ l r => l.good && r.good
  | .boolean _ l r => l.good && r.good
  | .union l r => l.good && r.good
  | .lastFunc i => i.good
  | .descOverDesc _ _ i => i.good
  | .merge i c => i.good && c.good
def Plan.goodArgs : Plan → Bool
  | .pcons h t => h.good && t.goodArgs
  | _ => true
end

theorem Plan.good_clean (p : Plan) : (p.good = true → p.clean = true) ∧ (p.goodArgs = true → p.cleanArgs = true) := by
  induction p with
  | ancestor _ _ _ ih | attr _ _ ih | child _ _ ih | cachedChild _ _ ih | descendant _ _ _ ih
  | following _ _ _ ih | preceding _ _ _ ih | parent _ _ ih | self _ _ ih | transform _ _ ih | group _ ih
  | lastFunc _ ih | descOverDesc _ _ _ ih => exact ⟨ih.1, fun _ => rfl⟩
  | filter _ _ ih1 ih2 | logical _ _ _ ih1 ih2 | numeric _ _ _ ih1 ih2 | boolean _ _ _ ih1 ih2
  | union _ _ ih1 ih2 | merge _ _ ih1 ih2 =>
    refine ⟨fun h => ?_, fun _ => rfl⟩
    simp only [Plan.good, Plan.clean, Bool.and_eq_true] at h ⊢
    exact ⟨ih1.1 h.1, ih2.1 h.2⟩
  | func name fi args _ iha =>
    refine ⟨fun h => ?_, fun _ => rfl⟩
    simp only [Plan.good, Plan.clean, Bool.and_eq_true] at h ⊢
    exact ⟨h.1.1, iha.2 h.2⟩
  | pcons h t ihh iht =>
    refine ⟨fun h => (nomatch h), fun h => ?_⟩
    simp only [Plan.goodArgs, Plan.cleanArgs, Bool.and_eq_true] at h ⊢
    exact ⟨ihh.1 h.1, iht.2 h.2⟩
  | _ => exact ⟨id, fun _ => rfl⟩

/-- shape of parser output: known operators, no `round`, argument chains exactly below calls -/
def _root_.XPathV.Ast.wf : Ast → Bool
  | .oper op l r => knownOp op && l.isExpr && r.isExpr && l.wf && r.wf
  | .axis _ i => i.isExpr && i.wf
  | .filter i c => i.isExpr && c.isExpr && i.wf && c.wf
  | .call name _ a => name != "round" && a.isArgs && a.wf
  | .acons h t => h.isExpr && h.wf && t.isArgs && t.wf
  | .group x => x.isExpr && x.wf
  | _ => true

theorem good_planInv : PlanInv (fun name => name ≠ "round") (fun q => q.good = true) (fun q => q.goodArgs = true) where
  context := rfl
  absolute := rfl
  constStr _ := rfl
  constNum _ := rfl
  pnil := rfl
  pcons hh ht := by simp only [Plan.goodArgs, hh, ht, Bool.and_self]
  head h := by simp only [Plan.goodArgs, Bool.and_eq_true] at h; exact h.1
  step {q i} h := by cases q <;> cases h <;> exact Iff.rfl
  numeric hl hr := by simp only [Plan.good, hl, hr, Bool.and_self]
  logical hl hr := by simp only [Plan.good, hl, hr, Bool.and_self]
  boolean hl hr := by simp only [Plan.good, hl, hr, Bool.and_self]
  union hl hr := by simp only [Plan.good, hl, hr, Bool.and_self]
  filter hl hr := by simp only [Plan.good, hl, hr, Bool.and_self]
  merge hl hr := by simp only [Plan.good, hl, hr, Bool.and_self]
  transform h := by simpa only [Plan.good] using h
  lastFunc h := by simpa only [Plan.good] using h
  func hn hfi ha := by
    simp only [Plan.good, ha, Bool.and_true, Bool.and_eq_true, Bool.or_eq_true, beq_iff_eq, bne_iff_ne, ne_eq]
    exact ⟨hn, hfi⟩
  funcInput h := by
    simp only [Plan.good, Bool.and_eq_true, Bool.or_eq_true, beq_iff_eq] at h; exact h.1.2

theorem wf_astInv : AstInv (fun name => name ≠ "round") (fun q => q.good = true) (fun q => q.goodArgs = true)
    (fun x => x.wf = true) where
  acons h := by
    simp only [Ast.wf, Bool.and_eq_true] at h
    exact ⟨⟨h.1.1.2, asExpr_of_isExpr h.1.1.1⟩, h.2, asArgs_of_isArgs h.1.2⟩
  group h := by
    simp only [Ast.wf, Bool.and_eq_true] at h
    exact ⟨h.2, asExpr_of_isExpr h.1⟩
  oper h := by
    simp only [Ast.wf, Bool.and_eq_true] at h
    exact ⟨h.1.1.1.1, ⟨h.1.2, asExpr_of_isExpr h.1.1.1.2⟩, h.2, asExpr_of_isExpr h.1.1.2⟩
  call h := by
    simp only [Ast.wf, Bool.and_eq_true, bne_iff_ne, ne_eq] at h
    exact ⟨h.1.1, h.2, asArgs_of_isArgs h.1.2⟩
  axis h := by
    simp only [Ast.wf, Bool.and_eq_true] at h
    exact ⟨h.2, asExpr_of_isExpr h.1⟩
  filter h := by
    simp only [Ast.wf, Bool.and_eq_true] at h
    exact ⟨⟨h.1.2, asExpr_of_isExpr h.1.1.1⟩, h.2, asExpr_of_isExpr h.1.1.2⟩

/-- parse trees without `round`, of parser shape, are built into clean plans -/
theorem build_clean (rx : RegexOk) (lim : Nat) (sn sd : Bool) (ast : Ast) (fl : Flags) (o : BOut)
    (hwf : ast.wf = true) (he : ast.isExpr = true) (hb : build rx lim sn sd ast fl {} = .ok o) :
    o.q.clean = true :=
  have h := (build_inv good_planInv wf_astInv rx lim sn sd ast fl {} hwf
    ⟨fun _ h => (by cases h), fun _ h => (by cases h)⟩).val hb
  (Plan.good_clean o.q).1 (asExpr_of_isExpr he _ h.1)

/-- **C15 for built plans, modulo `round`** -/
theorem built_plan_no_crash {F : Type} [NumAlg F] (rx : RegexOk) (lim : Nat) (sn sd : Bool) (ast : Ast)
    (fl : Flags) (o : BOut) (hwf : ast.wf = true) (he : ast.isExpr = true)
    (hb : build rx lim sn sd ast fl {} = .ok o) (d : Doc) (cfg : ECfg) (c : Ref) :
    (∀ k, sel (F := F) d cfg o.q c ≠ .error (.crash k)) ∧ (∀ k, evalP (F := F) d cfg o.q c ≠ .error (.crash k)) :=
  no_crash d cfg o.q c (build_clean rx lim sn sd ast fl o hwf he hb)

end XPathV.Model

