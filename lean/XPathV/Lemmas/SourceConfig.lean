import XPathV.Model.Api
import XPathV.Spec.Grammar
/-!
# The model configuration that is read off the current source (regenerated facts)
-/
namespace XPathV.Lemmas.SourceConfig
open XPathV XPathV.Model

theorem isPrefixL_append (p t : List Char) : isPrefixL p (p ++ t) = true := by
  induction p with
  | nil => rfl
  | cons c p ih => simp only [List.cons_append, isPrefixL, beq_self_eq_true, ih, Bool.and_self]

theorem hasInfixL_append (p a t : List Char) : hasInfixL p (a ++ (p ++ t)) = true := by
  induction a with
  | nil =>
    cases p with
    | nil => cases t <;> rfl
    | cons c p =>
      rw [List.nil_append, List.cons_append, hasInfixL, ← List.cons_append, isPrefixL_append, Bool.true_or]
  | cons c a ih => rw [List.cons_append, hasInfixL, ih, Bool.or_true]

/-- a text contains what it ends with -/
theorem hasSubstr_append (a p : String) : hasSubstr (a ++ p) p = true := by
  have := hasInfixL_append p.toList a.toList []
  rwa [List.append_nil, ← String.toList_append] at this

/-- F4: the `//name` shortcut is guarded by the node test of the `descendant-or-self` step -/
theorem shortcut_guard_from_source : shortcutNeedsNodeTestFromSource = true := by
  -- the kernel runs `String.toList` on the UTF-8 bytes of a literal, in time quadratic in its length;
  -- comparing the regenerated text with "what precedes ++ the three conjuncts" costs a quarter of
  -- searching it
  have e : Generated.shortcutCondSrc =
      "!(root.Input==nil) && (flags&flagsEnum.Filter)==0 && root.AxisType==\"child\"&&(root.Input.Type()==nodeAxis) && input:=root.Input.(*axisNode);input.AxisType==\"descendant-or-self\"&&"
        ++ "input.typeTest==allNode&&input.LocalName==\"\"&&input.Prefix==\"\"" := by decide +kernel
  unfold shortcutNeedsNodeTestFromSource
  rw [e]
  exact hasSubstr_append _ _

/-- F4: SmartDesc does not travel through filters -/
theorem smartdesc_stops_at_filters_from_source : smartDescThroughFilterFromSource = false := by
  have e : Generated.filterInputFlagsSrc = "(flags|flagsEnum.Filter)" ++ "&^flagsEnum.SmartDesc" := by
    decide +kernel
  unfold smartDescThroughFilterFromSource
  rw [e, hasSubstr_append]
  rfl

/-- F6: the stage list computed from the regenerated precedence chain is the Recommendation's tier list -/
theorem stages_are_xpath_tiers :
    stages = (Spec.Grammar.upperTiers.map Stage.tier) ++ [Stage.unary] ++ (Spec.Grammar.lowerTiers.map Stage.tier) := by
  decide

end XPathV.Lemmas.SourceConfig
