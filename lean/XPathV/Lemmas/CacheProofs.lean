import XPathV.Model.Cache
/-!
# Invariants of the loading cache for every capacity, load function, thread count and schedule
-/
namespace XPathV.Model.Cache

/-- the regenerated eviction condition is the one the proofs are about: `cap > 0 ∧ len ≥ cap` -/
theorem evictCond_spec (cap len : Nat) : Generated.evictCond cap len = true ↔ (cap > 0 ∧ len ≥ cap) := by
  unfold Generated.evictCond
  simp

/-- the invariant of every schedule: the cache is exact (every stored pair is a `load` result) and,
for a positive capacity, bounded; and every thread is in an admissible state (`PCOk`: a value in
flight or returned is a `load` result) -/
def Inv (cap : Nat) (load : Key → Option Val) (s : Sys) : Prop :=
  (∀ kv ∈ s.c.m, load kv.1 = some kv.2) ∧
  (cap > 0 → s.c.m.length ≤ cap) ∧
  (∀ pc ∈ s.ts, match pc with
     | .start _ => True
     | .loaded k v => load k = some v
     | .done r => ∀ v, r = some v → ∃ k, load k = some v)

theorem store_len (cap : Nat) (c : Cache) (k : Key) (v : Val) (h : cap > 0 → c.m.length ≤ cap) :
    cap > 0 → (c.store cap k v).m.length ≤ cap := by
  intro hc
  unfold Cache.store
  split
  · simp; omega
  · rename_i hne
    have hne' : ¬ (cap > 0 ∧ c.m.length ≥ cap) := fun hh => hne ((evictCond_spec _ _).2 hh)
    have h1 : c.m.length < cap := by
      rcases Nat.lt_or_ge c.m.length cap with h' | h'
      · exact h'
      · exact absurd ⟨hc, h'⟩ hne'
    have h2 : (c.m.filter (·.1 != k)).length ≤ c.m.length := List.length_filter_le _ _
    simp only [List.length_cons]; omega

/-- what the invariant asks of one thread's control state -/
def PCOk (load : Key → Option Val) : PC → Prop
  | .start _ => True
  | .loaded k v => load k = some v
  | .done r => ∀ v, r = some v → ∃ k, load k = some v

theorem lookup_loaded {load : Key → Option Val} {c : Cache} (h1 : ∀ kv ∈ c.m, load kv.1 = some kv.2)
    {k : Key} {v : Val} (hl : c.lookup k = some v) : ∃ k, load k = some v := by
  unfold Cache.lookup at hl
  cases hf : c.m.find? (·.1 == k) with
  | none => simp [hf] at hl
  | some kv =>
    simp [hf] at hl
    exact ⟨kv.1, by rw [h1 kv (List.mem_of_find?_eq_some hf), hl]⟩

theorem store_exact (cap : Nat) {load : Key → Option Val} {c : Cache}
    (h1 : ∀ kv ∈ c.m, load kv.1 = some kv.2) {k : Key} {v : Val} (hv : load k = some v) :
    ∀ kv ∈ (c.store cap k v).m, load kv.1 = some kv.2 := by
  intro kv hkv
  unfold Cache.store at hkv
  split at hkv
  · simp at hkv; subst hkv; exact hv
  · simp only [List.mem_cons] at hkv
    rcases hkv with rfl | hkv
    · exact hv
    · exact h1 kv (List.mem_filter.mp hkv).1

/-- one atomic section keeps the cache exact and bounded and leaves its thread in an admissible state -/
theorem stepThread_inv (cap : Nat) (load : Key → Option Val) {c : Cache}
    (h1 : ∀ kv ∈ c.m, load kv.1 = some kv.2) (h2 : cap > 0 → c.m.length ≤ cap) {pc : PC}
    (hpc : PCOk load pc) :
    (∀ kv ∈ (stepThread cap load c pc).1.m, load kv.1 = some kv.2) ∧
    (cap > 0 → (stepThread cap load c pc).1.m.length ≤ cap) ∧ PCOk load (stepThread cap load c pc).2 := by
  cases pc with
  | start k =>
    simp only [stepThread]
    cases hl : c.lookup k with
    | some v => exact ⟨h1, h2, fun v' hv' => by cases hv'; exact lookup_loaded h1 hl⟩
    | none =>
      cases hld : load k with
      | none => exact ⟨h1, h2, fun v' hv' => nomatch hv'⟩
      | some v => exact ⟨h1, h2, hld⟩
  | loaded k v =>
    exact ⟨store_exact cap h1 hpc, store_len cap c k v h2, fun v' hv' => by cases hv'; exact ⟨k, hpc⟩⟩
  | done r => exact ⟨h1, h2, hpc⟩

theorem step_inv (cap : Nat) (load : Key → Option Val) (s : Sys) (i : Nat) (h : Inv cap load s) :
    Inv cap load (run cap load s [i]) := by
  unfold run
  cases hpc : s.ts[i]? with
  | none => simpa [run] using h
  | some pc =>
    obtain ⟨h1, h2, h3⟩ := h
    obtain ⟨e1, e2, e3⟩ := stepThread_inv cap load h1 h2 (h3 pc (List.mem_of_getElem? hpc))
    simp only [run]
    refine ⟨e1, e2, fun pc' hpc' => ?_⟩
    rcases List.mem_or_eq_of_mem_set hpc' with hm | rfl
    · exact h3 _ hm
    · exact e3

theorem run_append (cap load) (s : Sys) (a b : List Nat) :
    run cap load s (a ++ b) = run cap load (run cap load s a) b := by
  induction a generalizing s with
  | nil => rfl
  | cons i is ih =>
    simp only [List.cons_append, run]
    cases s.ts[i]? <;> simp [ih]

/-- every reachable state, every schedule, any number of threads -/
theorem run_inv (cap : Nat) (load : Key → Option Val) (s : Sys) (sched : List Nat) (h : Inv cap load s) :
    Inv cap load (run cap load s sched) := by
  induction sched generalizing s with
  | nil => exact h
  | cons i is ih =>
    have := run_append cap load s [i] is
    simp only [List.singleton_append] at this
    rw [this]
    exact ih _ (step_inv cap load s i h)

/-- the boundary: a full cache is reset to the single new entry -/
theorem full_cache_resets (cap : Nat) (c : Cache) (k : Key) (v : Val) (hc : cap > 0) (hf : c.m.length ≥ cap) :
    c.store cap k v = { m := [(k, v)], resets := c.resets + 1 } := by
  unfold Cache.store
  rw [(evictCond_spec _ _).2 ⟨hc, hf⟩]
  simp

end XPathV.Model.Cache
