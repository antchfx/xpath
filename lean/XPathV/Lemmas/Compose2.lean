import XPathV.Lemmas.Compose
import XPathV.Lemmas.RootedPlans
import XPathV.Lemmas.PredSem2
import XPathV.Lemmas.FlatFiltered
/-!
# C13 for paths with boolean predicates (`PredSem.Frag true`)

* first, in `namespace XPathV.Compose3`: `frag_oracle3` with `GInv`, `UPath`, `UPred` — the oracle is
  total on `PredSem2.Frag2` (hence on `PredSem.Frag`) and looks at the context node only.  They stand
  in this file, below `Compose3` in the import order, because `Frag` takes its oracle facts from them
* §1 `appendPath2 q p` (plug `q` into the `.none` leaf of the step chain of `p`, descending through
  `.filter inp b` on the *input* side only — predicates are not rewritten), `RelFrag` / `AbsFrag`
* §2 oracle side, without any model hypothesis: the predicates of the fragment are node tests and
  `RelFrag` paths plug (`Compose.Plug`): `eval_append2`
* §3 model side through C02: `rel_compose_build2`, `abs_build_indep2`; rooted plans with `.filter`
  and `.merge` (`Rooted2`, in `RootedPlans`): `build_rooted_chain` (the built plan of every
  absolute chain is rooted), `abs_chain_start_indep`
-/
namespace XPathV.Compose3
open XPathV XPathV.Model XPathV.PathSem XPathV.PredSem XPathV.PredSem2 XPathV.Compose XPathV.Compose2

variable {F : Type} [NumAlg F]

/-! ## The oracle on `PredSem2.Frag2` (no model, no well-formedness hypothesis)

Proved for the larger fragment; `PredSem.Frag` below and `Compose3` take it from here. -/

/-- the groups invariant: when a result carries per-origin groups, the node-set is the set of valid
nodes of the groups -/
def GInv (d : Doc) (ns : List Ref) (g : Option (List (List Ref))) : Prop :=
  ∀ gs, g = some gs → ∀ x, x ∈ ns ↔ (x ∈ gs.flatten ∧ validRef d x = true)

/-- an argument-like expression evaluates, at node `n`, to one value whatever the position/size -/
def UArg (d : Doc) (e : Ast) (n : Ref) : Prop :=
  ∃ (sv : Spec.Value F) (g : Option (List (List Ref))), ∀ pos size, Spec.eval (F := F) d e ⟨n, pos, size⟩ = .ok (.val sv g)

/-- a path evaluates, at node `n`, to one node-set (and one grouping) whatever the position/size -/
def UPath (d : Doc) (p : Ast) (n : Ref) : Prop :=
  ∃ ns g, (∀ pos size, Spec.eval (F := F) d p ⟨n, pos, size⟩ = .ok (.val (.nodes ns) g)) ∧ GInv d ns g

/-- a predicate evaluates, at node `n`, to one value whatever the position/size, and it is not a
number -/
def UPred (d : Doc) (b : Ast) (n : Ref) : Prop :=
  ∃ (sv : Spec.Value F) (g : Option (List (List Ref))), (∀ pos size, Spec.eval (F := F) d b ⟨n, pos, size⟩ = .ok (.val sv g)) ∧
    NotNum sv

theorem UPath.uarg {d : Doc} {p : Ast} {n : Ref} (h : UPath (F := F) d p n) : UArg (F := F) d p n := by
  obtain ⟨ns, g, hev, _⟩ := h
  exact ⟨.nodes ns, g, hev⟩

theorem uarg_str (d : Doc) (s : String) (n : Ref) : UArg (F := F) d (.str s) n :=
  ⟨.str s, none, fun _ _ => eval_str d s _⟩

theorem uarg_localName0 (d : Doc) (pfx : String) (n : Ref) :
    UArg (F := F) d (.call "local-name" pfx .anil) n :=
  ⟨.str (localName d n), none, fun pos size => eval_localName0 d pfx ⟨n, pos, size⟩⟩

theorem eval_localName1 (d : Doc) (pfx : String) (p : Ast) (c : Spec.Ctx) (ns : List Ref)
    (g : Option (List (List Ref))) (h : Spec.eval (F := F) d p c = .ok (.val (.nodes ns) g)) :
    Spec.eval (F := F) d (.call "local-name" pfx (.acons p .anil)) c =
      .ok (.val (.str (firstLocalName d ns)) none) := by
  rw [ArithSem.eval_call1 d "local-name" pfx p c _ g h, spec_localName1]
  rfl

theorem uarg_localName1 (d : Doc) (pfx : String) (p : Ast) (n : Ref) (h : UPath (F := F) d p n) :
    UArg (F := F) d (.call "local-name" pfx (.acons p .anil)) n := by
  obtain ⟨ns, g, hev, _⟩ := h
  exact ⟨.str (firstLocalName d ns), none, fun pos size => eval_localName1 d pfx p _ ns g (hev pos size)⟩

/-- the oracle's string tests are total, boolean-valued and do not look at the context -/
theorem spec_strTest_total (d : Doc) (name : String) (hn : name ∈ strTests) (v w : Spec.Value F) :
    ∃ r : Bool, ∀ ctx, Spec.callFn (F := F) d ctx name [v, w] = .ok (.bool r) := by
  simp only [strTests, List.mem_cons, List.not_mem_nil, or_false] at hn
  rcases hn with rfl | rfl | rfl <;> exact ⟨_, fun _ => rfl⟩

theorem upred_strTest (d : Doc) (name : String) (hn : name ∈ strTests) (pfx : String) (a b : Ast)
    (n : Ref) (ha : UArg (F := F) d a n) (hb : UArg (F := F) d b n) :
    UPred (F := F) d (.call name pfx (.acons a (.acons b .anil))) n := by
  obtain ⟨v, g, hv⟩ := ha
  obtain ⟨w, g', hw⟩ := hb
  obtain ⟨r, hr⟩ := spec_strTest_total (F := F) d name hn v w
  refine ⟨.bool r, none, fun pos size => ?_, trivial⟩
  rw [eval_call2 d name pfx a b _ v w g g' (hv pos size) (hw pos size), hr]
  rfl

theorem upred_cmp (d : Doc) (op : String) (hop : op ∈ cmpOps) (a b : Ast) (n : Ref)
    (ha : UArg (F := F) d a n) (hb : UArg (F := F) d b n) : UPred (F := F) d (.oper op a b) n := by
  obtain ⟨v, g, hv⟩ := ha
  obtain ⟨w, g', hw⟩ := hb
  obtain ⟨cop, hcop⟩ := cmpOps_ofString op hop
  exact ⟨.bool (Spec.compare d cop v w), none,
    fun pos size => eval_cmp d op cop hcop a b _ _ _ (hv pos size) (hw pos size), trivial⟩

theorem uarg_num (d : Doc) (lex : String) (n : Ref) : UArg (F := F) d (.num lex) n :=
  ⟨.num (Spec.strToNum lex), none, fun _ _ => eval_num d lex _⟩

theorem uarg_count (d : Doc) (pfx : String) (p : Ast) (n : Ref) (h : UPath (F := F) d p n) :
    UArg (F := F) d (.call "count" pfx (.acons p .anil)) n := by
  obtain ⟨ns, g, hev, _⟩ := h
  exact ⟨.num (NumAlg.ofNat ns.length), none, fun pos size => eval_count d pfx p _ ns g (hev pos size)⟩

theorem UPred.uarg {d : Doc} {b : Ast} {n : Ref} (h : UPred (F := F) d b n) : UArg (F := F) d b n := by
  obtain ⟨sv, g, hev, _⟩ := h
  exact ⟨sv, g, hev⟩

theorem upred_not (d : Doc) (pfx : String) (b : Ast) (n : Ref) (h : UArg (F := F) d b n) :
    UPred (F := F) d (.call "not" pfx (.acons b .anil)) n := by
  obtain ⟨sv, g, hev⟩ := h
  exact ⟨_, _, fun pos size => eval_not (F := F) d pfx b _ _ (hev pos size), trivial⟩

/-- a filter by a node test over a path with one value per node -/
theorem upath_filter (d : Doc) (inp b : Ast) (n : Ref) (ns0 : List Ref) (g0 : Option (List (List Ref)))
    (hev : ∀ pos size, Spec.eval (F := F) d inp ⟨n, pos, size⟩ = .ok (.val (.nodes ns0) g0))
    (hg0 : GInv d ns0 g0) (hb : ∀ x, UPred (F := F) d b x) : UPath (F := F) d (.filter inp b) n := by
  obtain ⟨ns, g, h1, _, h3⟩ := oracle_filter (F := F) d inp hb ns0 g0 hg0
  exact ⟨ns, g, fun pos size => h1 _ (hev pos size), h3⟩

/-- the statement of `frag_oracle3` for a path, and for a predicate -/
theorem of_upath {d : Doc} {e : Ast} (h : ∀ n, UPath (F := F) d e n) :
    ∀ n : Ref, (true = true → UPath (F := F) d e n) ∧ (true = false → UPred (F := F) d e n) :=
  fun n => ⟨fun _ => h n, fun h => nomatch h⟩

theorem of_upred {d : Doc} {e : Ast} (h : ∀ n, UPred (F := F) d e n) :
    ∀ n : Ref, (false = true → UPath (F := F) d e n) ∧ (false = false → UPred (F := F) d e n) :=
  fun n => ⟨(fun h => nomatch h), fun _ => h n⟩

/-- **the oracle is total on `Frag2` and looks at the context node only**: at every node, a path
evaluates to one node-set and a predicate to one value that is not a number, whatever the context
position and size — on every document -/
theorem frag_oracle3 (d : Doc) (k : Bool) (e : Ast) (he : Frag2 k e) :
    ∀ n : Ref, (k = true → UPath (F := F) d e n) ∧ (k = false → UPred (F := F) d e n) := by
  induction he with
  | none => exact of_upath fun n => ⟨[n], none, fun _ _ => by simp only [Spec.eval], fun _ h => nomatch h⟩
  | root s =>
    exact of_upath fun n => ⟨[.node 0], none, fun _ _ => by simp only [Spec.eval], fun _ h => nomatch h⟩
  | axis a inp _ ha ih =>
    refine of_upath fun n => ?_
    obtain ⟨ns, g, hev, _⟩ := (ih n).1 rfl
    refine ⟨_, _, fun pos size => eval_axis_groups (F := F) d a ha inp _ ns g (hev pos size), ?_⟩
    intro gs hgs x
    cases hgs
    rw [mem_docOrder]
  | filter inp b _ _ ihp ihb =>
    refine of_upath fun n => ?_
    obtain ⟨ns0, g0, hev, hg0⟩ := (ihp n).1 rfl
    exact upath_filter d inp b n ns0 g0 hev hg0 fun x => (ihb x).2 rfl
  | gfilter p b _ _ ihp ihb =>
    refine of_upath fun n => ?_
    obtain ⟨ns0, g0, hev, _⟩ := (ihp n).1 rfl
    exact upath_filter d (.group p) b n ns0 none
      (fun pos size => ArithSem.eval_group (F := F) d p _ _ g0 (hev pos size)) (fun _ h => nomatch h)
      fun x => (ihb x).2 rfl
  | exist p _ ih =>
    refine of_upred fun n => ?_
    obtain ⟨ns, g, hev, _⟩ := (ih n).1 rfl
    exact ⟨.nodes ns, g, hev, trivial⟩
  | eqStr p s _ ih =>
    exact of_upred fun n =>
      upred_cmp d "=" List.mem_cons_self p (.str s) n ((ih n).1 rfl).uarg (uarg_str d s n)
  | neStr p s _ ih =>
    exact of_upred fun n =>
      upred_cmp d "!=" (List.mem_cons_of_mem _ List.mem_cons_self) p (.str s) n ((ih n).1 rfl).uarg
        (uarg_str d s n)
  | cmpNumR op p lex hop _ ih =>
    exact of_upred fun n => upred_cmp d op hop p (.num lex) n ((ih n).1 rfl).uarg (uarg_num d lex n)
  | cmpNumL op lex p hop _ ih =>
    exact of_upred fun n => upred_cmp d op hop (.num lex) p n (uarg_num d lex n) ((ih n).1 rfl).uarg
  | not pfx b _ ih => exact of_upred fun n => upred_not d pfx b n ((ih n).2 rfl).uarg
  | and b1 b2 _ _ ih1 ih2 =>
    refine of_upred fun n => ?_
    obtain ⟨sv1, g1, hev1, _⟩ := (ih1 n).2 rfl
    obtain ⟨sv2, g2, hev2, _⟩ := (ih2 n).2 rfl
    exact ⟨_, _, fun pos size => eval_and (F := F) d b1 b2 _ _ _ (hev1 pos size) (hev2 pos size), trivial⟩
  | or b1 b2 _ _ ih1 ih2 =>
    refine of_upred fun n => ?_
    obtain ⟨sv1, g1, hev1, _⟩ := (ih1 n).2 rfl
    obtain ⟨sv2, g2, hev2, _⟩ := (ih2 n).2 rfl
    exact ⟨_, _, fun pos size => eval_or (F := F) d b1 b2 _ _ _ (hev1 pos size) (hev2 pos size), trivial⟩
  | countR op pfx p lex hop _ _ ih =>
    exact of_upred fun n =>
      upred_cmp d op hop _ (.num lex) n (uarg_count d pfx p n ((ih n).1 rfl)) (uarg_num d lex n)
  | countL op lex pfx p hop _ _ ih =>
    exact of_upred fun n =>
      upred_cmp d op hop (.num lex) _ n (uarg_num d lex n) (uarg_count d pfx p n ((ih n).1 rfl))
  | notCount pfx pfx' p _ _ ih =>
    exact of_upred fun n => upred_not d pfx _ n (uarg_count d pfx' p n ((ih n).1 rfl))
  | lnCmp op pfx lit hop =>
    exact of_upred fun n =>
      upred_cmp d op (eqOps_cmpOps hop) _ (.str lit) n (uarg_localName0 d pfx n) (uarg_str d lit n)
  | lnPathCmp op pfx p lit hop _ _ ih =>
    exact of_upred fun n =>
      upred_cmp d op (eqOps_cmpOps hop) _ (.str lit) n (uarg_localName1 d pfx p n ((ih n).1 rfl))
        (uarg_str d lit n)
  | strLit name pfx s lit hn =>
    exact of_upred fun n => upred_strTest d name hn pfx _ _ n (uarg_str d s n) (uarg_str d lit n)
  | strLn name pfx pfx' lit hn =>
    exact of_upred fun n =>
      upred_strTest d name hn pfx _ _ n (uarg_localName0 d pfx' n) (uarg_str d lit n)
  | strLnPath name pfx pfx' p lit hn _ _ ih =>
    exact of_upred fun n =>
      upred_strTest d name hn pfx _ _ n (uarg_localName1 d pfx' p n ((ih n).1 rfl)) (uarg_str d lit n)
  | strPath name pfx p lit hn _ _ ih =>
    exact of_upred fun n => upred_strTest d name hn pfx _ _ n ((ih n).1 rfl).uarg (uarg_str d lit n)
  | strPath2 name pfx p q hn _ _ _ _ ihp ihq =>
    exact of_upred fun n => upred_strTest d name hn pfx _ _ n ((ihp n).1 rfl).uarg ((ihq n).1 rfl).uarg
  | strLitPath name pfx s q hn _ _ ihq =>
    exact of_upred fun n => upred_strTest d name hn pfx _ _ n (uarg_str d s n) ((ihq n).1 rfl).uarg
  | cmpPath op p q hop _ _ ihp ihq =>
    exact of_upred fun n => upred_cmp d op hop p q n ((ihp n).1 rfl).uarg ((ihq n).1 rfl).uarg
  | cmpStrR op p s hop _ ih =>
    exact of_upred fun n => upred_cmp d op hop p (.str s) n ((ih n).1 rfl).uarg (uarg_str d s n)
  | cmpStrL op s p hop _ ih =>
    exact of_upred fun n => upred_cmp d op hop (.str s) p n (uarg_str d s n) ((ih n).1 rfl).uarg

theorem frag2_opath (d : Doc) {p : Ast} (hp : Frag2 true p) (c : Spec.Ctx) : OPath (F := F) d p c := by
  obtain ⟨ns, g, hev, hg⟩ := (frag_oracle3 (F := F) d true p hp c.node).1 rfl
  exact ⟨ns, g, hev c.pos c.size, hg⟩

/-- the predicates of `Frag2` are node tests: one value per node, never a number -/
theorem nodeTest_frag2 (d : Doc) {b : Ast} (hb : Frag2 false b) : NodeTest (F := F) d b :=
  fun n => (frag_oracle3 (F := F) d false b hb n).2 rfl

end XPathV.Compose3

namespace XPathV.Compose2
open XPathV XPathV.Model XPathV.PathSem XPathV.PredSem XPathV.Compose

variable {F : Type} [NumAlg F]

/-! ## §1 Path composition on parse trees with predicates -/

/-- `appendPath2 q p`: the path `q/p` — the `.none` leaf of the step chain `p` is replaced by `q`;
the chain is followed through steps and through the *input* of a filter; predicates are left alone
(a relative path inside a predicate is relative to the candidate node, not to the leaf) -/
def appendPath2 (q : Ast) : Ast → Ast
  | .none => q
  | .axis a inp => .axis a (appendPath2 q inp)
  | .filter inp b => .filter (appendPath2 q inp) b
  | p => p

/-- *relative* paths of the fragment: the leaf of the step chain is `.none` -/
inductive RelFrag : Ast → Prop
  | none : RelFrag .none
  | axis (a : AxisInfo) (inp : Ast) : RelFrag inp → a.axis ∈ axes12 → RelFrag (.axis a inp)
  | filter (inp b : Ast) : RelFrag inp → Frag false b → RelFrag (.filter inp b)

/-- *absolute* paths of the fragment: the leaf of the step chain is `.root _` -/
inductive AbsFrag : Ast → Prop
  | root (s : String) : AbsFrag (.root s)
  | axis (a : AxisInfo) (inp : Ast) : AbsFrag inp → a.axis ∈ axes12 → AbsFrag (.axis a inp)
  | filter (inp b : Ast) : AbsFrag inp → Frag false b → AbsFrag (.filter inp b)

theorem RelFrag.frag {p : Ast} (h : RelFrag p) : Frag true p := by
  induction h with
  | none => exact .none
  | axis a inp _ ha ih => exact .axis a inp ih ha
  | filter inp b _ hb ih => exact .filter inp b ih hb

theorem AbsFrag.frag {p : Ast} (h : AbsFrag p) : Frag true p := by
  induction h with
  | root s => exact .root s
  | axis a inp _ ha ih => exact .axis a inp ih ha
  | filter inp b _ hb ih => exact .filter inp b ih hb

theorem frag_rel_or_abs : ∀ {k : Bool} {p : Ast}, Frag k p → k = true → RelFrag p ∨ AbsFrag p := by
  intro k p h
  induction h with
  | none => exact fun _ => .inl .none
  | root s => exact fun _ => .inr (.root s)
  | axis a inp _ ha ih =>
    intro _
    rcases ih rfl with ih | ih
    · exact .inl (.axis a inp ih ha)
    · exact .inr (.axis a inp ih ha)
  | filter inp b _ hb ih _ =>
    intro _
    rcases ih rfl with ih | ih
    · exact .inl (.filter inp b ih hb)
    · exact .inr (.filter inp b ih hb)
  | exist | eqStr | neStr | cmpNumR | cmpNumL | not | and | or => exact fun h => nomatch h

theorem RelPF.relFrag {p : Ast} (h : RelPF p) : RelFrag p := by
  induction h with
  | none => exact .none
  | axis a inp _ ha ih => exact .axis a inp ih ha

theorem AbsPF.absFrag {p : Ast} (h : AbsPF p) : AbsFrag p := by
  induction h with
  | root s => exact .root s
  | axis a inp _ ha ih => exact .axis a inp ih ha

/-- on predicate-free relative paths `appendPath2` is `Compose.appendPath` -/
theorem appendPath2_relPF (q : Ast) {p : Ast} (h : RelPF p) : appendPath2 q p = appendPath q p := by
  induction h with
  | none => rfl
  | axis a inp _ _ ih => simp only [appendPath2, appendPath, ih]

theorem appendPath2_frag {q p : Ast} (hq : Frag true q) (hp : RelFrag p) :
    Frag true (appendPath2 q p) := by
  induction hp with
  | none => exact hq
  | axis a inp _ ha ih => exact .axis a _ ih ha
  | filter inp b _ hb ih => exact .filter _ b ih hb

theorem appendPath2_relFrag {q p : Ast} (hq : RelFrag q) (hp : RelFrag p) :
    RelFrag (appendPath2 q p) := by
  induction hp with
  | none => exact hq
  | axis a inp _ ha ih => exact .axis a _ ih ha
  | filter inp b _ hb ih => exact .filter _ b ih hb

theorem appendPath2_absFrag {q p : Ast} (hq : AbsFrag q) (hp : RelFrag p) :
    AbsFrag (appendPath2 q p) := by
  induction hp with
  | none => exact hq
  | axis a inp _ ha ih => exact .axis a _ ih ha
  | filter inp b _ hb ih => exact .filter _ b ih hb

theorem _root_.XPathV.Compose.AbsChain.appendPath2 (q : Ast) {p : Ast} (hp : AbsChain p) :
    appendPath2 q p = p := by
  induction hp with
  | axis a inp _ ih => simp only [Compose2.appendPath2, ih]
  | filter inp b _ ih => simp only [Compose2.appendPath2, ih]
  | _ => rfl

theorem appendPath2_none_left {p : Ast} (hp : RelFrag p) : appendPath2 .none p = p := by
  induction hp with
  | none => rfl
  | axis a inp _ _ ih => simp only [appendPath2, ih]
  | filter inp b _ _ ih => simp only [appendPath2, ih]

theorem appendPath2_none_right (q : Ast) : appendPath2 q .none = q := rfl

theorem appendPath2_assoc (q p r : Ast) :
    appendPath2 q (appendPath2 p r) = appendPath2 (appendPath2 q p) r := by
  induction r with
  | none => rfl
  | axis a inp ih => simp only [appendPath2, ih]
  | filter inp b ih _ => simp only [appendPath2, ih]
  | _ => rfl

/-! ## §2 Oracle side (no model, no well-formedness hypothesis) -/

/-- oracle-side well-behavedness of a predicate at a context: a value that is not a number -/
def OPred (d : Doc) (b : Ast) (c : Spec.Ctx) : Prop :=
  ∃ sv g, Spec.eval (F := F) d b c = .ok (.val sv g) ∧ NotNum sv

theorem opath_frag (d : Doc) {p : Ast} (hp : Frag true p) (c : Spec.Ctx) : OPath (F := F) d p c :=
  Compose3.frag2_opath d (PredSem2.frag2_of_frag true p hp) c

/-- the predicates of the fragment are node tests: one value per node, never a number -/
theorem nodeTest_frag (d : Doc) {b : Ast} (hb : Frag false b) : NodeTest (F := F) d b :=
  Compose3.nodeTest_frag2 d (PredSem2.frag2_of_frag false b hb)

theorem RelFrag.plug (d : Doc) (q : Ast) {p : Ast} (hp : RelFrag p) :
    Plug (F := F) d q p (appendPath2 q p) := by
  induction hp with
  | none => exact .none
  | axis a inp _ ha ih => exact .axis a _ _ ih ha
  | filter inp b _ hb ih => exact .filter _ _ b ih (nodeTest_frag d hb)

/-- **path composition (oracle), paths with boolean predicates**: a node is selected by `q/p` from
context `c` iff it is selected by `p` from some node that `q` selects from `c` -/
theorem eval_append2 (d : Doc) {q p : Ast} (hq : Frag true q) (hp : RelFrag p) (c : Spec.Ctx) (x : Ref) :
    x ∈ nodesOf (Spec.eval (F := F) d (appendPath2 q p) c) ↔
      ∃ n ∈ nodesOf (Spec.eval (F := F) d q c), x ∈ nodesOf (Spec.eval (F := F) d p ⟨n, 1, 1⟩) :=
  eval_plug (hp.plug d q) (opath_frag d hq) c x

theorem eval_append2_explicit (d : Doc) {q p : Ast} (hq : Frag true q) (hp : RelFrag p) (c : Ref) :
    ∃ (Q R : List Ref) (N : Ref → List Ref) (gq gr : Option (List (List Ref)))
      (gn : Ref → Option (List (List Ref))),
      Spec.eval (F := F) d q ⟨c, 1, 1⟩ = .ok (.val (.nodes Q) gq) ∧
      Spec.eval (F := F) d (appendPath2 q p) ⟨c, 1, 1⟩ = .ok (.val (.nodes R) gr) ∧
      (∀ n, Spec.eval (F := F) d p ⟨n, 1, 1⟩ = .ok (.val (.nodes (N n)) (gn n))) ∧
      ∀ x, x ∈ R ↔ ∃ n ∈ Q, x ∈ N n :=
  eval_plug_explicit (hp.plug d q) (opath_frag d hq) c

theorem eval_append2_docOrder (d : Doc) {q p : Ast} (hq : Frag true q) (hp : RelFrag p) (c : Spec.Ctx) :
    Spec.docOrder d (nodesOf (Spec.eval (F := F) d (appendPath2 q p) c)) =
      Spec.docOrder d ((nodesOf (Spec.eval (F := F) d q c)).flatMap
        (fun n => nodesOf (Spec.eval (F := F) d p ⟨n, 1, 1⟩))) :=
  eval_plug_docOrder (hp.plug d q) (opath_frag d hq) c

/-- **`rel_compose_spec2`**: `q` denotes exactly one node `n` from the root ⇒ the relative path `p`
at `n` has the same node set as `q/p` at the root -/
theorem rel_compose_spec2 (d : Doc) {q p : Ast} (hq : Frag true q) (hp : RelFrag p) (n : Ref)
    (h : nodesOf (Spec.eval (F := F) d q ⟨.node 0, 1, 1⟩) = [n]) (x : Ref) :
    x ∈ nodesOf (Spec.eval (F := F) d p ⟨n, 1, 1⟩) ↔
      x ∈ nodesOf (Spec.eval (F := F) d (appendPath2 q p) ⟨.node 0, 1, 1⟩) :=
  plug_single (hp.plug d q) (opath_frag d hq) _ n (mem_singleton_of_eq h) x

theorem AbsFrag.chain {p : Ast} (h : AbsFrag p) : AbsChain p := by
  induction h with
  | root s => exact .root s
  | axis a inp _ _ ih => exact .axis a inp ih
  | filter inp b _ _ ih => exact .filter inp b ih

/-- **start-node independence (oracle)**: an absolute path of the fragment has the same value
(node-set *and* proximity groups) in every context -/
theorem abs_eval_indep2 (d : Doc) {p : Ast} (hp : AbsFrag p) (c₁ c₂ : Spec.Ctx) :
    Spec.eval (F := F) d p c₁ = Spec.eval (F := F) d p c₂ :=
  hp.chain.eval_indep d c₁ c₂

/-! ## §3 Model side (through C02) -/

/-- C02 (naive plans): the un-rewritten plan of a path of the fragment computes it from every valid
node, and the nodes the path denotes are valid -/
theorem naive_computes2 {d : Doc} (wf : WF d) (cfg : ECfg) (hns : cfg.nsIface = true)
    (hinj : HashInj d cfg) {p : Ast} (hp : Frag true p) (c : Ref) (hc : validRef d c = true) :
    Computes (F := F) d cfg (predPlan p) p c ∧
      ∀ x ∈ nodesOf (Spec.eval (F := F) d p ⟨c, 1, 1⟩), validRef d x = true := by
  obtain ⟨out, ns, g, h1, h2, h3, h4⟩ := C02_naive (F := F) wf cfg hns hinj p hp c hc
  exact ⟨.of_sem h1 h2 h3, by rw [h2]; exact h4⟩

/-- C02 (built plan, all rewrites, merge included) -/
theorem build_computes2 {d : Doc} (wf : WF d) (cfg : ECfg) (hns : cfg.nsIface = true)
    (hinj : HashInj d cfg) (regexOk : RegexOk) (limit : Nat) {p : Ast} (hp : Frag true p)
    (st : BState) (o : BOut) (hb : build regexOk limit true false p {} st = .ok o)
    (c : Ref) (hc : validRef d c = true) : Computes (F := F) d cfg o.q p c := by
  obtain ⟨out, ns, g, h1, h2, h3⟩ := C02_main (F := F) wf cfg hns hinj regexOk limit p hp st o hb c hc
  exact .of_sem h1 h2 h3

/-- **path composition (model, naive plans)**: from a valid context node `c` the plan of `q/p`
selects `x` iff the plan of `p`, started at some node that the plan of `q` selects from `c`,
selects `x`; none of the evaluations fails -/
theorem compose_model2 {d : Doc} (wf : WF d) (cfg : ECfg) (hns : cfg.nsIface = true)
    (hinj : HashInj d cfg) {q p : Ast} (hq : Frag true q) (hp : RelFrag p) (c : Ref)
    (hc : validRef d c = true) :
    ∃ oq oqp, sel (F := F) d cfg (predPlan q) c = .ok oq ∧
      sel (F := F) d cfg (predPlan (appendPath2 q p)) c = .ok oqp ∧
      (∀ n ∈ refs oq, ∃ on, sel (F := F) d cfg (predPlan p) n = .ok on) ∧
      ∀ x, x ∈ refs oqp ↔
        ∃ n ∈ refs oq, ∃ on, sel (F := F) d cfg (predPlan p) n = .ok on ∧ x ∈ refs on :=
  have hcq := naive_computes2 (F := F) wf cfg hns hinj hq c hc
  compose_sel hcq.1 (naive_computes2 wf cfg hns hinj (appendPath2_frag hq hp) c hc).1
    (fun n hn => (naive_computes2 wf cfg hns hinj hp.frag n (hcq.2 n hn)).1) (eval_append2 d hq hp _)

/-- **path composition (model, built plans)**: the same for the plans `build` makes — with every
rewrite, the merge rewrite of `processFilter` included — of `q`, `p` and `q/p` -/
theorem compose_build2 {d : Doc} (wf : WF d) (cfg : ECfg) (hns : cfg.nsIface = true)
    (hinj : HashInj d cfg) (regexOk : RegexOk) (limit : Nat)
    {q p : Ast} (hq : Frag true q) (hp : RelFrag p)
    (stq stp stqp : BState) (bq bp bqp : BOut)
    (hbq : build regexOk limit true false q {} stq = .ok bq)
    (hbp : build regexOk limit true false p {} stp = .ok bp)
    (hbqp : build regexOk limit true false (appendPath2 q p) {} stqp = .ok bqp)
    (c : Ref) (hc : validRef d c = true) :
    ∃ oq oqp, sel (F := F) d cfg bq.q c = .ok oq ∧ sel (F := F) d cfg bqp.q c = .ok oqp ∧
      (∀ n ∈ refs oq, ∃ on, sel (F := F) d cfg bp.q n = .ok on) ∧
      ∀ x, x ∈ refs oqp ↔
        ∃ n ∈ refs oq, ∃ on, sel (F := F) d cfg bp.q n = .ok on ∧ x ∈ refs on :=
  compose_sel (build_computes2 wf cfg hns hinj regexOk limit hq stq bq hbq c hc)
    (build_computes2 wf cfg hns hinj regexOk limit (appendPath2_frag hq hp) stqp bqp hbqp c hc)
    (fun n hn => build_computes2 wf cfg hns hinj regexOk limit hp.frag stp bp hbp n
      ((naive_computes2 (F := F) wf cfg hns hinj hq c hc).2 n hn))
    (eval_append2 d hq hp _)

theorem valid_of_single2 {d : Doc} (wf : WF d) (cfg : ECfg) (hns : cfg.nsIface = true)
    (hinj : HashInj d cfg) {q : Ast} (hq : Frag true q) (n : Ref)
    (h : nodesOf (Spec.eval (F := F) d q ⟨.node 0, 1, 1⟩) = [n]) : validRef d n = true :=
  (naive_computes2 (F := F) wf cfg hns hinj hq _ (valid_root wf)).2 n ((mem_singleton_of_eq h n).2 rfl)

/-- **`rel_compose_model2`** (naive plans): if (by the oracle) `q` denotes exactly the node `n` from
the root, the plan of the relative path `p` started at `n` and the plan of `q/p` started at the
root select the same node set -/
theorem rel_compose_model2 {d : Doc} (wf : WF d) (cfg : ECfg) (hns : cfg.nsIface = true)
    (hinj : HashInj d cfg) {q p : Ast} (hq : Frag true q) (hp : RelFrag p) (n : Ref)
    (h : nodesOf (Spec.eval (F := F) d q ⟨.node 0, 1, 1⟩) = [n]) :
    ∃ o1 o2, sel (F := F) d cfg (predPlan p) n = .ok o1 ∧
      sel (F := F) d cfg (predPlan (appendPath2 q p)) (.node 0) = .ok o2 ∧
      ∀ x, x ∈ refs o1 ↔ x ∈ refs o2 :=
  (naive_computes2 wf cfg hns hinj hp.frag n (valid_of_single2 wf cfg hns hinj hq n h)).1.same
    (naive_computes2 wf cfg hns hinj (appendPath2_frag hq hp) _ (valid_root wf)).1
    (rel_compose_spec2 d hq hp n h)

/-- **`rel_compose_build2`**: the same for the plans `build` produces (with every rewrite), through
`C02_main`: a relative path `p` with boolean predicates evaluated at the node `n` returns the same
node set as the absolute path `q/p` that first addresses `n` (`q` denotes exactly `n`) -/
theorem rel_compose_build2 {d : Doc} (wf : WF d) (cfg : ECfg) (hns : cfg.nsIface = true)
    (hinj : HashInj d cfg) (regexOk : RegexOk) (limit : Nat)
    {q p : Ast} (hq : Frag true q) (hp : RelFrag p) (n : Ref)
    (h : nodesOf (Spec.eval (F := F) d q ⟨.node 0, 1, 1⟩) = [n])
    (st st' : BState) (o o' : BOut)
    (hb : build regexOk limit true false p {} st = .ok o)
    (hb' : build regexOk limit true false (appendPath2 q p) {} st' = .ok o') :
    ∃ o1 o2, sel (F := F) d cfg o.q n = .ok o1 ∧ sel (F := F) d cfg o'.q (.node 0) = .ok o2 ∧
      ∀ x, x ∈ refs o1 ↔ x ∈ refs o2 :=
  (build_computes2 wf cfg hns hinj regexOk limit hp.frag st o hb n
      (valid_of_single2 wf cfg hns hinj hq n h)).same
    (build_computes2 wf cfg hns hinj regexOk limit (appendPath2_frag hq hp) st' o' hb' _ (valid_root wf))
    (rel_compose_spec2 d hq hp n h)

/-- `rel_compose_build2` at the configuration the model reads off the source, from the initial
builder state (what `Api.compile` runs) -/
theorem rel_compose_build2_source {d : Doc} (wf : WF d) (cfg : ECfg) (hns : cfg.nsIface = true)
    (hinj : HashInj d cfg) (regexOk : RegexOk) (limit : Nat)
    {q p : Ast} (hq : Frag true q) (hp : RelFrag p) (n : Ref)
    (h : nodesOf (Spec.eval (F := F) d q ⟨.node 0, 1, 1⟩) = [n]) (o o' : BOut)
    (hb : build regexOk limit shortcutNeedsNodeTestFromSource smartDescThroughFilterFromSource
      p {} {} = .ok o)
    (hb' : build regexOk limit shortcutNeedsNodeTestFromSource smartDescThroughFilterFromSource
      (appendPath2 q p) {} {} = .ok o') :
    ∃ o1 o2, sel (F := F) d cfg o.q n = .ok o1 ∧ sel (F := F) d cfg o'.q (.node 0) = .ok o2 ∧
      ∀ x, x ∈ refs o1 ↔ x ∈ refs o2 := by
  rw [Lemmas.SourceConfig.shortcut_guard_from_source,
    Lemmas.SourceConfig.smartdesc_stops_at_filters_from_source] at hb hb'
  exact rel_compose_build2 wf cfg hns hinj regexOk limit hq hp n h {} {} o o' hb hb'

/-- **start-node independence (model, built plan, through C02)**: the plan `build` produces for an
absolute path with boolean predicates selects the same node set from any two valid start nodes -/
theorem abs_build_indep2 {d : Doc} (wf : WF d) (cfg : ECfg) (hns : cfg.nsIface = true)
    (hinj : HashInj d cfg) (regexOk : RegexOk) (limit : Nat) {p : Ast} (hp : AbsFrag p)
    (st : BState) (o : BOut) (hb : build regexOk limit true false p {} st = .ok o)
    (c₁ c₂ : Ref) (h₁ : validRef d c₁ = true) (h₂ : validRef d c₂ = true) :
    ∃ o1 o2, sel (F := F) d cfg o.q c₁ = .ok o1 ∧ sel (F := F) d cfg o.q c₂ = .ok o2 ∧
      ∀ x, x ∈ refs o1 ↔ x ∈ refs o2 :=
  (build_computes2 wf cfg hns hinj regexOk limit hp.frag st o hb c₁ h₁).same
    (build_computes2 wf cfg hns hinj regexOk limit hp.frag st o hb c₂ h₂)
    (fun x => by rw [abs_eval_indep2 d hp ⟨c₁, 1, 1⟩ ⟨c₂, 1, 1⟩])

theorem rooted2_stepPlan (a : AxisInfo) (ha : a.axis ∈ axes12) (inp : Plan) :
    Rooted2 (stepPlan a inp) = Rooted2 inp :=
  rooted2_inputOf (stepPlan_facts ha inp).2.1

theorem rooted2_predPlan {p : Ast} (hp : AbsFrag p) : Rooted2 (predPlan p) = true := by
  induction hp with
  | root s => rfl
  | axis a inp _ ha ih => simp only [predPlan, rooted2_stepPlan a ha, ih]
  | filter inp b _ _ ih => simp only [predPlan, Rooted2, ih]

/-- **start-node independence (model, naive plan)**: the same *sequence* from every start node -/
theorem abs_model_indep2 (d : Doc) (cfg : ECfg) {p : Ast} (hp : AbsFrag p) (c₁ c₂ : Ref) :
    sel (F := F) d cfg (predPlan p) c₁ = sel (F := F) d cfg (predPlan p) c₂ :=
  abs_start_indep2 d cfg _ (rooted2_predPlan hp) c₁ c₂

/-- whatever the builder makes of an absolute chain is rooted: every step and every filter sits over
the plan of its input, and the merge rewrite puts the plan of the step's input at the bottom -/
theorem rooted2_of_planOf {snt sdf : Bool} {p : Ast} {fl : Flags} {q : Plan} (hp : AbsChain p)
    (h : PlanOf snt sdf p fl q) : Rooted2 q = true := by
  induction h with
  | none => cases hp
  | root => rfl
  | step a inp fl qi pr ha _ ih =>
    cases hp with
    | axis _ _ hi =>
      rw [rooted2_inputOf (builtStep_plan ha fl pr qi).2.1]
      exact ih hi
  | shortcut a b g fl gq _ _ _ _ ih =>
    cases hp with
    | axis _ _ hi =>
      cases hi with
      | axis _ _ hg => exact ih hg
  | filter inp b fl qi X _ ih =>
    cases hp with
    | filter _ _ hi => exact ih hi
  | merge a inp b fl qi pr X _ _ ih =>
    cases hp with
    | filter _ _ hi =>
      cases hi with
      | axis _ _ hg => exact ih hg
  | group p fl q _ ih =>
    cases hp with
    | group _ hi => exact ih hi
  | other e fl q hn => cases hp <;> cases hn

/-- **the plan `build` makes of an absolute chain is rooted** (whatever the flags, the builder state
and the two source-configuration switches; whatever the predicates are made of) -/
theorem build_rooted_chain (regexOk : RegexOk) (limit : Nat) (snt sdf : Bool) {p : Ast} (hp : AbsChain p)
    {fl : Flags} {st : BState} {o : BOut} (h : build regexOk limit snt sdf p fl st = .ok o) :
    Rooted2 o.q = true :=
  rooted2_of_planOf hp (build_planOf regexOk limit h)

/-- **start-node independence (model, built plan, sequence level)**: the plan `build` makes of an
absolute chain yields the same *sequence* (or the same failure) from every start node — no
assumption on the document, the start nodes or the hash -/
theorem abs_chain_start_indep (d : Doc) (cfg : ECfg) (regexOk : RegexOk) (limit : Nat) (snt sdf : Bool)
    {p : Ast} (hp : AbsChain p) (fl : Flags) (st : BState) (o : BOut)
    (h : build regexOk limit snt sdf p fl st = .ok o) (c₁ c₂ : Ref) :
    sel (F := F) d cfg o.q c₁ = sel (F := F) d cfg o.q c₂ :=
  abs_start_indep2 d cfg o.q (build_rooted_chain regexOk limit snt sdf hp h) c₁ c₂

/-- appending an absolute path to anything changes nothing, on both sides -/
theorem abs_append_ignored2 (d : Doc) (cfg : ECfg) (q : Ast) {p : Ast} (hp : AbsFrag p)
    (c₁ c₂ : Ref) :
    Spec.eval (F := F) d (appendPath2 q p) ⟨c₁, 1, 1⟩ = Spec.eval (F := F) d p ⟨c₂, 1, 1⟩ ∧
    sel (F := F) d cfg (predPlan (appendPath2 q p)) c₁ = sel (F := F) d cfg (predPlan p) c₂ := by
  rw [hp.chain.appendPath2 q]
  exact ⟨abs_eval_indep2 d hp _ _, abs_model_indep2 d cfg hp c₁ c₂⟩

/-! ## Non-vacuity: concrete paths -/

section Examples

private def ch (n : String) : AxisInfo := ⟨"child", .elem, "", n, "", false, ""⟩
private theorem ch_axis (n : String) : (ch n).axis ∈ axes12 := by simp [axes12, ch]

/-- `/a/b[not(c)]` as the parser produces it -/
def exAbs : Ast :=
  .filter (.axis (ch "b") (.axis (ch "a") (.root "/")))
    (.call "not" "" (.acons (.axis (ch "c") .none) .anil))

theorem exAbs_abs : AbsFrag exAbs :=
  .filter _ _ (.axis _ _ (.axis _ _ (.root _) (ch_axis _)) (ch_axis _))
    (.not _ _ (.exist _ (.axis _ _ .none (ch_axis _))))

/-- `d[e = 'x']/f` -/
def exRel : Ast :=
  .axis (ch "f") (.filter (.axis (ch "d") .none) (.oper "=" (.axis (ch "e") .none) (.str "x")))

theorem exRel_rel : RelFrag exRel :=
  .axis _ _ (.filter _ _ (.axis _ _ .none (ch_axis _)) (.eqStr _ _ (.axis _ _ .none (ch_axis _))))
    (ch_axis _)

/-- `/a/b[not(c)]` / `d[e = 'x']/f` is `/a/b[not(c)]/d[e = 'x']/f`: the predicate `e = 'x'` stays
relative to the `d` candidates -/
example : appendPath2 exAbs exRel =
    .axis (ch "f") (.filter (.axis (ch "d") exAbs) (.oper "=" (.axis (ch "e") .none) (.str "x"))) := rfl

/-- the builder succeeds on the composed path (with the merge rewrite inside) -/
theorem exAppend_build :
    ∃ o, build (fun _ => true) 100 true false (appendPath2 exAbs exRel) {} {} = .ok o := ⟨_, rfl⟩

/-- the built plan of the absolute path is rooted although it is a `.merge` over a `.filter` -/
example : (build (fun _ => true) 100 true false exAbs {} {}).map (fun o => (o.q, Rooted2 o.q)) =
    .ok (.merge (.child (ch "a") .absolute)
      (.filter (.child (ch "b") .context)
        (.func "not" .nil (.pcons (.child (ch "c") .context) .pnil))), true) := rfl

/-- `eval_append2` on the concrete paths: no hypothesis left -/
example (d : Doc) (c : Spec.Ctx) (x : Ref) :
    x ∈ nodesOf (Spec.eval (F := F) d (appendPath2 exAbs exRel) c) ↔
      ∃ n ∈ nodesOf (Spec.eval (F := F) d exAbs c), x ∈ nodesOf (Spec.eval (F := F) d exRel ⟨n, 1, 1⟩) :=
  eval_append2 d exAbs_abs.frag exRel_rel c x

end Examples

end XPathV.Compose2
