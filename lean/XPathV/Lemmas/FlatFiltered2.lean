import XPathV.Lemmas.FlatFiltered
import XPathV.Lemmas.PredSem2
/-!
# C12, first half — flat paths with the predicates of the whole C02 fragment `Frag2`

The plan `build` makes of a flat path (child / attribute / self steps from the context node or the
root) whose predicates are in the C02 fragment `PredSem2.Frag2` (those of `PredSem.Frag` and
`count(P) op n`, `not(count(P))`, `contains(S, T)` …, `local-name(…) = 'lit'`, path `op` path, path
`op` string literal, `(P)[b]` inside predicates) yields a *sequence* that is the oracle's
document-ordered node list, element by element:

* `flatFrag2_main` — for `Frag2 true p` and `FlatAny p` (the pair `Frag2`'s own constructors
  `countR`, `strPath` … use): `sel` succeeds, the sequence is strictly increasing in document order
  and duplicate-free, the oracle yields a node list, the members agree — and the sequence *is* that
  list.
* `FlatFrag2` — the same shape as `FlatFiltered.FlatFrag` with the predicates in `Frag2 false`;
  `FlatFrag2.flatAny`, `FlatFrag2.frag2`; `flatFrag2_main_frag` is `flatFrag2_main` stated for it.
* `flatFrag2_of_flatFrag`: `FlatFrag ⊆ FlatFrag2`; `flatFrag2_iff`: `FlatFrag2 p ↔ Frag2 true p ∧
  FlatAny p`, i.e. the two ways of stating the hypothesis coincide.
-/
namespace XPathV.FlatFiltered2
open XPathV XPathV.Model XPathV.PathSem XPathV.PredSem XPathV.PredSem2 XPathV.FlatFiltered
open XPathV.ArithSem (flatAxes flatAxes_axes12)

variable {F : Type} [NumAlg F]

/-! ## the fragment -/

/-- flat paths with the boolean-valued predicates of the whole C02 fragment (`PredSem2.Frag2 false`:
those of `PredSem.Frag false` and `count(P) op n`, `n op count(P)`, `not(count(P))`, the string
tests `contains`/`starts-with`/`ends-with`, `local-name(…) = 'lit'`, path `op` path, path `op`
string literal, either side; the paths inside predicates range over all twelve axes, and may be
parenthesised filters) on any step -/
inductive FlatFrag2 : Ast → Prop
  | none : FlatFrag2 .none
  | root (s : String) : FlatFrag2 (.root s)
  | axis (a : AxisInfo) (inp : Ast) : a.axis ∈ flatAxes → FlatFrag2 inp → FlatFrag2 (.axis a inp)
  | filter (inp b : Ast) : FlatFrag2 inp → Frag2 false b → FlatFrag2 (.filter inp b)

theorem FlatFrag2.flatAny {p : Ast} (h : FlatFrag2 p) : FlatAny p := by
  induction h with
  | none => exact .none
  | root s => exact .root s
  | axis a inp ha _ ih => exact .axis a inp ha ih
  | filter inp b _ _ ih => exact .filter inp b ih

theorem FlatFrag2.frag2 {p : Ast} (h : FlatFrag2 p) : Frag2 true p := by
  induction h with
  | none => exact .none
  | root s => exact .root s
  | axis a inp ha _ ih => exact .axis a inp ih (flatAxes_axes12 ha)
  | filter inp b _ hb ih => exact .filter inp b ih hb

/-- `FlatFrag ⊆ FlatFrag2` -/
theorem flatFrag2_of_flatFrag {p : Ast} (h : FlatFrag p) : FlatFrag2 p := by
  induction h with
  | none => exact .none
  | root s => exact .root s
  | axis a inp ha _ ih => exact .axis a inp ha ih
  | filter inp b _ hb ih => exact .filter inp b ih (frag2_of_frag false b hb)

/-- a path of `Frag2` that is flat is a member of `FlatFrag2` -/
theorem flatFrag2_of_frag2_flatAny {p : Ast} (hflat : FlatAny p) : Frag2 true p → FlatFrag2 p := by
  induction hflat with
  | none => exact fun _ => .none
  | root s => exact fun _ => .root s
  | axis a inp ha _ ih =>
    intro hp
    cases hp with
    | axis _ _ hinp _ => exact .axis a inp ha (ih hinp)
  | filter inp b hinp ih =>
    intro hp
    cases hp with
    | filter _ _ hi hb => exact .filter inp b (ih hi) hb
    | gfilter q _ _ _ => cases hinp

/-- the two ways of stating the hypothesis coincide -/
theorem flatFrag2_iff (p : Ast) : FlatFrag2 p ↔ Frag2 true p ∧ FlatAny p :=
  ⟨fun h => ⟨h.frag2, h.flatAny⟩, fun h => flatFrag2_of_frag2_flatAny h.2 h.1⟩

/-! ## the engine's sequence *is* the oracle's list -/

section Main
variable {d : Doc} (wf : WF d) (cfg : ECfg) (hns : cfg.nsIface = true) (hinj : HashInj d cfg)
  (regexOk : RegexOk) (limit : Nat)
include wf hns hinj

/-- **C12 for `build`, flat paths with the predicates of the whole C02 fragment on any step**: the
plan the builder makes (plain filters or the merge form) succeeds from every valid context node; its
sequence is strictly increasing in document order, repeats no node, has exactly the members of the
oracle's node-set — and therefore *is* the oracle's node list, element by element -/
theorem flatFrag2_main (p : Ast) (hp : Frag2 true p) (hflat : FlatAny p) (st : BState) (o : BOut)
    (hb : build regexOk limit true false p {} st = .ok o) (c : Ref) (hc : validRef d c = true) :
    ∃ l ns g, sel (F := F) d cfg o.q c = .ok l ∧
      (refs l).Pairwise (fun a b => Ref.lt a b = true) ∧ (refs l).Nodup ∧
      Spec.eval (F := F) d p ⟨c, 1, 1⟩ = .ok (.val (.nodes ns) g) ∧
      (∀ x, x ∈ refs l ↔ x ∈ ns) ∧ refs l = ns := by
  obtain ⟨l, ns, g, h1, h2, h3⟩ :=
    C02_main2 (F := F) wf cfg hns hinj regexOk limit p hp st o hb c hc
  obtain ⟨hs, hn⟩ := flatAny_sorted (F := F) wf cfg regexOk limit true false p hflat {} st o hb c l h1
  exact ⟨l, ns, g, h1, hs, hn, h2, h3,
    DocOrder.sorted_ext _ _ hs (flatAny_spec_sorted (F := F) d p hflat _ ns g h2) h3⟩

/-- `flatFrag2_main` stated for the inductive fragment `FlatFrag2` -/
theorem flatFrag2_main_frag (p : Ast) (hp : FlatFrag2 p) (st : BState) (o : BOut)
    (hb : build regexOk limit true false p {} st = .ok o) (c : Ref) (hc : validRef d c = true) :
    ∃ l ns g, sel (F := F) d cfg o.q c = .ok l ∧
      (refs l).Pairwise (fun a b => Ref.lt a b = true) ∧ (refs l).Nodup ∧
      Spec.eval (F := F) d p ⟨c, 1, 1⟩ = .ok (.val (.nodes ns) g) ∧
      (∀ x, x ∈ refs l ↔ x ∈ ns) ∧ refs l = ns :=
  flatFrag2_main (F := F) wf cfg hns hinj regexOk limit p hp.frag2 hp.flatAny st o hb c hc

end Main

end XPathV.FlatFiltered2
