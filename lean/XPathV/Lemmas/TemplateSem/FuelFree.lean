import XPathV.Lemmas.TemplateSem.Digits
import XPathV.Lemmas.Guarded
/-!
# C16, part 3: the three template functions without their fuel

Each of `rewrite`, `expandGo`, `expandSpec` spends one unit of fuel per application of its body, and the body
calls it on shorter templates only: it is `Guarded`, with the body written out as `rewriteF`, `expandGoF`,
`expandSpecF` (the definition with the recursive calls handed to a parameter).  So at the fuel `length + 1`
(`rwT`, `eg`, `es`) each is the solution of its recursion equation (`rwT_fix`, `eg_fix`, `es_fix`), and the
equations by the shape of the template are read off the body.  The length facts that make the recursions
terminate are used in the three `guard` fields and nowhere else.  Last: `rewrite` commutes with `extract`.
-/
namespace XPathV.Lemmas.TemplateSem
open XPathV.Model.Template XPathV.Spec.Template

/-- `xpathReplacement(r, groups)` -/
def rwT (groups : Nat) (r : List Char) : List Char := rewrite groups (r.length + 1) r
/-- `Regexp.expand` of a template -/
def eg (g : Groups) (t : List Char) : List Char := expandGo g (t.length + 1) t
/-- the specification's reading of a template -/
def es (g : Groups) (groups : Nat) (r : List Char) : List Char := expandSpec g groups (r.length + 1) r

theorem replaceOne_eq (g : Groups) (groups : Nat) (r : List Char) :
    replaceOne g groups r = eg g (rwT groups r) := rfl

theorem replaceOneSpec_eq (g : Groups) (groups : Nat) (r : List Char) :
    replaceOneSpec g groups r = es g groups r := rfl

/-! ## `rewrite` -/

/-- the body of `rewrite`, the recursive calls handed to `k` -/
def rewriteF (groups : Nat) (t : List Char) (k : List Char → List Char) : List Char :=
  match t with
  | [] => []
  | c :: t =>
    if c != '$' then c :: k t
    else match t with
      | '$' :: t' => '$' :: '$' :: k t'
      | _ =>
        if refLen groups t > 0 then
          ('$' :: '{' :: t.take (refLen groups t)) ++ '}' :: k (t.drop (refLen groups t))
        else '$' :: k t

theorem rewrite_guarded (groups : Nat) : Guarded (rewrite groups) (rewriteF groups) where
  step f t := by cases t <;> rfl
  zero _ := rfl
  guard t k k' h := by
    unfold rewriteF
    split
    · rfl
    · rename_i c t
      have ht := h t (Nat.lt_succ_self _)
      split
      · rw [ht]
      · split
        · rw [h _ (by simp only [List.length_cons]; omega)]
        · rw [ht, h (t.drop (refLen groups t)) (by simp only [List.length_cons, List.length_drop]; omega)]

theorem rwT_fix (groups : Nat) (t : List Char) : rwT groups t = rewriteF groups t (rwT groups) :=
  (rewrite_guarded groups).fix t

theorem rwT_nil (groups : Nat) : rwT groups [] = [] := rfl

theorem rwT_cons_ne (groups : Nat) {c : Char} (t : List Char) (h : c ≠ '$') :
    rwT groups (c :: t) = c :: rwT groups t := by
  rw [rwT_fix]
  unfold rewriteF
  exact if_pos (bne_iff_ne.2 h)

theorem rwT_dd (groups : Nat) (t : List Char) :
    rwT groups ('$' :: '$' :: t) = '$' :: '$' :: rwT groups t := by
  rw [rwT_fix]
  rfl

theorem rwT_dollar (groups : Nat) {t : List Char} (h : NoDollarHead t) :
    rwT groups ('$' :: t) =
      if refLen groups t > 0 then
        '$' :: '{' :: (t.take (refLen groups t) ++ '}' :: rwT groups (t.drop (refLen groups t)))
      else '$' :: rwT groups t := by
  rw [rwT_fix]
  unfold rewriteF
  simp only [bne_self_eq_false, Bool.false_eq_true, if_false]
  split
  · exact False.elim h
  · rfl

/-- `rwT` keeps the first character -/
theorem rwT_cons_head (groups : Nat) (c : Char) (t : List Char) : ∃ u, rwT groups (c :: t) = c :: u := by
  by_cases hc : c = '$'
  · subst hc
    match t with
    | [] => exact ⟨_, by rw [rwT_dollar _ noDollarHead_nil]; simp [refLen_nil]; rfl⟩
    | d :: t' =>
      by_cases hd : d = '$'
      · subst hd; exact ⟨_, rwT_dd groups t'⟩
      · rw [rwT_dollar _ (noDollarHead_cons hd)]
        split
        · exact ⟨_, rfl⟩
        · exact ⟨_, rfl⟩
  · exact ⟨_, rwT_cons_ne groups t hc⟩

theorem rwT_noDollarHead (groups : Nat) {t : List Char} (h : NoDollarHead t) : NoDollarHead (rwT groups t) := by
  match t with
  | [] => exact noDollarHead_nil
  | c :: t' =>
    have hc := noDollarHead_cons_iff.mp h
    rw [rwT_cons_ne _ _ hc]
    exact noDollarHead_cons hc

theorem rwT_takeWhile (groups : Nat) (p : Char → Bool) (hp : p '$' = false) (t : List Char) :
    (rwT groups t).takeWhile p = t.takeWhile p ∧ (rwT groups t).dropWhile p = rwT groups (t.dropWhile p) := by
  induction t with
  | nil => simp [rwT_nil]
  | cons c t ih =>
    cases hc : p c
    · obtain ⟨u, hu⟩ := rwT_cons_head groups c t
      constructor
      · rw [hu]; simp [hc]
      · rw [List.dropWhile_cons_of_neg (by simp [hc]), hu, List.dropWhile_cons_of_neg (by simp [hc])]
    · have hne : c ≠ '$' := by intro h; subst h; simp [hp] at hc
      rw [rwT_cons_ne _ _ hne]
      simp [hc, ih.1, ih.2]

/-! ## `expandGo` -/

/-- the body of `expandGo`; a character other than `$` is copied without spending fuel (`span`) -/
def expandGoF (g : Groups) (t : List Char) (k : List Char → List Char) : List Char :=
  match t.span (· != '$') with
  | (_, []) => t
  | (before, _ :: after) =>
    match after with
    | '$' :: after' => before ++ '$' :: k after'
    | _ =>
      match extract after with
      | none => before ++ '$' :: k after
      | some (name, num, rest) => before ++ groupText g name num ++ k rest

theorem expandGo_guarded (g : Groups) : Guarded (expandGo g) (expandGoF g) where
  step f t := rfl
  zero _ := rfl
  guard t k k' h := by
    unfold expandGoF
    split
    · rfl
    · rename_i before x after heq
      -- what follows the first `$` is shorter than the template
      have hlen : after.length < t.length := by
        rw [span_eq, Prod.mk.injEq] at heq
        have := length_dropWhile_le (· != '$') t
        rw [heq.2, List.length_cons] at this
        omega
      split
      · rw [h _ (by simp only [List.length_cons] at hlen; omega)]
      · split
        · rw [h _ hlen]
        · rename_i heq'
          have := extract_rest_le heq'
          rw [h _ (by omega)]

theorem eg_fix (g : Groups) (t : List Char) : eg g t = expandGoF g t (eg g) :=
  (expandGo_guarded g).fix t

theorem eg_nil (g : Groups) : eg g [] = [] := rfl

theorem eg_cons_ne (g : Groups) {c : Char} (t : List Char) (h : c ≠ '$') :
    eg g (c :: t) = c :: eg g t := by
  have hc : (c != '$') = true := bne_iff_ne.2 h
  -- both sides are one application of the body: `c` joins the text before the first `$`
  rw [eg_fix, eg_fix g t]
  unfold expandGoF
  simp only [span_eq, List.takeWhile_cons, List.dropWhile_cons, hc, if_true]
  cases t.dropWhile (· != '$') with
  | nil => rfl
  | cons x after =>
    dsimp only
    split
    · rfl
    · split <;> rfl

theorem eg_dd (g : Groups) (t : List Char) : eg g ('$' :: '$' :: t) = '$' :: eg g t := by
  rw [eg_fix]
  rfl

theorem eg_dollar (g : Groups) {t : List Char} (h : NoDollarHead t) :
    eg g ('$' :: t) =
      match extract t with
      | none => '$' :: eg g t
      | some (name, num, rest) => groupText g name num ++ eg g rest := by
  rw [eg_fix]
  unfold expandGoF
  simp only [span_eq, List.takeWhile_cons, List.dropWhile_cons, bne_self_eq_false, Bool.false_eq_true, if_false]
  split
  · exact False.elim h
  · rfl

/-! ## `expandSpec` -/

/-- the body of `expandSpec` -/
def expandSpecF (g : Groups) (groups : Nat) (t : List Char) (k : List Char → List Char) : List Char :=
  match t with
  | [] => []
  | c :: t =>
    if c != '$' then c :: k t
    else match t with
      | '$' :: t' => '$' :: k t'
      | _ =>
        match longestRef groups (t.takeWhile isDigitCh) with
        | some p => ((g.texts.getD (numVal p) none).getD []) ++ k (t.drop p.length)
        | none =>
          match extract t with
          | none => '$' :: k t
          | some (name, num, rest) => groupText g name num ++ k rest

theorem expandSpec_guarded (g : Groups) (groups : Nat) : Guarded (expandSpec g groups) (expandSpecF g groups) where
  step f t := by cases t <;> rfl
  zero _ := rfl
  guard t k k' h := by
    unfold expandSpecF
    split
    · rfl
    · rename_i c t
      have ht := h t (Nat.lt_succ_self _)
      split
      · rw [ht]
      · split
        · rw [h _ (by simp only [List.length_cons]; omega)]
        · split
          · rw [h _ (by simp only [List.length_cons, List.length_drop]; omega)]
          · split
            · rw [ht]
            · rename_i heq
              have := extract_rest_le heq
              rw [h _ (by simp only [List.length_cons]; omega)]

theorem expandSpecF_cons_ne (g : Groups) (groups : Nat) {c : Char} (t : List Char) (h : c ≠ '$')
    (k : List Char → List Char) : expandSpecF g groups (c :: t) k = c :: k t := by
  unfold expandSpecF
  exact if_pos (bne_iff_ne.2 h)

theorem expandSpecF_dollar (g : Groups) (groups : Nat) {t : List Char} (h : NoDollarHead t)
    (k : List Char → List Char) :
    expandSpecF g groups ('$' :: t) k =
      match longestRef groups (t.takeWhile isDigitCh) with
      | some p => ((g.texts.getD (numVal p) none).getD []) ++ k (t.drop p.length)
      | none =>
        match extract t with
        | none => '$' :: k t
        | some (name, num, rest) => groupText g name num ++ k rest := by
  unfold expandSpecF
  simp only [bne_self_eq_false, Bool.false_eq_true, if_false]
  split
  · exact False.elim h
  · rfl

theorem es_fix (g : Groups) (groups : Nat) (t : List Char) : es g groups t = expandSpecF g groups t (es g groups) :=
  (expandSpec_guarded g groups).fix t

theorem es_nil (g : Groups) (groups : Nat) : es g groups [] = [] := rfl

theorem es_dollar (g : Groups) (groups : Nat) {t : List Char} (h : NoDollarHead t) :
    es g groups ('$' :: t) =
      match longestRef groups (t.takeWhile isDigitCh) with
      | some p => ((g.texts.getD (numVal p) none).getD []) ++ es g groups (t.drop p.length)
      | none =>
        match extract t with
        | none => '$' :: es g groups t
        | some (name, num, rest) => groupText g name num ++ es g groups rest := by
  rw [es_fix]
  exact expandSpecF_dollar g groups h _

/-! ## `extract` sees through `xpathReplacement` -/

theorem extract_rwT (groups : Nat) {t : List Char} (h : NoDollarHead t) :
    extract (rwT groups t) =
      match extract t with
      | none => none
      | some (name, num, rest) => some (name, num, rwT groups rest) := by
  have hp : isNameCh '$' = false := by decide
  match t with
  | [] => rfl
  | c :: t' =>
    have hc := noDollarHead_cons_iff.mp h
    by_cases hb : c = '{'
    · subst hb
      obtain ⟨h1, h2⟩ := rwT_takeWhile groups isNameCh hp t'
      rw [rwT_cons_ne _ _ hc, extract_brace, extract_brace, h1, h2]
      split
      · rfl
      · match hd : t'.dropWhile isNameCh with
        | [] => simp [rwT_nil, closeBrace_nil]
        | d :: rest =>
          by_cases hdb : d = '}'
          · subst hdb
            rw [rwT_cons_ne _ _ (by decide), closeBrace_brace, closeBrace_brace]
          · obtain ⟨u, hu⟩ := rwT_cons_head groups d rest
            rw [hu, closeBrace_other _ _ hdb, closeBrace_other _ _ hdb]
    · obtain ⟨h1, h2⟩ := rwT_takeWhile groups isNameCh hp (c :: t')
      have e := rwT_cons_ne groups t' hc
      rw [e, extract_nobrace _ hb, ← e, h1, h2, extract_nobrace _ hb]
      split <;> rfl

end XPathV.Lemmas.TemplateSem
