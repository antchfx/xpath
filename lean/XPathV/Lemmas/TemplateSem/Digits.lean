import XPathV.Lemmas.TemplateSem.Basic
/-!
# C16, part 2: the digit loop of `xpathReplacement` computes the longest reference; Go's number parser
-/
namespace XPathV.Lemmas.TemplateSem
open XPathV.Model.Template XPathV.Spec.Template

/-- one step of reading a decimal numeral -/
def dstep (n : Nat) (c : Char) : Nat := n * 10 + digitVal c

theorem numVal_eq (ds : List Char) : numVal ds = ds.foldl dstep 0 := rfl

theorem foldl_dstep_ge (l : List Char) (n : Nat) : n ≤ l.foldl dstep n := by
  induction l generalizing n with
  | nil => simp
  | cons c l ih =>
    simp only [List.foldl_cons]
    have := ih (dstep n c)
    unfold dstep at this ⊢
    omega

/-! ## `scanRef` -/

theorem scanRef_taken (groups : Nat) (t : List Char) (n taken : Nat) :
    scanRef groups t n taken = taken + scanRef groups t n 0 := by
  induction t generalizing n taken with
  | nil => simp [scanRef]
  | cons c t ih =>
    simp only [scanRef]
    split
    · rfl
    · split
      · rfl
      · rw [ih _ (taken + 1), ih _ (0 + 1)]; omega

theorem scanRef_cons_digit (groups : Nat) {c : Char} (t : List Char) (n : Nat) (hc : isDigitCh c = true) :
    scanRef groups (c :: t) n 0 =
      if dstep n c > groups then 0 else 1 + scanRef groups t (dstep n c) 0 := by
  unfold dstep
  by_cases h : n * 10 + digitVal c > groups
  · simp [scanRef, hc, h]
  · rw [scanRef]
    simp only [hc, Bool.not_true, Bool.false_eq_true, if_false, h]
    rw [scanRef_taken]

theorem scanRef_cons_nondigit (groups : Nat) {c : Char} (t : List Char) (n : Nat) (hc : isDigitCh c = false) :
    scanRef groups (c :: t) n 0 = 0 := by
  simp [scanRef, hc]

theorem scanRef_le (groups : Nat) (t : List Char) (n : Nat) :
    scanRef groups t n 0 ≤ (t.takeWhile isDigitCh).length := by
  induction t generalizing n with
  | nil => simp [scanRef]
  | cons c t ih =>
    cases hc : isDigitCh c
    · rw [scanRef_cons_nondigit _ _ _ hc]; omega
    · rw [scanRef_cons_digit _ _ _ hc]
      simp only [List.takeWhile_cons, hc, if_true, List.length_cons]
      split
      · omega
      · have := ih (dstep n c); omega

theorem scanRef_val (groups : Nat) (t : List Char) (n : Nat) (hn : n ≤ groups) :
    (t.take (scanRef groups t n 0)).foldl dstep n ≤ groups := by
  induction t generalizing n with
  | nil => simpa [scanRef] using hn
  | cons c t ih =>
    cases hc : isDigitCh c
    · rw [scanRef_cons_nondigit _ _ _ hc]; simpa using hn
    · rw [scanRef_cons_digit _ _ _ hc]
      split
      · simpa using hn
      · rename_i h
        rw [Nat.add_comm 1, List.take_succ_cons, List.foldl_cons]
        exact ih (dstep n c) (by omega)

theorem scanRef_above (groups : Nat) (t : List Char) (n m : Nat)
    (hm : scanRef groups t n 0 < m) (hml : m ≤ (t.takeWhile isDigitCh).length) :
    groups < (t.take m).foldl dstep n := by
  induction t generalizing n m with
  | nil => simp at hml; omega
  | cons c t ih =>
    cases hc : isDigitCh c
    · simp [hc] at hml; omega
    · rw [scanRef_cons_digit _ _ _ hc] at hm
      simp only [List.takeWhile_cons, hc, if_true, List.length_cons] at hml
      match m, hm, hml with
      | m + 1, hm, hml =>
        rw [List.take_succ_cons, List.foldl_cons]
        split at hm
        · rename_i h
          have := foldl_dstep_ge (t.take m) (dstep n c)
          omega
        · exact ih (dstep n c) m (by omega) (by omega)

/-! ## prefixes of `takeWhile` -/

theorem take_takeWhile {α} (p : α → Bool) (t : List α) (m : Nat) (h : m ≤ (t.takeWhile p).length) :
    (t.takeWhile p).take m = t.take m := by
  induction t generalizing m with
  | nil => simp
  | cons c t ih =>
    match m with
    | 0 => simp
    | m + 1 =>
      cases hc : p c
      · simp [hc] at h
      · simp only [List.takeWhile_cons, hc, if_true, List.length_cons] at h ⊢
        rw [List.take_succ_cons, List.take_succ_cons, ih m (by omega)]

theorem take_all_of_le_takeWhile {α} (p : α → Bool) (t : List α) (m : Nat)
    (h : m ≤ (t.takeWhile p).length) : ∀ a ∈ t.take m, p a = true := by
  intro a ha
  rw [← take_takeWhile p t m h] at ha
  exact List.all_eq_true.mp List.all_takeWhile a (List.mem_of_mem_take ha)

/-! ## the search of `longestRef` -/

theorem find_range_succ {α} (f : Nat → α) (P : α → Bool) (n : Nat) :
    ((List.range (n + 1)).reverse.map f).find? P =
      if P (f n) then some (f n) else ((List.range n).reverse.map f).find? P := by
  rw [List.range_succ, List.reverse_append]
  simp only [List.reverse_cons, List.reverse_nil, List.nil_append, List.cons_append, List.map_cons,
    List.find?_cons]
  cases P (f n) <;> simp

/-- `longestRef`'s search downwards from any length `n` not below what `scanRef` counts finds the
prefix of that many digits (nothing when it counts 0) -/
theorem longestRef_search (groups : Nat) (ds : List Char) (hall : ∀ c ∈ ds, isDigitCh c = true) :
    ∀ n, scanRef groups ds 0 0 ≤ n → n ≤ ds.length →
      ((List.range (n + 1)).reverse.map ds.take).find? (fun p => !p.isEmpty && numVal p ≤ groups) =
        if scanRef groups ds 0 0 > 0 then some (ds.take (scanRef groups ds 0 0)) else none := by
  have htw : ds.takeWhile isDigitCh = ds := by
    have := @List.takeWhile_append_of_pos _ isDigitCh ds [] hall
    simpa using this
  intro n
  induction n with
  | zero =>
    intro h0 _
    have : scanRef groups ds 0 0 = 0 := by omega
    rw [this, find_range_succ]
    simp
  | succ n ih =>
    intro hk hn
    rw [find_range_succ]
    by_cases hkn : scanRef groups ds 0 0 = n + 1
    · have hv := scanRef_val groups ds 0 (Nat.zero_le _)
      rw [hkn] at hv
      have hne : (ds.take (n + 1)).isEmpty = false := by
        match ds, hn with
        | c :: ds', _ => simp
      rw [hkn]
      simp [hne, numVal_eq, hv]
    · have hab := scanRef_above groups ds 0 (n + 1) (by omega) (by rw [htw]; exact hn)
      have hf : (!(ds.take (n + 1)).isEmpty && decide (numVal (ds.take (n + 1)) ≤ groups)) = false := by
        rw [numVal_eq]
        simp only [Bool.and_eq_false_imp, decide_eq_false_iff_not]
        intro _; omega
      rw [hf]
      simp only [Bool.false_eq_true, if_false]
      exact ih (by omega) (by omega)

theorem refLen_eq_scan {groups : Nat} {c : Char} {t : List Char} (h0 : c ≠ '0') :
    refLen groups (c :: t) = scanRef groups (c :: t) 0 0 := by
  unfold refLen
  split
  · rename_i heq; cases heq; exact absurd rfl h0
  · rfl

theorem refLen_zero_head (groups : Nat) (t : List Char) : refLen groups ('0' :: t) = 0 := rfl

theorem refLen_nil (groups : Nat) : refLen groups [] = 0 := rfl

theorem refLen_nondigit (groups : Nat) {c : Char} (t : List Char) (hc : isDigitCh c = false) :
    refLen groups (c :: t) = 0 := by
  have h0 : c ≠ '0' := by intro h; subst h; simp [isDigitCh] at hc
  rw [refLen_eq_scan h0, scanRef_cons_nondigit _ _ _ hc]

theorem scanRef_takeWhile (groups : Nat) (t : List Char) (n : Nat) :
    scanRef groups (t.takeWhile isDigitCh) n 0 = scanRef groups t n 0 := by
  induction t generalizing n with
  | nil => rfl
  | cons c t ih =>
    cases hc : isDigitCh c
    · simp [hc, scanRef]
    · simp only [List.takeWhile_cons, hc, if_true]
      rw [scanRef_cons_digit _ _ _ hc, scanRef_cons_digit _ _ _ hc, ih]

theorem refLen_le (groups : Nat) (t : List Char) : refLen groups t ≤ (t.takeWhile isDigitCh).length := by
  unfold refLen
  split
  · omega
  · exact scanRef_le groups t 0

/-- **the inner loop of `xpathReplacement` computes the specification's longest reference** -/
theorem longestRef_eq (groups : Nat) (t : List Char) :
    longestRef groups (t.takeWhile isDigitCh) =
      if refLen groups t > 0 then some (t.take (refLen groups t)) else none := by
  match t with
  | [] => simp [longestRef, refLen_nil]
  | c :: t' =>
    cases hc : isDigitCh c
    · rw [refLen_nondigit _ _ hc]
      simp [hc, longestRef]
    · by_cases h0 : c = '0'
      · subst h0
        simp [longestRef, refLen_zero_head, isDigitCh]
      · have hds : (c :: t').takeWhile isDigitCh = c :: t'.takeWhile isDigitCh := by
          simp [hc]
        have hall : ∀ a ∈ (c :: t').takeWhile isDigitCh, isDigitCh a = true :=
          fun a ha => List.all_eq_true.mp List.all_takeWhile a ha
        have hs := longestRef_search groups _ hall ((c :: t').takeWhile isDigitCh).length
          (by rw [scanRef_takeWhile]; exact scanRef_le groups _ 0) (Nat.le_refl _)
        rw [scanRef_takeWhile] at hs
        rw [refLen_eq_scan h0]
        have hl : longestRef groups ((c :: t').takeWhile isDigitCh) =
            ((List.range (((c :: t').takeWhile isDigitCh).length + 1)).reverse.map
              ((c :: t').takeWhile isDigitCh).take).find? (fun p => !p.isEmpty && numVal p ≤ groups) := by
          rw [hds]
          unfold longestRef
          split
          · rename_i heq; cases heq
          · rename_i heq; cases heq; exact absurd rfl h0
          · rfl
        rw [hl, hs]
        split
        · rw [take_takeWhile _ _ _ (scanRef_le groups _ 0)]
        · rfl

/-! ## Go's number parser on a numeral -/

theorem parseNumLoop_digits (ds : List Char) (n : Nat) (hall : ∀ c ∈ ds, isDigitCh c = true)
    (hv : ds.foldl dstep n < 100000000) : parseNumLoop ds n = some (ds.foldl dstep n) := by
  induction ds generalizing n with
  | nil => rfl
  | cons c ds ih =>
    have hc : isDigitCh c = true := hall c (by simp)
    have hge := foldl_dstep_ge ds (dstep n c)
    simp only [List.foldl_cons] at hv ⊢
    have hn' : n ≤ dstep n c := by unfold dstep; omega
    have hn : ¬ n ≥ 100000000 := by omega
    simp only [parseNumLoop, hc, Bool.not_true, Bool.false_or, decide_eq_true_eq, hn, if_false]
    exact ih (dstep n c) (fun a ha => hall a (by simp [ha])) hv

theorem parseNum_digits {c : Char} {ds : List Char} (h0 : c ≠ '0')
    (hall : ∀ a ∈ c :: ds, isDigitCh a = true) (hv : numVal (c :: ds) < 100000000) :
    parseNum (c :: ds) = some (numVal (c :: ds)) := by
  unfold parseNum
  split
  · rename_i heq; cases heq; exact absurd rfl h0
  · exact parseNumLoop_digits _ 0 hall hv

/-! ## `extract` on a braced numeral -/

theorem isNameCh_of_digit {c : Char} (h : isDigitCh c = true) : isNameCh c = true := by
  simp only [isDigitCh, Bool.and_eq_true, decide_eq_true_eq] at h
  simp only [isNameCh, Char.isAlphanum, Char.isDigit, Bool.or_eq_true, Bool.and_eq_true, decide_eq_true_eq]
  left; right
  exact h

theorem extract_braced {ds : List Char} (rest : List Char) (hne : ds ≠ [])
    (hall : ∀ a ∈ ds, isDigitCh a = true) :
    extract ('{' :: (ds ++ '}' :: rest)) = some (ds, parseNum ds, rest) := by
  have hall' : ∀ a ∈ ds, isNameCh a = true := fun a ha => isNameCh_of_digit (hall a ha)
  have hb : isNameCh '}' = false := by decide
  rw [extract_brace, List.takeWhile_append_of_pos hall', List.dropWhile_append_of_pos hall']
  simp [hb, hne, closeBrace_brace]

end XPathV.Lemmas.TemplateSem
