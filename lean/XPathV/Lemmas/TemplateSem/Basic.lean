import XPathV.Spec.Template
/-!
# C16, part 1: the shapes a template can have

What `extract` returns by the shape of its argument (and that the rest it returns is no longer than the
argument), `span` as `takeWhile`/`dropWhile`, the case distinction "`$` first or not", and `refLen`, the inner
loop of `xpathReplacement` under a name.  Nothing here recurses over the template.
-/
namespace XPathV.Lemmas.TemplateSem
open XPathV.Model.Template XPathV.Spec.Template

/-- the template does not start with `$` -/
def NoDollarHead : List Char → Prop
  | '$' :: _ => False
  | _ => True

theorem noDollarHead_nil : NoDollarHead [] := by simp [NoDollarHead]

theorem noDollarHead_cons {c : Char} {t : List Char} (h : c ≠ '$') : NoDollarHead (c :: t) := by
  unfold NoDollarHead
  split
  · rename_i heq; cases heq; exact h rfl
  · trivial

theorem noDollarHead_cons_iff {c : Char} {t : List Char} : NoDollarHead (c :: t) ↔ c ≠ '$' := by
  constructor
  · intro h hc; subst hc; simp [NoDollarHead] at h
  · exact noDollarHead_cons

theorem dollar_or (t : List Char) : (∃ t', t = '$' :: t') ∨ NoDollarHead t := by
  match t with
  | [] => exact .inr noDollarHead_nil
  | c :: t' =>
    by_cases hc : c = '$'
    · exact .inl ⟨t', by rw [hc]⟩
    · exact .inr (noDollarHead_cons hc)

/-- the inner loop's result as used by `rewrite`: number of digits of the reference (0 = no reference).
Its equations (`refLen_nil`, `refLen_zero_head`, `refLen_eq_scan`, `refLen_nondigit`, `refLen_le`) are
in `Digits`, after the lemmas on `scanRef` they need; what a positive `refLen` means for `extract`
(`refLen_take_*`) is at the head of `TemplateSem.lean` -/
def refLen (groups : Nat) (t : List Char) : Nat :=
  match t with
  | '0' :: _ => 0
  | _ => scanRef groups t 0 0

/-! ## `span` -/

theorem span_loop_eq {α} (p : α → Bool) (as acc : List α) :
    List.span.loop p as acc = (acc.reverse ++ as.takeWhile p, as.dropWhile p) := by
  induction as generalizing acc with
  | nil => simp [List.span.loop]
  | cons a as ih =>
    unfold List.span.loop
    cases hp : p a
    · simp [List.takeWhile, List.dropWhile, hp]
    · simp [List.takeWhile, List.dropWhile, hp, ih]

theorem span_eq {α} (p : α → Bool) (as : List α) : as.span p = (as.takeWhile p, as.dropWhile p) := by
  simp [List.span, span_loop_eq]

/-! ## `extract` by the shape of its argument -/

theorem extract_nil : extract [] = none := rfl

/-- the end of a braced reference: `}` must follow the name -/
def closeBrace (name : List Char) : List Char → Option (List Char × Option Nat × List Char)
  | '}' :: rest => some (name, parseNum name, rest)
  | _ => none

theorem closeBrace_brace (name rest : List Char) :
    closeBrace name ('}' :: rest) = some (name, parseNum name, rest) := rfl

theorem closeBrace_nil (name : List Char) : closeBrace name [] = none := rfl

theorem closeBrace_other (name : List Char) {d : Char} (rest : List Char) (h : d ≠ '}') :
    closeBrace name (d :: rest) = none := by
  unfold closeBrace
  split
  · rename_i heq; cases heq; exact absurd rfl h
  · rfl

theorem closeBrace_some {name after nm rest : List Char} {num : Option Nat}
    (h : closeBrace name after = some (nm, num, rest)) : after = '}' :: rest := by
  unfold closeBrace at h
  split at h
  · cases h; rfl
  · cases h

theorem extract_brace (t : List Char) :
    extract ('{' :: t) =
      if (t.takeWhile isNameCh).isEmpty then none
      else closeBrace (t.takeWhile isNameCh) (t.dropWhile isNameCh) := by
  rfl

theorem extract_nobrace {c : Char} (t : List Char) (h : c ≠ '{') :
    extract (c :: t) =
      if ((c :: t).takeWhile isNameCh).isEmpty then none
      else some ((c :: t).takeWhile isNameCh, parseNum ((c :: t).takeWhile isNameCh),
                 (c :: t).dropWhile isNameCh) := by
  rw [extract.eq_def]
  simp only
  split
  · rename_i heq; cases heq; exact absurd rfl h
  · simp

theorem length_dropWhile_le {α} (p : α → Bool) (l : List α) : (l.dropWhile p).length ≤ l.length :=
  (List.dropWhile_sublist p).length_le

theorem extract_rest_le {s nm rest : List Char} {num : Option Nat}
    (h : extract s = some (nm, num, rest)) : rest.length ≤ s.length := by
  match s with
  | [] => simp [extract] at h
  | c :: t =>
    by_cases hc : c = '{'
    · subst hc
      rw [extract_brace] at h
      split at h
      · cases h
      · have heq := closeBrace_some h
        have := length_dropWhile_le isNameCh t
        rw [heq] at this
        simp only [List.length_cons] at this ⊢
        omega
    · rw [extract_nobrace t hc] at h
      split at h
      · cases h
      · cases h
        exact length_dropWhile_le isNameCh (c :: t)

end XPathV.Lemmas.TemplateSem
