import XPathV.Lemmas.Fuel
/-!
# Functions with fuel on lists whose body recurses on shorter lists only

`Guarded W Φ`: one unit of fuel is one application of the body, `W (f+1) l = Φ l (W f)`, and `Φ l` looks at
the function it is handed only on lists shorter than `l`.  This is `Model.fuel_stable` with the length as
measure.  Beyond "the fuel does not matter once it exceeds the length" (`stable`, `canon`) it says that `W` at
the fuel `l.length + 1` is *the* solution of `U l = Φ l U` (`fix`, `unique`): an equality with such a function
is proved by checking that the other side satisfies the equation, with no length carried along.
-/
namespace XPathV.Lemmas

structure Guarded {α β : Type} (W : Nat → List α → β) (Φ : List α → (List α → β) → β) : Prop where
  step : ∀ f l, W (f+1) l = Φ l (W f)
  zero : ∀ g, W 0 [] = Φ [] g
  guard : ∀ l g g', (∀ l' : List α, l'.length < l.length → g l' = g' l') → Φ l g = Φ l g'

namespace Guarded
variable {α β : Type} {W : Nat → List α → β} {Φ : List α → (List α → β) → β} (G : Guarded W Φ)
include G

theorem stable {f f' : Nat} {l : List α} (h : l.length ≤ f) (h' : l.length ≤ f') : W f l = W f' l :=
  Model.fuel_stable W Φ List.length (fun _ => True) G.step
    (fun l g _ h0 => by cases List.eq_nil_of_length_eq_zero h0; exact G.zero g)
    (fun l g g' _ h => G.guard l g g' fun l' hl => h l' trivial hl) f f' l trivial h h'

theorem canon {f : Nat} {l : List α} (h : l.length < f) : W f l = W (l.length + 1) l :=
  G.stable (by omega) (by omega)

theorem fix (l : List α) : W (l.length + 1) l = Φ l fun l' => W (l'.length + 1) l' :=
  (G.step _ l).trans (G.guard l _ _ fun _ hl => G.stable (by omega) (by omega))

/-- by induction on a bound of the length: `U` and `W` at the canonical fuel both unfold to `Φ l`, of
functions that agree below `l` -/
theorem unique {U : List α → β} (hU : ∀ l, U l = Φ l U) (l : List α) : U l = W (l.length + 1) l := by
  have : ∀ n (l : List α), l.length < n → U l = W (l.length + 1) l := by
    intro n
    induction n with
    | zero => exact fun l h => absurd h (Nat.not_lt_zero _)
    | succ n ih =>
      intro l h
      rw [hU, G.fix]
      exact G.guard l _ _ fun l' hl => ih l' (by omega)
  exact this _ l (Nat.lt_succ_self _)

end Guarded
end XPathV.Lemmas
