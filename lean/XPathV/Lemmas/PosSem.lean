import XPathV.Lemmas.PosSem.Build
import XPathV.Lemmas.PosSem.Group
import XPathV.Lemmas.PosSem.Toy
import XPathV.Lemmas.PosSem.CondBuild
/-!
# C03 — positional predicates on child steps use the XPath proximity position

Helper files under `XPathV/Lemmas/PosSem/`:

* `Position` — `position_is_proximity` (`positionM` = 1 + earlier candidates of the same parent,
               `lastM` = number of candidates), `positionM_split`, `lastM_child`
* `Forms`    — `PosForm` / `PosPred` (the positional predicate forms), their parse tree `ast`, plan
               `plan fi`, verdicts `specKeep` (oracle) / `modelKeep` (engine) / `natKeep` (natural
               numbers); side conditions `LitIsNat`, `NatEmb`, `NumOK`; `Agree`, `agree_of_numOK`
* `Filter`   — `keepIdxR` / `keepIdx`, `sel_filter_dec` (engine), `condTruth`, `filterPos_cond` (oracle)
* `Cond`     — first predicates that look at the node and at its position: `CondDec` (the plan
               decides at every candidate what the oracle decides), `CondOK`, `keepOfC`,
               `CondStepOK`, `.mem_iff`, `.pathOK`, `condStep_built` (plain and merge form over any
               agreeing input plan)
* `Step`     — the positional forms as such conditions: `form_condDec`, `keepOf`, `PosStepOK`,
               `posStep_built`, `PosStepOK.pathOK`, `.mem_iff`, `.mem_iff_nat`
* `Stack`    — `stackAst`, `stackPlan`, `stack_sem`, `PosChainOK` (boolean predicates on top)
* `Build`    — inversion of `build` (`build_child_step_inv`, `build_form_inv`),
               `build_condStep_of`, `build_posStep_of`, `build_posChain` (for any input path with
               `InputOK`)
* `Group`    — `(P)[n]`: `sel_group_lit`, `group_lit_core`, `build_group_lit_inv`, `paren_desc_nth`
* `Toy`      — `toy_numOK`: the side conditions `NumOK` are satisfiable (exact integer arithmetic)
* `PredInput` — the builder's `predInput`: `build_predInput` (threaded unchanged), `posBound`,
               `build_posBound`, `build_position_fi_is_filtered_step` (every `position()` / `last()` of
               a predicate's condition counts in the filtered step, whatever steps come before it)
* `CondBuild` — the fragments `PosCond` ⊆ `PosCond2` (comparisons of `position()` / `last()` /
               literals / paths, boolean predicates of C02, `and` / `or` / `not`), `build_posCond2`,
               `build_condStep3`, `MixShape`, `condTruth_mix`

This file: the end-to-end statements (`Theorems/C03.lean` wraps them; `Audit/C03.lean` prints the
axioms of the wrappers).

Standing assumptions as for C01/C02: `WF d`, `cfg.nsIface = true`, `HashInj d cfg`; the builder runs
with the `//name` shortcut guarded by the node test and `smartDescThroughFilter = false` (the values
read off the source).  Numbers: `NumAlg` is abstract, so the agreement of the engine's reading of a
numeric predicate value (`int(x) == position`) with the oracle's (`x = position`) is the hypothesis
`PosForm.Agree F f d.length` — it holds unconditionally for `position() op n` and
`position() = last()` (`agree_posCmp`, `agree_posEqLast`) and follows from `LitIsNat` / `NatEmb`
for the other forms (`agree_of_numOK`).
-/
namespace XPathV.PosSem
open XPathV XPathV.Model XPathV.PathSem XPathV.PredSem NumAlg

variable {F : Type} [NumAlg F]

/-! ## naive plans -/

section Naive
variable {d : Doc} (wf : WF d) (cfg : ECfg) (hns : cfg.nsIface = true) (hinj : HashInj d cfg)
include wf hns hinj

/-- **C03, naive plan, any number of parents**: for a path `q` of the fragment `Frag true` (in
particular every predicate-free path, `PathPF`), the step `child::a` and a positional predicate `f`,
the un-rewritten plan `.filter (.child a (predPlan q)) P` — with `P` the predicate plan whose
`firstInput` is the child plan — yields for each node of `q` in turn the candidates whose proximity
position satisfies `f`; the oracle's node set of `q/child::a[f]` consists of the same nodes -/
theorem C03_naive (a : AxisInfo) (ha : a.axis = "child") (q : Ast) (hq : Frag true q)
    (f : PosForm) (hag : f.Agree F d.length) (c : Ref) (hc : validRef d c = true) :
    PosStepOK F d cfg a f
      (.filter (.child a (predPlan q)) (f.plan (.child a (predPlan q)))) (predPlan q) q ⟨c, 1, 1⟩ :=
  posStep_built (F := F) wf cfg hns a ha f _ rfl hag _ _ (predPlan q) (.inl rfl) (.inl rfl) q ⟨c, 1, 1⟩
    ((frag_sem (F := F) wf cfg hns hinj true q hq ⟨c, 1, 1⟩ hc).1 rfl)

/-- the same for a predicate-free path, with `naivePlan` -/
theorem C03_naive_pathPF (a : AxisInfo) (ha : a.axis = "child") (q : Ast) (hq : PathPF q)
    (f : PosForm) (hag : f.Agree F d.length) (c : Ref) (hc : validRef d c = true) :
    PosStepOK F d cfg a f
      (.filter (.child a (naivePlan q)) (f.plan (.child a (naivePlan q)))) (naivePlan q) q ⟨c, 1, 1⟩ := by
  have := C03_naive (F := F) wf cfg hns hinj a ha q (frag_of_pathPF q hq) f hag c hc
  rwa [predPlan_pathPF q hq] at this

/-- the merge form over the naive input plan -/
theorem C03_naive_merge (a : AxisInfo) (ha : a.axis = "child") (q : Ast) (hq : Frag true q)
    (f : PosForm) (fi : Plan) (hfi : planTest d cfg fi = nodeTestM d cfg a)
    (hag : f.Agree F d.length) (c : Ref) (hc : validRef d c = true) :
    PosStepOK F d cfg a f
      (.merge (predPlan q) (.filter (.child a .context) (f.plan fi))) (predPlan q) q ⟨c, 1, 1⟩ :=
  posStep_built (F := F) wf cfg hns a ha f fi hfi hag (.child a (predPlan q)) _ (predPlan q) (.inl rfl)
    (.inr ⟨_, rfl, rfl⟩) q ⟨c, 1, 1⟩ ((frag_sem (F := F) wf cfg hns hinj true q hq ⟨c, 1, 1⟩ hc).1 rfl)

/-- **C03, naive plan, followed by boolean predicates**: `q/child::a[f][b1]…[bk]` (`bs` lists the
`bi` outermost first) -/
theorem C03_naive_chain (a : AxisInfo) (ha : a.axis = "child") (q : Ast) (hq : Frag true q)
    (f : PosForm) (hag : f.Agree F d.length) (bs : List Ast) (hbs : ∀ b ∈ bs, Frag false b)
    (c : Ref) (hc : validRef d c = true) :
    PosChainOK F d cfg a f bs
      (stackPlan (.filter (.child a (predPlan q)) (f.plan (.child a (predPlan q)))) (bs.map predPlan))
      (predPlan q) q ⟨c, 1, 1⟩ :=
  posChain_of_step (C03_naive (F := F) wf cfg hns hinj a ha q hq f hag c hc) trivial _ bs
    (predsOK_map cfg predPlan bs fun b hb x hx pos size =>
      (frag_sem (F := F) wf cfg hns hinj false b (hbs b hb) ⟨x, pos, size⟩ hx).2 rfl)

end Naive

/-! ## through `build` -/

section Build
variable {d : Doc} (wf : WF d) (cfg : ECfg) (hns : cfg.nsIface = true) (hinj : HashInj d cfg)
  (regexOk : RegexOk) (limit : Nat)
include wf hns hinj

/-- **C03 for `build`**: for every well-formed document, every valid context node, every input path
`q` of the fragment `Frag true`, the step `child::a` and a positional predicate `f` (`[n]`,
`[position() op n]`, `[position() = last()]`, `[last()]`, `[last() - n]`), the plan the builder
produces for `q/child::a[f]` — the plain filter or the merge rewrite — yields exactly the XPath 1.0
node-set of the expression, and these are the candidates `x` of an input node `o` whose 1-based
position among the candidates of `o` (the children of `o` passing the node test, in document order)
satisfies the predicate; neither side fails -/
theorem C03_main (a : AxisInfo) (ha : a.axis = "child") (q : Ast) (hq : Frag true q)
    (f : PosForm) (hag : f.Agree F d.length) (st : BState) (o : BOut)
    (hb : build regexOk limit true false (.filter (.axis a q) f.ast) {} st = .ok o)
    (c : Ref) (hc : validRef d c = true) :
    ∃ out ns g origins g0, sel (F := F) d cfg o.q c = .ok out ∧
      Spec.eval (F := F) d (.filter (.axis a q) f.ast) ⟨c, 1, 1⟩ = .ok (.val (.nodes ns) g) ∧
      Spec.eval (F := F) d q ⟨c, 1, 1⟩ = .ok (.val (.nodes origins) g0) ∧
      (∀ x, x ∈ refs out ↔ x ∈ ns) ∧
      (∀ x, x ∈ ns ↔ ∃ p ∈ origins, ∃ k, (childCands d cfg a p)[k]? = some x ∧
        PosForm.specKeep F f (k + 1) (childCands d cfg a p).length = true) := by
  obtain ⟨qi, _, _, hok⟩ := build_posStep_of (F := F) wf cfg hns regexOk limit a ha q
    (input_pathOK wf cfg hns hinj regexOk limit q hq) f hag {} st o hb
  exact (hok ⟨c, 1, 1⟩ hc).mem_iff

/-- the sequence the built plan yields: for each node of the built input plan `qi` in turn (the
plan `build` makes of `q`, selecting the node set of `q`), the candidates whose proximity position
satisfies the predicate, in document order -/
theorem C03_main_seq (a : AxisInfo) (ha : a.axis = "child") (q : Ast) (hq : Frag true q)
    (f : PosForm) (hag : f.Agree F d.length) (st : BState) (o : BOut)
    (hb : build regexOk limit true false (.filter (.axis a q) f.ast) {} st = .ok o) :
    ∃ qi, ∀ c, validRef d c = true → PosStepOK F d cfg a f o.q qi q ⟨c, 1, 1⟩ := by
  obtain ⟨qi, _, _, hok⟩ := build_posStep_of (F := F) wf cfg hns regexOk limit a ha q
    (input_pathOK wf cfg hns hinj regexOk limit q hq) f hag {} st o hb
  exact ⟨qi, fun c hc => hok ⟨c, 1, 1⟩ hc⟩

/-- C03 against the top-level oracle `evalTop` -/
theorem C03_evalTop (a : AxisInfo) (ha : a.axis = "child") (q : Ast) (hq : Frag true q)
    (f : PosForm) (hag : f.Agree F d.length) (st : BState) (o : BOut)
    (hb : build regexOk limit true false (.filter (.axis a q) f.ast) {} st = .ok o)
    (c : Ref) (hc : validRef d c = true) :
    ∃ out ns, sel (F := F) d cfg o.q c = .ok out ∧
      Spec.evalTop (F := F) d (.filter (.axis a q) f.ast) c = .ok (.nodes ns) ∧
      ∀ x, x ∈ refs out ↔ x ∈ ns := by
  obtain ⟨out, ns, g, _, _, h1, h2, _, h4, _⟩ :=
    C03_main (F := F) wf cfg hns hinj regexOk limit a ha q hq f hag st o hb c hc
  refine ⟨out, ns, h1, ?_, h4⟩
  simp [Spec.evalTop, h2, bind, Except.bind, pure, Except.pure, Spec.Res.value]

/-- the sequence the built plan yields, and the packaging as `PathOK` (so that further boolean
predicates and steps go on top with the lemmas of C02) -/
theorem C03_after_steps_seq (a : AxisInfo) (ha : a.axis = "child") (q : Ast) (hq : Frag true q)
    (cond : Ast) (hcond : PosCond cond) (st : BState) (o : BOut)
    (hb : build regexOk limit true false (.filter (.axis a q) cond) {} st = .ok o) :
    ∃ qi, ∀ c, validRef d c = true →
      CondStepOK F d cfg a cond o.q qi q ⟨c, 1, 1⟩ ∧
      PathOK (F := F) d cfg o.q (.filter (.axis a q) cond) ⟨c, 1, 1⟩ := by
  obtain ⟨qi, _, hs, hok⟩ := PosSem3.build_condStep3 (F := F) wf cfg hns hinj regexOk limit a ha q
    (input_pathOK wf cfg hns hinj regexOk limit q hq) cond (PosSem3.posCond2_of_posCond _ hcond) {} st o hb
  exact ⟨qi, fun c hc => ⟨hok ⟨c, 1, 1⟩ hc, (hok ⟨c, 1, 1⟩ hc).pathOK hs⟩⟩

/-- **`[b and position() op n]`, `[position() op n and b]`, `[b or position() op n]`,
`[position() op n or b]`** with `b` a boolean predicate of the C02 fragment: the built plan selects
exactly the oracle's node set, and these are the candidates `x` of an input node `p` such that `b`
holds at `x` and (resp. or) the 1-based position of `x` among the candidates of `p` compares with
the literal -/
theorem C03_bool_with_position (a : AxisInfo) (ha : a.axis = "child") (q : Ast) (hq : Frag true q)
    (s : MixShape) (b : Ast) (hbf : Frag false b) (cop : Spec.CmpOp) (pfx lex : String)
    (st : BState) (o : BOut)
    (hb : build regexOk limit true false
      (.filter (.axis a q) (s.ast b (PosForm.posCmp cop pfx lex).ast)) {} st = .ok o)
    (c : Ref) (hc : validRef d c = true) :
    ∃ out ns g origins g0, sel (F := F) d cfg o.q c = .ok out ∧
      Spec.eval (F := F) d (.filter (.axis a q) (s.ast b (PosForm.posCmp cop pfx lex).ast)) ⟨c, 1, 1⟩ =
        .ok (.val (.nodes ns) g) ∧
      Spec.eval (F := F) d q ⟨c, 1, 1⟩ = .ok (.val (.nodes origins) g0) ∧
      (∀ x, x ∈ refs out ↔ x ∈ ns) ∧
      (∀ x, x ∈ ns ↔ ∃ p ∈ origins, ∃ k, (childCands d cfg a p)[k]? = some x ∧
        s.comb (holds (F := F) d b x)
          (Spec.cmpNum cop (ofNat (k + 1) : F) (Spec.strToNum lex)) = true) := by
  obtain ⟨qi, _, _, hok⟩ := PosSem3.build_condStep3 (F := F) wf cfg hns hinj regexOk limit a ha q
    (input_pathOK wf cfg hns hinj regexOk limit q hq) _
    (PosSem3.posCond2_of_posCond _ (posCond_mix s b _ hbf (posCond_posCmp cop pfx lex))) {} st o hb
  exact (hok ⟨c, 1, 1⟩ hc).mem_iff_mix cfg (predPlan b) fun x hx pos size =>
    (frag_sem (F := F) wf cfg hns hinj false b hbf ⟨x, pos, size⟩ hx).2 rfl

end Build

/-! ## Non-vacuity: the builder succeeds on the forms, and the merge rewrite does fire -/

section Examples

private def ch (n : String) : AxisInfo := ⟨"child", .elem, "", n, "", false, ""⟩

/-- `/a/b[2]`: merge form, the predicate is the literal -/
example : (build (fun _ => true) 100 true false
      (.filter (.axis (ch "b") (.axis (ch "a") (.root "/"))) (PosForm.lit "2").ast) {} {}).map (·.q) =
    .ok (.merge (.child (ch "a") .absolute) (.filter (.child (ch "b") .context) (.constNum "2"))) := rfl

/-- `b[position() <= 2]` from the context: plain form, `firstInput` is the child plan -/
example : (build (fun _ => true) 100 true false
      (.filter (.axis (ch "b") .none) (PosForm.posCmp .le "" "2").ast) {} {}).map (·.q) =
    .ok (.filter (.child (ch "b") .context)
      ((PosForm.posCmp .le "" "2").plan (.child (ch "b") .context))) := rfl

/-- `a/b[last()]`: merge form; `last()` keeps the recorded child plan as `firstInput` -/
example : (build (fun _ => true) 100 true false
      (.filter (.axis (ch "b") (.axis (ch "a") .none)) (PosForm.last "").ast) {} {}).map (·.q) =
    .ok (.merge (.child (ch "a") .context) (.filter (.child (ch "b") .context)
      ((PosForm.last "").plan (.child (ch "b") (.child (ch "a") .context))))) := rfl

/-- `a/b[last() - 1][c]` -/
example : ∃ o, build (fun _ => true) 100 true false
    (stackAst (.filter (.axis (ch "b") (.axis (ch "a") .none)) (PosForm.lastMinus "" "1").ast)
      [.axis (ch "c") .none]) {} {} = .ok o := ⟨_, rfl⟩

/-- `a[b and position() = 2]`: `position()` counts in the filtered step `a`,
not in the step `b` built just before it -/
example : (build (fun _ => true) 100 true false
      (.filter (.axis (ch "a") .none)
        (MixShape.andPos.ast (.axis (ch "b") .none) (PosForm.posCmp .eq "" "2").ast)) {} {}).map (·.q) =
    .ok (.filter (.child (ch "a") .context)
      (.boolean false (.child (ch "b") .context)
        ((PosForm.posCmp .eq "" "2").plan (.child (ch "a") .context)))) := rfl

/-- `a[. = last()]`: `last()` counts in `a`, not in the step `.` -/
example : (build (fun _ => true) 100 true false
      (.filter (.axis (ch "a") .none)
        (.oper "=" (.axis selfNodeAxis .none) (NumAtom.last "").ast)) {} {}).map (·.q) =
    .ok (.filter (.child (ch "a") .context)
      (.logical "=" (.self selfNodeAxis .context) (.func "last" (.child (ch "a") .context) .pnil))) := rfl

/-- `a[count(b) = position()]` (outside the semantic fragment, inside `build_posBound`) -/
example : (build (fun _ => true) 100 true false
      (.filter (.axis (ch "a") .none)
        (.oper "=" (.call "count" "" (.acons (.axis (ch "b") .none) .anil)) (.call "position" "" .anil)))
      {} {}).map (·.q) =
    .ok (.filter (.child (ch "a") .context)
      (.logical "=" (.func "count" .nil (.pcons (.child (ch "b") .context) .pnil))
        (.func "position" (.child (ch "a") .context) .pnil))) := rfl

/-- a nested predicate counts in its own step: `a[b[position() = 1] and position() = 2]` -/
example : (build (fun _ => true) 100 true false
      (.filter (.axis (ch "a") .none)
        (.oper "and" (.filter (.axis (ch "b") .none) (PosForm.posCmp .eq "" "1").ast)
          (PosForm.posCmp .eq "" "2").ast)) {} {}).map (·.q) =
    .ok (.filter (.child (ch "a") .context)
      (.boolean false
        (.filter (.child (ch "b") .context) ((PosForm.posCmp .eq "" "1").plan (.child (ch "b") .context)))
        ((PosForm.posCmp .eq "" "2").plan (.child (ch "a") .context)))) := rfl

end Examples

end XPathV.PosSem
