import XPathV.Lemmas.Pull2.Walks
/-!
# Walk lemmas for `descendantOverDescendantQuery`

* `topMost_unfold`: the top-most matching descendants of `s` are the `topOf`-expansions of its children
* `moveNext_parent`, `moveChild_parent`: siblings share the parent, the first child's parent
* `dodRest_zero`, `dodRest_succ`: the equations of `dodRest`
* `dodUp_spec`, `dodInner_spec`: the two loops of `Select` against `dodRest`
-/
namespace XPathV.Model
open XPathV

section
variable (d : Doc) (t : Ref → Bool)

/-- the top-most matching proper descendants of `s`: expand every child -/
theorem topMost_unfold (s : Ref) : topMost d t s = (childrenM d s).flatMap (topOf d t) :=
  topMost_children d t s

/-! ## parents of siblings and of the first child -/

theorem parentFrom_skip (di : Nat) : ∀ (j i : Nat), i ≤ j → (∀ k, i ≤ k → k < j → ¬ dep d k < di) →
    parentFrom d di j = parentFrom d di i
  | 0, i, h, _ => by have : i = 0 := by omega
                     subst this; rfl
  | j+1, i, h, hk => by
    by_cases hij : i = j + 1
    · subst hij; rfl
    · simp only [parentFrom]
      rw [if_neg (hk j (by omega) (by omega))]
      exact parentFrom_skip di j i (by omega) (fun k h1 h2 => hk k h1 (by omega))

theorem moveNext_parent {r n : Ref} (h : Nav.moveNext d r = some n) : Nav.moveParent d n = Nav.moveParent d r := by
  cases r with
  | attr i k => simp [Nav.moveNext] at h
  | node i =>
    simp only [Nav.moveNext] at h
    split at h
    · rename_i hc
      injection h with h; subst h
      simp only [Nav.moveParent, hc.2.2]
      rw [parentFrom_skip d (dep d i) (endOf d i) i (Nat.le_of_lt (endOf_gt d i))]
      intro k h1 h2
      rcases Nat.eq_or_lt_of_le h1 with h1 | h1
      · subst h1; omega
      · have := endOf_inside d i k h1 h2; omega
    · cases h

theorem moveChild_parent {s c : Ref} (h : Nav.moveChild d s = some c) : Nav.moveParent d c = some s := by
  cases s with
  | attr i k => simp [Nav.moveChild] at h
  | node i =>
    simp only [Nav.moveChild] at h
    split at h
    · rename_i hc
      injection h with h; subst h
      simp only [Nav.moveParent, parentFrom]
      rw [if_pos (by omega)]; rfl
    · cases h

/-! ## `dodRest` -/

theorem nextSibs_eq (c : Ref) : nextSibsM d c = sibCands d c false := by
  simp [sibCands]

theorem dodRest_zero (cn : Ref) : dodRest d t 0 cn = [] := rfl

theorem dodRest_succ (l : Nat) (cn : Ref) : dodRest d t (l+1) cn
    = (nextSibsM d cn).flatMap (topOf d t) ++
      (match Nav.moveParent d cn with
        | some p => dodRest d t l p
        | none => []) := rfl

/-- `dodRest` follows the climbing loop: if the climb finds a next node `n` (at level `l'`), what is
left is the expansion of `n` followed by what is left after `n`; if not, nothing is left -/
theorem dodRest_climb : ∀ (lv : Nat) (cn : Ref),
    match climb d (lv+1) cn with
    | some (n, l') => 1 ≤ l' ∧ dodRest d t (lv+1) cn = topOf d t n ++ dodRest d t l' n
    | none => dodRest d t (lv+1) cn = [] := by
  intro lv
  induction lv with
  | zero =>
    intro cn
    simp only [climb]
    cases hm : Nav.moveNext d cn with
    | some n =>
      simp only
      refine ⟨Nat.le_refl _, ?_⟩
      have hs : nextSibsM d cn = n :: nextSibsM d n := by
        rw [nextSibs_eq, sibCands_unfold, nextSibs_eq]; simp [hm]
      simp only [dodRest, hs, List.flatMap_cons, moveNext_parent d hm, List.append_assoc]
    | none =>
      have hs : nextSibsM d cn = [] := by
        rw [nextSibs_eq, sibCands_unfold]; simp [hm]
      cases hp : Nav.moveParent d cn <;> simp [dodRest, hs, hp]
  | succ lv ih =>
    intro cn
    rw [climb]
    cases hm : Nav.moveNext d cn with
    | some n =>
      simp only
      refine ⟨by omega, ?_⟩
      have hs : nextSibsM d cn = n :: nextSibsM d n := by
        rw [nextSibs_eq, sibCands_unfold, nextSibs_eq]; simp [hm]
      rw [dodRest_succ d t (lv+1) cn, hs, dodRest_succ d t (lv+1) n, moveNext_parent d hm]
      simp only [List.flatMap_cons, List.append_assoc]
    | none =>
      have hs : nextSibsM d cn = [] := by
        rw [nextSibs_eq, sibCands_unfold]; simp [hm]
      cases hp : Nav.moveParent d cn with
      | none =>
        simp only
        rw [dodRest_succ d t (lv+1) cn, hs, hp]; rfl
      | some p =>
        simp only
        have := ih p
        rw [dodRest_succ d t (lv+1) cn, hs, hp]
        simp only [List.flatMap_nil, List.nil_append]
        exact this

/-! ## The two loops -/

/-- `moveUpUntilNext` is the climbing loop of `descendantQuery` -/
theorem dodUp_pclimb : ∀ (lv : Nat) (cn : Ref), ∃ f0, ∀ f, f0 ≤ f →
    match pclimb d (lv+1) cn with
    | some (n, l') => dodUp d f cn (lv+1) = (.yield (n, l'), (n, l'))
    | none => ∃ cn', dodUp d f cn (lv+1) = (.done, (cn', 0)) := by
  intro lv
  induction lv with
  | zero =>
    intro cn
    refine ⟨1, fun f hf => ?_⟩
    obtain ⟨f', rfl⟩ : ∃ f', f = f' + 1 := ⟨f - 1, by omega⟩
    simp only [pclimb, dodUp]
    cases hm : Nav.moveNext d cn with
    | some n => simp
    | none => simp
  | succ lv ih =>
    intro cn
    obtain ⟨f0, h0⟩ := ih ((Nav.moveParent d cn).getD cn)
    refine ⟨f0 + 1, fun f hf => ?_⟩
    obtain ⟨f', rfl⟩ : ∃ f', f = f' + 1 := ⟨f - 1, by omega⟩
    rw [pclimb, dodUp]
    cases hm : Nav.moveNext d cn with
    | some n => simp
    | none =>
      simp only [Nat.add_sub_cancel]
      rw [if_neg (by simp)]
      exact h0 f' (by omega)

/-- `moveUpUntilNext` from `(cn, lv+1)`: either it finds a later node `n` and what is left is the
expansion of `n` and the rest after `n`, or it ends at level 0 and nothing is left -/
theorem dodUp_spec (lv : Nat) (cn : Ref) :
    (∃ f0 n l', (∀ f, f0 ≤ f → dodUp d f cn (lv+1) = (.yield (n, l'), (n, l'))) ∧ Good d n ∧ cn.idx < n.idx ∧
      1 ≤ l' ∧ dodRest d t (lv+1) cn = topOf d t n ++ dodRest d t l' n) ∨
    (∃ f0, (∀ f, f0 ≤ f → ∃ cn', dodUp d f cn (lv+1) = (.done, (cn', 0))) ∧ dodRest d t (lv+1) cn = []) := by
  obtain ⟨f0, h0⟩ := dodUp_pclimb d lv cn
  have hr := dodRest_climb d t lv cn
  rw [pclimb_eq] at h0
  cases hc : climb d (lv+1) cn with
  | none =>
    rw [hc] at hr
    exact Or.inr ⟨f0, fun f hf => by have := h0 f hf; rw [hc] at this; exact this, hr⟩
  | some nl =>
    obtain ⟨n, l'⟩ := nl
    rw [hc] at hr
    obtain ⟨h1, h2⟩ := climb_gt (lv+1) cn cn.idx (Nat.le_refl _) (fun k h1 h2 => by omega) hc
    exact Or.inl ⟨f0, n, l', fun f hf => by have := h0 f hf; rw [hc] at this; exact this, h2, h1, hr.1, hr.2⟩

/-- the inner loop from `(s, level)`: it descends along first children until a match (reported) or
a childless node -/
theorem dodInner_spec : ∀ (k : Nat) (s : Ref) (level : Nat), Good d s → d.length - s.idx ≤ k →
    ∃ f0 j l, Good d j ∧ level ≤ l ∧ s.idx ≤ j.idx ∧
      (((∀ f, f0 ≤ f → dodInner d t f s level = (.yield (), (j, l))) ∧
          topOf d t s ++ dodRest d t level s = j :: dodRest d t l j) ∨
       ((∀ f, f0 ≤ f → dodInner d t f s level = (.done, (j, l))) ∧
          topOf d t s ++ dodRest d t level s = dodRest d t l j)) := by
  intro k
  induction k with
  | zero => intro s level hg hk; simp only [Good] at hg; omega
  | succ k ih =>
    intro s level hg hk
    by_cases hts : t s = true
    · refine ⟨1, s, level, hg, Nat.le_refl _, Nat.le_refl _, Or.inl ⟨fun f hf => ?_, ?_⟩⟩
      · obtain ⟨f', rfl⟩ : ∃ f', f = f' + 1 := ⟨f - 1, by omega⟩
        simp only [dodInner, hts, if_true]
      · simp only [topOf, hts, if_true, List.singleton_append]
    · have htop : topOf d t s = (childrenM d s).flatMap (topOf d t) := by
        simp only [topOf, hts, if_false, Bool.false_eq_true, topMost_unfold]
      have hu := sibCands_unfold d s true
      simp only [sibCands, if_true] at hu
      cases hm : Nav.moveChild d s with
      | none =>
        rw [hm] at hu; simp only at hu
        refine ⟨1, s, level, hg, Nat.le_refl _, Nat.le_refl _, Or.inr ⟨fun f hf => ?_, ?_⟩⟩
        · obtain ⟨f', rfl⟩ : ∃ f', f = f' + 1 := ⟨f - 1, by omega⟩
          simp only [dodInner, hts, if_false, Bool.false_eq_true, hm]
        · rw [htop, hu]; rfl
      | some c =>
        rw [hm] at hu; simp only at hu
        have hpar := moveChild_parent d hm
        obtain ⟨i, rfl, rfl, hi⟩ := moveChild_some hm
        have hgc : Good d (.node (i+1)) := hi
        obtain ⟨f0, j, l, hgj, hl, hj, hres⟩ := ih (.node (i+1)) (level + 1) hgc (by
          simp only [Ref.idx] at hk ⊢; omega)
        have hstr : topOf d t (.node i) ++ dodRest d t level (.node i)
            = topOf d t (.node (i+1)) ++ dodRest d t (level + 1) (.node (i+1)) := by
          rw [htop, hu, dodRest_succ d t level (.node (i+1)), hpar]
          simp only [List.flatMap_cons, List.append_assoc, Bool.false_eq_true, if_false]
        refine ⟨f0 + 1, j, l, hgj, by omega, by simp only [Ref.idx] at hj ⊢; omega, ?_⟩
        rcases hres with ⟨h1, h2⟩ | ⟨h1, h2⟩
        · refine Or.inl ⟨fun f hf => ?_, by rw [hstr]; exact h2⟩
          obtain ⟨f', rfl⟩ : ∃ f', f = f' + 1 := ⟨f - 1, by omega⟩
          simp only [dodInner, hts, if_false, Bool.false_eq_true, hm]
          exact h1 f' (by omega)
        · refine Or.inr ⟨fun f hf => ?_, by rw [hstr]; exact h2⟩
          obtain ⟨f', rfl⟩ : ∃ f', f = f' + 1 := ⟨f - 1, by omega⟩
          simp only [dodInner, hts, if_false, Bool.false_eq_true, hm]
          exact h1 f' (by omega)

end

end XPathV.Model
