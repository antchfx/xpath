import XPathV.Lemmas.Pull2.Spec
/-! # Structural laws of the extended pull machine: `Cons → Inv`, independence of `t.Current()`,
`Evaluate`/`Clone` facts -/
namespace XPathV.Model
open XPathV

section
variable (d : Doc) (cfg : ECfg) (dec : Plan → Ref → Bool)

theorem PQ2.cons_inv : ∀ q : PQ2, q.Cons d → q.Inv d := by
  intro q
  induction q with
  | context c => intro _; trivial
  | absolute c => intro _; trivial
  | self a inp ih | parent a inp ih | filter inp pred pos pm ih | group inp pos ih =>
    intro h; exact ih h
  | child a inp it pos ih | cachedChild a inp it pos ih | attr a inp it ih | descendant a s inp it pos level ih
  | ancestor a s inp it tb ih | merge inp ch it ih _ =>
    intro h; exact Or.inr h
  | following a sib inp it pos ih | preceding a sib inp it pos ih =>
    intro h; exact Or.inr ⟨h.1, fun n q hq => ⟨(h.2 n q hq).1, Or.inl (h.2 n q hq).2⟩⟩
  | union l r it _ _ => intro h; exact Or.inr h
  | descOverDesc a ms inp level pos cn ih => intro h; exact Or.inr h

theorem rem_innerOK {q : PQ} (h : innerOK d (some q)) (c c' : Ref) : rem d cfg c q = rem d cfg c' q := by
  obtain ⟨a, s, n, it, p, l, rfl, hn, _⟩ := h
  simp only [rem, hn, if_true]

theorem rem2_cons_indep : ∀ q : PQ2, q.Cons d → ∀ c c', rem2 d cfg dec c q = rem2 d cfg dec c' q := by
  intro q
  induction q with
  | context n => intro h c c'; simp only [PQ2.Cons] at h; simp only [rem2, h, if_true]
  | absolute n => intro h c c'; rfl
  | self a inp ih | parent a inp ih | filter inp pred pos pm ih | group inp pos ih =>
    intro h c c'; simp only [rem2, ih h c c']
  | child a inp it pos ih | cachedChild a inp it pos ih | attr a inp it ih | descendant a s inp it pos level ih
  | ancestor a s inp it tb ih =>
    intro h c c'; simp only [rem2, ih h.1 c c']
  | descOverDesc a ms inp level pos cn ih => intro h c c'; simp only [rem2, ih h.1 c c']
  | merge inp ch it ih _ => intro h c c'; simp only [rem2, ih h.1 c c']
  | union l r it _ _ =>
    intro h c c'
    cases it with
    | none => simp [PQ2.Cons] at h
    | some buf => rfl
  | following a sib inp it pos ih =>
    intro h c c'
    simp only [rem2, ih h.1 c c']
  | preceding a sib inp it pos ih =>
    intro h c c'
    simp only [rem2, ih h.1 c c']

theorem mach2_laws : (mach2 d cfg dec).Laws where
  cons_inv := PQ2.cons_inv d
  cons_indep := rem2_cons_indep d cfg dec
  same_refl := fun _ => rfl
  same_trans := fun s s' s'' h1 h2 => by
    show s''.plan = s.plan
    have h1 : s'.plan = s.plan := h1
    have h2 : s''.plan = s'.plan := h2
    rw [h2, h1]

/-! ## `Evaluate` and `Clone` -/

theorem PQ2.evaluate_plan : ∀ q : PQ2, q.evaluate.plan = q.plan := by
  intro q; induction q <;> simp_all [PQ2.evaluate, PQ2.plan]

/-- every state produced by `Evaluate` satisfies the invariant — whatever the state was before -/
theorem PQ2.inv_evaluate : ∀ q : PQ2, q.evaluate.Inv d := by
  intro q
  induction q with
  | context c => trivial
  | absolute c => trivial
  | self a inp ih | parent a inp ih | filter inp pred pos pm ih | group inp pos ih => exact ih
  | child a inp it pos ih | cachedChild a inp it pos ih | attr a inp it ih | descendant a s inp it pos level ih
  | ancestor a s inp it tb ih | following a sib inp it pos ih | preceding a sib inp it pos ih
  | merge inp ch it ih _ =>
    exact Or.inl ⟨rfl, ih⟩
  | union l r it ihl ihr => exact Or.inl ⟨rfl, ihl, ihr⟩
  | descOverDesc a ms inp level pos cn ih => exact Or.inl ⟨rfl, ih⟩

theorem PQ2.clone_evaluate : ∀ q : PQ2, q.clone.evaluate = q.clone := by
  intro q; induction q <;> simp_all [PQ2.clone, PQ2.evaluate]

/-- a clone is a freshly evaluated state -/
theorem PQ2.inv_clone (q : PQ2) : q.clone.Inv d :=
  PQ2.clone_evaluate q ▸ PQ2.inv_evaluate d q.clone

/-- the remaining stream of a state produced by `Evaluate` is the whole sequence of its
configuration: nothing of the previous evaluation survives -/
theorem rem2_evaluate : ∀ (q : PQ2) (c : Ref), rem2 d cfg dec c q.evaluate = full2 d cfg dec c q := by
  intro q
  induction q with
  | context n => intro c; rfl
  | absolute n => intro c; rfl
  | self a inp ih | parent a inp ih | group inp pos ih | filter inp pred pos pm ih =>
    intro c; simp only [PQ2.evaluate, rem2, full2, ih c]
  | child a inp it pos ih | cachedChild a inp it pos ih | attr a inp it ih | descendant a s inp it pos level ih
  | ancestor a s inp it tb ih | following a sib inp it pos ih | preceding a sib inp it pos ih =>
    intro c; simp [PQ2.evaluate, rem2, full2, ih c]
  | merge inp ch it ih _ => intro c; simp [PQ2.evaluate, rem2, full2, ih c]
  | union l r it ihl ihr => intro c; simp only [PQ2.evaluate, rem2, full2, ihl c, ihr c]
  | descOverDesc a ms inp level pos cn ih =>
    intro c; simp [PQ2.evaluate, rem2, full2, ih c, dodRest, numFrom]

/-- `Clone` gives the same whole sequence (a `cachedChildQuery` is cloned into a `childQuery`) -/
theorem full2_clone : ∀ (q : PQ2) (c : Ref), full2 d cfg dec c q.clone = full2 d cfg dec c q := by
  intro q
  induction q with
  | context n => intro c; rfl
  | absolute n => intro c; rfl
  | self a inp ih | parent a inp ih | group inp pos ih | filter inp pred pos pm ih
  | child a inp it pos ih | cachedChild a inp it pos ih | attr a inp it ih | descendant a s inp it pos level ih
  | ancestor a s inp it tb ih | following a sib inp it pos ih | preceding a sib inp it pos ih
  | descOverDesc a ms inp level pos cn ih =>
    intro c; simp only [PQ2.clone, full2, ih c]
  | merge inp ch it ih ihc => intro c; simp only [PQ2.clone, full2, ih c, ihc]
  | union l r it ihl ihr => intro c; simp only [PQ2.clone, full2, ihl c, ihr c]

/-- the whole sequence depends on the configuration only -/
theorem full2_plan_congr : ∀ (q q' : PQ2), q'.plan = q.plan → ∀ c, full2 d cfg dec c q' = full2 d cfg dec c q := by
  intro q
  -- `q'` of another type has another plan constructor (`cases h`); of the same type, its fields agree with
  -- those of `q` and its inputs have the plans of the inputs of `q`
  induction q with
  | context n | absolute n => intro q' h c; cases q' <;> first | rfl | cases h
  | self a inp ih | parent a inp ih | group inp pos ih | filter inp pred pos pm ih
  | child a inp it pos ih | cachedChild a inp it pos ih | attr a inp it ih | descendant a s inp it pos level ih
  | ancestor a s inp it tb ih | following a sib inp it pos ih | preceding a sib inp it pos ih
  | descOverDesc a ms inp level pos cn ih =>
    intro q' h c
    cases q' <;> first | cases h | (injection h; simp only [full2, ih _ ‹_›, *])
  | merge inp ch it ih ihc | union l r it ih ihc =>
    intro q' h c
    cases q' <;> first | cases h | (injection h; simp only [full2, ih _ ‹_›, ihc _ ‹_›, *])

theorem rem2_clone (q : PQ2) (c : Ref) : rem2 d cfg dec c q.clone = full2 d cfg dec c q := by
  rw [← PQ2.clone_evaluate, rem2_evaluate, full2_clone]

end

end XPathV.Model
