import XPathV.Lemmas.Pull2.Walks
import XPathV.Lemmas.Pull2.DodWalk
import XPathV.Lemmas.Pull2.Mono
/-!
# The one-pull lemma of the extended pull machine, type by type

`step2_X`: the one-pull lemma, in the form `Pull2` (the answer at some fuel), for every state of query type `X`,
given it for configurations of smaller size (`StepIH`).  `context`/`absolute` by `leaf_step`; for the eleven types that
have one of the two shapes the scheme of the shape (`closure_flat`, for `ancestor` `closure_step`, `fmap_step`:
`Pull2/Generic.lean`) is given the arm of `Pull2/SelectArms.lean` and the specification side: what the stream of a state
is and what the closure call returns.  `union`, `merge`, `descOverDesc` exit by exit: each exit of their arms is one
of the rules `stop`, `emit` (with `ans2`: the answer at a fuel that suffices) and `Pull2.silent` (from some fuel on,
one unit of fuel leads to another state with the same stream).  `following`/`preceding` are proved for a given
specification of the closure call; the sibling case is supplied here, the non-sibling one in `Pull2/StepAll.lean`.
-/
namespace XPathV.Model
open XPathV

section
variable (d : Doc) (cfg : ECfg) (dec : Plan → Ref → Bool)

/-- the configuration contains a non-sibling `followingQuery`: only for that type the one-pull
lemma needs a well-formed document (the fuel `2·|d|+2` of `followRoots` in the sequence model is
justified by depth ≤ index) -/
def NeedsWF : Plan → Prop
  | .following _ sib i => sib = false ∨ NeedsWF i
  | .preceding _ _ i | .child _ i | .cachedChild _ i | .attr _ i | .self _ i | .parent _ i | .descendant _ _ i | .ancestor _ _ i
  | .group i | .filter i _ | .descOverDesc _ _ i => NeedsWF i
  | .union l r => NeedsWF l ∨ NeedsWF r
  | .merge i c => NeedsWF i ∨ NeedsWF c
  | _ => False

/-- induction measure: the size of the configuration (and: the document is well-formed if the
configuration needs it) -/
def PSz (n : Nat) (s : PQ2) : Prop := sizeOf s.plan ≤ n ∧ (NeedsWF s.plan → WF d)

theorem PSz_same (n : Nat) : ∀ s s' : PQ2, PSz d n s → (mach2 d cfg dec).Same s s' → PSz d n s' := by
  intro s s' h hs
  have hs : s'.plan = s.plan := hs
  simp only [PSz, hs]; exact h

/-- the one-pull lemma for state `q` with `t.Current() = c` -/
abbrev Step2 (q : PQ2) (c : Ref) : Prop := (mach2 d cfg dec).Step (Good d) q c

/-- the same with the answer at some fuel (`Mach.Pull`): the form in which it is proved -/
abbrev Pull2 (q : PQ2) (c : Ref) : Prop := (mach2 d cfg dec).Pull (Good d) q c

/-- induction hypothesis of the one-pull lemma -/
abbrev StepIH (n : Nat) : Prop := ∀ s, PSz d n s → s.Inv d → ∀ c, Good d c → Pull2 d cfg dec s c

theorem itOK_some {n : Ref} {f : Bool} (h : Good d n) : itOK d (some (n, f)) :=
  fun _ _ e => by cases e; exact h

/-- an answer of `PQ2.select` at fuel `f` -/
theorem ans2 {f : Nat} {q q' : PQ2} {c c' : Ref} {o : Res Ref} (hne : o ≠ .fuel)
    (h : PQ2.select d cfg dec f q c = (o, q', c')) : (mach2 d cfg dec).Ans q c o q' c' := ⟨hne, f, h⟩

/-- a silent move of `PQ2.select`: from every fuel `f0` on, one unit of fuel leads from `(q, c)` to `(q2, c2)` -/
theorem Pull2.silent {q q2 : PQ2} {c c2 : Ref} (hp : Pull2 d cfg dec q2 c2) (f0 : Nat)
    (h : ∀ f, f0 ≤ f → PQ2.select d cfg dec (f+1) q c = PQ2.select d cfg dec f q2 c2)
    (hr : rem2 d cfg dec c q = rem2 d cfg dec c2 q2) (hs : q2.plan = q.plan) :
    Pull2 d cfg dec q c :=
  Mach.Pull.silent (mach2_laws d cfg dec) id (fun _ h => h)
    (fun _ _ _ ⟨hne, f, hf⟩ => ⟨hne, max f0 f + 1, by
      show PQ2.select d cfg dec _ _ _ = _
      rw [h _ (Nat.le_max_left _ _)]
      exact (mach2_mono d cfg dec).le hf hne (Nat.le_max_right _ _)⟩) hr hs hp

/-! ## The closure calls of `Lemmas/PullProofs.lean` stay in the document -/

theorem sibCall_good (t : Ref → Bool) (k : Ref × Bool) (p : Nat) :
    (∃ j k' p' f0, (∀ f, f0 ≤ f → sibCall d t f k p = .yield (j, k', p')) ∧ itOK d (some k') ∧ Good d j ∧
      numFrom p ((sibCands d k.1 k.2).filter t) = ⟨j, p', 0⟩ :: numFrom p' ((sibCands d k'.1 k'.2).filter t)) ∨
    (∃ f0, (∀ f, f0 ≤ f → sibCall d t f k p = .done) ∧ numFrom p ((sibCands d k.1 k.2).filter t) = []) :=
  (sibCall_spec d t (Good d) k p (sibCands_good d _ k.1 k.2 (Nat.le_refl _))).imp
    (fun ⟨j, k', p', f0, h1, h2, h3, h4⟩ => ⟨j, k', p', f0, h1, itOK_some d h2, h3, h4⟩) id

theorem attrCall_good (t : Ref → Bool) (k : Ref × Bool) (p : Unit) (hk : Good d k.1) :
    (∃ j k' p' f0, (∀ f, f0 ≤ f → attrCall d t f k p = .yield (j, k', p')) ∧ itOK d (some k') ∧ Good d j ∧
      plain ((attrCands d k.1 k.2).filter t) = ⟨j, 1, 0⟩ :: plain ((attrCands d k'.1 k'.2).filter t)) ∨
    (∃ f0, (∀ f, f0 ≤ f → attrCall d t f k p = .done) ∧ plain ((attrCands d k.1 k.2).filter t) = []) :=
  (attrCall_spec d t (Good d) k p (attrCands_good d _ k.1 k.2 (Nat.le_refl _) hk)).imp
    (fun ⟨j, k', p', f0, h1, h2, h3, h4⟩ => ⟨j, k', p', f0, h1, itOK_some d h2, h3, h4⟩) id

theorem descCall_good (t : Ref → Bool) (s : Bool) (k : Ref × Bool) (p : Nat × Nat) (hk : Good d k.1) :
    (∃ j k' p' f0, (∀ f, f0 ≤ f → descCall d t s f k p = .yield (j, k', p')) ∧ itOK d (some k') ∧
      Good d j ∧ descCur d t s k p = ⟨j, p'.1, p'.2⟩ :: descCur d t s k' p') ∨
    (∃ f0, (∀ f, f0 ≤ f → descCall d t s f k p = .done) ∧ descCur d t s k p = []) :=
  (descCall_spec d t s (Good d) k p hk (walkD_good d _ k.1 p.2 (Nat.le_refl _))).imp
    (fun ⟨j, k', p', f0, h1, h2, h3, h4⟩ => ⟨j, k', p', f0, h1, itOK_some d h2, h3, h4⟩) id

/-! ## childQuery -/

theorem step2_child (n : Nat) (hin : StepIH d cfg dec n) (a : AxisInfo) (inp : PQ2) (hp : PSz d n inp)
    (it : Option (Ref × Bool)) (pos : Nat) (c : Ref) (hi : (PQ2.child a inp it pos).Inv d) (hg : Good d c) :
    Pull2 d cfg dec (.child a inp it pos) c :=
  closure_flat (mach2 d cfg dec) (mach2_laws d cfg dec) (mach2_mono d cfg dec) (Good d) (PSz d n) (PSz_same d cfg dec n) hin
    (childArm d cfg dec a) (itOK d) (itOK d) id (fun _ => 0)
    (fun k p => numFrom p ((sibCands d k.1 k.2).filter (test d cfg a))) (childContrib d cfg a)
    (fun _ it _ _ => by cases it <;> rfl) (fun _ _ _ h => h) (fun _ _ _ h1 h2 => ⟨h1, h2⟩) (fun _ _ h => nomatch h)
    (fun _ _ _ _ _ _ h => congrArg (Plan.child a) h) (fun _ _ _ => rfl) (fun _ _ _ => rfl)
    (fun n p hgn => ⟨itOK_some d hgn, by simp only [childContrib, numbered_eq, sibCands]; rfl⟩)
    (fun k p _ => sibCall_good d (test d cfg a) k p) inp hp it pos c hi hg

/-! ## cachedChildQuery (the same `Select` body as childQuery) -/

theorem step2_cachedChild (n : Nat) (hin : StepIH d cfg dec n) (a : AxisInfo) (inp : PQ2) (hp : PSz d n inp)
    (it : Option (Ref × Bool)) (pos : Nat) (c : Ref) (hi : (PQ2.cachedChild a inp it pos).Inv d) (hg : Good d c) :
    Pull2 d cfg dec (.cachedChild a inp it pos) c :=
  closure_flat (mach2 d cfg dec) (mach2_laws d cfg dec) (mach2_mono d cfg dec) (Good d) (PSz d n) (PSz_same d cfg dec n) hin
    (cachedChildArm d cfg dec a) (itOK d) (itOK d) id (fun _ => 0)
    (fun k p => numFrom p ((sibCands d k.1 k.2).filter (test d cfg a))) (childContrib d cfg a)
    (fun _ it _ _ => by cases it <;> rfl) (fun _ _ _ h => h) (fun _ _ _ h1 h2 => ⟨h1, h2⟩) (fun _ _ h => nomatch h)
    (fun _ _ _ _ _ _ h => congrArg (Plan.cachedChild a) h) (fun _ _ _ => rfl) (fun _ _ _ => rfl)
    (fun n p hgn => ⟨itOK_some d hgn, by simp only [childContrib, numbered_eq, sibCands]; rfl⟩)
    (fun k p _ => sibCall_good d (test d cfg a) k p) inp hp it pos c hi hg

/-! ## attributeQuery -/

theorem step2_attr (n : Nat) (hin : StepIH d cfg dec n) (a : AxisInfo) (inp : PQ2) (hp : PSz d n inp)
    (it : Option (Ref × Bool)) (c : Ref) (hi : (PQ2.attr a inp it).Inv d) (hg : Good d c) :
    Pull2 d cfg dec (.attr a inp it) c :=
  closure_flat (mach2 d cfg dec) (mach2_laws d cfg dec) (mach2_mono d cfg dec) (Good d) (PSz d n) (PSz_same d cfg dec n) hin
    (attrArm d cfg dec a) (itOK d) (itOK d) (fun _ => 1) (fun _ => 0)
    (fun k _ => plain ((attrCands d k.1 k.2).filter (test d cfg a))) (attrContrib d cfg a)
    (fun _ it _ _ => by cases it <;> rfl) (fun _ _ _ h => h) (fun _ _ _ h1 h2 => ⟨h1, h2⟩) (fun _ _ h => nomatch h)
    (fun _ _ _ _ _ _ h => congrArg (Plan.attr a) h) (fun _ _ _ => rfl) (fun _ _ _ => rfl)
    (fun n _ hgn => ⟨itOK_some d hgn, rfl⟩)
    (fun k p hk => attrCall_good d (test d cfg a) k p (hk k.1 k.2 rfl)) inp hp it () c hi hg

/-! ## descendantQuery -/

theorem step2_descendant (n : Nat) (hin : StepIH d cfg dec n) (a : AxisInfo) (s : Bool) (inp : PQ2) (hp : PSz d n inp)
    (it : Option (Ref × Bool)) (pos level : Nat) (c : Ref) (hi : (PQ2.descendant a s inp it pos level).Inv d)
    (hg : Good d c) : Pull2 d cfg dec (.descendant a s inp it pos level) c :=
  closure_flat (mach2 d cfg dec) (mach2_laws d cfg dec) (mach2_mono d cfg dec) (Good d) (PSz d n) (PSz_same d cfg dec n) hin
    (descendantArm d cfg dec a s) (itOK d) (itOK d) (·.1) (·.2) (descCur d (test d cfg a) s) (descItems d cfg a s)
    (fun _ it _ _ => by cases it <;> rfl) (fun _ _ _ h => h) (fun _ _ _ h1 h2 => ⟨h1, h2⟩) (fun _ _ h => nomatch h)
    (fun _ _ _ _ _ _ h => congrArg (Plan.descendant a s) h) (fun _ _ _ => rfl) (fun _ _ _ => rfl)
    (fun n p hgn => ⟨itOK_some d hgn, by simp only [descCur, descItems_eq]; rfl⟩)
    (fun k p hk => descCall_good d (test d cfg a) s k p (hk k.1 k.2 rfl)) inp hp it (pos, level) c hi hg


/-! ## contextQuery, absoluteQuery -/

theorem step2_context (n : Nat) (c : Ref) (hg : Good d c) : Pull2 d cfg dec (.context n) c :=
  leaf_step (mach2 d cfg dec) (Good d) .context id (fun _ _ _ => rfl) (fun _ _ => rfl) (fun _ h => h) (fun _ _ => rfl) (fun _ => rfl)
    (fun _ => rfl) n c hg hg

theorem step2_absolute (hd : 0 < d.length) (n : Nat) (c : Ref) (hg : Good d c) : Pull2 d cfg dec (.absolute n) c :=
  leaf_step (mach2 d cfg dec) (Good d) .absolute (fun _ => Nav.root d) (fun _ _ _ => rfl) (fun _ _ => rfl) (fun _ _ => trivial)
    (fun _ _ => rfl) (fun _ => rfl) (fun _ => rfl) n c hd hg

/-! ## selfQuery, parentQuery (filter/map scheme) -/

theorem step2_self (n : Nat) (hin : StepIH d cfg dec n) (a : AxisInfo) (inp : PQ2) (hp : PSz d n inp)
    (c : Ref) (hi : (PQ2.self a inp).Inv d) (hg : Good d c) : Pull2 d cfg dec (.self a inp) c :=
  fmap_step (mach2 d cfg dec) (mach2_laws d cfg dec) (mach2_mono d cfg dec) (Good d) (PSz d n) (PSz_same d cfg dec n) hin
    (selfArm d cfg dec a) (fun _ => 1) (fun _ => 0) (fun _ _ _ => rfl) (fun _ _ h => h) (fun _ _ h => h)
    (fun _ _ _ _ h => congrArg (Plan.self a) h) (fun _ _ => rfl) (fun _ _ => rfl)
    (fun n _ _ _ m _ h hgn => by
      simp only [selfArm, selfG] at h
      split at h
      · simp only [Prod.mk.injEq, Option.some.injEq] at h; obtain ⟨rfl, _⟩ := h; exact hgn
      · simp at h)
    (fun _ _ _ h => h) (fun _ _ _ h => h) inp hp () c hi hg

theorem step2_parent (n : Nat) (hin : StepIH d cfg dec n) (a : AxisInfo) (inp : PQ2) (hp : PSz d n inp)
    (c : Ref) (hi : (PQ2.parent a inp).Inv d) (hg : Good d c) : Pull2 d cfg dec (.parent a inp) c :=
  fmap_step (mach2 d cfg dec) (mach2_laws d cfg dec) (mach2_mono d cfg dec) (Good d) (PSz d n) (PSz_same d cfg dec n) hin
    (parentArm d cfg dec a) (fun _ => 1) (fun _ => 0) (fun _ _ _ => rfl) (fun _ _ h => h) (fun _ _ h => h)
    (fun _ _ _ _ h => congrArg (Plan.parent a) h) (fun _ _ => rfl) (fun _ _ => rfl)
    (fun n _ _ _ m _ h hgn => by
      simp only [parentArm, parentG, Prod.mk.injEq] at h
      cases hp : Nav.moveParent d n with
      | none => rw [hp] at h; simp at h
      | some q =>
        rw [hp] at h
        have hq := (moveParent_ancM d hp).2 hgn
        simp only [Option.filter] at h
        split at h
        · simp only [Option.some.injEq] at h; rw [← h.1]; exact hq
        · simp at h)
    (fun _ _ _ h => h) (fun _ _ _ h => h) inp hp () c hi hg

/-! ## groupQuery -/

theorem step2_group (n : Nat) (hin : StepIH d cfg dec n) (inp : PQ2) (hp : PSz d n inp) (pos : Nat)
    (c : Ref) (hi : (PQ2.group inp pos).Inv d) (hg : Good d c) : Pull2 d cfg dec (.group inp pos) c :=
  fmap_step (mach2 d cfg dec) (mach2_laws d cfg dec) (mach2_mono d cfg dec) (Good d) (PSz d n) (PSz_same d cfg dec n) hin
    (groupArm d cfg dec) id (fun _ => 0) (fun _ _ _ => rfl) (fun _ _ h => h) (fun _ _ h => h)
    (fun _ _ _ _ h => congrArg Plan.group h) (fun _ _ => rfl) (fun _ _ => rfl)
    (fun n _ _ _ m _ h hgn => by
      simp only [groupArm, groupG, Prod.mk.injEq, Option.some.injEq] at h
      rw [← h.1]; exact hgn)
    (fun _ _ _ h => h) (fun _ _ _ h => h) inp hp pos c hi hg

/-! ## filterQuery (boolean predicate as a decision function) -/

theorem step2_filter (n : Nat) (hin : StepIH d cfg dec n) (inp : PQ2) (pred : Plan) (hp : PSz d n inp) (pos : Nat)
    (pm : Option (List (Nat × Nat))) (c : Ref) (hi : (PQ2.filter inp pred pos pm).Inv d) (hg : Good d c) :
    Pull2 d cfg dec (.filter inp pred pos pm) c :=
  -- the loop puts `t.Current()` on the candidate (`gcur`); the `defer` restores the caller's (`fin`)
  fmap_step (mach2 d cfg dec) (mach2_laws d cfg dec) (mach2_mono d cfg dec) (Good d) (PSz d n) (PSz_same d cfg dec n) hin
    (filterArm d cfg dec pred) (·.1) (fun _ => 0) (fun _ _ _ => rfl) (fun _ _ h => h) (fun _ _ h => h)
    (fun _ _ _ _ h => congrArg (Plan.filter · pred) h) (fun _ _ => rfl) (fun _ _ => rfl)
    (fun n _ _ _ m _ h hgn => by
      simp only [filterArm, filterG] at h
      split at h
      · simp only [Prod.mk.injEq, Option.some.injEq] at h; rw [← h.1]; exact hgn
      · simp at h)
    (fun _ _ h _ => h) (fun _ _ h _ => h) inp hp (pos, pm) c hi hg


/-! ## ancestorQuery -/

/-- specification of an ancestor state: de-duplicate (against the table) what is left of the closure
followed by the candidates of the remaining input nodes -/
def ancR (t : Ref → Bool) (key : Ref → String) (s : Bool) (it : Option (Ref × Bool)) (tb : Option (List String))
    (xs : List Item) : List Item :=
  plain (dedupByKey key
    ((match it with
        | none => []
        | some k => ancCands d t s k.1 k.2)
      ++ xs.flatMap (fun x => ancCands d t s x.r true)) (tb.getD []))

theorem step2_ancestor (n : Nat) (hin : StepIH d cfg dec n) (a : AxisInfo) (s : Bool) (inp : PQ2) (hp : PSz d n inp)
    (it : Option (Ref × Bool)) (tb : Option (List String)) (c : Ref) (hi : (PQ2.ancestor a s inp it tb).Inv d)
    (hg : Good d c) : Pull2 d cfg dec (.ancestor a s inp it tb) c := by
  refine closure_step (mach2 d cfg dec) (mach2_laws d cfg dec) (mach2_mono d cfg dec) (Good d) (PSz d n) (PSz_same d cfg dec n) hin
    (ancestorArm d cfg dec a s) (itOK d) (itOK d) (fun _ => 1) (fun _ => 0)
    (ancR d (test d cfg a) (identityHash d cfg) s)
    (fun _ it _ _ => by cases it <;> rfl) (fun _ _ _ h => h) (fun _ _ _ h1 h2 => ⟨h1, h2⟩) (fun _ _ h => nomatch h)
    (fun _ _ _ _ _ _ h => congrArg (Plan.ancestor a s) h) (fun _ _ _ => rfl) (fun _ _ _ => rfl)
    (fun p => by simp [ancR, dedupByKey, plain]) ?start ?call inp hp it tb c hi hg
  case start =>
    intro x xs p hgx
    exact ⟨itOK_some d hgx, by simp only [ancestorArm, ancR, List.flatMap_cons, List.nil_append, Option.getD_some]⟩
  case call =>
    intro k p hk
    obtain ⟨n, first⟩ := k
    rcases ancLoop_spec d (test d cfg a) (identityHash d cfg) s _ n first (p.getD []) (hk n first rfl)
      (Nat.le_refl _) with ⟨f0, j, hy, hgj, hd⟩ | ⟨f0, hy, hd⟩
    · exact Or.inl ⟨j, (j, false), some (identityHash d cfg j :: p.getD []), f0,
        fun f hf => by simp only [ancestorArm, ancCall, hy f hf], itOK_some d hgj, hgj,
        fun xs => by simp only [ancR, hd, plain, List.map_cons, Option.getD_some]⟩
    · exact Or.inr ⟨f0, fun f hf => by simp only [ancestorArm, ancCall, hy f hf],
        fun xs => by simp only [ancestorArm, ancR, hd, List.nil_append, Option.getD_some]⟩

/-! ## followingQuery -/

theorem fitOK_some {n : Ref} {q : Option PQ} (h : Good d n ∧ innerOK d q) : fitOK d (some (n, q)) :=
  fun _ _ e => by cases e; exact h

theorem fitInv_some {n : Ref} {q : Option PQ} (h : Good d n ∧ innerInv d q) : fitInv d (some (n, q)) :=
  fun _ _ e => by cases e; exact h

/-- what is left of a `followingQuery` closure -/
def folCurOf (a : AxisInfo) (sib : Bool) (k : Ref × Option PQ) (p : Nat) : List Item :=
  if sib then numFrom p ((sibCands d k.1 false).filter (test d cfg a)) else folCur d cfg a k.1 k.2

/-- the one-pull lemma for `followingQuery`, given the specification of the closure for this `Sibling` -/
theorem step2_following_gen (n : Nat) (hin : StepIH d cfg dec n) (a : AxisInfo) (sib : Bool)
    (hstart : ∀ x : Ref, Good d x →
      (Good d (folStart d a sib x).1 ∧ innerInv d (folStart d a sib x).2) ∧
        folCurOf d cfg a sib (folStart d a sib x) 0 = folContrib d cfg a sib x)
    (hcall : ∀ (k : Ref × Option PQ) (p : Nat), (Good d k.1 ∧ innerInv d k.2) →
      (∃ j k' p' f0, (∀ f, f0 ≤ f → folCall d cfg a sib f k p = .yield (j, k', p')) ∧
        (Good d k'.1 ∧ innerOK d k'.2) ∧ Good d j ∧
        folCurOf d cfg a sib k p = ⟨j, p', 0⟩ :: folCurOf d cfg a sib k' p') ∨
      (∃ f0, (∀ f, f0 ≤ f → folCall d cfg a sib f k p = .done) ∧ folCurOf d cfg a sib k p = []))
    (inp : PQ2) (hp : PSz d n inp) (it : Option (Ref × Option PQ)) (pos : Nat) (c : Ref)
    (hi : (PQ2.following a sib inp it pos).Inv d) (hg : Good d c) :
    Pull2 d cfg dec (.following a sib inp it pos) c :=
  closure_flat (mach2 d cfg dec) (mach2_laws d cfg dec) (mach2_mono d cfg dec) (Good d) (PSz d n) (PSz_same d cfg dec n) hin
    (followingArm d cfg dec a sib) (fitInv d) (fitOK d) id (fun _ => 0)
    (folCurOf d cfg a sib) (folContrib d cfg a sib)
    (fun _ it _ _ => by cases it <;> rfl) (fun _ _ _ h => h)
    (fun _ _ _ h1 h2 => ⟨h1, h2⟩) (fun _ _ h => nomatch h)
    (fun _ _ _ _ _ _ h => congrArg (Plan.following a sib) h) (fun _ _ _ => rfl) (fun _ _ _ => rfl)
    (fun x _ hgx => ⟨fitInv_some d (hstart x hgx).1, (hstart x hgx).2⟩)
    (fun k p hk => (hcall k p (hk k.1 k.2 rfl)).imp
      (fun ⟨j, k', p', f0, h1, h2, h3, h4⟩ => ⟨j, k', p', f0, h1, fitOK_some d h2, h3, h4⟩) id)
    inp hp it pos c hi hg

theorem step2_following_sib (n : Nat) (hin : StepIH d cfg dec n) (a : AxisInfo)
    (inp : PQ2) (hp : PSz d n inp) (it : Option (Ref × Option PQ)) (pos : Nat) (c : Ref)
    (hi : (PQ2.following a true inp it pos).Inv d) (hg : Good d c) :
    Pull2 d cfg dec (.following a true inp it pos) c := by
  refine step2_following_gen d cfg dec n hin a true ?_ ?_ inp hp it pos c hi hg
  · intro x hgx
    refine ⟨⟨hgx, Or.inl trivial⟩, ?_⟩
    simp only [folStart, if_true, folCurOf, folContrib, numbered_eq, sibCands, Bool.false_eq_true, if_false]
  · intro k p hk
    obtain ⟨node, q⟩ := k
    obtain ⟨f0, h1, h2⟩ := childIter_spec d (test d cfg a) _ node false (Nat.le_refl _)
    cases hc : (sibCands d node false).filter (test d cfg a) with
    | nil =>
      exact Or.inr ⟨f0, fun f hf => by simp only [folCall, if_true, h1 f hf, hc, hdR],
        by simp only [folCurOf, if_true, hc, numFrom]⟩
    | cons j rest =>
      have hgj : Good d j :=
        sibCands_good d _ node false (Nat.le_refl _) j (List.mem_filter.mp (hc ▸ List.mem_cons_self)).1
      exact Or.inl ⟨j, (j, none), p + 1, f0, fun f hf => by simp only [folCall, if_true, h1 f hf, hc, hdR],
        ⟨hgj, trivial⟩, hgj, by simp only [folCurOf, if_true, hc, numFrom, h2 j rest hc]⟩

/-! ## precedingQuery -/

def precCurOf (a : AxisInfo) (sib : Bool) (k : Ref × Option PQ) (p : Nat) : List Item :=
  if sib then numFrom p ((prevSibsM d k.1).filter (test d cfg a)) else precCur d cfg a k.1 k.2 p

theorem step2_preceding_gen (n : Nat) (hin : StepIH d cfg dec n) (a : AxisInfo) (sib : Bool)
    (hstart : ∀ x : Ref, precCurOf d cfg a sib (x, none) 0 = precContrib d cfg a sib x)
    (hcall : ∀ (k : Ref × Option PQ) (p : Nat), (Good d k.1 ∧ innerInv d k.2) →
      (∃ j k' p' f0, (∀ f, f0 ≤ f → precCall d cfg a sib f k p = .yield (j, k', p')) ∧
        (Good d k'.1 ∧ innerOK d k'.2) ∧ Good d j ∧
        precCurOf d cfg a sib k p = ⟨j, p', 0⟩ :: precCurOf d cfg a sib k' p') ∨
      (∃ f0, (∀ f, f0 ≤ f → precCall d cfg a sib f k p = .done) ∧ precCurOf d cfg a sib k p = []))
    (inp : PQ2) (hp : PSz d n inp) (it : Option (Ref × Option PQ)) (pos : Nat) (c : Ref)
    (hi : (PQ2.preceding a sib inp it pos).Inv d) (hg : Good d c) :
    Pull2 d cfg dec (.preceding a sib inp it pos) c :=
  closure_flat (mach2 d cfg dec) (mach2_laws d cfg dec) (mach2_mono d cfg dec) (Good d) (PSz d n) (PSz_same d cfg dec n) hin
    (precedingArm d cfg dec a sib) (fitInv d) (fitOK d) id (fun _ => 0)
    (precCurOf d cfg a sib) (precContrib d cfg a sib)
    (fun _ it _ _ => by cases it <;> rfl) (fun _ _ _ h => h)
    (fun _ _ _ h1 h2 => ⟨h1, h2⟩) (fun _ _ h => nomatch h)
    (fun _ _ _ _ _ _ h => congrArg (Plan.preceding a sib) h) (fun _ _ _ => rfl) (fun _ _ _ => rfl)
    (fun x _ hgx => ⟨fitInv_some d ⟨hgx, Or.inl trivial⟩, hstart x⟩)
    (fun k p hk => (hcall k p (hk k.1 k.2 rfl)).imp
      (fun ⟨j, k', p', f0, h1, h2, h3, h4⟩ => ⟨j, k', p', f0, h1, fitOK_some d h2, h3, h4⟩) id)
    inp hp it pos c hi hg

theorem step2_preceding_sib (n : Nat) (hin : StepIH d cfg dec n) (a : AxisInfo)
    (inp : PQ2) (hp : PSz d n inp) (it : Option (Ref × Option PQ)) (pos : Nat) (c : Ref)
    (hi : (PQ2.preceding a true inp it pos).Inv d) (hg : Good d c) :
    Pull2 d cfg dec (.preceding a true inp it pos) c := by
  refine step2_preceding_gen d cfg dec n hin a true ?_ ?_ inp hp it pos c hi hg
  · intro x
    simp only [precCurOf, precContrib, if_true, numbered_eq]
  · intro k p hk
    obtain ⟨node, q⟩ := k
    obtain ⟨f0, h1, h2⟩ := precSibIter_spec d (test d cfg a) _ node hk.1 (Nat.le_refl _)
    cases hc : (prevSibsM d node).filter (test d cfg a) with
    | nil =>
      refine Or.inr ⟨f0, fun f hf => ?_, ?_⟩
      · simp only [precCall, if_true, h1 f hf, hc, hdR]
      · simp only [precCurOf, if_true, hc, numFrom]
    | cons j rest =>
      obtain ⟨hrest, hgj⟩ := h2 j rest hc
      refine Or.inl ⟨j, (j, none), p + 1, f0, fun f hf => ?_, ⟨hgj, trivial⟩, hgj, ?_⟩
      · simp only [precCall, if_true, h1 f hf, hc, hdR]
      · simp only [precCurOf, if_true, hc, numFrom, hrest]


/-! ## unionQuery -/

theorem mem_dedupByKey (key : Ref → String) : ∀ (xs : List Ref) (m : List String) (x : Ref),
    x ∈ dedupByKey key xs m → x ∈ xs
  | [], _, _, h => by cases h
  | y :: ys, m, x, h => by
    simp only [dedupByKey] at h
    split at h
    · exact List.mem_cons_of_mem _ (mem_dedupByKey key ys m x h)
    · cases h with
      | head => exact List.mem_cons_self
      | tail _ h => exact List.mem_cons_of_mem _ (mem_dedupByKey key ys _ x h)

/-- `unionQuery` with its list built: `return u.iterator()` -/
theorem step2_union_some (l r : PQ2) (buf : List Ref) (c : Ref) (hb : ∀ x ∈ buf, Good d x) (hg : Good d c) :
    Pull2 d cfg dec (.union l r (some buf)) c := by
  cases buf with
  | nil =>
    exact .stop (s' := PQ2.union l r (some [])) (c' := c)
      (ans2 d cfg dec (f := 1) (by simp) (by simp only [PQ2.select])) rfl rfl
      ⟨rfl, fun b hb x hx => by injection hb with hb; subst hb; cases hx⟩ rfl hg
  | cons y rest =>
    exact .emit (s' := PQ2.union l r (some rest)) (c' := c) ⟨y, 1, 0⟩ _
      (ans2 d cfg dec (f := 1) (by simp) (by simp only [PQ2.select])) rfl rfl
      ⟨rfl, fun b hb' x hx => by injection hb' with hb'; subst hb'; exact hb x (List.mem_cons_of_mem _ hx)⟩
      rfl hg rfl rfl (hb y List.mem_cons_self)

theorem step2_union (n : Nat) (hin : StepIH d cfg dec n) (l r : PQ2) (hpl : PSz d n l) (hpr : PSz d n r)
    (it : Option (List Ref)) (c : Ref) (hi : (PQ2.union l r it).Inv d) (hg : Good d c) :
    Pull2 d cfg dec (.union l r it) c := by
  cases it with
  | some buf =>
    rcases hi with ⟨h, _⟩ | ⟨_, h⟩
    · cases h
    · exact step2_union_some d cfg dec l r buf c (h buf rfl) hg
  | none =>
    obtain ⟨hil, hir⟩ : PQ2.Inv d l ∧ PQ2.Inv d r := by
      rcases hi with ⟨_, hil, hir⟩ | ⟨h, _⟩
      · exact ⟨hil, hir⟩
      · cases h
    -- both loops start from the caller's `t.Current()`; the second leaves it where the list is served from
    obtain ⟨l', c1, f1, hcl, _, hsl, _, _, hgl⟩ :=
      collectU_spec (mach2 d cfg dec) (mach2_laws d cfg dec) (mach2_mono d cfg dec) (Good d) (PSz d n)
        (PSz_same d cfg dec n) hin (identityHash d cfg) _ l hpl hil c hg rfl
    obtain ⟨r', c2, f2, hcr, _, hsr, hgc2, _, hgr⟩ :=
      collectU_spec (mach2 d cfg dec) (mach2_laws d cfg dec) (mach2_mono d cfg dec) (Good d) (PSz d n)
        (PSz_same d cfg dec n) hin (identityHash d cfg) _ r hpr hir c hg rfl
    have hsl : l'.plan = l.plan := hsl
    have hsr : r'.plan = r.plan := hsr
    simp only [mach2_rem, mach2_sel] at hcl hcr hgl hgr
    refine Pull2.silent d cfg dec (c2 := c2)
      (q2 := .union l' r' (some (dedupByKey (identityHash d cfg) ((rem2 d cfg dec c l ++ rem2 d cfg dec c r).map (·.r)) [])))
      (step2_union_some d cfg dec l' r' _ c2 (fun x hx => ?_) hgc2) (max f1 f2) (fun f hf => ?_) rfl
      (by simp only [PQ2.plan, hsl, hsr])
    · obtain ⟨y, hy, rfl⟩ := List.mem_map.mp (mem_dedupByKey _ _ _ _ hx)
      exact (List.mem_append.mp hy).elim (hgl y) (hgr y)
    · simp only [PQ2.select]
      rw [hcl f f [] [] (by omega) (by omega)]; simp only
      rw [hcr f f _ _ (by omega) (by omega)]; simp only
      rw [List.map_append, dedupByKey_append]; rfl

/-! ## mergeQuery -/

theorem step2_merge_some (inp ch0 : PQ2) (hc : inp.Cons d)
    (hn : ∀ ch c, ch.plan = ch0.plan → Good d c → Pull2 d cfg dec (.merge inp ch none) c)
    (buf : List Ref) (ch : PQ2) (hch : ch.plan = ch0.plan) (c : Ref) (hb : ∀ x ∈ buf, Good d x) (hg : Good d c) :
    Pull2 d cfg dec (.merge inp ch (some buf)) c := by
  cases buf with
  | nil =>
    exact Pull2.silent d cfg dec (hn ch c hch hg) 0 (fun f _ => by simp only [PQ2.select]) rfl rfl
  | cons y rest =>
    exact .emit (s' := PQ2.merge inp ch (some rest)) (c' := c) ⟨y, 1, 0⟩ _
      (ans2 d cfg dec (f := 1) (by simp) (by simp only [PQ2.select])) rfl rfl
      ⟨hc, fun b hb' x hx => by injection hb' with hb'; subst hb'; exact hb x (List.mem_cons_of_mem _ hx)⟩
      rfl hg rfl rfl (hb y List.mem_cons_self)

theorem step2_merge_none (n : Nat) (hin : StepIH d cfg dec n) (ch0 : PQ2) (hpc : PSz d n ch0) :
    ∀ (l : List Item) (inp : PQ2), PSz d n inp → inp.Inv d → ∀ c, Good d c → rem2 d cfg dec c inp = l →
    ∀ ch, ch.plan = ch0.plan → Pull2 d cfg dec (.merge inp ch none) c := by
  intro l
  induction l with
  | nil =>
    intro inp hp hi c hg hr ch hch
    obtain ⟨inp', c', ha, hrem, hcons, hsame, hgc', _⟩ := hin inp hp hi c hg
    simp only [mach2_rem] at ha hrem
    have hsame : inp'.plan = inp.plan := hsame
    rw [hr] at ha hrem
    refine .stop (s' := PQ2.merge inp' ch none) (c' := c') ⟨by simp, ?_⟩ ?_ ?_ ⟨hcons, fun b hb => by cases hb⟩ ?_ hgc'
    · obtain ⟨_, f, hf⟩ := ha
      exact ⟨f+1, by simp only [mach2_sel] at hf ⊢; simp only [PQ2.select, hf, headRes]⟩
    · show rem2 d cfg dec c _ = []; simp only [rem2, hr, List.flatMap_nil, List.append_nil]
    · show rem2 d cfg dec c' _ = []; simp only [rem2, hrem, List.tail_nil, List.flatMap_nil, List.append_nil]
    · show (PQ2.merge inp' ch none).plan = (PQ2.merge inp ch none).plan; simp only [PQ2.plan, hsame]
  | cons x xs ih =>
    intro inp hp hi c hg hr ch hch
    obtain ⟨inp', c', ha, hrem, hcons, hsame, hgc', hpos⟩ := hin inp hp hi c hg
    simp only [mach2_rem] at ha hrem hpos
    have hgx := (hpos x xs hr).2.2
    have hsame' : inp'.plan = inp.plan := hsame
    rw [hr] at ha hrem
    simp only [List.tail_cons] at hrem
    -- drain the child from its reset state with `t.Current()` on the root
    obtain ⟨ch', c2, f2, hcol, _, hsc, _, _, hgl⟩ :=
      collectM_spec (mach2 d cfg dec) (mach2_laws d cfg dec) (mach2_mono d cfg dec) (Good d) (PSz d n)
        (PSz_same d cfg dec n) hin _ ch.evaluate (by simp only [PSz, PQ2.evaluate_plan, hch]; exact hpc)
        (PQ2.inv_evaluate d ch) x.r hgx rfl
    have hch' : ch'.plan = ch0.plan := by rw [show ch'.plan = ch.evaluate.plan from hsc, PQ2.evaluate_plan, hch]
    rw [show (mach2 d cfg dec).rem x.r ch.evaluate = full2 d cfg dec x.r ch from rem2_evaluate d cfg dec ch x.r]
      at hcol hgl
    have hn : ∀ ch c, ch.plan = ch0.plan → Good d c → Pull2 d cfg dec (.merge inp' ch none) c :=
      fun ch1 c1 h1 hg1 => ih inp' (PSz_same d cfg dec n inp inp' hp hsame) (PQ2.cons_inv d _ hcons) c1 hg1
        (by rw [rem2_cons_indep d cfg dec inp' hcons c1 c']; exact hrem) ch1 h1
    -- `t.Current().MoveTo(ctx)`: the buffer is served with `t.Current()` where `m.Input.Select(t)` left it
    obtain ⟨f1, h1⟩ := ha.ge (mach2_mono d cfg dec)
    have h1 : ∀ f, f1 ≤ f → PQ2.select d cfg dec f inp c = (.yield x.r, inp', c') := h1
    simp only [mach2_sel] at hcol
    exact Pull2.silent d cfg dec
      (step2_merge_some d cfg dec inp' ch0 hcons hn _ ch' hch' c'
        (fun y hy => by obtain ⟨z, hz, rfl⟩ := List.mem_map.mp hy; exact hgl z hz) hgc') (max f1 f2)
      (fun f hf => by
        simp only [PQ2.select, h1 f (by omega), hcol f f [] (by omega) (by omega), List.nil_append])
      (by
        simp only [rem2, hr, List.flatMap_cons, List.nil_append, hrem,
          fun y => full2_plan_congr d cfg dec ch ch' (by rw [hch', hch]) y])
      (by simp only [PQ2.plan, hsame', hch', hch])

theorem step2_merge (n : Nat) (hin : StepIH d cfg dec n) (inp ch : PQ2) (hp : PSz d n inp) (hpc : PSz d n ch)
    (it : Option (List Ref)) (c : Ref) (hi : (PQ2.merge inp ch it).Inv d) (hg : Good d c) :
    Pull2 d cfg dec (.merge inp ch it) c := by
  cases it with
  | none =>
    rcases hi with ⟨_, hi⟩ | ⟨hi, _⟩
    · exact step2_merge_none d cfg dec n hin ch hpc _ inp hp hi c hg rfl ch rfl
    · exact step2_merge_none d cfg dec n hin ch hpc _ inp hp (PQ2.cons_inv d _ hi) c hg rfl ch rfl
  | some buf =>
    rcases hi with ⟨h, _⟩ | ⟨hc, hb⟩
    · cases h
    · exact step2_merge_some d cfg dec inp ch hc
        (fun ch1 c1 h1 hg1 => step2_merge_none d cfg dec n hin ch hpc _ inp hp (PQ2.cons_inv d _ hc) c1 hg1 rfl ch1 h1)
        buf ch rfl c (hb buf rfl) hg


/-! ## descendantOverDescendantQuery -/

/-- a state with `d.level > 0` (it resumes with `moveUpUntilNext`), over a consumed input -/
theorem step2_dod_live (a : AxisInfo) (ms : Bool) (inp : PQ2) (hc : inp.Cons d)
    (hn : ∀ pos cn c, Good d c → Pull2 d cfg dec (.descOverDesc a ms inp 0 pos cn) c) :
    ∀ (m lv pos : Nat) (cn c : Ref), Good d cn → d.length - cn.idx ≤ m → Good d c →
      Pull2 d cfg dec (.descOverDesc a ms inp (lv+1) pos cn) c := by
  intro m
  induction m with
  | zero => intro lv pos cn c hg hm; simp only [Good] at hg; omega
  | succ m ih =>
    intro lv pos cn c hgcn hm hg
    rcases dodUp_spec d (test d cfg a) lv cn with ⟨f1, n, l', hup, hgn, hlt, hl', hrest⟩ | ⟨f1, hup, hrest⟩
    · obtain ⟨f2, j, l, hgj, hl, hj, hres⟩ := dodInner_spec d (test d cfg a) _ n l' hgn (Nat.le_refl _)
      rcases hres with ⟨hinn, hstr⟩ | ⟨hinn, hstr⟩
      · -- reported from inside the inner loop
        refine .emit (s' := PQ2.descOverDesc a ms inp l (pos+1) j) (c' := c) ⟨j, pos+1, 0⟩
          (numFrom (pos+1) (dodRest d (test d cfg a) l j) ++ _)
          (ans2 d cfg dec (f := max f1 f2 + 1) (by simp) ?_) ?_ rfl ⟨hc, fun _ => hgj⟩ rfl hg rfl rfl hgj
        · simp only [PQ2.select, hup _ (Nat.le_max_left _ _), hinn _ (Nat.le_max_right _ _)]
        · show rem2 d cfg dec c _ = _
          simp only [rem2, hrest, hstr, numFrom, List.cons_append]
      · -- fell out of the inner loop at a childless node: `continue`
        obtain ⟨l0, rfl⟩ : ∃ l0, l = l0 + 1 := ⟨l - 1, by omega⟩
        exact Pull2.silent d cfg dec (ih l0 pos j c hgj (by omega) hg) (max f1 f2)
          (fun f hf => by simp only [PQ2.select, hup f (by omega), hinn f (by omega)])
          (by simp only [rem2, hrest, hstr]) rfl
    · -- `moveUpUntilNext` returned false: level 0, `continue`; the node the cursor stops on depends on the
      -- fuel only formally: fix it at fuel `f1`
      obtain ⟨cn', hcn'⟩ := hup f1 (Nat.le_refl _)
      have hup' : ∀ f, f1 ≤ f → dodUp d f cn (lv+1) = (.done, (cn', 0)) := by
        intro f hf
        induction hf with
        | refl => exact hcn'
        | step _ ihk => exact dodUp_mono d _ _ _ _ ihk (by simp)
      exact Pull2.silent d cfg dec (hn pos cn' c hg) f1 (fun f hf => by simp only [PQ2.select, hup' f hf])
        (by simp only [rem2, hrest, dodRest_zero]) rfl

/-- a state with `d.level == 0` (it pulls the input) -/
theorem step2_dod_idle (n : Nat) (hin : StepIH d cfg dec n) (a : AxisInfo) (ms : Bool) :
    ∀ (l : List Item) (inp : PQ2), PSz d n inp → inp.Inv d → ∀ c, Good d c → rem2 d cfg dec c inp = l →
    ∀ pos cn, Pull2 d cfg dec (.descOverDesc a ms inp 0 pos cn) c := by
  intro l
  induction l with
  | nil =>
    intro inp hp hi c hg hr pos cn
    obtain ⟨inp', c', ha, hrem, hcons, hsame, hgc', _⟩ := hin inp hp hi c hg
    simp only [mach2_rem] at ha hrem
    have hsame : inp'.plan = inp.plan := hsame
    rw [hr] at ha hrem
    refine .stop (s' := PQ2.descOverDesc a ms inp' 0 pos cn) (c' := c') ⟨by simp, ?_⟩ ?_ ?_
      ⟨hcons, fun h => by omega⟩ ?_ hgc'
    · obtain ⟨_, f, hf⟩ := ha
      exact ⟨f+1, by simp only [mach2_sel] at hf ⊢; simp only [PQ2.select, hf, headRes]⟩
    · show rem2 d cfg dec c _ = []
      simp only [rem2, hr, dodRest_zero, numFrom, List.flatMap_nil, List.append_nil]
    · show rem2 d cfg dec c' _ = []
      simp only [rem2, hrem, dodRest_zero, numFrom, List.tail_nil, List.flatMap_nil, List.append_nil]
    · show (PQ2.descOverDesc a ms inp' 0 pos cn).plan = (PQ2.descOverDesc a ms inp 0 pos cn).plan
      simp only [PQ2.plan, hsame]
  | cons x xs ih =>
    intro inp hp hi c hg hr pos cn
    obtain ⟨inp', c', ha, hrem, hcons, hsame, hgc', hpos⟩ := hin inp hp hi c hg
    simp only [mach2_rem] at ha hrem hpos
    have hgx := (hpos x xs hr).2.2
    have hsame' : inp'.plan = inp.plan := hsame
    rw [hr] at ha hrem
    simp only [List.tail_cons] at hrem
    obtain ⟨f1, h1⟩ := ha.ge (mach2_mono d cfg dec)
    have h1 : ∀ f, f1 ≤ f → PQ2.select d cfg dec f inp c = (.yield x.r, inp', c') := h1
    have hn : ∀ pos cn c, Good d c → Pull2 d cfg dec (.descOverDesc a ms inp' 0 pos cn) c :=
      fun p0 cn0 c0 hg0 => ih inp' (PSz_same d cfg dec n inp inp' hp hsame) (PQ2.cons_inv d _ hcons) c0 hg0
        (by rw [rem2_cons_indep d cfg dec inp' hcons c0 c']; exact hrem) p0 cn0
    have hplan : ∀ l p cn', (PQ2.descOverDesc a ms inp' l p cn').plan = (PQ2.descOverDesc a ms inp 0 pos cn).plan := by
      intro l p cn'; simp only [PQ2.plan, hsame']
    by_cases hself : (ms && test d cfg a x.r) = true
    · -- `d.MatchSelf && d.Predicate(d.currentNode)`: `d.posit = 1; return d.currentNode`
      refine .emit (s' := PQ2.descOverDesc a ms inp' 0 1 x.r) (c' := c') ⟨x.r, 1, 0⟩
        (xs.flatMap (fun x => dodContrib d cfg a ms x.r))
        (ans2 d cfg dec (f := f1 + 1) (by simp) ?_) ?_ ?_ ⟨hcons, fun h => by omega⟩ (hplan _ _ _) hgc' rfl rfl hgx
      · simp only [PQ2.select, h1 f1 (Nat.le_refl _), hself, if_true]
      · show rem2 d cfg dec c _ = _
        simp only [rem2, hr, dodRest_zero, numFrom, List.nil_append, List.flatMap_cons, dodContrib, hself, if_true,
          List.cons_append]
      · show rem2 d cfg dec c' _ = _
        simp only [rem2, hrem, dodRest_zero, numFrom, List.nil_append]
    · have hcontrib : dodContrib d cfg a ms x.r
          = numFrom 0 ((childrenM d x.r).flatMap (topOf d (test d cfg a))) := by
        simp only [dodContrib, hself, if_false, Bool.false_eq_true, numbered_eq, topMost_unfold]
      have hu := sibCands_unfold d x.r true
      simp only [sibCands, if_true] at hu
      cases hm : Nav.moveChild d x.r with
      | none =>
        -- `if !d.moveToFirstChild() { continue }`
        rw [hm] at hu; simp only at hu
        exact Pull2.silent d cfg dec (hn 0 x.r c' hgc') f1
          (fun f hf => by simp only [PQ2.select, h1 f hf, hself, if_false, Bool.false_eq_true, hm])
          (by simp only [rem2, hr, hrem, dodRest_zero, numFrom, List.nil_append, List.flatMap_cons, hcontrib, hu,
            List.flatMap_nil])
          (hplan _ _ _)
      | some ch =>
        rw [hm] at hu; simp only at hu
        have hpar := moveChild_parent d hm
        obtain ⟨i, hxi, rfl, hi⟩ := moveChild_some hm
        have hgch : Good d (.node (i+1)) := hi
        obtain ⟨f2, j, l, hgj, hl, hj, hres⟩ :=
          dodInner_spec d (test d cfg a) _ (.node (i+1)) 1 hgch (Nat.le_refl _)
        have hstr0 : (childrenM d x.r).flatMap (topOf d (test d cfg a))
            = topOf d (test d cfg a) (.node (i+1)) ++ dodRest d (test d cfg a) 1 (.node (i+1)) := by
          rw [hu, dodRest_succ, hpar]
          simp only [List.flatMap_cons, dodRest_zero, List.append_nil, Bool.false_eq_true, if_false]
        rcases hres with ⟨hinn, hstr⟩ | ⟨hinn, hstr⟩
        · refine .emit (s' := PQ2.descOverDesc a ms inp' l 1 j) (c' := c') ⟨j, 1, 0⟩
            (numFrom 1 (dodRest d (test d cfg a) l j) ++ xs.flatMap (fun x => dodContrib d cfg a ms x.r))
            (ans2 d cfg dec (f := max f1 f2 + 1) (by simp) ?_) ?_ ?_ ⟨hcons, fun _ => hgj⟩ (hplan _ _ _) hgc'
            rfl rfl hgj
          · simp only [PQ2.select, h1 _ (Nat.le_max_left _ _), hself, if_false, Bool.false_eq_true, hm,
              hinn _ (Nat.le_max_right _ _)]
          · show rem2 d cfg dec c _ = _
            simp only [rem2, hr, dodRest_zero, numFrom, List.nil_append, List.flatMap_cons, hcontrib, hstr0, hstr,
              List.cons_append]
          · show rem2 d cfg dec c' _ = _
            simp only [rem2, hrem]
        · obtain ⟨l0, rfl⟩ : ∃ l0, l = l0 + 1 := ⟨l - 1, by omega⟩
          exact Pull2.silent d cfg dec
            (step2_dod_live d cfg dec a ms inp' hcons hn _ l0 0 j c' hgj (Nat.le_refl _) hgc') (max f1 f2)
            (fun f hf => by
              simp only [PQ2.select, h1 f (by omega), hself, if_false, Bool.false_eq_true, hm, hinn f (by omega)])
            (by
              simp only [rem2, hr, hrem, List.flatMap_cons, hcontrib, hstr0, hstr]
              simp only [dodRest_zero, numFrom, List.nil_append])
            (hplan _ _ _)

theorem step2_dod (n : Nat) (hin : StepIH d cfg dec n) (a : AxisInfo) (ms : Bool) (inp : PQ2) (hp : PSz d n inp)
    (level pos : Nat) (cn c : Ref) (hi : (PQ2.descOverDesc a ms inp level pos cn).Inv d) (hg : Good d c) :
    Pull2 d cfg dec (.descOverDesc a ms inp level pos cn) c := by
  cases level with
  | zero =>
    rcases hi with ⟨_, hi⟩ | ⟨hi, _⟩
    · exact step2_dod_idle d cfg dec n hin a ms _ inp hp hi c hg rfl pos cn
    · exact step2_dod_idle d cfg dec n hin a ms _ inp hp (PQ2.cons_inv d _ hi) c hg rfl pos cn
  | succ lv =>
    rcases hi with ⟨h, _⟩ | ⟨hc, hgcn⟩
    · cases h
    · exact step2_dod_live d cfg dec a ms inp hc
        (fun p0 cn0 c0 hg0 => step2_dod_idle d cfg dec n hin a ms _ inp hp (PQ2.cons_inv d _ hc) c0 hg0 rfl p0 cn0)
        _ lv pos cn c (hgcn (Nat.succ_pos _)) (Nat.le_refl _) hg

end

end XPathV.Model
