import XPathV.Lemmas.Pull2.Laws
import XPathV.Lemmas.DocLemmas
/-!
# Walk lemmas for the closure bodies of `Model/Pull2.lean`

What the walks of the sequence model yield lies in the document (`sibCands_good`, `attrCands_good`,
`walkD_good`); the specifications of the closure bodies `ancUp/ancIter/ancLoop`, `precSibIter` against the
walks `ancestorsM`, `prevSibsM` (their recursion equations: `Lemmas/Walks.lean`).
-/
namespace XPathV.Model
open XPathV

section
variable (d : Doc)

/-! ## ranges -/

theorem sibCands_good : ∀ (k : Nat) (n : Ref) (first : Bool), (sibCands d n first).length ≤ k →
    ∀ x ∈ sibCands d n first, Good d x := by
  intro _ n first _
  have next : ∀ n, ∀ x ∈ nextSibsM d n, Good d x := fun n x hx => by
    rw [nextSibsM_chain] at hx
    obtain ⟨y, hy⟩ := chain_moved _ _ x hx
    obtain ⟨i, j, rfl, rfl, _, hj, _⟩ := moveNext_some hy
    exact hj
  cases first with
  | false => exact next n
  | true =>
    intro x hx
    simp only [sibCands, if_true] at hx
    rw [childrenM_unfold] at hx
    cases h : Nav.moveChild d n with
    | none => rw [h] at hx; cases hx
    | some c =>
      rw [h] at hx
      obtain ⟨i, rfl, rfl, hi⟩ := moveChild_some h
      rcases List.mem_cons.1 hx with rfl | hx
      · exact hi
      · exact next _ x hx

theorem attrCands_good : ∀ (k : Nat) (n : Ref) (isAttr : Bool), (attrCands d n isAttr).length ≤ k → Good d n →
    ∀ x ∈ attrCands d n isAttr, Good d x := by
  intro _ n isAttr _ hn
  cases isAttr with
  | true => intro x hx; cases hx
  | false =>
    simp only [attrCands, Bool.false_eq_true, if_false, attrChain_chain]
    -- `MoveToNextAttribute` stays on the same record
    exact chain_all (Q := Good d)
      (fun a b ha h => by simp only [Good, (moveNextAttr_lt h).2]; exact ha) _ n hn

theorem walkD_good : ∀ (k : Nat) (n : Ref) (l : Nat), (walkD d d.length n l).length ≤ k →
    ∀ x ∈ walkD d d.length n l, Good d x.1 := by
  intro _ n l _ x hx
  rw [walkD_chain] at hx
  obtain ⟨y, hy⟩ := chain_moved _ _ x hx
  exact (stepD_gt (r' := x.1) (l' := x.2) hy).2

/-! ## ancestors -/

theorem moveParent_ancM {r p : Ref} (h : Nav.moveParent d r = some p) : ancM p < ancM r ∧ (Good d r → Good d p) :=
  ⟨(moveParent_lt h).1, fun hg => Nat.lt_of_le_of_lt (moveParent_lt h).2 hg⟩

variable (t : Ref → Bool)

theorem ancUp_spec (k : Nat) (n : Ref) (hg : Good d n) (_ : (ancestorsM d n).length ≤ k) :
    ∃ f0, (∀ f, f0 ≤ f → ancUp d t f n = hdR ((ancestorsM d n).filter t)) ∧
      (∀ j rest, (ancestorsM d n).filter t = j :: rest → (ancestorsM d j).filter t = rest ∧ Good d j) :=
  scan_spec (ancUp d t) (Nav.moveParent d) t (ancestorsM d) (Good d)
    (fun f n => by rw [ancUp]; cases Nav.moveParent d n <;> rfl)
    (fun n hg => by rw [ancestorsM_unfold d hg]; cases Nav.moveParent d n <;> rfl)
    (fun _ _ hg hm => (moveParent_ancM d hm).2 hg) _ n hg (Nat.lt_succ_self _)

theorem ancCands_false (self : Bool) (n : Ref) : ancCands d t self n false = (ancestorsM d n).filter t := by
  simp [ancCands]

/-- the closure body returns the head of its candidate list; the new state `(j, false)` has the tail -/
theorem ancIter_spec (self : Bool) (n : Ref) (first : Bool) (hg : Good d n) :
    ∃ f0, (∀ f, f0 ≤ f → ancIter d t self f n first = hdR (ancCands d t self n first)) ∧
      (∀ j rest, ancCands d t self n first = j :: rest → ancCands d t self j false = rest ∧ Good d j) := by
  obtain ⟨f0, h1, h2⟩ := ancUp_spec d t _ n hg (Nat.le_refl _)
  by_cases hown : (first && self && t n) = true
  · have hfs : (first && self) = true := by
      cases first <;> cases self <;> simp_all
    have htn : t n = true := by
      cases first <;> cases self <;> simp_all
    have hc : ancCands d t self n first = n :: (ancestorsM d n).filter t := by
      simp [ancCands, hfs, htn]
    refine ⟨0, fun f _ => ?_, fun j rest h => ?_⟩
    · simp only [ancIter, hown, if_true, hc, hdR]
    · rw [hc] at h
      injection h with h1 h2
      subst h1
      exact ⟨by rw [ancCands_false]; exact h2, hg⟩
  · have hc : ancCands d t self n first = (ancestorsM d n).filter t := by
      simp only [ancCands]
      by_cases hfs : (first && self) = true
      · have htn : t n = false := by
          cases first <;> cases self <;> simp_all
        simp [hfs, htn]
      · simp [hfs]
    refine ⟨f0, fun f hf => ?_, fun j rest h => ?_⟩
    · simp only [ancIter, hown, if_false, Bool.false_eq_true, hc]
      exact h1 f hf
    · rw [hc] at h
      rw [ancCands_false]
      exact h2 j rest h

variable (key : Ref → String)

/-- the `for node := a.iterator(); …` loop: it reports the first candidate whose key is not in the
table and records it, or runs the closure dry -/
theorem ancLoop_spec (self : Bool) : ∀ (k : Nat) (n : Ref) (first : Bool) (tb : List String), Good d n →
    (ancCands d t self n first).length ≤ k →
    (∃ f0 j, (∀ f, f0 ≤ f → ancLoop d t key self f n first tb = .yield (j, key j :: tb)) ∧ Good d j ∧
      ∀ ys, dedupByKey key (ancCands d t self n first ++ ys) tb
        = j :: dedupByKey key (ancCands d t self j false ++ ys) (key j :: tb)) ∨
    (∃ f0, (∀ f, f0 ≤ f → ancLoop d t key self f n first tb = .done) ∧
      ∀ ys, dedupByKey key (ancCands d t self n first ++ ys) tb = dedupByKey key ys tb) := by
  intro k
  induction k with
  | zero =>
    intro n first tb hg hlen
    have hnil : ancCands d t self n first = [] := List.eq_nil_of_length_eq_zero (by omega)
    obtain ⟨f0, h1, _⟩ := ancIter_spec d t self n first hg
    refine Or.inr ⟨f0 + 1, fun f hf => ?_, fun ys => by rw [hnil]; rfl⟩
    obtain ⟨f', rfl⟩ : ∃ f', f = f' + 1 := ⟨f - 1, by omega⟩
    simp only [ancLoop, h1 f' (by omega), hnil, hdR]
  | succ k ih =>
    intro n first tb hg hlen
    obtain ⟨f0, h1, h2⟩ := ancIter_spec d t self n first hg
    cases hc : ancCands d t self n first with
    | nil =>
      refine Or.inr ⟨f0 + 1, fun f hf => ?_, fun ys => rfl⟩
      obtain ⟨f', rfl⟩ : ∃ f', f = f' + 1 := ⟨f - 1, by omega⟩
      simp only [ancLoop, h1 f' (by omega), hc, hdR]
    | cons j rest =>
      obtain ⟨hrest, hgj⟩ := h2 j rest hc
      by_cases hm : tb.contains (key j) = true
      · have hlen' : (ancCands d t self j false).length ≤ k := by
          rw [hrest]; rw [hc] at hlen; simp only [List.length_cons] at hlen; omega
        rcases ih j false tb hgj hlen' with ⟨f1, j', hy, hgj', hd⟩ | ⟨f1, hy, hd⟩
        · refine Or.inl ⟨max f0 f1 + 1, j', fun f hf => ?_, hgj', fun ys => ?_⟩
          · obtain ⟨f', rfl⟩ : ∃ f', f = f' + 1 := ⟨f - 1, by omega⟩
            simp only [ancLoop, h1 f' (by omega), hc, hdR, hm, if_true]
            exact hy f' (by omega)
          · simp only [List.cons_append, dedupByKey, hm, if_true]
            rw [← hrest]; exact hd ys
        · refine Or.inr ⟨max f0 f1 + 1, fun f hf => ?_, fun ys => ?_⟩
          · obtain ⟨f', rfl⟩ : ∃ f', f = f' + 1 := ⟨f - 1, by omega⟩
            simp only [ancLoop, h1 f' (by omega), hc, hdR, hm, if_true]
            exact hy f' (by omega)
          · simp only [List.cons_append, dedupByKey, hm, if_true]
            rw [← hrest]; exact hd ys
      · refine Or.inl ⟨f0 + 1, j, fun f hf => ?_, hgj, fun ys => ?_⟩
        · obtain ⟨f', rfl⟩ : ∃ f', f = f' + 1 := ⟨f - 1, by omega⟩
          simp only [ancLoop, h1 f' (by omega), hc, hdR, hm, if_false, Bool.false_eq_true]
        · simp only [List.cons_append, dedupByKey, hm, if_false, Bool.false_eq_true, hrest]

/-! ## previous siblings -/

theorem movePrev_good {r p : Ref} (h : Nav.movePrev d r = some p) (hg : Good d r) : Good d p := by
  obtain ⟨i, j, rfl, rfl, hij⟩ := movePrev_some d h
  simp only [Good, Ref.idx] at hg ⊢; omega

theorem precSibIter_spec (k : Nat) (n : Ref) (hg : Good d n) (_ : (prevSibsM d n).length ≤ k) :
    ∃ f0, (∀ f, f0 ≤ f → precSibIter d t f n = hdR ((prevSibsM d n).filter t)) ∧
      (∀ j rest, (prevSibsM d n).filter t = j :: rest → (prevSibsM d j).filter t = rest ∧ Good d j) :=
  scan_spec (precSibIter d t) (Nav.movePrev d) t (prevSibsM d) (Good d)
    (fun f n => by rw [precSibIter]; cases Nav.movePrev d n <;> rfl)
    (fun n hg => by rw [prevSibsM_unfold d hg]; cases Nav.movePrev d n <;> rfl)
    (fun _ _ hg hm => movePrev_good d hm hg) _ n hg (Nat.lt_succ_self _)

end

end XPathV.Model
