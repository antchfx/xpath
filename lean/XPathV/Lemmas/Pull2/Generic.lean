import XPathV.Model.Pull2
/-!
# Generic one-pull lemmas for pull machines

An abstract machine `Mach σ` is a `Select` function with fuel over states `σ` (threading
`t.Current()`), together with its specification: the stream `rem c s` a state still yields when
`t.Current() = c`.  `Step` is the one-pull lemma for one state.  Most `Select` methods have one of two shapes,
stated as equations of `sel` alone (no specification) in the structures `ClosArm` and `FMapArm`:

* "closure per input node" (`if iterator == nil { pull input; build closure };
  if node := iterator(); node != nil { return node }; iterator = nil`); the closure neither reads nor moves
  `t.Current()`,
* "filter/map the input" (`for { node := Input.Select(t); …; if ok { return … } }`);
  `gcur` is where the loop body puts `t.Current()` (a filter: on the candidate), `fin c x` what the
  `Select` leaves when it was entered with `c` and its loop left `x` (a filter: `c`, restored by a `defer`).

What is proved by walking through `select` is proved once per shape, for the states of any arm: `mono` and `ctx` are
the induction steps of "more fuel changes nothing" and "the context node survives".  The one-pull lemma is proved in
the form `Pull` (the answer at *some* fuel, `Ans`; for a machine that is monotone in the fuel that is `Step`,
`Mach.Pull.step`), so that no proof above the rules of `Ans` chooses a fuel: the schemes `closure_step`
(`closure_flat` when the stream is a `flatMap` over the input's) and `fmap_step` assume it for the
input states and conclude it for the composed states, given the specification side of the arm.
`leaf_step` is the case without input (`contextQuery`, `absoluteQuery`);
`collectM_spec`, `collectU_spec` describe the draining loops inside `mergeQuery`/`unionQuery` (their two fuels are
independent, so they keep the form "from some fuel on").

What the closure scheme is told beside the arm (a state is `A.st inp it p`: input, closure `it : Option κ`, remaining
fields `p : π`):

| argument | meaning | e.g. `childQuery` | e.g. `descendantQuery` (`p = (posit, level)`) |
|---|---|---|---|
| `ItOk` | what `Inv` says of a live closure | `itOK d` | `itOK d` |
| `ItCons` | what holds of the closure after a call (`Cons`) | `itOK d` | `itOK d` |
| `posOf`, `lvlOf` | `position()`, `depth()` from the fields | `id`, `fun _ => 0` | `(·.1)`, `(·.2)` |
| `curOf`, `contrib` (`closure_flat`) / `R` (`closure_step`) | the stream of a state | `numFrom p (…)`, `childContrib` | `descCur`, `descItems` |

For `followingQuery`/`precedingQuery`, `ItOk` is `fitInv` (the captured inner query may still be the fresh
one) and `ItCons` is `fitOK` (after a call it has pulled its start node): the weaker one is the invariant.
-/
namespace XPathV.Model
open XPathV

/-! ## The two shapes of a `Select` method

Eleven of the sixteen `Select` methods have one of them.  An arm is the data of the shape (how the
fields are reset, what the closure call is) together with the equations saying that `sel` on its states *is*
that shape. -/

/-- "closure per input node": the states are `st inp it p` (input, closure, other fields).  `start n` is what a new
closure captures for the input node `n`, `call` the closure call (answer, new captured state, new fields);
`init`, `reset`, `idle` give the fields when a closure is created, when the input is exhausted, when the closure
is dropped. -/
structure ClosArm (σ κ π : Type) (sel : Nat → σ → Ref → Res Ref × σ × Ref) where
  st : σ → Option κ → π → σ
  start : Ref → κ
  call : Nat → κ → π → Res (Ref × κ × π)
  init : π → π
  reset : π → π
  idle : π → π
  sel_none : ∀ f inp p c, sel (f+1) (st inp none p) c =
    match sel f inp c with
    | (.yield n, inp', c') => sel f (st inp' (some (start n)) (init p)) c'
    | (.done, inp', c') => (.done, st inp' none (reset p), c')
    | (.fuel, inp', c') => (.fuel, st inp' none (reset p), c')
  sel_some : ∀ f inp k p c, sel (f+1) (st inp (some k) p) c =
    match call f k p with
    | .yield (j, k', p') => (.yield j, st inp (some k') p', c)
    | .done => sel f (st inp none (idle p)) c
    | .fuel => (.fuel, st inp (some k) p, c)

/-- "filter/map the input": the states are `st inp p`; `g` decides on an input node (given the input's
`position()`/`depth()`), `gcur n c'` is where the loop body puts `t.Current()`, `fin c x` what the method
leaves there when it was entered with `c` and its loop left `x` -/
structure FMapArm (σ π : Type) (sel : Nat → σ → Ref → Res Ref × σ × Ref) (pos lvl : σ → Nat) where
  st : σ → π → σ
  g : Ref → Nat → Nat → π → Option Ref × π
  gcur : Ref → Ref → Ref
  fin : Ref → Ref → Ref
  pdone : π → π
  sel_eq : ∀ f inp p c, sel (f+1) (st inp p) c =
    match sel f inp c with
    | (.yield n, inp', c') =>
      match g n (pos inp') (lvl inp') p with
      | (some m, p') => (.yield m, st inp' p', fin c (gcur n c'))
      | (none, p') =>
        ((sel f (st inp' p') (gcur n c')).1, (sel f (st inp' p') (gcur n c')).2.1,
          fin c (sel f (st inp' p') (gcur n c')).2.2)
    | (.done, inp', c') => (.done, st inp' (pdone p), fin c c')
    | (.fuel, inp', c') => (.fuel, st inp' (pdone p), fin c c')

section
variable {σ : Type} {sel : Nat → σ → Ref → Res Ref × σ × Ref}

/-- induction hypothesis of "more fuel changes nothing" at fuel `f` -/
abbrev MonoAt (sel : Nat → σ → Ref → Res Ref × σ × Ref) (f : Nat) : Prop :=
  ∀ q c o q' c', sel f q c = (o, q', c') → o ≠ .fuel → sel (f+1) q c = (o, q', c')

/-- induction hypothesis of "the context node survives" at fuel `f` -/
abbrev CtxAt (sel : Nat → σ → Ref → Res Ref × σ × Ref) (f : Nat) : Prop :=
  ∀ q c o q' c', sel f q c = (o, q', c') → o ≠ .fuel → c' = c

theorem ClosArm.mono {κ π : Type} (A : ClosArm σ κ π sel)
    (hcall : ∀ f k p r, A.call f k p = r → r ≠ .fuel → A.call (f+1) k p = r)
    {f : Nat} (ih : MonoAt sel f) (inp : σ) (it : Option κ) (p : π) (c : Ref) (o : Res Ref) (q' : σ) (c' : Ref)
    (h : sel (f+1) (A.st inp it p) c = (o, q', c')) (hne : o ≠ .fuel) :
    sel (f+1+1) (A.st inp it p) c = (o, q', c') := by
  cases it with
  | none =>
    rw [A.sel_none] at h ⊢
    cases hr : sel f inp c with
    | mk o1 rest =>
      obtain ⟨inp1, c1⟩ := rest
      rw [hr] at h
      cases o1 with
      | fuel => exact absurd (congrArg (·.1) h).symm hne
      | done => rw [ih inp c _ _ _ hr (by simp)]; exact h
      | yield x => rw [ih inp c _ _ _ hr (by simp)]; exact ih _ _ _ _ _ h hne
  | some k =>
    rw [A.sel_some] at h ⊢
    cases hr : A.call f k p with
    | fuel => rw [hr] at h; exact absurd (congrArg (·.1) h).symm hne
    | done => rw [hr] at h; rw [hcall f k p _ hr (by simp)]; exact ih _ _ _ _ _ h hne
    | yield j => rw [hr] at h; rw [hcall f k p _ hr (by simp)]; exact h

theorem ClosArm.ctx {κ π : Type} (A : ClosArm σ κ π sel)
    {f : Nat} (ih : CtxAt sel f) (inp : σ) (it : Option κ) (p : π) (c : Ref) (o : Res Ref) (q' : σ) (c' : Ref)
    (h : sel (f+1) (A.st inp it p) c = (o, q', c')) (hne : o ≠ .fuel) : c' = c := by
  cases it with
  | none =>
    rw [A.sel_none] at h
    cases hr : sel f inp c with
    | mk o1 rest =>
      obtain ⟨inp1, c1⟩ := rest
      rw [hr] at h
      cases o1 with
      | fuel => exact absurd (congrArg (·.1) h).symm hne
      | done =>
        have e : c1 = c' := congrArg (·.2.2) h
        exact e ▸ ih _ _ _ _ _ hr (by simp)
      | yield x => rw [ih _ _ _ _ _ h hne]; exact ih _ _ _ _ _ hr (by simp)
  | some k =>
    rw [A.sel_some] at h
    cases hr : A.call f k p with
    | fuel => rw [hr] at h; exact absurd (congrArg (·.1) h).symm hne
    | done => rw [hr] at h; exact ih _ _ _ _ _ h hne
    | yield j =>
      rw [hr] at h
      have e : c = c' := congrArg (·.2.2) h
      exact e.symm

theorem FMapArm.mono {π : Type} {pos lvl : σ → Nat} (A : FMapArm σ π sel pos lvl)
    {f : Nat} (ih : MonoAt sel f) (inp : σ) (p : π) (c : Ref) (o : Res Ref) (q' : σ) (c' : Ref)
    (h : sel (f+1) (A.st inp p) c = (o, q', c')) (hne : o ≠ .fuel) :
    sel (f+1+1) (A.st inp p) c = (o, q', c') := by
  rw [A.sel_eq] at h ⊢
  cases hr : sel f inp c with
  | mk o1 rest =>
    obtain ⟨inp1, c1⟩ := rest
    rw [hr] at h
    cases o1 with
    | fuel => exact absurd (congrArg (·.1) h).symm hne
    | done => rw [ih inp c _ _ _ hr (by simp)]; exact h
    | yield x =>
      rw [ih inp c _ _ _ hr (by simp)]
      simp only at h ⊢
      cases hg : A.g x (pos inp1) (lvl inp1) p with
      | mk om p' =>
        rw [hg] at h
        cases om with
        | some m => exact h
        | none =>
          simp only at h ⊢
          cases hr2 : sel f (A.st inp1 p') (A.gcur x c1) with
          | mk o2 rest2 =>
            obtain ⟨q2, c2⟩ := rest2
            rw [hr2] at h
            have ho : o2 = o := congrArg (·.1) h
            rw [ih _ _ _ _ _ hr2 (ho ▸ hne)]
            exact h

theorem FMapArm.ctx {π : Type} {pos lvl : σ → Nat} (A : FMapArm σ π sel pos lvl)
    (hfin : ∀ c n, A.fin c (A.gcur n c) = c ∧ A.fin c c = c)
    {f : Nat} (ih : CtxAt sel f) (inp : σ) (p : π) (c : Ref) (o : Res Ref) (q' : σ) (c' : Ref)
    (h : sel (f+1) (A.st inp p) c = (o, q', c')) (hne : o ≠ .fuel) : c' = c := by
  rw [A.sel_eq] at h
  cases hr : sel f inp c with
  | mk o1 rest =>
    obtain ⟨inp1, c1⟩ := rest
    rw [hr] at h
    cases o1 with
    | fuel => exact absurd (congrArg (·.1) h).symm hne
    | done =>
      have e : A.fin c c1 = c' := congrArg (·.2.2) h
      rw [← e, ih _ _ _ _ _ hr (by simp)]; exact (hfin c c).2
    | yield x =>
      have e : c1 = c := ih _ _ _ _ _ hr (by simp)
      subst e
      simp only at h
      cases hg : A.g x (pos inp1) (lvl inp1) p with
      | mk om p' =>
        rw [hg] at h
        cases om with
        | some m =>
          have e : A.fin c1 (A.gcur x c1) = c' := congrArg (·.2.2) h
          rw [← e]; exact (hfin c1 x).1
        | none =>
          simp only at h
          cases hr2 : sel f (A.st inp1 p') (A.gcur x c1) with
          | mk o2 rest2 =>
            obtain ⟨q2, c2⟩ := rest2
            rw [hr2] at h
            have ho : o2 = o := congrArg (·.1) h
            have e : A.fin c1 c2 = c' := congrArg (·.2.2) h
            rw [← e, ih _ _ _ _ _ hr2 (ho ▸ hne)]; exact (hfin c1 x).1

end

/-! ## Abstract machines and the one-pull lemma -/

structure Mach (σ : Type) where
  sel : Nat → σ → Ref → Res Ref × σ × Ref
  rem : Ref → σ → List Item
  pos : σ → Nat
  lvl : σ → Nat
  /-- precondition of the one-pull lemma -/
  Inv : σ → Prop
  /-- the state no longer reads `t.Current()` -/
  Cons : σ → Prop
  /-- same configuration -/
  Same : σ → σ → Prop

/-- laws every instance satisfies -/
structure Mach.Laws {σ : Type} (M : Mach σ) : Prop where
  cons_inv : ∀ s, M.Cons s → M.Inv s
  cons_indep : ∀ s, M.Cons s → ∀ c c', M.rem c s = M.rem c' s
  same_refl : ∀ s, M.Same s s
  same_trans : ∀ s s' s'', M.Same s s' → M.Same s' s'' → M.Same s s''

/-- **One pull** from state `s` with `t.Current() = c`, given enough fuel: the answer is the head of
`rem c s`; the new state's stream is the tail, it is consumed, has the same configuration; the new
`t.Current()` is good; `position()`/`depth()` are those of the item and the item is good. -/
def Mach.Step {σ : Type} (M : Mach σ) (Good : Ref → Prop) (s : σ) (c : Ref) : Prop :=
  ∃ s' c' f0, (∀ f, f0 ≤ f → M.sel f s c = (headRes (M.rem c s), s', c')) ∧
    M.rem c' s' = (M.rem c s).tail ∧ M.Cons s' ∧ M.Same s s' ∧ Good c' ∧
    (∀ x xs, M.rem c s = x :: xs → M.pos s' = x.pos ∧ M.lvl s' = x.lvl ∧ Good x.r)

/-! ## Answers without fuel

`M.Ans s c o s' c'`: `Select` from `s` with `t.Current() = c` answers `o` (a node or `nil`) with *some* fuel, hence,
the machine being monotone in the fuel (`M.Mono`), with every larger fuel.  `M.Pull` is the one-pull lemma `M.Step`
said with `Ans`.  It has three introduction rules, `stop`, `emit` and `silent`, and every exit of a `Select` method
is one of the three; what an arm of one of the two shapes answers, given what its input or its closure call
answers, is said once in the rules `ClosArm.ans_*`, `FMapArm.ans_*`.  Above these rules no proof of a one-pull lemma
chooses a fuel. -/

section
variable {σ : Type} (M : Mach σ)

/-- more fuel never changes an answer -/
def Mach.Mono : Prop := ∀ f, MonoAt M.sel f

/-- `Select` answers `o`, not "out of fuel", from `(s, c)` and leaves `(s', c')` -/
def Mach.Ans (s : σ) (c : Ref) (o : Res Ref) (s' : σ) (c' : Ref) : Prop :=
  o ≠ .fuel ∧ ∃ f, M.sel f s c = (o, s', c')

/-- the one-pull lemma `M.Step Good s c` with the answer given as `Ans` -/
def Mach.Pull (Good : Ref → Prop) (s : σ) (c : Ref) : Prop :=
  ∃ s' c', M.Ans s c (headRes (M.rem c s)) s' c' ∧
    M.rem c' s' = (M.rem c s).tail ∧ M.Cons s' ∧ M.Same s s' ∧ Good c' ∧
    (∀ x xs, M.rem c s = x :: xs → M.pos s' = x.pos ∧ M.lvl s' = x.lvl ∧ Good x.r)

variable {M} {Good : Ref → Prop} {s s' s2 : σ} {c c' c2 : Ref} {o : Res Ref}

theorem Mach.Mono.le (hm : M.Mono) {f f' : Nat} (h : M.sel f s c = (o, s', c')) (hne : o ≠ .fuel) (hle : f ≤ f') :
    M.sel f' s c = (o, s', c') := by
  induction hle with
  | refl => exact h
  | step _ ih => exact hm _ s c o s' c' ih hne

theorem Mach.Ans.ge (hm : M.Mono) (h : M.Ans s c o s' c') : ∃ f0, ∀ f, f0 ≤ f → M.sel f s c = (o, s', c') :=
  h.2.imp fun _ hf _ hle => hm.le hf h.1 hle

theorem Mach.Pull.step (hm : M.Mono) (h : M.Pull Good s c) : M.Step Good s c := by
  obtain ⟨s', c', ha, h⟩ := h
  obtain ⟨f0, hf⟩ := ha.ge hm
  exact ⟨s', c', f0, hf, h⟩

/-- the stream is empty and `Select` answers `nil` -/
theorem Mach.Pull.stop (h : M.Ans s c .done s' c') (hr : M.rem c s = []) (hr' : M.rem c' s' = [])
    (hc : M.Cons s') (hs : M.Same s s') (hg : Good c') : M.Pull Good s c :=
  ⟨s', c', by rw [hr]; exact h, by rw [hr, hr']; rfl, hc, hs, hg, fun x xs hx => by rw [hr] at hx; cases hx⟩

/-- `Select` reports the head of the stream -/
theorem Mach.Pull.emit (x : Item) (xs : List Item) (h : M.Ans s c (.yield x.r) s' c') (hr : M.rem c s = x :: xs)
    (hr' : M.rem c' s' = xs) (hc : M.Cons s') (hs : M.Same s s') (hg : Good c')
    (hp : M.pos s' = x.pos) (hl : M.lvl s' = x.lvl) (hgx : Good x.r) : M.Pull Good s c :=
  ⟨s', c', by rw [hr]; exact h, by rw [hr, hr']; rfl, hc, hs, hg, fun y ys hy => by
    rw [hr] at hy; injection hy with hy _; subst hy; exact ⟨hp, hl, hgx⟩⟩

/-- a silent move: whatever `(s2, c2)` answers, `(s, c)` answers (up to what the method does with `t.Current()`
afterwards, `fin`), and the streams are the same -/
theorem Mach.Pull.silent (L : M.Laws) (fin : Ref → Ref) (hfin : ∀ x, Good x → Good (fin x))
    (h : ∀ o s' c', M.Ans s2 c2 o s' c' → M.Ans s c o s' (fin c'))
    (hr : M.rem c s = M.rem c2 s2) (hs : M.Same s s2) (hp : M.Pull Good s2 c2) : M.Pull Good s c := by
  obtain ⟨s', c', ha, hrem, hc, hs', hg, hpos⟩ := hp
  exact ⟨s', fin c', hr ▸ h _ _ _ ha, by rw [hr, L.cons_indep s' hc _ c']; exact hrem, hc,
    L.same_trans _ _ _ hs hs', hfin _ hg, by rw [hr]; exact hpos⟩

end

section
variable {σ κ π : Type} {M : Mach σ} (A : ClosArm σ κ π M.sel)

theorem ClosArm.ans_pull_done {inp inp' : σ} {c c' : Ref} (p : π) (h : M.Ans inp c .done inp' c') :
    M.Ans (A.st inp none p) c .done (A.st inp' none (A.reset p)) c' := by
  obtain ⟨_, f, hf⟩ := h
  exact ⟨by simp, f+1, by rw [A.sel_none, hf]⟩

theorem ClosArm.ans_pull_yield (hm : M.Mono) {inp inp' s'' : σ} {c c' c'' n : Ref} {o : Res Ref} (p : π)
    (h1 : M.Ans inp c (.yield n) inp' c') (h2 : M.Ans (A.st inp' (some (A.start n)) (A.init p)) c' o s'' c'') :
    M.Ans (A.st inp none p) c o s'' c'' := by
  obtain ⟨_, f1, hf1⟩ := h1
  obtain ⟨hne, f2, hf2⟩ := h2
  refine ⟨hne, max f1 f2 + 1, ?_⟩
  rw [A.sel_none, hm.le hf1 (by simp) (Nat.le_max_left _ _)]
  exact hm.le hf2 hne (Nat.le_max_right _ _)

theorem ClosArm.ans_call_yield {k k' : κ} {p p' : π} {j : Ref} {f : Nat} (inp : σ) (c : Ref)
    (h : A.call f k p = .yield (j, k', p')) :
    M.Ans (A.st inp (some k) p) c (.yield j) (A.st inp (some k') p') c :=
  ⟨by simp, f+1, by rw [A.sel_some, h]⟩

theorem ClosArm.ans_call_done (hm : M.Mono) {k : κ} {p : π} {f0 : Nat} {inp s' : σ} {c c' : Ref} {o : Res Ref}
    (h : ∀ f, f0 ≤ f → A.call f k p = .done) (h2 : M.Ans (A.st inp none (A.idle p)) c o s' c') :
    M.Ans (A.st inp (some k) p) c o s' c' := by
  obtain ⟨hne, f2, hf2⟩ := h2
  refine ⟨hne, max f0 f2 + 1, ?_⟩
  rw [A.sel_some, h _ (Nat.le_max_left _ _)]
  exact hm.le hf2 hne (Nat.le_max_right _ _)

end

section
variable {σ π : Type} {M : Mach σ} (A : FMapArm σ π M.sel M.pos M.lvl)

theorem FMapArm.ans_done {inp inp' : σ} {c c' : Ref} (p : π) (h : M.Ans inp c .done inp' c') :
    M.Ans (A.st inp p) c .done (A.st inp' (A.pdone p)) (A.fin c c') := by
  obtain ⟨_, f, hf⟩ := h
  exact ⟨by simp, f+1, by rw [A.sel_eq, hf]⟩

theorem FMapArm.ans_keep {inp inp' : σ} {c c' n m : Ref} {p p' : π} (h : M.Ans inp c (.yield n) inp' c')
    (hg : A.g n (M.pos inp') (M.lvl inp') p = (some m, p')) :
    M.Ans (A.st inp p) c (.yield m) (A.st inp' p') (A.fin c (A.gcur n c')) := by
  obtain ⟨_, f, hf⟩ := h
  exact ⟨by simp, f+1, by rw [A.sel_eq, hf]; simp only [hg]⟩

theorem FMapArm.ans_skip (hm : M.Mono) {inp inp' s'' : σ} {c c' c'' n : Ref} {p p' : π} {o : Res Ref}
    (h : M.Ans inp c (.yield n) inp' c') (hg : A.g n (M.pos inp') (M.lvl inp') p = (none, p'))
    (h2 : M.Ans (A.st inp' p') (A.gcur n c') o s'' c'') :
    M.Ans (A.st inp p) c o s'' (A.fin c c'') := by
  obtain ⟨_, f1, hf1⟩ := h
  obtain ⟨hne, f2, hf2⟩ := h2
  refine ⟨hne, max f1 f2 + 1, ?_⟩
  rw [A.sel_eq, hm.le hf1 (by simp) (Nat.le_max_left _ _)]
  simp only [hg, hm.le hf2 hne (Nat.le_max_right _ _)]

end

/-! ## The one-pull lemma of a leaf and of the two shapes -/

/-- a leaf (`contextQuery`, `absoluteQuery`): `mk k` reports `n c` once, while `count = 0` -/
theorem leaf_step {σ : Type} (M : Mach σ) (Good : Ref → Prop) (mk : Nat → σ) (n : Ref → Ref)
    (hsel : ∀ f k c, M.sel (f+1) (mk k) c = if k > 0 then (.done, mk k, c) else (.yield (n c), mk (k+1), c))
    (hrem : ∀ k c, M.rem c (mk k) = if k > 0 then [] else [⟨n c, 1, 0⟩])
    (hcons : ∀ k, 0 < k → M.Cons (mk k)) (hsame : ∀ k k', M.Same (mk k) (mk k'))
    (hpos : ∀ k, M.pos (mk k) = 1) (hlvl : ∀ k, M.lvl (mk k) = 0)
    (k : Nat) (c : Ref) (hn : Good (n c)) (hg : Good c) : M.Pull Good (mk k) c := by
  by_cases hc : k > 0
  · exact .stop (s' := mk k) (c' := c) ⟨by simp, 1, by rw [hsel, if_pos hc]⟩ (by rw [hrem, if_pos hc])
      (by rw [hrem, if_pos hc]) (hcons k hc) (hsame _ _) hg
  · exact .emit (s' := mk (k+1)) (c' := c) ⟨n c, 1, 0⟩ [] ⟨by simp, 1, by rw [hsel, if_neg hc]⟩
      (by rw [hrem, if_neg hc]) (by rw [hrem, if_pos (Nat.succ_pos k)]) (hcons _ (Nat.succ_pos k)) (hsame _ _) hg
      (hpos _) (hlvl _) hn

section Closure
variable {σ κ π : Type} (M : Mach σ) (L : M.Laws) (hm : M.Mono) (Good : Ref → Prop)
variable (P : σ → Prop) (hP : ∀ s s', P s → M.Same s s' → P s')
variable (hin : ∀ s, P s → M.Inv s → ∀ c, Good c → M.Pull Good s c)
variable (A : ClosArm σ κ π M.sel)
variable (ItOk ItCons : Option κ → Prop)
variable (posOf lvlOf : π → Nat)
variable (R : Option κ → π → List Item → List Item)
-- structure of the composed states
variable (rem_mk : ∀ inp it p c, M.rem c (A.st inp it p) = R it p (M.rem c inp))
variable (inv_mk : ∀ inp it p, M.Inv (A.st inp it p) → (it = none ∧ M.Inv inp) ∨ (M.Cons inp ∧ ItOk it))
variable (cons_mk : ∀ inp it p, M.Cons inp → ItCons it → M.Cons (A.st inp it p))
variable (cons_none : ItCons none)
variable (same_mk : ∀ inp inp' it it' p p', M.Same inp inp' → M.Same (A.st inp it p) (A.st inp' it' p'))
variable (pos_mk : ∀ inp it p, M.pos (A.st inp it p) = posOf p)
variable (lvl_mk : ∀ inp it p, M.lvl (A.st inp it p) = lvlOf p)
-- the specification
variable (R_nil : ∀ p, R none p [] = [])
variable (start_spec : ∀ (x : Item) (xs : List Item) (p : π), Good x.r →
  ItOk (some (A.start x.r)) ∧ R none p (x :: xs) = R (some (A.start x.r)) (A.init p) xs)
variable (call_spec : ∀ k p, ItOk (some k) →
  (∃ j k' p' f0, (∀ f, f0 ≤ f → A.call f k p = .yield (j, k', p')) ∧ ItCons (some k') ∧ Good j ∧
    ∀ xs, R (some k) p xs = ⟨j, posOf p', lvlOf p'⟩ :: R (some k') p' xs) ∨
  (∃ f0, (∀ f, f0 ≤ f → A.call f k p = .done) ∧ ∀ xs, R (some k) p xs = R none (A.idle p) xs))

include L hm call_spec rem_mk cons_mk same_mk pos_mk lvl_mk in
theorem closure_some (inp : σ) (hc : M.Cons inp)
    (hn : ∀ p c, Good c → M.Pull Good (A.st inp none p) c) (k : κ) (p : π) (c : Ref) (hk : ItOk (some k))
    (hg : Good c) : M.Pull Good (A.st inp (some k) p) c := by
  rcases call_spec k p hk with ⟨j, k', p', f0, hb, hk', hgj, hR⟩ | ⟨f0, hb, hR⟩
  · exact .emit ⟨j, posOf p', lvlOf p'⟩ _ (A.ans_call_yield inp c (hb f0 (Nat.le_refl _))) (by rw [rem_mk, hR])
      (rem_mk _ _ _ _) (cons_mk inp _ p' hc hk') (same_mk _ _ _ _ _ _ (L.same_refl inp)) hg (pos_mk _ _ _)
      (lvl_mk _ _ _) hgj
  · exact .silent L id (fun _ h => h) (fun _ _ _ h => A.ans_call_done hm hb h) (by rw [rem_mk, rem_mk, hR])
      (same_mk _ _ _ _ _ _ (L.same_refl inp)) (hn (A.idle p) c hg)

include L hm hP hin R_nil start_spec call_spec rem_mk cons_mk cons_none same_mk pos_mk lvl_mk in
theorem closure_none : ∀ (l : List Item) (inp : σ), P inp → M.Inv inp → ∀ c, Good c → M.rem c inp = l →
    ∀ p, M.Pull Good (A.st inp none p) c := by
  intro l
  induction l with
  | nil =>
    intro inp hp hi c hg hr p
    obtain ⟨inp', c', ha, hrem, hcons, hsame, hgc', _⟩ := hin inp hp hi c hg
    rw [hr] at ha hrem
    exact .stop (A.ans_pull_done p ha) (by rw [rem_mk, hr, R_nil]) (by rw [rem_mk, hrem]; exact R_nil _)
      (cons_mk inp' none _ hcons cons_none) (same_mk _ _ _ _ _ _ hsame) hgc'
  | cons x xs ih =>
    intro inp hp hi c hg hr p
    obtain ⟨inp', c', ha, hrem, hcons, hsame, hgc', hpos⟩ := hin inp hp hi c hg
    obtain ⟨hk, hR⟩ := start_spec x xs p (hpos x xs hr).2.2
    rw [hr] at ha hrem
    have hn : ∀ p c, Good c → M.Pull Good (A.st inp' none p) c := fun p0 c0 hg0 =>
      ih inp' (hP inp inp' hp hsame) (L.cons_inv inp' hcons) c0 hg0
        (by rw [L.cons_indep inp' hcons c0 c']; exact hrem) p0
    exact .silent L id (fun _ h => h) (fun _ _ _ h => A.ans_pull_yield hm p ha h)
      (by rw [rem_mk, rem_mk, hr, hR, hrem]; rfl) (same_mk _ _ none (some (A.start x.r)) p (A.init p) hsame)
      (closure_some M L hm Good A ItOk ItCons posOf lvlOf R rem_mk cons_mk same_mk pos_mk lvl_mk call_spec inp' hcons hn
        (A.start x.r) (A.init p) c' hk hgc')

include L hm hP hin R_nil start_spec call_spec rem_mk inv_mk cons_mk cons_none same_mk pos_mk lvl_mk in
/-- **Closure scheme.**  If the one-pull lemma holds for the input states, it holds for the
states `A.st inp it p` of a closure arm. -/
theorem closure_step (inp : σ) (hp : P inp) (it : Option κ) (p : π) (c : Ref)
    (hi : M.Inv (A.st inp it p)) (hg : Good c) : M.Pull Good (A.st inp it p) c := by
  have hnone : ∀ inp, P inp → M.Inv inp → ∀ p c, Good c → M.Pull Good (A.st inp none p) c :=
    fun inp hp hi p c hg =>
      closure_none M L hm Good P hP hin A ItOk ItCons posOf lvlOf R rem_mk cons_mk cons_none same_mk pos_mk lvl_mk
        R_nil start_spec call_spec _ inp hp hi c hg rfl p
  rcases inv_mk inp it p hi with ⟨rfl, hi'⟩ | ⟨hc, hk⟩
  · exact hnone inp hp hi' p c hg
  · cases it with
    | none => exact hnone inp hp (L.cons_inv inp hc) p c hg
    | some k =>
      exact closure_some M L hm Good A ItOk ItCons posOf lvlOf R rem_mk cons_mk same_mk pos_mk lvl_mk call_spec
        inp hc (fun p c hg => hnone inp hp (L.cons_inv inp hc) p c hg) k p c hk hg

end Closure


/-! ## The closure scheme with a `flatMap` specification -/

/-- what is left of the current closure, then the contribution of every remaining input node -/
def flatR {κ π : Type} (curOf : κ → π → List Item) (contrib : Ref → List Item) :
    Option κ → π → List Item → List Item :=
  fun it p xs => (match it with | none => [] | some k => curOf k p) ++ xs.flatMap (fun x => contrib x.r)

section Flat
variable {σ κ π : Type} (M : Mach σ) (L : M.Laws) (hm : M.Mono) (Good : Ref → Prop)
variable (P : σ → Prop) (hP : ∀ s s', P s → M.Same s s' → P s')
variable (hin : ∀ s, P s → M.Inv s → ∀ c, Good c → M.Pull Good s c)
variable (A : ClosArm σ κ π M.sel)
variable (ItOk ItCons : Option κ → Prop)
variable (posOf lvlOf : π → Nat)
variable (curOf : κ → π → List Item) (contrib : Ref → List Item)

include L hm hP hin in
/-- **Closure scheme, `flatMap` form.** -/
theorem closure_flat
    (rem_mk : ∀ inp it p c, M.rem c (A.st inp it p) = flatR curOf contrib it p (M.rem c inp))
    (inv_mk : ∀ inp it p, M.Inv (A.st inp it p) → (it = none ∧ M.Inv inp) ∨ (M.Cons inp ∧ ItOk it))
    (cons_mk : ∀ inp it p, M.Cons inp → ItCons it → M.Cons (A.st inp it p))
    (cons_none : ItCons none)
    (same_mk : ∀ inp inp' it it' p p', M.Same inp inp' → M.Same (A.st inp it p) (A.st inp' it' p'))
    (pos_mk : ∀ inp it p, M.pos (A.st inp it p) = posOf p)
    (lvl_mk : ∀ inp it p, M.lvl (A.st inp it p) = lvlOf p)
    (start_spec : ∀ (n : Ref) (p : π), Good n → ItOk (some (A.start n)) ∧ curOf (A.start n) (A.init p) = contrib n)
    (call_spec : ∀ k p, ItOk (some k) →
      (∃ j k' p' f0, (∀ f, f0 ≤ f → A.call f k p = .yield (j, k', p')) ∧ ItCons (some k') ∧ Good j ∧
        curOf k p = ⟨j, posOf p', lvlOf p'⟩ :: curOf k' p') ∨
      (∃ f0, (∀ f, f0 ≤ f → A.call f k p = .done) ∧ curOf k p = []))
    (inp : σ) (hp : P inp) (it : Option κ) (p : π) (c : Ref)
    (hi : M.Inv (A.st inp it p)) (hg : Good c) : M.Pull Good (A.st inp it p) c := by
  refine closure_step M L hm Good P hP hin A ItOk ItCons posOf lvlOf (flatR curOf contrib)
    rem_mk inv_mk cons_mk cons_none same_mk pos_mk lvl_mk (fun p => rfl) ?_ ?_ inp hp it p c hi hg
  · intro x xs p hgx
    obtain ⟨h1, h2⟩ := start_spec x.r p hgx
    exact ⟨h1, by simp only [flatR, List.flatMap_cons, List.nil_append, h2]⟩
  · intro k p hk
    rcases call_spec k p hk with ⟨j, k', p', f0, h1, h2, h3, h4⟩ | ⟨f0, h1, h2⟩
    · exact Or.inl ⟨j, k', p', f0, h1, h2, h3, fun xs => by simp only [flatR, h4, List.cons_append]⟩
    · exact Or.inr ⟨f0, h1, fun xs => by simp only [flatR, h2, List.nil_append]⟩

end Flat

/-! ## The filter/map scheme -/

/-- specification of the filter/map scheme: `g n pos lvl p` decides on input item `n` (with the
input's `position()`/`depth()`), returning the node to report (if any) and the new fields -/
def fmapR {π : Type} (g : Ref → Nat → Nat → π → Option Ref × π) (posOf lvlOf : π → Nat) :
    π → List Item → List Item
  | _, [] => []
  | p, x :: xs =>
    match g x.r x.pos x.lvl p with
    | (some m, p') => ⟨m, posOf p', lvlOf p'⟩ :: fmapR g posOf lvlOf p' xs
    | (none, p') => fmapR g posOf lvlOf p' xs

section FMap
variable {σ π : Type} (M : Mach σ) (L : M.Laws) (hm : M.Mono) (Good : Ref → Prop)
variable (P : σ → Prop) (hP : ∀ s s', P s → M.Same s s' → P s')
variable (hin : ∀ s, P s → M.Inv s → ∀ c, Good c → M.Pull Good s c)
variable (A : FMapArm σ π M.sel M.pos M.lvl)
variable (posOf lvlOf : π → Nat)
variable (rem_mk : ∀ inp p c, M.rem c (A.st inp p) = fmapR A.g posOf lvlOf p (M.rem c inp))
variable (inv_mk : ∀ inp p, M.Inv (A.st inp p) → M.Inv inp)
variable (cons_mk : ∀ inp p, M.Cons inp → M.Cons (A.st inp p))
variable (same_mk : ∀ inp inp' p p', M.Same inp inp' → M.Same (A.st inp p) (A.st inp' p'))
variable (pos_mk : ∀ inp p, M.pos (A.st inp p) = posOf p)
variable (lvl_mk : ∀ inp p, M.lvl (A.st inp p) = lvlOf p)
variable (g_good : ∀ n a b p m p', A.g n a b p = (some m, p') → Good n → Good m)
variable (gcur_good : ∀ n c, Good n → Good c → Good (A.gcur n c))
variable (fin_good : ∀ c x, Good c → Good x → Good (A.fin c x))

include L hm hP hin rem_mk cons_mk same_mk pos_mk lvl_mk g_good gcur_good fin_good in
theorem fmap_aux : ∀ (l : List Item) (inp : σ), P inp → M.Inv inp → ∀ c, Good c → M.rem c inp = l →
    ∀ p, M.Pull Good (A.st inp p) c := by
  intro l
  induction l with
  | nil =>
    intro inp hp hi c hg hr p
    obtain ⟨inp', c', ha, hrem, hcons, hsame, hgc', _⟩ := hin inp hp hi c hg
    rw [hr] at ha hrem
    exact .stop (A.ans_done p ha) (by rw [rem_mk, hr]; rfl)
      (by rw [rem_mk, L.cons_indep inp' hcons _ c', hrem]; rfl) (cons_mk _ _ hcons) (same_mk _ _ _ _ hsame)
      (fin_good _ _ hg hgc')
  | cons x xs ih =>
    intro inp hp hi c hg hr p
    obtain ⟨inp', c', ha, hrem, hcons, hsame, hgc', hpos⟩ := hin inp hp hi c hg
    obtain ⟨hpx, hlx, hgx⟩ := hpos x xs hr
    rw [hr] at ha hrem
    have hrem2 : ∀ c2, M.rem c2 inp' = xs := fun c2 => by rw [L.cons_indep inp' hcons _ c']; exact hrem
    cases hgv : A.g x.r x.pos x.lvl p with
    | mk o p' =>
      have hgv' : A.g x.r (M.pos inp') (M.lvl inp') p = (o, p') := by rw [hpx, hlx]; exact hgv
      cases o with
      | some m =>
        exact .emit ⟨m, posOf p', lvlOf p'⟩ (fmapR A.g posOf lvlOf p' xs) (A.ans_keep ha hgv')
          (by rw [rem_mk, hr]; simp only [fmapR, hgv]) (by rw [rem_mk, hrem2]) (cons_mk _ _ hcons)
          (same_mk _ _ _ _ hsame) (fin_good _ _ hg (gcur_good _ _ hgx hgc')) (pos_mk _ _) (lvl_mk _ _)
          (g_good _ _ _ _ _ _ hgv hgx)
      | none =>
        exact .silent L (A.fin c) (fun _ h => fin_good _ _ hg h) (fun _ _ _ h => A.ans_skip hm ha hgv' h)
          (by rw [rem_mk, rem_mk, hr, hrem2]; simp only [fmapR, hgv]) (same_mk _ _ p p' hsame)
          (ih inp' (hP inp inp' hp hsame) (L.cons_inv _ hcons) _ (gcur_good _ _ hgx hgc') (hrem2 _) p')

include L hm hP hin rem_mk inv_mk cons_mk same_mk pos_mk lvl_mk g_good gcur_good fin_good in
/-- **Filter/map scheme.**  If the one-pull lemma holds for the input states, it holds for the
states `A.st inp p` of a filter/map arm. -/
theorem fmap_step (inp : σ) (hp : P inp) (p : π) (c : Ref) (hi : M.Inv (A.st inp p)) (hg : Good c) :
    M.Pull Good (A.st inp p) c :=
  fmap_aux M L hm Good P hP hin A posOf lvlOf rem_mk cons_mk same_mk pos_mk lvl_mk g_good gcur_good fin_good
    _ inp hp (inv_mk inp p hi) c hg rfl p

end FMap

/-! ## Draining another query inside a `Select` (union, merge) -/

/-- the table after the `if !m[code] { m[code] = true }` loop over `xs` -/
def seenAfter (key : Ref → String) : List Ref → List String → List String
  | [], m => m
  | x :: xs, m => if m.contains (key x) then seenAfter key xs m else seenAfter key xs (key x :: m)

theorem dedupByKey_append (key : Ref → String) : ∀ (xs ys : List Ref) (m : List String),
    dedupByKey key (xs ++ ys) m = dedupByKey key xs m ++ dedupByKey key ys (seenAfter key xs m)
  | [], ys, m => rfl
  | x :: xs, ys, m => by
    simp only [List.cons_append, dedupByKey, seenAfter]
    split
    · exact dedupByKey_append key xs ys m
    · rw [dedupByKey_append key xs ys (key x :: m)]; rfl

section Collect
variable {σ : Type} (M : Mach σ) (L : M.Laws) (hm : M.Mono) (Good : Ref → Prop)
variable (P : σ → Prop) (hP : ∀ s s', P s → M.Same s s' → P s')
variable (hin : ∀ s, P s → M.Inv s → ∀ c, Good c → M.Pull Good s c)

include L hm hP hin in
theorem collectM_spec : ∀ (l : List Item) (q : σ), P q → M.Inv q → ∀ c, Good c → M.rem c q = l →
    ∃ q' c' f0, (∀ fs fl list, f0 ≤ fs → f0 ≤ fl →
        collectM (M.sel fs) fl q c list = some (list ++ l.map (·.r), q', c')) ∧
      M.Cons q' ∧ M.Same q q' ∧ Good c' ∧ (∀ c'', M.rem c'' q' = []) ∧ (∀ x ∈ l, Good x.r) := by
  intro l
  induction l with
  | nil =>
    intro q hp hi c hg hr
    obtain ⟨q', c', ha, hrem, hcons, hsame, hgc', _⟩ := hin q hp hi c hg
    obtain ⟨f1, hsel⟩ := ha.ge hm
    rw [hr] at hsel hrem
    refine ⟨q', c', f1 + 1, fun fs fl list h1 h2 => ?_, hcons, hsame, hgc', ?_, fun x hx => by cases hx⟩
    · obtain ⟨fl', rfl⟩ : ∃ f', fl = f' + 1 := ⟨fl - 1, by omega⟩
      simp only [collectM, hsel fs (by omega), headRes, List.map_nil, List.append_nil]
    · intro c''; rw [L.cons_indep q' hcons c'' c', hrem]; rfl
  | cons x xs ih =>
    intro q hp hi c hg hr
    obtain ⟨q1, c1, ha, hrem, hcons, hsame, hgc1, hpos⟩ := hin q hp hi c hg
    obtain ⟨f1, hsel⟩ := ha.ge hm
    have hgx := (hpos x xs hr).2.2
    rw [hr] at hsel hrem
    simp only [List.tail_cons] at hrem
    obtain ⟨q', c', f2, hcol, hcons', hsame', hgc', hnil, hall⟩ :=
      ih q1 (hP q q1 hp hsame) (L.cons_inv _ hcons) c1 hgc1 hrem
    refine ⟨q', c', max f1 f2 + 1, fun fs fl list h1 h2 => ?_, hcons', L.same_trans _ _ _ hsame hsame', hgc',
      hnil, ?_⟩
    · obtain ⟨fl', rfl⟩ : ∃ f', fl = f' + 1 := ⟨fl - 1, by omega⟩
      simp only [collectM, hsel fs (by omega), headRes]
      rw [hcol fs fl' (list ++ [x.r]) (by omega) (by omega)]
      simp only [List.map_cons, List.append_assoc, List.singleton_append]
    · intro y hy
      cases hy with
      | head => exact hgx
      | tail _ hy => exact hall y hy

include L hm hP hin in
theorem collectU_spec (key : Ref → String) : ∀ (l : List Item) (q : σ), P q → M.Inv q → ∀ c, Good c →
    M.rem c q = l →
    ∃ q' c' f0, (∀ fs fl list m, f0 ≤ fs → f0 ≤ fl →
        collectU (M.sel fs) key fl q c list m =
          some (list ++ dedupByKey key (l.map (·.r)) m, seenAfter key (l.map (·.r)) m, q', c')) ∧
      M.Cons q' ∧ M.Same q q' ∧ Good c' ∧ (∀ c'', M.rem c'' q' = []) ∧ (∀ x ∈ l, Good x.r) := by
  intro l
  induction l with
  | nil =>
    intro q hp hi c hg hr
    obtain ⟨q', c', ha, hrem, hcons, hsame, hgc', _⟩ := hin q hp hi c hg
    obtain ⟨f1, hsel⟩ := ha.ge hm
    rw [hr] at hsel hrem
    refine ⟨q', c', f1 + 1, fun fs fl list m h1 h2 => ?_, hcons, hsame, hgc', ?_, fun x hx => by cases hx⟩
    · obtain ⟨fl', rfl⟩ : ∃ f', fl = f' + 1 := ⟨fl - 1, by omega⟩
      simp only [collectU, hsel fs (by omega), headRes, List.map_nil, dedupByKey, seenAfter, List.append_nil]
    · intro c''; rw [L.cons_indep q' hcons c'' c', hrem]; rfl
  | cons x xs ih =>
    intro q hp hi c hg hr
    obtain ⟨q1, c1, ha, hrem, hcons, hsame, hgc1, hpos⟩ := hin q hp hi c hg
    obtain ⟨f1, hsel⟩ := ha.ge hm
    have hgx := (hpos x xs hr).2.2
    rw [hr] at hsel hrem
    simp only [List.tail_cons] at hrem
    obtain ⟨q', c', f2, hcol, hcons', hsame', hgc', hnil, hall⟩ :=
      ih q1 (hP q q1 hp hsame) (L.cons_inv _ hcons) c1 hgc1 hrem
    refine ⟨q', c', max f1 f2 + 1, fun fs fl list m h1 h2 => ?_, hcons', L.same_trans _ _ _ hsame hsame', hgc',
      hnil, ?_⟩
    · obtain ⟨fl', rfl⟩ : ∃ f', fl = f' + 1 := ⟨fl - 1, by omega⟩
      simp only [collectU, hsel fs (by omega), headRes, List.map_cons, dedupByKey, seenAfter]
      by_cases hm : m.contains (key x.r) = true
      · simp only [hm, if_true]
        exact hcol fs fl' list m (by omega) (by omega)
      · simp only [hm, if_false, Bool.false_eq_true]
        rw [hcol fs fl' (list ++ [x.r]) (key x.r :: m) (by omega) (by omega)]
        simp only [List.append_assoc, List.singleton_append]
    · intro y hy
      cases hy with
      | head => exact hgx
      | tail _ hy => exact hall y hy

end Collect

end XPathV.Model
