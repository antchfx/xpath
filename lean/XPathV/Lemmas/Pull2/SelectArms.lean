import XPathV.Lemmas.Pull2.Spec
/-!
# The arms of `PQ2.select`

Eleven of the sixteen `Select` methods of `Model/Pull2.lean` as instances of the two shapes of
`Pull2/Generic.lean`: seven closure arms (`ClosArm`) and four filter/map arms (`FMapArm`).  Each instance says how
the Go method resets its fields and what its closure call is, and proves the equations of the shape by unfolding
`PQ2.select` once.  `descendantOverDescendantQuery`, `unionQuery` and `mergeQuery` have neither shape
(the first starts its walk inside the arm that pulls the input, the other two drain a query before they answer).
-/
namespace XPathV.Model
open XPathV

section
variable (d : Doc) (cfg : ECfg) (dec : Plan → Ref → Bool)

/-- the `for node := a.iterator(); …` loop of `ancestorQuery.Select` with `a.table = p`, as a closure call:
answer, captured state, new table -/
def ancCall (t : Ref → Bool) (key : Ref → String) (s : Bool) (f : Nat) (k : Ref × Bool) (p : Option (List String)) :
    Res (Ref × (Ref × Bool) × Option (List String)) :=
  match ancLoop d t key s f k.1 k.2 (p.getD []) with
  | .yield (j, tb') => .yield (j, (j, false), some tb')
  | .done => .done
  | .fuel => .fuel

/-! ## the seven closure arms -/

def childArm (a : AxisInfo) : ClosArm PQ2 (Ref × Bool) Nat (PQ2.select d cfg dec) where
  st inp it p := .child a inp it p
  start n := (n, true)
  call := sibCall d (test d cfg a)
  init _ := 0
  reset _ := 0
  idle := id
  sel_none f inp p c := by
    rw [PQ2.select]; rcases PQ2.select d cfg dec f inp c with ⟨_ | _ | _, _, _⟩ <;> rfl
  sel_some f inp k p c := by
    show PQ2.select d cfg dec (f+1) (.child a inp (some (k.1, k.2)) p) c = _
    simp only [PQ2.select, sibCall]
    cases childIter d (test d cfg a) f k.1 k.2 <;> rfl

def cachedChildArm (a : AxisInfo) : ClosArm PQ2 (Ref × Bool) Nat (PQ2.select d cfg dec) where
  st inp it p := .cachedChild a inp it p
  start n := (n, true)
  call := sibCall d (test d cfg a)
  init _ := 0
  reset _ := 0
  idle := id
  sel_none f inp p c := by
    rw [PQ2.select]; rcases PQ2.select d cfg dec f inp c with ⟨_ | _ | _, _, _⟩ <;> rfl
  sel_some f inp k p c := by
    show PQ2.select d cfg dec (f+1) (.cachedChild a inp (some (k.1, k.2)) p) c = _
    simp only [PQ2.select, sibCall]
    cases childIter d (test d cfg a) f k.1 k.2 <;> rfl

def attrArm (a : AxisInfo) : ClosArm PQ2 (Ref × Bool) Unit (PQ2.select d cfg dec) where
  st inp it _ := .attr a inp it
  start n := (n, n.isAttr)
  call := attrCall d (test d cfg a)
  init := id
  reset := id
  idle := id
  sel_none f inp p c := by
    rw [PQ2.select]; rcases PQ2.select d cfg dec f inp c with ⟨_ | _ | _, _, _⟩ <;> rfl
  sel_some f inp k p c := by
    show PQ2.select d cfg dec (f+1) (.attr a inp (some (k.1, k.2))) c = _
    simp only [PQ2.select, attrCall]
    cases attrIter d (test d cfg a) f k.1 k.2 <;> rfl

def descendantArm (a : AxisInfo) (s : Bool) : ClosArm PQ2 (Ref × Bool) (Nat × Nat) (PQ2.select d cfg dec) where
  st inp it p := .descendant a s inp it p.1 p.2
  start n := (n, true)
  call := descCall d (test d cfg a) s
  init _ := (0, 0)
  reset p := (0, p.2)
  idle p := (p.1, 0)
  sel_none f inp p c := by
    rw [PQ2.select]; rcases PQ2.select d cfg dec f inp c with ⟨_ | _ | _, _, _⟩ <;> rfl
  sel_some f inp k p c := by
    show PQ2.select d cfg dec (f+1) (.descendant a s inp (some (k.1, k.2)) p.1 p.2) c = _
    simp only [PQ2.select, descCall]
    cases descIter d (test d cfg a) s f k.1 k.2 p.2 <;> rfl

def ancestorArm (a : AxisInfo) (s : Bool) :
    ClosArm PQ2 (Ref × Bool) (Option (List String)) (PQ2.select d cfg dec) where
  st inp it p := .ancestor a s inp it p
  start n := (n, true)
  call := ancCall d (test d cfg a) (identityHash d cfg) s
  init p := some (p.getD [])
  reset p := some (p.getD [])
  idle p := some (p.getD [])
  sel_none f inp p c := by
    rw [PQ2.select]; rcases PQ2.select d cfg dec f inp c with ⟨_ | _ | _, _, _⟩ <;> rfl
  sel_some f inp k p c := by
    show PQ2.select d cfg dec (f+1) (.ancestor a s inp (some (k.1, k.2)) p) c = _
    simp only [PQ2.select, ancCall]
    cases ancLoop d (test d cfg a) (identityHash d cfg) s f k.1 k.2 (p.getD []) <;> rfl

def followingArm (a : AxisInfo) (sib : Bool) : ClosArm PQ2 (Ref × Option PQ) Nat (PQ2.select d cfg dec) where
  st inp it p := .following a sib inp it p
  start := folStart d a sib
  call := folCall d cfg a sib
  init _ := 0
  reset _ := 0
  idle := id
  sel_none f inp p c := by
    rw [PQ2.select]; rcases PQ2.select d cfg dec f inp c with ⟨_ | _ | _, _, _⟩ <;> rfl
  sel_some f inp k p c := by
    obtain ⟨node, q⟩ := k
    rw [PQ2.select]
    rcases folCall d cfg a sib f (node, q) p with ⟨_, _, _⟩ | _ | _ <;> rfl

def precedingArm (a : AxisInfo) (sib : Bool) : ClosArm PQ2 (Ref × Option PQ) Nat (PQ2.select d cfg dec) where
  st inp it p := .preceding a sib inp it p
  start x := (x, none)
  call := precCall d cfg a sib
  init _ := 0
  reset _ := 0
  idle := id
  sel_none f inp p c := by
    rw [PQ2.select]; rcases PQ2.select d cfg dec f inp c with ⟨_ | _ | _, _, _⟩ <;> rfl
  sel_some f inp k p c := by
    obtain ⟨node, q⟩ := k
    rw [PQ2.select]
    rcases precCall d cfg a sib f (node, q) p with ⟨_, _, _⟩ | _ | _ <;> rfl

/-! ## the four filter/map arms -/

def selfArm (a : AxisInfo) : FMapArm PQ2 Unit (PQ2.select d cfg dec) PQ2.position PQ2.depth where
  st inp _ := .self a inp
  g := selfG (test d cfg a)
  gcur _ c' := c'
  fin _ x := x
  pdone := id
  sel_eq f inp p c := by
    rw [PQ2.select]
    rcases PQ2.select d cfg dec f inp c with ⟨n | _ | _, _, _⟩
    · simp only [selfG]; cases test d cfg a n <;> rfl
    · rfl
    · rfl

def parentArm (a : AxisInfo) : FMapArm PQ2 Unit (PQ2.select d cfg dec) PQ2.position PQ2.depth where
  st inp _ := .parent a inp
  g := parentG d (test d cfg a)
  gcur _ c' := c'
  fin _ x := x
  pdone := id
  sel_eq f inp p c := by
    rw [PQ2.select]
    rcases PQ2.select d cfg dec f inp c with ⟨n | _ | _, _, _⟩
    · simp only [parentG]; cases (Nav.moveParent d n).filter (test d cfg a) <;> rfl
    · rfl
    · rfl

def groupArm : FMapArm PQ2 Nat (PQ2.select d cfg dec) PQ2.position PQ2.depth where
  st inp p := .group inp p
  g := groupG
  gcur _ c' := c'
  fin _ x := x
  pdone := id
  sel_eq f inp p c := by
    rw [PQ2.select]
    rcases PQ2.select d cfg dec f inp c with ⟨n | _ | _, _, _⟩ <;> rfl

def filterArm (pred : Plan) :
    FMapArm PQ2 (Nat × Option (List (Nat × Nat))) (PQ2.select d cfg dec) PQ2.position PQ2.depth where
  st inp p := .filter inp pred p.1 p.2
  g := filterG dec pred
  gcur n _ := n
  fin c _ := c
  pdone p := (p.1, some (p.2.getD []))
  sel_eq f inp p c := by
    rw [PQ2.select_filter]
    rcases PQ2.select d cfg dec f inp c with ⟨n | _ | _, _, _⟩
    · simp only [filterG]; cases dec pred n <;> rfl
    · rfl
    · rfl

end

end XPathV.Model
