import XPathV.Lemmas.Pull2.Laws
import XPathV.Lemmas.PredSem.Filter
/-!
# `DecOK`, and the stateless readings of `fmapR` that `sel_full2'` needs

`PQ2.DecOK`: the decision function `dec` agrees with the engine's evaluation of every filter
predicate occurring in `q`, each evaluating to a boolean.  The lemmas rewrite the `fmapR` streams of
the group, filter and merge machines (`Pull2/Spec.lean`) into the list functions `sel` of
`Model/Engine.lean` uses; `sel_full2'` is in `Pull2Gen/SelFull.lean`.
-/
namespace XPathV.Model
open XPathV XPathV.PredSem

section
variable {F : Type} [NumAlg F] (d : Doc) (cfg : ECfg) (dec : Plan → Ref → Bool)

/-- `dec` is the engine's verdict for every filter predicate in `q`: the predicate evaluates to the
boolean `dec pred r` on every node -/
def PQ2.DecOK : PQ2 → Prop
  | .context _ => True
  | .absolute _ => True
  | .child _ inp _ _ | .cachedChild _ inp _ _ | .attr _ inp _ | .self _ inp | .parent _ inp
  | .descendant _ _ inp _ _ _ | .ancestor _ _ inp _ _ | .following _ _ inp _ _ | .preceding _ _ inp _ _
  | .group inp _ | .descOverDesc _ _ inp _ _ _ => PQ2.DecOK inp
  | .filter inp pred _ _ => PQ2.DecOK inp ∧ ∀ r, evalP (F := F) d cfg pred r = .ok (.bool (dec pred r))
  | .union l r _ => PQ2.DecOK l ∧ PQ2.DecOK r
  | .merge inp ch _ => PQ2.DecOK inp ∧ PQ2.DecOK ch

theorem fmapR_group : ∀ (xs : List Item) (k : Nat),
    fmapR groupG id (fun _ => 0) k xs = numFrom k (xs.map (·.r))
  | [], _ => rfl
  | x :: xs, k => by
    simp only [fmapR, groupG, List.map_cons, numFrom, fmapR_group xs (k+1), id]

theorem fmapR_filter_none (pred : Plan) (pos : Nat) (xs : List Item) :
    fmapR (filterG dec pred) (·.1) (fun _ => 0) (pos, none) xs
      = fmapR (filterG dec pred) (·.1) (fun _ => 0) (pos, some []) xs := by
  cases xs with
  | nil => rfl
  | cons x xs => simp only [fmapR, filterG, Option.getD_none, Option.getD_some]

theorem fmapR_filter (pred : Plan) : ∀ (xs : List Item) (pos : Nat) (m : List (Nat × Nat)) (out : List Item),
    ((xs.filter (fun it => dec pred it.r)).foldl
      (fun (acc : List Item × List (Nat × Nat)) (it : Item) =>
        let (out, counts) := acc
        let c := ((counts.lookup it.lvl).getD 0) + 1
        (out ++ [⟨it.r, c, 0⟩], (it.lvl, c) :: counts.filter (fun p => p.1 != it.lvl))) (out, m)).1
      = out ++ fmapR (filterG dec pred) (·.1) (fun _ => 0) (pos, some m) xs
  | [], _, _, out => by simp [fmapR]
  | x :: xs, pos, m, out => by
    by_cases h : dec pred x.r = true
    · simp only [List.filter_cons, h, if_true, List.foldl_cons, fmapR, filterG, Option.getD_some, bumpMap]
      rw [fmapR_filter pred xs ((List.lookup x.lvl m).getD 0 + 1) _ _]
      simp only [List.append_assoc, List.singleton_append]
    · simp only [List.filter_cons, h, if_false, Bool.false_eq_true, fmapR, filterG, Option.getD_some]
      exact fmapR_filter pred xs pos m out

theorem filterPositions_eq (pred : Plan) (xs : List Item) :
    filterPositions (xs.filter (fun it => dec pred it.r))
      = fmapR (filterG dec pred) (·.1) (fun _ => 0) (0, none) xs := by
  rw [fmapR_filter_none]
  unfold filterPositions
  rw [fmapR_filter dec pred xs 0 [] []]
  rfl

theorem flatMap_plain_flatten (ins : List Item) (g : Ref → List Item) :
    plain (((ins.map (fun it => g it.r)).flatten).map (·.r)) = ins.flatMap (fun x => plain ((g x.r).map (·.r))) := by
  induction ins with
  | nil => rfl
  | cons a t ih =>
    simp only [List.map_cons, List.flatten_cons, List.map_append, List.flatMap_cons]
    rw [← ih]
    simp only [plain, List.map_append]

end

end XPathV.Model
