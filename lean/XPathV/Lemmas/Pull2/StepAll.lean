import XPathV.Lemmas.Pull2.FolWalk
/-!
# The one-pull lemma for every state of every node-set iterator type

The non-sibling `followingQuery`/`precedingQuery` cases (closure specifications from `Pull2/FolWalk.lean`),
then `select_step2` by induction on the size of the configuration over the `step2_X` of `Pull2/Steps.lean`.
-/
namespace XPathV.Model
open XPathV

section
variable (d : Doc) (cfg : ECfg) (dec : Plan → Ref → Bool)

/-- `followingQuery{Sibling: false}` (well-formed documents) -/
theorem step2_following_nonsib (wf : WF d) (n : Nat) (hin : StepIH d cfg dec n) (a : AxisInfo)
    (inp : PQ2) (hp : PSz d n inp) (it : Option (Ref × Option PQ)) (pos : Nat) (c : Ref)
    (hi : (PQ2.following a false inp it pos).Inv d) (hg : Good d c) :
    Pull2 d cfg dec (.following a false inp it pos) c :=
  step2_following_gen d cfg dec n hin a false (fol_start d cfg wf a) (fol_body d cfg wf a) inp hp it pos c hi hg

/-- `precedingQuery{Sibling: false}` -/
theorem step2_preceding_nonsib (n : Nat) (hin : StepIH d cfg dec n) (a : AxisInfo)
    (inp : PQ2) (hp : PSz d n inp) (it : Option (Ref × Option PQ)) (pos : Nat) (c : Ref)
    (hi : (PQ2.preceding a false inp it pos).Inv d) (hg : Good d c) :
    Pull2 d cfg dec (.preceding a false inp it pos) c :=
  step2_preceding_gen d cfg dec n hin a false (prec_start d cfg a) (prec_body d cfg a) inp hp it pos c hi hg

theorem select_step2_aux (hd : 0 < d.length) : ∀ n, StepIH d cfg dec n := by
  intro n
  induction n with
  | zero => intro q h; cases q <;> simp [PSz, PQ2.plan] at h
  | succ n ih =>
    intro q h hi c hg
    obtain ⟨hsz, hs⟩ := h
    cases q with
    | context k => exact step2_context d cfg dec k c hg
    | absolute k => exact step2_absolute d cfg dec hd k c hg
    | child a inp it pos =>
      exact step2_child d cfg dec n ih a inp ⟨by simp [PQ2.plan] at hsz; omega, hs⟩ it pos c hi hg
    | cachedChild a inp it pos =>
      exact step2_cachedChild d cfg dec n ih a inp ⟨by simp [PQ2.plan] at hsz; omega, hs⟩ it pos c hi hg
    | attr a inp it =>
      exact step2_attr d cfg dec n ih a inp ⟨by simp [PQ2.plan] at hsz; omega, hs⟩ it c hi hg
    | self a inp =>
      exact step2_self d cfg dec n ih a inp ⟨by simp [PQ2.plan] at hsz; omega, hs⟩ c hi hg
    | parent a inp =>
      exact step2_parent d cfg dec n ih a inp ⟨by simp [PQ2.plan] at hsz; omega, hs⟩ c hi hg
    | descendant a s inp it pos level =>
      exact step2_descendant d cfg dec n ih a s inp ⟨by simp [PQ2.plan] at hsz; omega, hs⟩ it pos level c hi hg
    | ancestor a s inp it tb =>
      exact step2_ancestor d cfg dec n ih a s inp ⟨by simp [PQ2.plan] at hsz; omega, hs⟩ it tb c hi hg
    | following a sib inp it pos =>
      have hp : PSz d n inp := ⟨by simp [PQ2.plan] at hsz; omega, fun h => hs (Or.inr h)⟩
      cases sib with
      | true => exact step2_following_sib d cfg dec n ih a inp hp it pos c hi hg
      | false => exact step2_following_nonsib d cfg dec (hs (Or.inl rfl)) n ih a inp hp it pos c hi hg
    | preceding a sib inp it pos =>
      have hp : PSz d n inp := ⟨by simp [PQ2.plan] at hsz; omega, hs⟩
      cases sib with
      | true => exact step2_preceding_sib d cfg dec n ih a inp hp it pos c hi hg
      | false => exact step2_preceding_nonsib d cfg dec n ih a inp hp it pos c hi hg
    | filter inp pred pos pm =>
      exact step2_filter d cfg dec n ih inp pred ⟨by simp [PQ2.plan] at hsz; omega, hs⟩ pos pm c hi hg
    | union l r it =>
      exact step2_union d cfg dec n ih l r ⟨by simp [PQ2.plan] at hsz; omega, fun h => hs (Or.inl h)⟩
        ⟨by simp [PQ2.plan] at hsz; omega, fun h => hs (Or.inr h)⟩ it c hi hg
    | group inp pos =>
      exact step2_group d cfg dec n ih inp ⟨by simp [PQ2.plan] at hsz; omega, hs⟩ pos c hi hg
    | descOverDesc a ms inp level pos cn =>
      exact step2_dod d cfg dec n ih a ms inp ⟨by simp [PQ2.plan] at hsz; omega, hs⟩ level pos cn c hi hg
    | merge inp ch it =>
      exact step2_merge d cfg dec n ih inp ch ⟨by simp [PQ2.plan] at hsz; omega, fun h => hs (Or.inl h)⟩
        ⟨by simp [PQ2.plan] at hsz; omega, fun h => hs (Or.inr h)⟩ it c hi hg

/-- **One-pull lemma.**  From every state `q` (of any node-set iterator type) satisfying the
invariant, with `t.Current() = c`, given enough fuel, `Select` returns the head of `rem2 c q` (or
`nil` when it is empty) and moves to a state whose remaining stream is the tail (for every later
`t.Current()`, since the new state is consumed); the configuration is unchanged,
`position()`/`depth()` are those of the reported item.  Only a configuration containing a
non-sibling `followingQuery` needs the document to be well-formed. -/
theorem select_step2 (hd : 0 < d.length) (q : PQ2) (hw : NeedsWF q.plan → WF d) (hi : q.Inv d) (c : Ref)
    (hg : Good d c) : Step2 d cfg dec q c :=
  (select_step2_aux d cfg dec hd _ q ⟨Nat.le_refl _, hw⟩ hi c hg).step (mach2_mono d cfg dec)

end

end XPathV.Model
