import XPathV.Lemmas.Pull2.Steps
import XPathV.Lemmas.AxesLemmas
/-!
# Walk lemmas for the non-sibling `followingQuery` / `precedingQuery`

* the captured inner `descendantQuery` over a `startQuery` (`inner_step`; the `PQ` machine over
  `.context`, run with the start node in the place of `t.Current()`)
* the climbing loops `folClimb`, `precClimb` against the roots `FR`, `PR` (`Lemmas/Walks.lean`)
* the closure bodies `folIter`, `precIter` against `folCur`, `precCur`
* `followingItems`, `precedingItems` as the streams of a fresh closure
-/
namespace XPathV.Model
open XPathV

section
variable (d : Doc) (cfg : ECfg)

/-! ## numbering -/

theorem numFromL_noLvl : ∀ (l : List (Ref × Nat)) (k : Nat), (numFromL k l).map noLvl = numFrom k (l.map (·.1))
  | [], _ => rfl
  | p :: ps, k => by simp only [numFromL, List.map_cons, numFrom, noLvl, numFromL_noLvl ps (k+1)]

theorem numFromL_refs : ∀ (l : List (Ref × Nat)) (k : Nat), (numFromL k l).map (·.r) = l.map (·.1)
  | [], _ => rfl
  | p :: ps, k => by simp only [numFromL, List.map_cons, numFromL_refs ps (k+1)]

theorem map_filter_fst (t : Ref → Bool) : ∀ l : List (Ref × Nat),
    (l.filter (fun p => t p.1)).map (·.1) = (l.map (·.1)).filter t
  | [] => rfl
  | p :: ps => by
    simp only [List.filter_cons, List.map_cons]
    by_cases h : t p.1 = true
    · simp only [h, if_true, List.map_cons, map_filter_fst t ps]
    · simp only [h, if_false, Bool.false_eq_true, map_filter_fst t ps]

/-- the refs of what a `descendantQuery{Self}` yields below one node -/
theorem descItems_refs (a : AxisInfo) (s : Bool) (m : Ref) :
    (descItems d cfg a s m).map (·.r)
      = ((if s then [m] else []) ++ (descM d m).map (·.1)).filter (test d cfg a) := by
  rw [descItems_eq, numFromL_refs]
  simp only [List.map_append, map_filter_fst, List.filter_append, descM]
  cases s with
  | false => simp
  | true =>
    by_cases h : test d cfg a m = true
    · simp [h]
    · simp [h]

theorem descItems_noLvl (a : AxisInfo) (s : Bool) (m : Ref) :
    (descItems d cfg a s m).map noLvl
      = numbered (((if s then [m] else []) ++ (descM d m).map (·.1)).filter (test d cfg a)) := by
  rw [descItems_eq, numFromL_noLvl, numbered_eq]
  simp only [List.map_append, map_filter_fst, List.filter_append, descM]
  cases s with
  | false => simp
  | true =>
    by_cases h : test d cfg a m = true
    · simp [h]
    · simp [h]

/-! ## the captured inner `descendantQuery` -/

theorem rem_inner_cons (a : AxisInfo) (s : Bool) (cnt : Nat) (hc : cnt > 0) (it : Option (Ref × Bool)) (p l : Nat)
    (c : Ref) :
    rem d cfg c (.descendant a s (.context cnt) it p l)
      = match it with
        | none => []
        | some k => descCur d (test d cfg a) s k (p, l) := by
  rcases it with _ | ⟨n, first⟩ <;> simp [rem, hc, descCur]

/-- one pull from a consumed inner machine: its answers are those of the `descendantQuery` arm over an exhausted
`contextQuery`; what the arm of `machP` does not say (the closure stays in the document) is added here -/
theorem inner_step_cons (a : AxisInfo) (s : Bool) (cnt : Nat) (hc : cnt > 0) (it : Option (Ref × Bool))
    (hit : itOK d it) (p l : Nat) (cur : Ref) (hg : Good d cur) :
    ∃ q' f0, (∀ f, f0 ≤ f → PQ.select d cfg cur f (.descendant a s (.context cnt) it p l)
        = (headRes (rem d cfg cur (.descendant a s (.context cnt) it p l)), q')) ∧
      innerOK d (some q') ∧
      (∀ c', rem d cfg c' q' = (rem d cfg cur (.descendant a s (.context cnt) it p l)).tail) ∧
      (∀ x xs, rem d cfg cur (.descendant a s (.context cnt) it p l) = x :: xs → q'.position = x.pos ∧ Good d x.r) := by
  have conv : ∀ {o : Res Ref} {q' : PQ},
      (machP d cfg cur).Ans (.descendant a s (.context cnt) it p l) cur o q' cur →
      ∃ f0, ∀ f, f0 ≤ f → PQ.select d cfg cur f (.descendant a s (.context cnt) it p l) = (o, q') :=
    fun h => (h.ge (machP_mono d cfg cur)).imp fun _ hf f hle =>
      Prod.ext (congrArg (·.1) (hf f hle)) (congrArg (·.2.1) (hf f hle))
  have hdone : ∀ pl : Nat × Nat, (machP d cfg cur).Ans (.descendant a s (.context cnt) none pl.1 pl.2) cur .done
      (.descendant a s (.context cnt) none 0 pl.2) cur :=
    fun pl => (descendantArmP d cfg cur a s).ans_pull_done pl
      (inp := .context cnt) (inp' := .context cnt) ⟨by simp, 1, by simp [machP_sel, PQ.select, hc]⟩
  rcases it with _ | k
  · obtain ⟨f0, hf⟩ := conv (hdone (p, l))
    refine ⟨_, f0, fun f hle => ?_, ⟨a, s, cnt, none, 0, l, rfl, hc, fun n f h => by cases h⟩, fun c' => ?_, ?_⟩
    · rw [hf f hle, rem_inner_cons d cfg a s cnt hc]; rfl
    · rw [rem_inner_cons d cfg a s cnt hc, rem_inner_cons d cfg a s cnt hc]; rfl
    · intro x xs hx; rw [rem_inner_cons d cfg a s cnt hc] at hx; cases hx
  · rcases descCall_good d (test d cfg a) s k (p, l) (hit k.1 k.2 rfl) with
      ⟨j, k', p', f0, hb, hk', hgj, hcur⟩ | ⟨f0, hb, hcur⟩
    · obtain ⟨f1, hf⟩ :=
        conv (q' := .descendant a s (.context cnt) (some k') p'.1 p'.2)
          ((descendantArmP d cfg cur a s).ans_call_yield (.context cnt) cur (hb f0 (Nat.le_refl _)))
      refine ⟨_, f1, fun f hle => ?_, ⟨a, s, cnt, some k', p'.1, p'.2, rfl, hc, hk'⟩, fun c' => ?_, ?_⟩
      · rw [hf f hle, rem_inner_cons d cfg a s cnt hc]; simp only [hcur, headRes]
      · rw [rem_inner_cons d cfg a s cnt hc, rem_inner_cons d cfg a s cnt hc]
        simp only [hcur, List.tail_cons]
      · intro x xs hx
        rw [rem_inner_cons d cfg a s cnt hc] at hx
        simp only [hcur] at hx
        injection hx with hx1 _
        subst hx1
        exact ⟨rfl, hgj⟩
    · obtain ⟨f1, hf⟩ :=
        conv ((descendantArmP d cfg cur a s).ans_call_done (machP_mono d cfg cur) hb (hdone (p, 0)))
      refine ⟨_, f1, fun f hle => ?_, ⟨a, s, cnt, none, 0, 0, rfl, hc, fun n f h => by cases h⟩, fun c' => ?_, ?_⟩
      · rw [hf f hle, rem_inner_cons d cfg a s cnt hc]; simp only [hcur, headRes]
      · rw [rem_inner_cons d cfg a s cnt hc, rem_inner_cons d cfg a s cnt hc]
        simp only [hcur]; rfl
      · intro x xs hx
        rw [rem_inner_cons d cfg a s cnt hc] at hx
        simp only [hcur] at hx
        cases hx

theorem rem_innerDesc (a : AxisInfo) (s : Bool) (c : Ref) :
    rem d cfg c (innerDesc a s) = descItems d cfg a s c := by
  simp [innerDesc, rem]

/-- one pull from the inner machine, consumed or fresh -/
theorem inner_step (q : PQ) (h : innerInv d (some q)) (cur : Ref) (hg : Good d cur) :
    ∃ q' f0, (∀ f, f0 ≤ f → PQ.select d cfg cur f q = (headRes (rem d cfg cur q), q')) ∧
      innerOK d (some q') ∧ (∀ c', rem d cfg c' q' = (rem d cfg cur q).tail) ∧
      (∀ x xs, rem d cfg cur q = x :: xs → q'.position = x.pos ∧ Good d x.r) := by
  rcases h with ⟨a, s, cnt, it, p, l, hq, hc, hit⟩ | ⟨a, s, hq⟩
  · subst hq
    exact inner_step_cons d cfg a s cnt hc it hit p l cur hg
  · injection hq with hq; subst hq
    obtain ⟨q', f0, h1, h2, h3, h4⟩ :=
      inner_step_cons d cfg a s 1 (Nat.succ_pos 0) (some (cur, true)) (fun n f h => by
        injection h with h; injection h with h1 _; subst h1; exact hg) 0 0 cur hg
    have heq : rem d cfg cur (innerDesc a s) = rem d cfg cur (.descendant a s (.context 1) (some (cur, true)) 0 0) := by
      rw [rem_innerDesc, rem_inner_cons d cfg a s 1 (Nat.succ_pos 0), descItems_eq]
      simp only [descCur, Bool.true_and]
    refine ⟨q', f0 + 2, fun f hf => ?_, h2, fun c' => by rw [heq]; exact h3 c', fun x xs hx => h4 x xs (by rw [← heq]; exact hx)⟩
    obtain ⟨f', rfl⟩ : ∃ f', f = f' + 2 := ⟨f - 2, by omega⟩
    rw [heq, ← h1 (f'+1) (by omega)]
    simp [innerDesc, PQ.select]


/-! ## the climbing loops -/

/-- the climbing loop of the non-sibling `precedingQuery` closure finds the head of the roots, with any
fuel above the measure -/
theorem precClimb_spec : ∀ (f : Nat) (r : Ref) (b : Bool) (pos : Nat), Good d r → ancM r < f → (b = true → pos = 0) →
    match PR d r b with
    | [] => precClimb d f r pos = .done
    | (m, fl) :: rest => precClimb d f r pos = .yield (m, if fl then 0 else pos) ∧ PR d m false = rest ∧
        Good d m ∧ (b = true → fl = true)
  | 0, _, _, _, _, h, _ => by omega
  | f+1, r, b, pos, hg, hk, hb => by
    rw [PR_unfold d hg, precClimb]
    cases hp : Nav.movePrev d r with
    | some p =>
      refine ⟨?_, rfl, movePrev_good d hp hg, fun h => h⟩
      cases b with
      | false => rfl
      | true => simp [hb rfl]
    | none =>
      cases hq : Nav.moveParent d r with
      | none => rfl
      | some q =>
        -- the roots found from the parent carry the flag, and the position is reset
        obtain ⟨h1, h2⟩ := moveParent_ancM d hq
        have h0 := precClimb_spec f q true 0 (h2 hg) (by omega) (fun _ => rfl)
        simp only
        cases hpr : PR d q true with
        | nil => rw [hpr] at h0; exact h0
        | cons mf rest =>
          obtain ⟨m, fl⟩ := mf
          rw [hpr] at h0
          obtain ⟨e1, e2, e3, e4⟩ := h0
          have hfl : fl = true := e4 rfl
          subst hfl
          exact ⟨e1, e2, e3, fun _ => rfl⟩

/-- the climbing loop of the non-sibling `followingQuery` closure finds the head of the roots, with any
fuel above the measure -/
theorem folClimb_spec (wf : WF d) : ∀ (f : Nat) (r : Ref), Good d r → folM d r < f →
    match FR d r with
    | [] => folClimb d f r = .done
    | m :: rest => folClimb d f r = .yield m ∧ FR d m = rest ∧ Good d m
  | 0, _, _, h => by omega
  | f+1, r, hg, hk => by
    rw [FR_unfold d wf hg, folClimb]
    cases hn : Nav.moveNext d r with
    | some n => exact ⟨rfl, rfl, (moveNext_folM d hn).2⟩
    | none =>
      cases hq : Nav.moveParent d r with
      | none => rfl
      | some q =>
        obtain ⟨h1, h2⟩ := moveParent_folM d wf hg hn hq
        exact folClimb_spec wf f q h2 (by omega)

/-! ## The non-sibling `followingQuery` closure -/

/-- fuel bookkeeping: a loop that after `n` rounds is another loop has the answers of that loop -/
theorem shift_ans {α : Type} {L L' : Nat → α} {r : α} {n a b : Nat} (hs : ∀ f, a ≤ f → L (f+n) = L' f)
    (hy : ∀ f, b ≤ f → L' f = r) : ∀ f, max a b + n ≤ f → L f = r := by
  intro f hf
  obtain ⟨f', rfl⟩ : ∃ f', f = f' + n := ⟨f - n, by omega⟩
  rw [hs f' (by omega)]; exact hy f' (by omega)

theorem subtree_noLvl (a : AxisInfo) (m : Ref) :
    numbered (subtreeMatches d (test d cfg a) m) = (descItems d cfg a true m).map noLvl := by
  rw [descItems_noLvl]; simp [subtreeMatches]

theorem subtree_refs (a : AxisInfo) (m : Ref) :
    subtreeMatches d (test d cfg a) m = (descItems d cfg a true m).map (·.r) := by
  rw [descItems_refs]; simp [subtreeMatches]

theorem folCur_eq (a : AxisInfo) (node : Ref) (q : Option PQ) :
    folCur d cfg a node q =
      (match q with
        | none => []
        | some q => (rem d cfg node q).map noLvl)
      ++ (FR d node).flatMap (fun root => numbered (subtreeMatches d (test d cfg a) root)) := rfl

theorem folCur_none (a : AxisInfo) (node : Ref) :
    folCur d cfg a node none
      = (FR d node).flatMap (fun root => numbered (subtreeMatches d (test d cfg a) root)) := by
  rw [folCur_eq]; rfl

theorem folCur_some (a : AxisInfo) (node : Ref) (q : PQ) :
    folCur d cfg a node (some q) = (rem d cfg node q).map noLvl
      ++ (FR d node).flatMap (fun root => numbered (subtreeMatches d (test d cfg a) root)) := rfl

/-- the closure with `q == nil`: climb to the next root, create the inner query (its `startQuery`
holds the root), pull it; roots whose subtree has no match are skipped -/
theorem folIter_none_spec (wf : WF d) (a : AxisInfo) : ∀ (roots : List Ref) (node : Ref), Good d node →
    FR d node = roots →
    (∃ j k' p' f0, (∀ f, f0 ≤ f → folIter d cfg a f node none = .yield (j, k', p')) ∧
      (Good d k'.1 ∧ innerOK d k'.2) ∧ Good d j ∧
      roots.flatMap (fun root => numbered (subtreeMatches d (test d cfg a) root))
        = ⟨j, p', 0⟩ :: folCur d cfg a k'.1 k'.2) ∨
    (∃ f0, (∀ f, f0 ≤ f → folIter d cfg a f node none = .done) ∧
      roots.flatMap (fun root => numbered (subtreeMatches d (test d cfg a) root)) = []) := by
  intro roots
  induction roots with
  | nil =>
    intro node hgn hfr
    refine Or.inr ⟨folM d node + 2, fun f hf => ?_, rfl⟩
    obtain ⟨f', rfl⟩ : ∃ f', f = f' + 1 := ⟨f - 1, by omega⟩
    have := folClimb_spec d wf f' node hgn (by omega)
    rw [hfr] at this
    simp only [folIter, this]
  | cons m rest ih =>
    intro node hgn hfr
    obtain ⟨f0, h0'⟩ : ∃ f0, ∀ f, f0 ≤ f → folClimb d f node = .yield m ∧ FR d m = rest ∧ Good d m :=
      ⟨folM d node + 1, fun f hf => by have := folClimb_spec d wf f node hgn hf; rw [hfr] at this; exact this⟩
    obtain ⟨_, hfm, hgm⟩ := h0' f0 (Nat.le_refl _)
    obtain ⟨q', f1, hsel, hok, hrem, hpos⟩ := inner_step d cfg (innerDesc a true) (Or.inr ⟨a, true, rfl⟩) m hgm
    rw [rem_innerDesc] at hsel hrem hpos
    cases hits : descItems d cfg a true m with
    | nil =>
      rw [hits] at hsel
      have hF : numbered (subtreeMatches d (test d cfg a) m) = [] := by rw [subtree_noLvl, hits]; rfl
      -- nothing below `m`: two rounds later the closure is climbing from `m`
      have hskip : ∀ f, max f0 f1 ≤ f → folIter d cfg a (f+2) node none = folIter d cfg a f m none := by
        intro f hf
        rw [folIter, (h0' (f+1) (by omega)).1]
        simp only
        rw [folIter, hsel f (by omega)]; rfl
      simp only [List.flatMap_cons, hF, List.nil_append]
      rcases ih m hgm hfm with ⟨j, k', p', f2, hy, hk', hgj, hR⟩ | ⟨f2, hy, hR⟩
      · exact Or.inl ⟨j, k', p', _, shift_ans hskip hy, hk', hgj, hR⟩
      · exact Or.inr ⟨_, shift_ans hskip hy, hR⟩
    | cons x xs =>
      rw [hits] at hsel hrem hpos
      obtain ⟨hp1, hgx⟩ := hpos x xs rfl
      refine Or.inl ⟨x.r, (m, some q'), x.pos, max f0 f1 + 2, fun f hf => ?_, ⟨hgm, hok⟩, hgx, ?_⟩
      · obtain ⟨f', rfl⟩ : ∃ f', f = f' + 2 := ⟨f - 2, by omega⟩
        rw [folIter, (h0' (f'+1) (by omega)).1]
        simp only
        rw [folIter, hsel f' (by omega)]
        simp only [headRes, hp1]
      · rw [folCur_some, hrem m, hfm]
        simp only [List.flatMap_cons, subtree_noLvl d cfg a m, hits, List.map_cons, List.tail_cons, List.cons_append,
          noLvl]

/-- `f.iterator()` of the non-sibling `followingQuery` -/
theorem fol_body (wf : WF d) (a : AxisInfo) (k : Ref × Option PQ) (p : Nat) (hk : Good d k.1 ∧ innerInv d k.2) :
    (∃ j k' p' f0, (∀ f, f0 ≤ f → folCall d cfg a false f k p = .yield (j, k', p')) ∧
      (Good d k'.1 ∧ innerOK d k'.2) ∧ Good d j ∧
      folCurOf d cfg a false k p = ⟨j, p', 0⟩ :: folCurOf d cfg a false k' p') ∨
    (∃ f0, (∀ f, f0 ≤ f → folCall d cfg a false f k p = .done) ∧ folCurOf d cfg a false k p = []) := by
  obtain ⟨node, q⟩ := k
  simp only [folCall, folCurOf, Bool.false_eq_true, if_false]
  cases q with
  | none =>
    rcases folIter_none_spec d cfg wf a _ node hk.1 rfl with ⟨j, k', p', f0, hy, hk', hgj, hR⟩ | ⟨f0, hy, hR⟩
    · exact Or.inl ⟨j, k', p', f0, hy, hk', hgj, by rw [folCur_none]; exact hR⟩
    · exact Or.inr ⟨f0, hy, by rw [folCur_none]; exact hR⟩
  | some q =>
    -- the captured `q` is pulled with its start node `node`
    obtain ⟨q', f1, hsel, hok, hrem, hpos⟩ := inner_step d cfg q hk.2 node hk.1
    cases hr : rem d cfg node q with
    | cons x xs =>
      rw [hr] at hsel hrem
      obtain ⟨hp1, hgx⟩ := hpos x xs hr
      refine Or.inl ⟨x.r, (node, some q'), x.pos, f1 + 1, fun f hf => ?_, ⟨hk.1, hok⟩, hgx, ?_⟩
      · obtain ⟨f', rfl⟩ : ∃ f', f = f' + 1 := ⟨f - 1, by omega⟩
        rw [folIter, hsel f' (by omega)]
        simp only [headRes, hp1]
      · rw [folCur_some, folCur_some, hr, hrem node]
        simp only [List.map_cons, List.tail_cons, List.cons_append, noLvl]
    | nil =>
      rw [hr] at hsel
      -- `q` is exhausted: `q = nil`, the closure goes on as one without inner query
      have hskip : ∀ f, f1 ≤ f → folIter d cfg a (f+1) node (some q) = folIter d cfg a f node none :=
        fun f hf => by rw [folIter, hsel f hf]; rfl
      rcases folIter_none_spec d cfg wf a _ node hk.1 rfl with ⟨j, k', p', f0, hy, hk', hgj, hR⟩ | ⟨f0, hy, hR⟩
      · exact Or.inl ⟨j, k', p', _, shift_ans hskip hy, hk', hgj, by rw [folCur_some, hr]; exact hR⟩
      · exact Or.inr ⟨_, shift_ans hskip hy, by rw [folCur_some, hr]; exact hR⟩

/-- a new input node of the non-sibling `followingQuery`: the fresh closure's stream is
`followingItems` of the sequence model -/
theorem fol_start (wf : WF d) (a : AxisInfo) (x : Ref) (hgx : Good d x) :
    (Good d (folStart d a false x).1 ∧ innerInv d (folStart d a false x).2) ∧
      folCurOf d cfg a false (folStart d a false x) 0 = folContrib d cfg a false x := by
  cases x with
  | node i =>
    simp only [folStart, Bool.false_eq_true, if_false, Ref.isAttr, folCurOf, folContrib, followingItems]
    exact ⟨⟨hgx, Or.inl trivial⟩, by rw [folCur_none]; rfl⟩
  | attr i k =>
    have hfr : FR d (.attr i k) = FR d (.node i) := by
      rw [FR_unfold d wf hgx]; rfl
    simp only [folStart, Bool.false_eq_true, if_false, Ref.isAttr, if_true, Nav.moveParent, folCurOf, folContrib,
      followingItems, Ref.idx]
    refine ⟨⟨hgx, Or.inr ⟨a, false, rfl⟩⟩, ?_⟩
    rw [folCur_some, rem_innerDesc, descItems_noLvl]
    simp only [Bool.false_eq_true, if_false, List.nil_append]
    show _ ++ (FR d (.node i)).flatMap _ = _ ++ (FR d (.attr i k)).flatMap _
    rw [hfr]; rfl

/-! ## The non-sibling `precedingQuery` closure -/

theorem precCur_eq (a : AxisInfo) (node : Ref) (q : Option PQ) (pos : Nat) :
    precCur d cfg a node q pos =
      (match q with
        | none => []
        | some q => numFrom pos ((rem d cfg node q).map (·.r)))
      ++ precTail d (test d cfg a) (PR d node false)
          (pos + (match q with | none => 0 | some q => (rem d cfg node q).length)) := rfl

theorem precCur_none (a : AxisInfo) (node : Ref) (pos : Nat) :
    precCur d cfg a node none pos = precTail d (test d cfg a) (PR d node false) pos := by
  rw [precCur_eq]; rfl

theorem precCur_some (a : AxisInfo) (node : Ref) (q : PQ) (pos : Nat) :
    precCur d cfg a node (some q) pos = numFrom pos ((rem d cfg node q).map (·.r))
      ++ precTail d (test d cfg a) (PR d node false) (pos + (rem d cfg node q).length) := rfl

theorem numFrom_append : ∀ (l1 l2 : List Ref) (k : Nat), numFrom k (l1 ++ l2) = numFrom k l1 ++ numFrom (k + l1.length) l2
  | [], l2, k => by simp [numFrom]
  | x :: xs, l2, k => by
    simp only [List.cons_append, numFrom, numFrom_append xs l2 (k+1), List.length_cons]
    congr 3; omega

theorem precIter_none_spec (a : AxisInfo) : ∀ (roots : List (Ref × Bool)) (node : Ref) (b : Bool) (pos : Nat),
    Good d node → (b = true → pos = 0) → PR d node b = roots →
    (∃ j k' p' f0, (∀ f, f0 ≤ f → precIter d cfg a f node none pos = .yield (j, k', p')) ∧
      (Good d k'.1 ∧ innerOK d k'.2) ∧ Good d j ∧
      precTail d (test d cfg a) roots pos = ⟨j, p', 0⟩ :: precCur d cfg a k'.1 k'.2 p') ∨
    (∃ f0, (∀ f, f0 ≤ f → precIter d cfg a f node none pos = .done) ∧
      precTail d (test d cfg a) roots pos = []) := by
  intro roots
  induction roots with
  | nil =>
    intro node b pos hgn hb hpr
    refine Or.inr ⟨ancM node + 2, fun f hf => ?_, rfl⟩
    obtain ⟨f', rfl⟩ : ∃ f', f = f' + 1 := ⟨f - 1, by omega⟩
    have := precClimb_spec d f' node b pos hgn (by omega) hb
    rw [hpr] at this
    simp only [precIter, this]
  | cons mf rest ih =>
    obtain ⟨m, fl⟩ := mf
    intro node b pos hgn hb hpr
    obtain ⟨f0, h0'⟩ : ∃ f0, ∀ f, f0 ≤ f → precClimb d f node pos = .yield (m, if fl then 0 else pos) ∧
        PR d m false = rest ∧ Good d m ∧ (b = true → fl = true) :=
      ⟨ancM node + 1, fun f hf => by have := precClimb_spec d f node b pos hgn hf hb; rw [hpr] at this; exact this⟩
    obtain ⟨_, hpm, hgm, _⟩ := h0' f0 (Nat.le_refl _)
    obtain ⟨q', f1, hsel, hok, hrem, hpos⟩ := inner_step d cfg (innerDesc a true) (Or.inr ⟨a, true, rfl⟩) m hgm
    rw [rem_innerDesc] at hsel hrem hpos
    cases hits : descItems d cfg a true m with
    | nil =>
      rw [hits] at hsel
      have hF : subtreeMatches d (test d cfg a) m = [] := by rw [subtree_refs, hits]; rfl
      have hskip : ∀ f, max f0 f1 ≤ f →
          precIter d cfg a (f+2) node none pos = precIter d cfg a f m none (if fl then 0 else pos) := by
        intro f hf
        rw [precIter, (h0' (f+1) (by omega)).1]
        simp only
        rw [precIter, hsel f (by omega)]; rfl
      simp only [precTail, hF, numFrom, List.nil_append, List.length_nil, Nat.add_zero]
      rcases ih m false (if fl then 0 else pos) hgm (fun h => by cases h) hpm with
        ⟨j, k', p', f2, hy, hk', hgj, hR⟩ | ⟨f2, hy, hR⟩
      · exact Or.inl ⟨j, k', p', _, shift_ans hskip hy, hk', hgj, hR⟩
      · exact Or.inr ⟨_, shift_ans hskip hy, hR⟩
    | cons x xs =>
      rw [hits] at hsel hrem hpos
      obtain ⟨_, hgx⟩ := hpos x xs rfl
      refine Or.inl ⟨x.r, (m, some q'), (if fl then 0 else pos) + 1, max f0 f1 + 2, fun f hf => ?_, ⟨hgm, hok⟩,
        hgx, ?_⟩
      · obtain ⟨f', rfl⟩ : ∃ f', f = f' + 2 := ⟨f - 2, by omega⟩
        rw [precIter, (h0' (f'+1) (by omega)).1]
        simp only
        rw [precIter, hsel f' (by omega)]
        simp only [headRes]
      · rw [precCur_some, hrem m, hpm]
        simp only [precTail, subtree_refs d cfg a m, hits, List.map_cons, numFrom, List.tail_cons, List.cons_append,
          List.length_cons, List.length_map]
        congr 3; omega

/-- `p.iterator()` of the non-sibling `precedingQuery` -/
theorem prec_body (a : AxisInfo) (k : Ref × Option PQ) (p : Nat) (hk : Good d k.1 ∧ innerInv d k.2) :
    (∃ j k' p' f0, (∀ f, f0 ≤ f → precCall d cfg a false f k p = .yield (j, k', p')) ∧
      (Good d k'.1 ∧ innerOK d k'.2) ∧ Good d j ∧
      precCurOf d cfg a false k p = ⟨j, p', 0⟩ :: precCurOf d cfg a false k' p') ∨
    (∃ f0, (∀ f, f0 ≤ f → precCall d cfg a false f k p = .done) ∧ precCurOf d cfg a false k p = []) := by
  obtain ⟨node, q⟩ := k
  simp only [precCall, precCurOf, Bool.false_eq_true, if_false]
  cases q with
  | none =>
    rcases precIter_none_spec d cfg a _ node false p hk.1 (fun h => by cases h) rfl with
      ⟨j, k', p', f0, hy, hk', hgj, hR⟩ | ⟨f0, hy, hR⟩
    · exact Or.inl ⟨j, k', p', f0, hy, hk', hgj, by rw [precCur_none]; exact hR⟩
    · exact Or.inr ⟨f0, hy, by rw [precCur_none]; exact hR⟩
  | some q =>
    obtain ⟨q', f1, hsel, hok, hrem, hpos⟩ := inner_step d cfg q hk.2 node hk.1
    cases hr : rem d cfg node q with
    | cons x xs =>
      rw [hr] at hsel hrem
      obtain ⟨_, hgx⟩ := hpos x xs hr
      refine Or.inl ⟨x.r, (node, some q'), p + 1, f1 + 1, fun f hf => ?_, ⟨hk.1, hok⟩, hgx, ?_⟩
      · obtain ⟨f', rfl⟩ : ∃ f', f = f' + 1 := ⟨f - 1, by omega⟩
        rw [precIter, hsel f' (by omega)]
        simp only [headRes]
      · rw [precCur_some, precCur_some, hr, hrem node]
        simp only [List.map_cons, numFrom, List.tail_cons, List.cons_append, List.length_cons]
        congr 3; omega
    | nil =>
      rw [hr] at hsel
      have hskip : ∀ f, f1 ≤ f → precIter d cfg a (f+1) node (some q) p = precIter d cfg a f node none p :=
        fun f hf => by rw [precIter, hsel f hf]; rfl
      rcases precIter_none_spec d cfg a _ node false p hk.1 (fun h => by cases h) rfl with
        ⟨j, k', p', f0, hy, hk', hgj, hR⟩ | ⟨f0, hy, hR⟩
      · exact Or.inl ⟨j, k', p', _, shift_ans hskip hy, hk', hgj, by rw [precCur_some, hr]; simpa [numFrom] using hR⟩
      · exact Or.inr ⟨_, shift_ans hskip hy, by rw [precCur_some, hr]; simpa [numFrom] using hR⟩

theorem zipIdx_cnt (cnt : Nat) : ∀ (l : List Ref) (j : Nat),
    (l.zipIdx j).map (fun (p : Ref × Nat) => (⟨p.1, cnt + p.2 + 1, 0⟩ : Item)) = numFrom (cnt + j) l
  | [], _ => rfl
  | r :: rs, j => by
    simp only [List.zipIdx_cons, List.map_cons, numFrom, zipIdx_cnt cnt rs (j+1)]
    rfl

/-- `precedingItems` of the sequence model is the stream of a fresh non-sibling closure -/
theorem precedingItems_eq (a : AxisInfo) (n : Ref) :
    precedingItems d cfg a n = precTail d (test d cfg a) (PR d n false) 0 := by
  unfold precedingItems
  have gen : ∀ (roots : List (Ref × Bool)) (out : List Item) (cnt : Nat),
      (roots.foldl (fun (acc : List Item × Nat) (rb : Ref × Bool) =>
          let (out, cnt) := acc
          let cnt := if rb.2 then 0 else cnt
          let ms := ((rb.1 :: (descM d rb.1).map (·.1)).filter (test d cfg a))
          (out ++ ms.zipIdx.map (fun (r, i) => ⟨r, cnt + i + 1, 0⟩), cnt + ms.length)) (out, cnt)).1
        = out ++ precTail d (test d cfg a) roots cnt := by
    intro roots
    induction roots with
    | nil => intro out cnt; simp [precTail]
    | cons rb rest ih =>
      intro out cnt
      obtain ⟨root, reset⟩ := rb
      rw [List.foldl_cons]
      simp only
      rw [ih]
      have hz := zipIdx_cnt (if reset then 0 else cnt) ((root :: (descM d root).map (·.1)).filter (test d cfg a)) 0
      simp only [Nat.add_zero] at hz
      simp only [precTail, subtreeMatches, List.append_assoc]
      rw [← hz]
  have := gen (precRoots d (2 * d.length + 2) n false) [] 0
  simpa [PR] using this

theorem prec_start (a : AxisInfo) (x : Ref) :
    precCurOf d cfg a false (x, none) 0 = precContrib d cfg a false x := by
  simp only [precCurOf, precContrib, Bool.false_eq_true, if_false]
  rw [precCur_none, precedingItems_eq]

end

end XPathV.Model
