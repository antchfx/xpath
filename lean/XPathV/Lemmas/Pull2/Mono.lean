import XPathV.Lemmas.Pull2.SelectArms
/-!
# More fuel never changes an answer (extended pull machine)

`select_mono2`: if `Select` answered (a node or `nil`) with fuel `f`, it gives the same answer, the
same new state and the same `t.Current()` with fuel `f+1`.  Hence every answer other than "out of
fuel" is *the* answer of the one-pull lemma, whatever fuel was given.  Induction on the fuel; for the eleven
types that have one of the two shapes the step is `ClosArm.mono`/`FMapArm.mono` of the arm (`Pull2/SelectArms.lean`),
which leaves the closure call to be shown monotone; `descOverDesc`, `union` and `merge` arm by arm.
`mach2_mono` says it of the abstract machine (`Mach.Mono`): what turns an answer at some fuel into the answer.
-/
namespace XPathV.Model
open XPathV

section
variable (d : Doc) (cfg : ECfg)

/-! ## the closure bodies and calls -/

theorem ancUp_mono {t : Ref → Bool} (f : Nat) (n : Ref) (r : Res Ref) :
    ancUp d t f n = r → r ≠ .fuel → ancUp d t (f+1) n = r :=
  scan_mono (ancUp d t) (Nav.moveParent d) t id (fun _ => rfl)
    (fun f n => by rw [ancUp]; cases Nav.moveParent d n <;> rfl) f n r

theorem ancIter_mono {t : Ref → Bool} {s : Bool} (f : Nat) (n : Ref) (first : Bool) (r : Res Ref)
    (h : ancIter d t s f n first = r) (hne : r ≠ .fuel) : ancIter d t s (f+1) n first = r := by
  simp only [ancIter] at h ⊢
  split at h
  · rename_i hc; rw [if_pos hc]; exact h
  · rename_i hc; rw [if_neg hc]; exact ancUp_mono d f n r h hne

theorem ancLoop_mono {t : Ref → Bool} {key : Ref → String} {s : Bool} : ∀ (f : Nat) (n : Ref) (first : Bool)
    (tb : List String) (r : Res (Ref × List String)),
    ancLoop d t key s f n first tb = r → r ≠ .fuel → ancLoop d t key s (f+1) n first tb = r
  | 0, _, _, _, r, h, hne => by simp only [ancLoop] at h; exact absurd h.symm hne
  | f+1, n, first, tb, r, h, hne => by
    rw [ancLoop] at h ⊢
    cases hi : ancIter d t s f n first with
    | fuel => rw [hi] at h; exact absurd h.symm hne
    | done => rw [hi] at h; rw [ancIter_mono d f n first _ hi (by simp)]; exact h
    | yield j =>
      rw [hi] at h; rw [ancIter_mono d f n first _ hi (by simp)]
      simp only at h ⊢
      by_cases hc : tb.contains (key j) = true
      · simp only [hc, if_true] at h ⊢; exact ancLoop_mono f j false tb r h hne
      · simp only [hc, if_false, Bool.false_eq_true] at h ⊢; exact h

theorem ancCall_mono (t : Ref → Bool) (key : Ref → String) (s : Bool) (f : Nat) (k : Ref × Bool)
    (p : Option (List String)) (r : Res (Ref × (Ref × Bool) × Option (List String))) :
    ancCall d t key s f k p = r → r ≠ .fuel → ancCall d t key s (f+1) k p = r :=
  call_mono (L := fun f => ancLoop d t key s f k.1 k.2 (p.getD [])) (C := fun f => ancCall d t key s f k p)
    (fun jt => (jt.1, (jt.1, false), some jt.2))
    (fun f => by rw [ancCall]; cases ancLoop d t key s f k.1 k.2 (p.getD []) <;> rfl)
    (fun f r => ancLoop_mono d f k.1 k.2 (p.getD []) r) f r

theorem precSibIter_mono {t : Ref → Bool} (f : Nat) (n : Ref) (r : Res Ref) :
    precSibIter d t f n = r → r ≠ .fuel → precSibIter d t (f+1) n = r :=
  scan_mono (precSibIter d t) (Nav.movePrev d) t id (fun _ => rfl)
    (fun f n => by rw [precSibIter]; cases Nav.movePrev d n <;> rfl) f n r

/-- `folClimb` is a scan: one step is the move to the next sibling, on which it stops (flag `true`), or
else the move to the parent, from which it goes on -/
theorem folClimb_mono (f : Nat) (n : Ref) (r : Res Ref) :
    folClimb d f n = r → r ≠ .fuel → folClimb d (f+1) n = r :=
  scan_mono (fun f (s : Ref × Bool) => folClimb d f s.1)
    (fun s => match Nav.moveNext d s.1 with
      | some m => some (m, true) | none => (Nav.moveParent d s.1).map (·, false))
    (·.2) (·.1) (fun _ => rfl)
    (fun f s => by rw [folClimb]; cases Nav.moveNext d s.1 <;> cases Nav.moveParent d s.1 <;> rfl) f (n, false) r

/-- `precClimb` likewise, with `p.posit` in the state: the move to the parent resets it -/
theorem precClimb_mono (f : Nat) (n : Ref) (pos : Nat) (r : Res (Ref × Nat)) :
    precClimb d f n pos = r → r ≠ .fuel → precClimb d (f+1) n pos = r :=
  scan_mono (fun f (s : (Ref × Nat) × Bool) => precClimb d f s.1.1 s.1.2)
    (fun s => match Nav.movePrev d s.1.1 with
      | some m => some ((m, s.1.2), true) | none => (Nav.moveParent d s.1.1).map (fun p => ((p, 0), false)))
    (·.2) (·.1) (fun _ => rfl)
    (fun f s => by rw [precClimb]; cases Nav.movePrev d s.1.1 <;> cases Nav.moveParent d s.1.1 <;> rfl)
    f ((n, pos), false) r

theorem folIter_mono (a : AxisInfo) : ∀ (f : Nat) (node : Ref) (q : Option PQ)
    (r : Res (Ref × (Ref × Option PQ) × Nat)),
    folIter d cfg a f node q = r → r ≠ .fuel → folIter d cfg a (f+1) node q = r
  | 0, _, _, r, h, hne => by simp only [folIter] at h; exact absurd h.symm hne
  | f+1, node, none, r, h, hne => by
    rw [folIter] at h ⊢
    cases hc : folClimb d f node with
    | fuel => rw [hc] at h; exact absurd h.symm hne
    | done => rw [hc] at h; rw [folClimb_mono d f node _ hc (by simp)]; exact h
    | yield m =>
      rw [hc] at h; rw [folClimb_mono d f node _ hc (by simp)]
      exact folIter_mono a f m _ r h hne
  | f+1, node, some q, r, h, hne => by
    rw [folIter] at h ⊢
    cases hs : PQ.select d cfg node f q with
    | mk o q' =>
      rw [hs] at h
      cases o with
      | fuel => simp only at h; exact absurd h.symm hne
      | done =>
        rw [select_mono d cfg node f q _ _ hs (by simp)]
        simp only at h ⊢
        exact folIter_mono a f node none r h hne
      | yield j =>
        rw [select_mono d cfg node f q _ _ hs (by simp)]
        exact h

theorem precIter_mono (a : AxisInfo) : ∀ (f : Nat) (node : Ref) (q : Option PQ) (pos : Nat)
    (r : Res (Ref × (Ref × Option PQ) × Nat)),
    precIter d cfg a f node q pos = r → r ≠ .fuel → precIter d cfg a (f+1) node q pos = r
  | 0, _, _, _, r, h, hne => by simp only [precIter] at h; exact absurd h.symm hne
  | f+1, node, none, pos, r, h, hne => by
    rw [precIter] at h ⊢
    cases hc : precClimb d f node pos with
    | fuel => rw [hc] at h; exact absurd h.symm hne
    | done => rw [hc] at h; rw [precClimb_mono d f node pos _ hc (by simp)]; exact h
    | yield mp =>
      obtain ⟨m, p'⟩ := mp
      rw [hc] at h; rw [precClimb_mono d f node pos _ hc (by simp)]
      exact precIter_mono a f m _ p' r h hne
  | f+1, node, some q, pos, r, h, hne => by
    rw [precIter] at h ⊢
    cases hs : PQ.select d cfg node f q with
    | mk o q' =>
      rw [hs] at h
      cases o with
      | fuel => simp only at h; exact absurd h.symm hne
      | done =>
        rw [select_mono d cfg node f q _ _ hs (by simp)]
        simp only at h ⊢
        exact precIter_mono a f node none pos r h hne
      | yield j =>
        rw [select_mono d cfg node f q _ _ hs (by simp)]
        exact h

theorem folCall_mono (a : AxisInfo) (sib : Bool) (f : Nat) (k : Ref × Option PQ) (pos : Nat)
    (r : Res (Ref × (Ref × Option PQ) × Nat))
    (h : folCall d cfg a sib f k pos = r) (hne : r ≠ .fuel) : folCall d cfg a sib (f+1) k pos = r := by
  cases sib with
  | false =>
    simp only [folCall, Bool.false_eq_true, if_false] at h ⊢
    exact folIter_mono d cfg a f k.1 k.2 r h hne
  | true =>
    simp only [folCall, if_true] at h ⊢
    cases hc : childIter d (test d cfg a) f k.1 false with
    | fuel => rw [hc] at h; exact absurd h.symm hne
    | done => rw [hc] at h; rw [childIter_mono d f k.1 false _ hc (by simp)]; exact h
    | yield j => rw [hc] at h; rw [childIter_mono d f k.1 false _ hc (by simp)]; exact h

theorem precCall_mono (a : AxisInfo) (sib : Bool) (f : Nat) (k : Ref × Option PQ) (pos : Nat)
    (r : Res (Ref × (Ref × Option PQ) × Nat))
    (h : precCall d cfg a sib f k pos = r) (hne : r ≠ .fuel) : precCall d cfg a sib (f+1) k pos = r := by
  cases sib with
  | false =>
    simp only [precCall, Bool.false_eq_true, if_false] at h ⊢
    exact precIter_mono d cfg a f k.1 k.2 pos r h hne
  | true =>
    simp only [precCall, if_true] at h ⊢
    cases hc : precSibIter d (test d cfg a) f k.1 with
    | fuel => rw [hc] at h; exact absurd h.symm hne
    | done => rw [hc] at h; rw [precSibIter_mono d f k.1 _ hc (by simp)]; exact h
    | yield j => rw [hc] at h; rw [precSibIter_mono d f k.1 _ hc (by simp)]; exact h

theorem dodUp_mono : ∀ (f : Nat) (cn : Ref) (level : Nat) (r : Res (Ref × Nat) × (Ref × Nat)),
    dodUp d f cn level = r → r.1 ≠ .fuel → dodUp d (f+1) cn level = r
  | 0, _, _, r, h, hne => by simp only [dodUp] at h; subst h; exact absurd rfl hne
  | f+1, cn, level, r, h, hne => by
    rw [dodUp] at h ⊢
    cases hmv : Nav.moveNext d cn with
    | some nn => rw [hmv] at h; exact h
    | none =>
      rw [hmv] at h
      simp only at h ⊢
      split
      · rename_i h0; rw [if_pos h0] at h; exact h
      · rename_i h0; rw [if_neg h0] at h; exact dodUp_mono f _ _ r h hne

theorem dodInner_mono {t : Ref → Bool} : ∀ (f : Nat) (cn : Ref) (level : Nat) (r : Res Unit × (Ref × Nat)),
    dodInner d t f cn level = r → r.1 ≠ .fuel → dodInner d t (f+1) cn level = r
  | 0, _, _, r, h, hne => by simp only [dodInner] at h; subst h; exact absurd rfl hne
  | f+1, cn, level, r, h, hne => by
    rw [dodInner] at h ⊢
    by_cases htc : t cn = true
    · simp only [htc, if_true] at h ⊢; exact h
    · simp only [htc, if_false, Bool.false_eq_true] at h ⊢
      cases hm : Nav.moveChild d cn with
      | none => rw [hm] at h; exact h
      | some c => rw [hm] at h; exact dodInner_mono f c (level+1) r h hne

end

/-! ## the loops over another query's `Select` -/

section
variable {σ : Type} (step step' : σ → Ref → Res Ref × σ × Ref)
variable (hstep : ∀ q c o q' c', step q c = (o, q', c') → o ≠ .fuel → step' q c = (o, q', c'))

include hstep in
theorem collectM_mono : ∀ (f : Nat) (q : σ) (c : Ref) (l : List Ref) (r : List Ref × σ × Ref),
    collectM step f q c l = some r → collectM step' (f+1) q c l = some r
  | 0, _, _, _, _, h => by simp [collectM] at h
  | f+1, q, c, l, r, h => by
    rw [collectM] at h ⊢
    cases hs : step q c with
    | mk o rest =>
      obtain ⟨q', c'⟩ := rest
      rw [hs] at h
      cases o with
      | fuel => simp at h
      | done => rw [hstep q c _ _ _ hs (by simp)]; exact h
      | yield n =>
        rw [hstep q c _ _ _ hs (by simp)]
        simp only at h ⊢
        exact collectM_mono f q' c' _ r h

include hstep in
theorem collectU_mono (key : Ref → String) : ∀ (f : Nat) (q : σ) (c : Ref) (l : List Ref) (m : List String)
    (r : List Ref × List String × σ × Ref),
    collectU step key f q c l m = some r → collectU step' key (f+1) q c l m = some r
  | 0, _, _, _, _, _, h => by simp [collectU] at h
  | f+1, q, c, l, m, r, h => by
    rw [collectU] at h ⊢
    cases hs : step q c with
    | mk o rest =>
      obtain ⟨q', c'⟩ := rest
      rw [hs] at h
      cases o with
      | fuel => simp at h
      | done => rw [hstep q c _ _ _ hs (by simp)]; exact h
      | yield n =>
        rw [hstep q c _ _ _ hs (by simp)]
        simp only at h ⊢
        by_cases hc : m.contains (key n) = true
        · simp only [hc, if_true] at h ⊢; exact collectU_mono key f q' c' _ _ r h
        · simp only [hc, if_false, Bool.false_eq_true] at h ⊢; exact collectU_mono key f q' c' _ _ r h

end


/-! ## `Select` -/

section
variable (d : Doc) (cfg : ECfg) (dec : Plan → Ref → Bool)

/-- the answer is not "out of fuel" -/
abbrev NF (r : Out2) : Prop := r.1 ≠ .fuel

/-- arms of the form `match Input.Select(t) with | yield n => Select again (new closure) | done => done` -/
local macro "mono_pull" ih:ident h:ident hne:ident f:ident inp:ident c:ident : tactic => `(tactic| (
  simp only [PQ2.select] at $h:ident ⊢
  cases hr : PQ2.select d cfg dec $f $inp $c with
  | mk o1 rest =>
    obtain ⟨inp1, c1⟩ := rest
    rw [hr] at $h:ident
    cases o1 with
    | fuel => simp only at $h:ident; injection $h with h1 _; exact absurd h1.symm $hne
    | done => rw [$ih:ident $inp $c _ _ _ hr (by simp)]; exact $h
    | yield x =>
      rw [$ih:ident $inp $c _ _ _ hr (by simp)]
      simp only at $h:ident ⊢
      exact $ih:ident _ _ _ _ _ $h $hne))

theorem select_mono2 : ∀ (f : Nat) (q : PQ2) (c : Ref) (o : Res Ref) (q' : PQ2) (c' : Ref),
    PQ2.select d cfg dec f q c = (o, q', c') → o ≠ .fuel → PQ2.select d cfg dec (f+1) q c = (o, q', c') := by
  intro f
  induction f with
  | zero =>
    intro q c o q' c' h hne
    simp only [PQ2.select] at h
    injection h with h1 _
    exact absurd h1.symm hne
  | succ f ih =>
    intro q c o q' c' h hne
    cases q with
    | context k => simp only [PQ2.select] at h ⊢; exact h
    | absolute k => simp only [PQ2.select] at h ⊢; exact h
    | child a inp it pos =>
      exact (childArm d cfg dec a).mono (sibCall_mono d _) ih inp it pos c o q' c' h hne
    | cachedChild a inp it pos =>
      exact (cachedChildArm d cfg dec a).mono (sibCall_mono d _) ih inp it pos c o q' c' h hne
    | attr a inp it =>
      exact (attrArm d cfg dec a).mono (attrCall_mono d _) ih inp it () c o q' c' h hne
    | descendant a s inp it pos level =>
      exact (descendantArm d cfg dec a s).mono (descCall_mono d _ s) ih inp it (pos, level) c o q' c' h hne
    | ancestor a s inp it tb =>
      exact (ancestorArm d cfg dec a s).mono (ancCall_mono d _ _ s) ih inp it tb c o q' c' h hne
    | following a sib inp it pos =>
      exact (followingArm d cfg dec a sib).mono (folCall_mono d cfg a sib) ih inp it pos c o q' c' h hne
    | preceding a sib inp it pos =>
      exact (precedingArm d cfg dec a sib).mono (precCall_mono d cfg a sib) ih inp it pos c o q' c' h hne
    | self a inp => exact (selfArm d cfg dec a).mono ih inp () c o q' c' h hne
    | parent a inp => exact (parentArm d cfg dec a).mono ih inp () c o q' c' h hne
    | filter inp pred pos pm => exact (filterArm d cfg dec pred).mono ih inp (pos, pm) c o q' c' h hne
    | group inp pos => exact (groupArm d cfg dec).mono ih inp pos c o q' c' h hne
    | union l r it =>
      cases it with
      | some buf =>
        cases buf with
        | nil => simp only [PQ2.select] at h ⊢; exact h
        | cons x rest => simp only [PQ2.select] at h ⊢; exact h
      | none =>
        simp only [PQ2.select] at h ⊢
        cases h1 : collectU (PQ2.select d cfg dec f) (identityHash d cfg) f l c [] [] with
        | none => rw [h1] at h; simp only at h; injection h with h1 _; exact absurd h1.symm hne
        | some r1 =>
          obtain ⟨list1, m1, l', c1⟩ := r1
          rw [h1] at h
          rw [collectU_mono _ _ (fun q c o q' c' hs hn => ih q c o q' c' hs hn) _ f l c [] [] _ h1]
          simp only at h ⊢
          cases h2 : collectU (PQ2.select d cfg dec f) (identityHash d cfg) f r c list1 m1 with
          | none => rw [h2] at h; simp only at h; injection h with h1 _; exact absurd h1.symm hne
          | some r2 =>
            obtain ⟨list2, m2, r', c2⟩ := r2
            rw [h2] at h
            rw [collectU_mono _ _ (fun q c o q' c' hs hn => ih q c o q' c' hs hn) _ f r c list1 m1 _ h2]
            simp only at h ⊢
            exact ih _ _ _ _ _ h hne
    | merge inp ch it =>
      cases it with
      | some buf =>
        cases buf with
        | nil => simp only [PQ2.select] at h ⊢; exact ih _ _ _ _ _ h hne
        | cons x rest => simp only [PQ2.select] at h ⊢; exact h
      | none =>
        simp only [PQ2.select] at h ⊢
        cases hr : PQ2.select d cfg dec f inp c with
        | mk o1 rest =>
          obtain ⟨inp1, c1⟩ := rest
          rw [hr] at h
          cases o1 with
          | fuel => simp only at h; injection h with h1 _; exact absurd h1.symm hne
          | done => rw [ih inp c _ _ _ hr (by simp)]; exact h
          | yield x =>
            rw [ih inp c _ _ _ hr (by simp)]
            simp only at h ⊢
            cases h1 : collectM (PQ2.select d cfg dec f) f ch.evaluate x [] with
            | none => rw [h1] at h; simp only at h; injection h with h1 _; exact absurd h1.symm hne
            | some r1 =>
              obtain ⟨list, ch', c2⟩ := r1
              rw [h1] at h
              rw [collectM_mono _ _ (fun q c o q' c' hs hn => ih q c o q' c' hs hn) f ch.evaluate x [] _ h1]
              simp only at h ⊢
              exact ih _ _ _ _ _ h hne
    | descOverDesc a ms inp level pos cn =>
      cases level with
      | zero =>
        simp only [PQ2.select] at h ⊢
        cases hr : PQ2.select d cfg dec f inp c with
        | mk o1 rest =>
          obtain ⟨inp1, c1⟩ := rest
          rw [hr] at h
          cases o1 with
          | fuel => simp only at h; injection h with h1 _; exact absurd h1.symm hne
          | done => rw [ih inp c _ _ _ hr (by simp)]; exact h
          | yield x =>
            rw [ih inp c _ _ _ hr (by simp)]
            simp only at h ⊢
            by_cases hs : (ms && test d cfg a x) = true
            · simp only [hs, if_true] at h ⊢; exact h
            · simp only [hs, if_false, Bool.false_eq_true] at h ⊢
              cases hm : Nav.moveChild d x with
              | none => rw [hm] at h; simp only at h ⊢; exact ih _ _ _ _ _ h hne
              | some ch =>
                rw [hm] at h
                simp only at h ⊢
                cases hi : dodInner d (test d cfg a) f ch 1 with
                | mk o2 jl =>
                  obtain ⟨j, l⟩ := jl
                  rw [hi] at h
                  cases o2 with
                  | fuel => simp only at h; injection h with h1 _; exact absurd h1.symm hne
                  | done =>
                    rw [dodInner_mono d f ch 1 _ hi (by simp)]
                    simp only at h ⊢; exact ih _ _ _ _ _ h hne
                  | yield u => rw [dodInner_mono d f ch 1 _ hi (by simp)]; exact h
      | succ lv =>
        simp only [PQ2.select] at h ⊢
        cases hu : dodUp d f cn (lv+1) with
        | mk o1 nl =>
          obtain ⟨cn', l'⟩ := nl
          rw [hu] at h
          cases o1 with
          | fuel => simp only at h; injection h with h1 _; exact absurd h1.symm hne
          | done =>
            rw [dodUp_mono d f cn (lv+1) _ hu (by simp)]
            simp only at h ⊢; exact ih _ _ _ _ _ h hne
          | yield u =>
            rw [dodUp_mono d f cn (lv+1) _ hu (by simp)]
            simp only at h ⊢
            cases hi : dodInner d (test d cfg a) f cn' l' with
            | mk o2 jl =>
              obtain ⟨j, l⟩ := jl
              rw [hi] at h
              cases o2 with
              | fuel => simp only at h; injection h with h1 _; exact absurd h1.symm hne
              | done =>
                rw [dodInner_mono d f cn' l' _ hi (by simp)]
                simp only at h ⊢; exact ih _ _ _ _ _ h hne
              | yield u => rw [dodInner_mono d f cn' l' _ hi (by simp)]; exact h

theorem mach2_mono : (mach2 d cfg dec).Mono := select_mono2 d cfg dec

theorem select_mono2_le {f f' : Nat} {q : PQ2} {c : Ref} {o : Res Ref} {q' : PQ2} {c' : Ref}
    (h : PQ2.select d cfg dec f q c = (o, q', c')) (hne : o ≠ .fuel) (hle : f ≤ f') :
    PQ2.select d cfg dec f' q c = (o, q', c') :=
  (mach2_mono d cfg dec).le h hne hle

end

end XPathV.Model
