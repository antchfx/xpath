import XPathV.Lemmas.Pull2.SelectArms
/-!
# No `Select` leaves the context node moved

`t.Current()` is the context node of the whole evaluation: operands, arguments and predicates that
are evaluated *after* a node-set iterator was pulled read it.  `filterQuery.Select` moves it onto
every candidate (the predicate is evaluated there), `mergeQuery.Select` onto every parent,
`unionQuery.Select` lets both operands run on it.  In the repaired `query.go`

* `filterQuery.Select` restores it when it returns (`defer func() { t.Current().MoveTo(ctx) }()`),
* `mergeQuery.Select` restores it after the children of one parent were collected,
* `unionQuery.Select` restores it between the operands (and not after the right one),
* the non-sibling `followingQuery`/`precedingQuery` do not touch it (`startQuery`).

`select_preserves_context`: for **every** machine state `q` of the sixteen iterator types — any
nesting, any mutable state, reachable or not, any decision function, any document — a `Select` that
answers (a node or `nil`) returns `t.Current()` exactly as it found it.  The proof is an induction
on the fuel; the types that have one of the two shapes of `Pull2/Generic.lean` take their step from the arm
(`ClosArm.ctx`, `FMapArm.ctx` over `Pull2/SelectArms.lean`).  Per type:

* `context`, `absolute`, and every arm that runs a live closure (`child`, `cachedChild`, `attr`,
  `descendant`, `ancestor`, `following`, `preceding`, `descOverDesc`, the buffers of `union` and
  `merge`): the arm does not write `t.Current()`;
* arms that pull their input (`self`, `parent`, `group`, the closure types with `iterator == nil`,
  `merge`): what the input's `Select` leaves — the induction hypothesis;
* `filter`: restored, *whatever* its input does;
* `merge`: the child's walk is bracketed by `ctx := …`/`MoveTo(ctx)`, so only the input matters;
* `union`: the left operand is followed by `MoveTo(root)`; the result is what the *right* operand's
  last `Select` leaves — the induction hypothesis again (`collectU_context`).

The only outcome excluded is "out of fuel" (not an outcome of the Go code): the model interrupts
`mergeQuery`'s collecting loop with `t.Current()` on the parent.
-/
namespace XPathV.Model
open XPathV

section
variable {σ : Type} (step : σ → Ref → Res Ref × σ × Ref)
variable (hstep : ∀ q c o q' c', step q c = (o, q', c') → o ≠ .fuel → c' = c)

include hstep in
/-- the draining loop of `unionQuery` over a `Select` that returns `t.Current()` as it found it
returns it as it found it -/
theorem collectU_context (key : Ref → String) : ∀ (f : Nat) (q : σ) (c : Ref) (l : List Ref) (m : List String)
    (l' : List Ref) (m' : List String) (q' : σ) (c' : Ref),
    collectU step key f q c l m = some (l', m', q', c') → c' = c
  | 0, _, _, _, _, _, _, _, _, h => by simp [collectU] at h
  | f+1, q, c, l, m, l', m', q', c', h => by
    rw [collectU] at h
    cases hs : step q c with
    | mk o rest =>
      obtain ⟨q1, c1⟩ := rest
      rw [hs] at h
      cases o with
      | fuel => simp at h
      | done =>
        have e := hstep q c _ _ _ hs (by simp)
        simp only [Option.some.injEq, Prod.mk.injEq] at h
        rw [← h.2.2.2]; exact e
      | yield n =>
        have e := hstep q c _ _ _ hs (by simp)
        simp only at h
        split at h
        · rw [collectU_context key f q1 c1 _ _ _ _ _ _ h]; exact e
        · rw [collectU_context key f q1 c1 _ _ _ _ _ _ h]; exact e

end

section
variable (d : Doc) (cfg : ECfg) (dec : Plan → Ref → Bool)

/-- arms `match Input.Select(t) with | yield n => Select again (closure built) | done => done` -/
local macro "ctx_pull" ih:ident h:ident hne:ident f:ident inp:ident c:ident : tactic => `(tactic| (
  simp only [PQ2.select] at $h:ident
  cases hr : PQ2.select d cfg dec $f $inp $c with
  | mk o1 rest =>
    obtain ⟨inp1, c1⟩ := rest
    rw [hr] at $h:ident
    cases o1 with
    | fuel => simp only [Prod.mk.injEq] at $h:ident; exact absurd ($h).1.symm $hne
    | done =>
      have e := $ih:ident _ _ _ _ _ hr (by simp)
      simp only [Prod.mk.injEq] at $h:ident
      rw [← ($h).2.2]; exact e
    | yield x =>
      have e := $ih:ident _ _ _ _ _ hr (by simp)
      simp only at $h:ident
      rw [$ih:ident _ _ _ _ _ $h $hne]; exact e))

/-- arms that run a live closure `body` and either yield, or drop the closure and `Select` again -/
local macro "ctx_closure" ih:ident h:ident hne:ident body:term : tactic => `(tactic| (
  simp only [PQ2.select] at $h:ident
  cases hb : $body with
  | fuel => rw [hb] at $h:ident; simp only [Prod.mk.injEq] at $h:ident; exact absurd ($h).1.symm $hne
  | done => rw [hb] at $h:ident; simp only at $h:ident; exact $ih:ident _ _ _ _ _ $h $hne
  | yield j => rw [hb] at $h:ident; simp only [Prod.mk.injEq] at $h:ident; exact ($h).2.2.symm))

/-- **The context node survives every `Select`.**  Whatever the machine (any of the sixteen iterator
types over inputs of any of them), whatever its state, the decision function, the document and the
fuel: if `Select` answers — a node or `nil` — then `t.Current()` afterwards is `t.Current()` before. -/
theorem select_preserves_context : ∀ (f : Nat) (q : PQ2) (cur : Ref) (out : Res Ref) (q' : PQ2) (cur' : Ref),
    PQ2.select d cfg dec f q cur = (out, q', cur') → out ≠ .fuel → cur' = cur := by
  intro f
  induction f with
  | zero =>
    intro q c o q' c' h hne
    simp only [PQ2.select, Prod.mk.injEq] at h
    exact absurd h.1.symm hne
  | succ f ih =>
    intro q c o q' c' h hne
    cases q with
    | context k =>
      simp only [PQ2.select] at h
      split at h <;> (simp only [Prod.mk.injEq] at h; exact h.2.2.symm)
    | absolute k =>
      simp only [PQ2.select] at h
      split at h <;> (simp only [Prod.mk.injEq] at h; exact h.2.2.symm)
    | child a inp it pos => exact (childArm d cfg dec a).ctx ih inp it pos c o q' c' h hne
    | cachedChild a inp it pos => exact (cachedChildArm d cfg dec a).ctx ih inp it pos c o q' c' h hne
    | attr a inp it => exact (attrArm d cfg dec a).ctx ih inp it () c o q' c' h hne
    | descendant a s inp it pos level => exact (descendantArm d cfg dec a s).ctx ih inp it (pos, level) c o q' c' h hne
    | ancestor a s inp it tb => exact (ancestorArm d cfg dec a s).ctx ih inp it tb c o q' c' h hne
    | following a sib inp it pos => exact (followingArm d cfg dec a sib).ctx ih inp it pos c o q' c' h hne
    | preceding a sib inp it pos => exact (precedingArm d cfg dec a sib).ctx ih inp it pos c o q' c' h hne
    | self a inp => exact (selfArm d cfg dec a).ctx (fun _ _ => ⟨rfl, rfl⟩) ih inp () c o q' c' h hne
    | parent a inp => exact (parentArm d cfg dec a).ctx (fun _ _ => ⟨rfl, rfl⟩) ih inp () c o q' c' h hne
    | group inp pos => exact (groupArm d cfg dec).ctx (fun _ _ => ⟨rfl, rfl⟩) ih inp pos c o q' c' h hne
    | filter inp pred pos pm =>
      -- `fin c _ = c`: restored on every way out, whatever the input does
      exact (filterArm d cfg dec pred).ctx (fun _ _ => ⟨rfl, rfl⟩) ih inp (pos, pm) c o q' c' h hne
    | union l r it =>
      cases it with
      | some buf =>
        cases buf with
        | nil => simp only [PQ2.select, Prod.mk.injEq] at h; exact h.2.2.symm
        | cons x rest => simp only [PQ2.select, Prod.mk.injEq] at h; exact h.2.2.symm
      | none =>
        simp only [PQ2.select] at h
        cases h1 : collectU (PQ2.select d cfg dec f) (identityHash d cfg) f l c [] [] with
        | none => rw [h1] at h; simp only [Prod.mk.injEq] at h; exact absurd h.1.symm hne
        | some r1 =>
          obtain ⟨list1, m1, l', c1⟩ := r1
          rw [h1] at h
          simp only at h
          cases h2 : collectU (PQ2.select d cfg dec f) (identityHash d cfg) f r c list1 m1 with
          | none => rw [h2] at h; simp only [Prod.mk.injEq] at h; exact absurd h.1.symm hne
          | some r2 =>
            obtain ⟨list2, m2, r', c2⟩ := r2
            rw [h2] at h
            simp only at h
            have e : c2 = c :=
              collectU_context (PQ2.select d cfg dec f) (fun q c o q' c' hs hn => ih q c o q' c' hs hn)
                (identityHash d cfg) f r c list1 m1 _ _ _ _ h2
            rw [ih _ _ _ _ _ h hne]; exact e
    | merge inp ch it =>
      cases it with
      | some buf =>
        cases buf with
        | nil => simp only [PQ2.select] at h; exact ih _ _ _ _ _ h hne
        | cons x rest => simp only [PQ2.select, Prod.mk.injEq] at h; exact h.2.2.symm
      | none =>
        simp only [PQ2.select] at h
        cases hr : PQ2.select d cfg dec f inp c with
        | mk o1 rest =>
          obtain ⟨inp1, c1⟩ := rest
          rw [hr] at h
          cases o1 with
          | fuel => simp only [Prod.mk.injEq] at h; exact absurd h.1.symm hne
          | done =>
            have e := ih _ _ _ _ _ hr (by simp)
            simp only [Prod.mk.injEq] at h
            rw [← h.2.2]; exact e
          | yield x =>
            have e := ih _ _ _ _ _ hr (by simp)
            simp only at h
            cases h1 : collectM (PQ2.select d cfg dec f) f ch.evaluate x [] with
            | none => rw [h1] at h; simp only [Prod.mk.injEq] at h; exact absurd h.1.symm hne
            | some r1 =>
              obtain ⟨list, ch', c2⟩ := r1
              rw [h1] at h
              simp only at h
              rw [ih _ _ _ _ _ h hne]; exact e
    | descOverDesc a ms inp level pos cn =>
      cases level with
      | zero =>
        simp only [PQ2.select] at h
        cases hr : PQ2.select d cfg dec f inp c with
        | mk o1 rest =>
          obtain ⟨inp1, c1⟩ := rest
          rw [hr] at h
          cases o1 with
          | fuel => simp only [Prod.mk.injEq] at h; exact absurd h.1.symm hne
          | done =>
            have e := ih _ _ _ _ _ hr (by simp)
            simp only [Prod.mk.injEq] at h
            rw [← h.2.2]; exact e
          | yield x =>
            have e := ih _ _ _ _ _ hr (by simp)
            simp only at h
            split at h
            · simp only [Prod.mk.injEq] at h; rw [← h.2.2]; exact e
            · cases hm : Nav.moveChild d x with
              | none => rw [hm] at h; simp only at h; rw [ih _ _ _ _ _ h hne]; exact e
              | some ch =>
                rw [hm] at h
                simp only at h
                cases hi : dodInner d (test d cfg a) f ch 1 with
                | mk o2 jl =>
                  obtain ⟨j, l⟩ := jl
                  rw [hi] at h
                  cases o2 with
                  | fuel => simp only [Prod.mk.injEq] at h; exact absurd h.1.symm hne
                  | done => simp only at h; rw [ih _ _ _ _ _ h hne]; exact e
                  | yield u => simp only [Prod.mk.injEq] at h; rw [← h.2.2]; exact e
      | succ lv =>
        simp only [PQ2.select] at h
        cases hu : dodUp d f cn (lv+1) with
        | mk o1 nl =>
          obtain ⟨cn', l'⟩ := nl
          rw [hu] at h
          cases o1 with
          | fuel => simp only [Prod.mk.injEq] at h; exact absurd h.1.symm hne
          | done => simp only at h; exact ih _ _ _ _ _ h hne
          | yield u =>
            simp only at h
            cases hi : dodInner d (test d cfg a) f cn' l' with
            | mk o2 jl =>
              obtain ⟨j, l⟩ := jl
              rw [hi] at h
              cases o2 with
              | fuel => simp only [Prod.mk.injEq] at h; exact absurd h.1.symm hne
              | done => simp only at h; exact ih _ _ _ _ _ h hne
              | yield u => simp only [Prod.mk.injEq] at h; exact h.2.2.symm

/-- a `filterQuery` restores the context node even when it runs out of fuel (the `defer`) -/
theorem select_filter_context (f : Nat) (inp : PQ2) (pred : Plan) (pos : Nat) (pm : Option (List (Nat × Nat)))
    (cur : Ref) : (PQ2.select d cfg dec f (.filter inp pred pos pm) cur).2.2 = cur := by
  cases f with
  | zero => rfl
  | succ f =>
    simp only [PQ2.select]
    cases hr : PQ2.select d cfg dec f inp cur with
    | mk o1 rest =>
      obtain ⟨inp1, c1⟩ := rest
      cases o1 with
      | fuel => rfl
      | done => rfl
      | yield x =>
        simp only
        split <;> rfl

end

end XPathV.Model

