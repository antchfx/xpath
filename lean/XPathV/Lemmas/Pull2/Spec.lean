import XPathV.Lemmas.PullProofs
/-!
# Specification side of the extended pull machine

`rem2 c q`: the items (node, `position()`, `depth()`) a machine in state `q` still yields when
`t.Current() = c`, written with the walks of the sequence model (`Model/Engine.lean`).
`full2 c q`: the whole sequence of the configuration of `q` (state ignored).
`PQ2.Inv` / `PQ2.Cons`: the state invariants under which the one-pull lemma holds.
-/
namespace XPathV.Model
open XPathV

section
variable (d : Doc) (cfg : ECfg) (dec : Plan → Ref → Bool)

/-- candidates an `ancestorQuery` closure in state `(n, first)` still visits (before the table) -/
def ancCands (t : Ref → Bool) (self : Bool) (n : Ref) (first : Bool) : List Ref :=
  ((if first && self then [n] else []) ++ ancestorsM d n).filter t

/-- one root's contribution to `following`/`preceding`: the root and its descendants that match -/
def subtreeMatches (t : Ref → Bool) (root : Ref) : List Ref :=
  (root :: (descM d root).map (·.1)).filter t

/-- drop the `depth()` of an inner `descendantQuery` item (`followingQuery` has no `depth()`) -/
def noLvl (x : Item) : Item := ⟨x.r, x.pos, 0⟩

/-- what the non-sibling `followingQuery` closure in state `(node, q)` still yields; the captured
`q` walks the subtree of `node` (its `startQuery` holds a copy of `node`): `rem … node q` -/
def folCur (a : AxisInfo) (node : Ref) (q : Option PQ) : List Item :=
  (match q with
    | none => []
    | some q => (rem d cfg node q).map noLvl)
  ++ (followRoots d (2 * d.length + 2) node).flatMap (fun root => numbered (subtreeMatches d (test d cfg a) root))

/-- items of the roots `rs` of a `precedingQuery` with running `posit` -/
def precTail (t : Ref → Bool) : List (Ref × Bool) → Nat → List Item
  | [], _ => []
  | (root, reset) :: rs, cnt =>
    numFrom (if reset then 0 else cnt) (subtreeMatches d t root)
      ++ precTail t rs ((if reset then 0 else cnt) + (subtreeMatches d t root).length)

/-- what the non-sibling `precedingQuery` closure in state `(node, q)` with `posit = pos` still yields -/
def precCur (a : AxisInfo) (node : Ref) (q : Option PQ) (pos : Nat) : List Item :=
  (match q with
    | none => []
    | some q => numFrom pos ((rem d cfg node q).map (·.r)))
  ++ precTail d (test d cfg a) (precRoots d (2 * d.length + 2) node false)
      (pos + (match q with | none => 0 | some q => (rem d cfg node q).length))

/-- `topMost`-expansion of one node: itself if it matches, else its top-most matching descendants -/
def topOf (t : Ref → Bool) (s : Ref) : List Ref := if t s then [s] else topMost d t s

/-- what `descendantOverDescendantQuery` still yields below the current input node when it resumes
with `moveUpUntilNext` at `(cn, level)` -/
def dodRest (t : Ref → Bool) : Nat → Ref → List Ref
  | 0, _ => []
  | l+1, cn => (nextSibsM d cn).flatMap (topOf d t) ++
    (match Nav.moveParent d cn with
      | some p => dodRest t l p
      | none => [])

/-- filter decision as a filter/map step: fields `(posit, positmap)` -/
def filterG (pred : Plan) (n : Ref) (_pos lvl : Nat) (p : Nat × Option (List (Nat × Nat))) :
    Option Ref × (Nat × Option (List (Nat × Nat))) :=
  if dec pred n then (some n, (((p.2.getD []).lookup lvl).getD 0 + 1, some (bumpMap (p.2.getD []) lvl)))
  else (none, (p.1, some (p.2.getD [])))

/-- `groupQuery`, `selfQuery`, `parentQuery` as filter/map steps -/
def groupG (n : Ref) (_pos _lvl : Nat) (p : Nat) : Option Ref × Nat := (some n, p + 1)
def selfG (t : Ref → Bool) (n : Ref) (_pos _lvl : Nat) (_p : Unit) : Option Ref × Unit :=
  (if t n then some n else none, ())
def parentG (t : Ref → Bool) (n : Ref) (_pos _lvl : Nat) (_p : Unit) : Option Ref × Unit :=
  ((Nav.moveParent d n).filter t, ())

/-- contribution of one input node to the closure-type queries (`childContrib` … `dodContrib`) -/
def childContrib (a : AxisInfo) (x : Ref) : List Item := numbered ((childrenM d x).filter (test d cfg a))
def attrContrib (a : AxisInfo) (x : Ref) : List Item := plain ((attrsM d x).filter (test d cfg a))
def folContrib (a : AxisInfo) (sib : Bool) (x : Ref) : List Item :=
  if sib then numbered ((nextSibsM d x).filter (test d cfg a)) else followingItems d cfg a x
def precContrib (a : AxisInfo) (sib : Bool) (x : Ref) : List Item :=
  if sib then numbered ((prevSibsM d x).filter (test d cfg a)) else precedingItems d cfg a x
def dodContrib (a : AxisInfo) (ms : Bool) (x : Ref) : List Item :=
  if ms && test d cfg a x then [⟨x, 1, 0⟩] else numbered (topMost d (test d cfg a) x)

/-- the whole sequence of the configuration of `q` with context node `c` (state ignored) -/
def full2 : Ref → PQ2 → List Item
  | c, .context _ => [⟨c, 1, 0⟩]
  | _, .absolute _ => [⟨Nav.root d, 1, 0⟩]
  | c, .child a inp _ _ => (full2 c inp).flatMap (fun x => childContrib d cfg a x.r)
  | c, .cachedChild a inp _ _ => (full2 c inp).flatMap (fun x => childContrib d cfg a x.r)
  | c, .attr a inp _ => (full2 c inp).flatMap (fun x => attrContrib d cfg a x.r)
  | c, .self a inp => fmapR (selfG (test d cfg a)) (fun _ => 1) (fun _ => 0) () (full2 c inp)
  | c, .parent a inp => fmapR (parentG d (test d cfg a)) (fun _ => 1) (fun _ => 0) () (full2 c inp)
  | c, .descendant a s inp _ _ _ => (full2 c inp).flatMap (fun x => descItems d cfg a s x.r)
  | c, .ancestor a s inp _ _ =>
    plain (dedupByKey (identityHash d cfg) ((full2 c inp).flatMap (fun x => ancCands d (test d cfg a) s x.r true)) [])
  | c, .following a sib inp _ _ => (full2 c inp).flatMap (fun x => folContrib d cfg a sib x.r)
  | c, .preceding a sib inp _ _ => (full2 c inp).flatMap (fun x => precContrib d cfg a sib x.r)
  | c, .filter inp pred _ _ => fmapR (filterG dec pred) (·.1) (fun _ => 0) (0, none) (full2 c inp)
  | c, .union l r _ => plain (dedupByKey (identityHash d cfg) ((full2 c l ++ full2 c r).map (·.r)) [])
  | c, .group inp _ => fmapR groupG id (fun _ => 0) 0 (full2 c inp)
  | c, .descOverDesc a ms inp _ _ _ => (full2 c inp).flatMap (fun x => dodContrib d cfg a ms x.r)
  | c, .merge inp ch _ => (full2 c inp).flatMap (fun x => plain ((full2 x.r ch).map (·.r)))

/-- The items a machine in state `q` still yields when `t.Current() = c`. -/
def rem2 : Ref → PQ2 → List Item
  | c, .context n => if n > 0 then [] else [⟨c, 1, 0⟩]
  | _, .absolute n => if n > 0 then [] else [⟨Nav.root d, 1, 0⟩]
  | c, .child a inp it pos =>
    (match it with
      | none => []
      | some (n, first) => numFrom pos ((sibCands d n first).filter (test d cfg a)))
    ++ (rem2 c inp).flatMap (fun x => childContrib d cfg a x.r)
  | c, .cachedChild a inp it pos =>
    (match it with
      | none => []
      | some (n, first) => numFrom pos ((sibCands d n first).filter (test d cfg a)))
    ++ (rem2 c inp).flatMap (fun x => childContrib d cfg a x.r)
  | c, .attr a inp it =>
    (match it with
      | none => []
      | some (n, isAttr) => plain ((attrCands d n isAttr).filter (test d cfg a)))
    ++ (rem2 c inp).flatMap (fun x => attrContrib d cfg a x.r)
  | c, .self a inp => fmapR (selfG (test d cfg a)) (fun _ => 1) (fun _ => 0) () (rem2 c inp)
  | c, .parent a inp => fmapR (parentG d (test d cfg a)) (fun _ => 1) (fun _ => 0) () (rem2 c inp)
  | c, .descendant a s inp it pos level =>
    (match it with
      | none => []
      | some (n, first) =>
        numFromL pos ((if first && s && test d cfg a n then [(n, level)] else [])
          ++ (walkD d d.length n level).filter (fun p => test d cfg a p.1)))
    ++ (rem2 c inp).flatMap (fun x => descItems d cfg a s x.r)
  | c, .ancestor a s inp it tb =>
    plain (dedupByKey (identityHash d cfg)
      ((match it with
          | none => []
          | some (n, first) => ancCands d (test d cfg a) s n first)
        ++ (rem2 c inp).flatMap (fun x => ancCands d (test d cfg a) s x.r true)) (tb.getD []))
  | c, .following a sib inp it pos =>
    (match it with
      | none => []
      | some (node, q) =>
        if sib then numFrom pos ((sibCands d node false).filter (test d cfg a)) else folCur d cfg a node q)
    ++ (rem2 c inp).flatMap (fun x => folContrib d cfg a sib x.r)
  | c, .preceding a sib inp it pos =>
    (match it with
      | none => []
      | some (node, q) =>
        if sib then numFrom pos ((prevSibsM d node).filter (test d cfg a)) else precCur d cfg a node q pos)
    ++ (rem2 c inp).flatMap (fun x => precContrib d cfg a sib x.r)
  | c, .filter inp pred pos pm => fmapR (filterG dec pred) (·.1) (fun _ => 0) (pos, pm) (rem2 c inp)
  | c, .union l r it =>
    match it with
    | none => plain (dedupByKey (identityHash d cfg) ((rem2 c l ++ rem2 c r).map (·.r)) [])
    | some buf => plain buf
  | c, .group inp pos => fmapR groupG id (fun _ => 0) pos (rem2 c inp)
  | c, .descOverDesc a ms inp level pos cn =>
    numFrom pos (dodRest d (test d cfg a) level cn)
    ++ (rem2 c inp).flatMap (fun x => dodContrib d cfg a ms x.r)
  | c, .merge inp ch it =>
    (match it with
      | none => []
      | some buf => plain buf)
    ++ (rem2 c inp).flatMap (fun x => plain ((full2 d cfg dec x.r ch).map (·.r)))

/-- a reference into the document -/
def Good (r : Ref) : Prop := r.idx < d.length

/-- the inner `*descendantQuery` of a following/preceding closure has pulled its `startQuery` -/
def innerOK : Option PQ → Prop
  | none => True
  | some q => ∃ a s c it p l, q = .descendant a s (.context c) it p l ∧ c > 0 ∧ ∀ n f, it = some (n, f) → Good d n

/-- the inner query is as in `innerOK`, or is the freshly created one (its first pull takes the start
node from its `startQuery`) -/
def innerInv (q : Option PQ) : Prop := innerOK d q ∨ ∃ a s, q = some (innerDesc a s)

def itOK (it : Option (Ref × Bool)) : Prop := ∀ n f, it = some (n, f) → Good d n
def fitOK (it : Option (Ref × Option PQ)) : Prop := ∀ n q, it = some (n, q) → Good d n ∧ innerOK d q
def fitInv (it : Option (Ref × Option PQ)) : Prop := ∀ n q, it = some (n, q) → Good d n ∧ innerInv d q
def bufOK (it : Option (List Ref)) : Prop := ∀ buf, it = some buf → ∀ x ∈ buf, Good d x

/-- consumed: no `contextQuery` the state still depends on is unread; stored cursors are in range -/
def PQ2.Cons : PQ2 → Prop
  | .context c => c > 0
  | .absolute _ => True
  | .child _ inp it _ => PQ2.Cons inp ∧ itOK d it
  | .cachedChild _ inp it _ => PQ2.Cons inp ∧ itOK d it
  | .attr _ inp it => PQ2.Cons inp ∧ itOK d it
  | .self _ inp => PQ2.Cons inp
  | .parent _ inp => PQ2.Cons inp
  | .descendant _ _ inp it _ _ => PQ2.Cons inp ∧ itOK d it
  | .ancestor _ _ inp it _ => PQ2.Cons inp ∧ itOK d it
  | .following _ _ inp it _ => PQ2.Cons inp ∧ fitOK d it
  | .preceding _ _ inp it _ => PQ2.Cons inp ∧ fitOK d it
  | .filter inp _ _ _ => PQ2.Cons inp
  | .union _ _ it => it.isSome = true ∧ bufOK d it
  | .group inp _ => PQ2.Cons inp
  | .descOverDesc _ _ inp level _ cn => PQ2.Cons inp ∧ (0 < level → Good d cn)
  | .merge inp _ it => PQ2.Cons inp ∧ bufOK d it

/-- the invariant of the one-pull lemma: a live closure implies a consumed input.  Every state
produced by `Evaluate`, `Clone` or the builder, and every state reached from one by `Select`,
satisfies it. -/
def PQ2.Inv : PQ2 → Prop
  | .context _ => True
  | .absolute _ => True
  | .child _ inp it _ => (it = none ∧ PQ2.Inv inp) ∨ (PQ2.Cons d inp ∧ itOK d it)
  | .cachedChild _ inp it _ => (it = none ∧ PQ2.Inv inp) ∨ (PQ2.Cons d inp ∧ itOK d it)
  | .attr _ inp it => (it = none ∧ PQ2.Inv inp) ∨ (PQ2.Cons d inp ∧ itOK d it)
  | .self _ inp => PQ2.Inv inp
  | .parent _ inp => PQ2.Inv inp
  | .descendant _ _ inp it _ _ => (it = none ∧ PQ2.Inv inp) ∨ (PQ2.Cons d inp ∧ itOK d it)
  | .ancestor _ _ inp it _ => (it = none ∧ PQ2.Inv inp) ∨ (PQ2.Cons d inp ∧ itOK d it)
  | .following _ _ inp it _ => (it = none ∧ PQ2.Inv inp) ∨ (PQ2.Cons d inp ∧ fitInv d it)
  | .preceding _ _ inp it _ => (it = none ∧ PQ2.Inv inp) ∨ (PQ2.Cons d inp ∧ fitInv d it)
  | .filter inp _ _ _ => PQ2.Inv inp
  | .union l r it => (it = none ∧ PQ2.Inv l ∧ PQ2.Inv r) ∨ (it.isSome = true ∧ bufOK d it)
  | .group inp _ => PQ2.Inv inp
  | .descOverDesc _ _ inp level _ cn => (level = 0 ∧ PQ2.Inv inp) ∨ (PQ2.Cons d inp ∧ (0 < level → Good d cn))
  | .merge inp _ it => (it = none ∧ PQ2.Inv inp) ∨ (PQ2.Cons d inp ∧ bufOK d it)

/-- the extended pull machine as an abstract machine -/
def mach2 : Mach PQ2 where
  sel := PQ2.select d cfg dec
  rem := rem2 d cfg dec
  pos := PQ2.position
  lvl := PQ2.depth
  Inv := PQ2.Inv d
  Cons := PQ2.Cons d
  Same := fun s s' => s'.plan = s.plan

theorem mach2_sel : (mach2 d cfg dec).sel = PQ2.select d cfg dec := rfl
theorem mach2_rem : (mach2 d cfg dec).rem = rem2 d cfg dec := rfl
theorem mach2_pos : (mach2 d cfg dec).pos = PQ2.position := rfl
theorem mach2_lvl : (mach2 d cfg dec).lvl = PQ2.depth := rfl
theorem mach2_Inv : (mach2 d cfg dec).Inv = PQ2.Inv d := rfl
theorem mach2_Cons : (mach2 d cfg dec).Cons = PQ2.Cons d := rfl
theorem mach2_Same (s s' : PQ2) : (mach2 d cfg dec).Same s s' = (s'.plan = s.plan) := rfl

end

end XPathV.Model
