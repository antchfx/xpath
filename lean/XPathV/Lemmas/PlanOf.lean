import XPathV.Lemmas.BuildInv
/-!
# What the builder makes of a path, as one relation

`PlanOf e fl q`: `q` is a plan `build` may return for `e` under the flags `fl`, as far as the steps,
predicates and parentheses of `e` go — what `processAxis`, `processFilter` and `processGroup` do, listed
once: the built step over the plan of the input, the `//name` shortcut, the plain filter, the merge
rewrite, the group.  Properties, builder states and the plans of predicates are forgotten.
`build_planOf`: every plan `build` returns is one.  A predicate on plans is carried through the builder
by an induction over `PlanOf`, with no `build` in sight.
-/
namespace XPathV.Model
open XPathV XPathV.PathSem

/-- the nodes of a parse tree that `PlanOf` follows (`.none` stands for the absent input of a step) -/
def _root_.XPathV.Ast.isPathNode : Ast → Bool
  | .none | .root _ | .axis _ _ | .filter _ _ | .group _ => true
  | _ => false

section
variable (sn sd : Bool)

inductive PlanOf : Ast → Flags → Plan → Prop
  /-- no input: the step reads the context node -/
  | none (fl : Flags) : PlanOf .none fl .context
  | root (s : String) (fl : Flags) : PlanOf (.root s) fl .absolute
  | step (a : AxisInfo) (inp : Ast) (fl : Flags) (qi : Plan) (pr : Props) : a.axis ∈ axes12 →
      PlanOf inp (build.inFlagsOf a fl) qi → PlanOf (.axis a inp) fl (builtStep a fl pr qi)
  /-- the `//name` shortcut: one descendant query over the plan of the input's input -/
  | shortcut (a b : AxisInfo) (g : Ast) (fl : Flags) (gq : Plan) :
      fl.filter = false → a.axis = "child" → isPlainDos sn b = true →
      PlanOf g { smartDesc := true } gq → PlanOf (.axis a (.axis b g)) fl (.descendant a false gq)
  | filter (inp b : Ast) (fl : Flags) (qi X : Plan) :
      PlanOf inp { fl with filter := true, smartDesc := fl.smartDesc && sd } qi →
      PlanOf (.filter inp b) fl (.filter qi X)
  /-- the merge rewrite of a filtered step: the step moves under the filter, over the context node, and
  the plan `qi` of its input becomes the input of the whole -/
  | merge (a : AxisInfo) (inp b : Ast) (fl : Flags) (qi : Plan) (pr : Props) (X : Plan) : a.axis ∈ axes12 →
      PlanOf inp (build.inFlagsOf a { fl with filter := true, smartDesc := fl.smartDesc && sd }) qi →
      PlanOf (.filter (.axis a inp) b) fl (.merge qi (.filter
        (builtStep a { fl with filter := true, smartDesc := fl.smartDesc && sd } pr .context) X))
  | group (p : Ast) (fl : Flags) (q : Plan) : PlanOf p {} q → PlanOf (.group p) fl (.group q)
  /-- anything else: nothing is said -/
  | other (e : Ast) (fl : Flags) (q : Plan) : e.isPathNode = false → PlanOf e fl q

variable {sn sd} (rx : RegexOk) (lim : Nat)

/-- **every plan `build` returns is a `PlanOf`**.  The second part carries the induction through the
`//name` shortcut, which builds the input of the input. -/
theorem build_planOf_aux (p : Ast) :
    (∀ fl st o, build rx lim sn sd p fl st = .ok o → PlanOf sn sd p fl o.q) ∧
      ∀ b g, p = .axis b g → ∀ fl st o, build rx lim sn sd g fl st = .ok o → PlanOf sn sd g fl o.q := by
  induction p with
  | none =>
    refine ⟨fun fl st o h => ?_, fun b g h => by cases h⟩
    rw [build_none_error] at h
    cases h
  | root s =>
    refine ⟨fun fl st o h => ?_, fun b g h => by cases h⟩
    cases build_root_ok h
    exact .root s fl
  | group p ih =>
    refine ⟨fun fl st o h => ?_, fun b g h => by cases h⟩
    obtain ⟨o1, ho1, hq, _⟩ := build_group_ok h
    rw [hq]
    exact .group p fl o1.q (ih.1 _ _ o1 ho1)
  | filter inp b ih _ =>
    refine ⟨fun fl st o h => ?_, fun b g h => by cases h⟩
    obtain ⟨io, co, _, hio, _, _, hor, _⟩ := build_filter_ok h
    have hi := ih.1 _ _ io hio
    rcases hor with hq | ⟨hax, parent, hpar, hq⟩
    · rw [hq]
      exact .filter inp b fl io.q _ hi
    · -- the input is a step, built with `filter` set: no shortcut, so its plan is the built step,
      -- whose input is `parent`
      rw [hq]
      generalize io.q = q at hi hpar
      cases inp with
      | axis a inp' =>
        cases hi with
        | step _ _ _ qi pr ha hqi =>
          obtain ⟨-, hin, hwi, -⟩ := builtStep_plan ha _ pr qi
          cases hin.symm.trans hpar
          rw [hwi]
          exact .merge a inp' b fl _ pr _ ha hqi
        | shortcut _ _ _ _ _ hflt => cases hflt
        | other _ _ _ hn => cases hn
      | _ => cases hax
  | axis a inp ih =>
    refine ⟨fun fl st o h => ?_, fun b g h => by cases h; exact ih.1⟩
    rcases build_axis_ok h with
      ⟨b, g, gq, _, _, rfl, hflt, hax, hb, hg, hfin⟩ | ⟨qin, pin, q, props, _, hin, hq, hfin⟩
    · cases finAxis_ok hfin
      refine .shortcut a b g fl gq hflt hax hb ?_
      rcases hg with ⟨rfl, rfl, _⟩ | ⟨_, go, hgo, rfl, _⟩
      · exact .none _
      · exact ih.2 b g rfl _ _ go hgo
    · cases finAxis_ok hfin
      obtain ⟨ha, rfl, -⟩ := axisPlan_eq hq
      refine .step a inp fl qin pin ha ?_
      rcases hin with ⟨rfl, rfl, _⟩ | ⟨_, io, hio, rfl, _⟩
      · exact .none _
      · exact ih.1 _ _ io hio
  | _ => exact ⟨fun fl _ _ _ => .other _ fl _ rfl, fun _ _ h => by cases h⟩

theorem build_planOf {p : Ast} {fl : Flags} {st : BState} {o : BOut}
    (h : build rx lim sn sd p fl st = .ok o) : PlanOf sn sd p fl o.q :=
  (build_planOf_aux rx lim p).1 fl st o h

end

end XPathV.Model
