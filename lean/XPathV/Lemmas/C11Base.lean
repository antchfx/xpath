import XPathV.Lemmas.KeyInj
import XPathV.Generated.ExtraFacts
import XPathV.Model.Api
import XPathV.Lemmas.Facts
/-!
# C11 — union yields the set union, each node exactly once
-/
namespace XPathV.Theorems.C11
open XPathV XPathV.Model XPathV.Facts

variable {F : Type} [NumAlg F]

/-- `dedupByKey` keeps only members of its input -/
theorem dedup_subset (key : Ref → String) (l : List Ref) (seen : List String) :
    ∀ x ∈ dedupByKey key l seen, x ∈ l := by
  induction l generalizing seen with
  | nil => intro x hx; simp [dedupByKey] at hx
  | cons r rs ih =>
    intro x hx
    simp only [dedupByKey] at hx
    split at hx
    · exact List.mem_cons_of_mem _ (ih _ x hx)
    · simp only [List.mem_cons] at hx
      rcases hx with rfl | hx
      · exact List.mem_cons_self
      · exact List.mem_cons_of_mem _ (ih _ x hx)

/-- every output key is new: outputs have pairwise distinct keys, none of them in `seen` -/
theorem dedup_keys_fresh (key : Ref → String) (l : List Ref) (seen : List String) :
    (∀ x ∈ dedupByKey key l seen, key x ∉ seen) ∧ ((dedupByKey key l seen).map key).Nodup := by
  induction l generalizing seen with
  | nil => simp [dedupByKey]
  | cons r rs ih =>
    simp only [dedupByKey]
    split
    · exact ih seen
    · rename_i hns
      have ⟨h1, h2⟩ := ih (key r :: seen)
      refine ⟨?_, ?_⟩
      · intro x hx
        simp only [List.mem_cons] at hx
        rcases hx with rfl | hx
        · simpa using hns
        · have := h1 x hx
          simp only [List.mem_cons, not_or] at this
          exact this.2
      · simp only [List.map_cons, List.nodup_cons]
        refine ⟨?_, h2⟩
        intro hmem
        obtain ⟨y, hy, hky⟩ := List.mem_map.mp hmem
        have := h1 y hy
        simp only [List.mem_cons, not_or] at this
        exact this.1 hky

/-- with an injective key nothing is lost: every input node is in the output -/
theorem dedup_complete (key : Ref → String) (l : List Ref) (seen : List String)
    (hinj : ∀ a ∈ l, ∀ b ∈ l, key a = key b → a = b) :
    ∀ x ∈ l, key x ∉ seen → x ∈ dedupByKey key l seen := by
  induction l generalizing seen with
  | nil => intro x hx; simp at hx
  | cons r rs ih =>
    intro x hx hns
    simp only [dedupByKey]
    have hinj' : ∀ a ∈ rs, ∀ b ∈ rs, key a = key b → a = b :=
      fun a ha b hb => hinj a (List.mem_cons_of_mem _ ha) b (List.mem_cons_of_mem _ hb)
    simp only [List.mem_cons] at hx
    split
    · rename_i hs
      rcases hx with rfl | hx
      · simp at hs; exact absurd hs hns
      · exact ih seen hinj' x hx hns
    · rcases hx with rfl | hx
      · exact List.mem_cons_self
      · by_cases hk : key x = key r
        · have := hinj x (List.mem_cons_of_mem _ hx) r List.mem_cons_self hk
          subst this; exact List.mem_cons_self
        · apply List.mem_cons_of_mem
          apply ih (key r :: seen) hinj' x hx
          simp only [List.mem_cons, not_or]
          exact ⟨hk, hns⟩

theorem nodup_of_map {α β : Type} (f : α → β) (l : List α) (h : (l.map f).Nodup) : l.Nodup :=
  List.Pairwise.of_map f (fun _ _ hab e => hab (congrArg f e)) h

/-- **union**: given pairwise different node keys on the nodes involved, `A | B` returns exactly
the nodes of A and B, each once -/
theorem C11_union (d : Doc) (cfg : ECfg) (l r : Plan) (c : Ref) (a b : List Item)
    (ha : sel (F := F) d cfg l c = .ok a) (hb : sel (F := F) d cfg r c = .ok b)
    (hinj : ∀ x ∈ (a ++ b).map (·.r), ∀ y ∈ (a ++ b).map (·.r), identityHash d cfg x = identityHash d cfg y → x = y) :
    ∃ out, sel (F := F) d cfg (.union l r) c = .ok out ∧
      (∀ x, x ∈ out.map (·.r) ↔ (x ∈ a.map (·.r) ∨ x ∈ b.map (·.r))) ∧ (out.map (·.r)).Nodup := by
  have hp : (plain (dedupByKey (identityHash d cfg) ((a ++ b).map (·.r)) [])).map (·.r) =
      dedupByKey (identityHash d cfg) ((a ++ b).map (·.r)) [] := by
    simp only [plain, List.map_map, Function.comp_def, List.map_id']
  refine ⟨plain (dedupByKey (identityHash d cfg) ((a ++ b).map (·.r)) []),
    by simp only [sel, ha, hb, bind, Except.bind], fun x => ?_, ?_⟩
  · rw [hp, ← List.mem_append, ← List.map_append]
    exact ⟨dedup_subset _ _ _ x,
      fun hx => dedup_complete _ _ _ hinj x hx List.not_mem_nil⟩
  · rw [hp]
    exact nodup_of_map _ _ (dedup_keys_fresh (identityHash d cfg) ((a ++ b).map (·.r)) []).2

/-- the sequence form `p/(a, b)` is parsed to the same operator node as `|` -/
theorem sequence_is_union (f : Nat) (cfg : PCfg) (inp opnd o2 : Ast) (st st1 st2 : PState)
    (hc : st.s.typ = .comma) (hn : st.next = .ok st1) (h2 : parseStep f cfg inp st1 = .ok (o2, st2)) :
    seqLoop (f+1) cfg inp opnd st = seqLoop f cfg inp (.oper "|" opnd o2) st2 := by
  simp [seqLoop, hc, hn, h2, bind, Except.bind]

/-! ## The identity key identifies nodes -/

/-- **key injectivity**: on a well-formed document whose elements have no two attributes with the same
(prefix, name) (`AttrNamesDistinct`) and no attribute with an empty name, two valid nodes with the same structured key
(name parts + sibling-index path, exactly what `getNodeKey` renders after the node-type tag, with length prefixes) are the
same node.  Without length prefixes and prefix part (the unrepaired `getNodeKey`) this fails. -/
theorem key_injective {d : Doc} (wf : WF d) (hd : AttrNamesDistinct d) (hne : AttrNamesNonEmpty d)
    (r₁ r₂ : Ref) (h₁ : validRef d r₁ = true) (h₂ : validRef d r₂ = true)
    (h : keyStruct d r₁ = keyStruct d r₂) : r₁ = r₂ :=
  keyStruct_inj wf hd hne r₁ r₂ h₁ h₂ h

/-- the rendered index path of the model is a function of the structured key alone -/
theorem rendered_key_from_struct (d : Doc) (r : Ref) :
    indexChain d r = (indexPath d r).foldl (fun s n => s ++ "-" ++ toString n) "" :=
  indexChain_eq d r

end XPathV.Theorems.C11
