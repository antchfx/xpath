import XPathV.Lemmas.Compose2
import XPathV.Lemmas.PredSem2
/-!
# C13 on the extended C02 fragment `PredSem2.Frag2`

The statements of `Compose2` for `PredSem2.Frag2` (count / contains / starts-with / ends-with /
local-name predicates, path-vs-path and path-vs-string comparisons with six operators, `(P)[b]`).

* §1 `RelFrag2` / `AbsFrag2` (the shapes of `Compose2.RelFrag` / `AbsFrag` over `Frag2` predicates;
  `AbsFrag2` also has `(P)[b]` with `P` absolute; `RelFrag2` has not: `appendPath2` does not descend
  into parentheses, and `q/(P)[b]` is not an XPath 1.0 expression), the `appendPath2` algebra
* §2 oracle side, from `frag_oracle3` (in `Compose2`: the oracle is total on `Frag2` and looks at the
  context *node* only): the predicates of `Frag2` are node tests and `RelFrag2` paths plug
  (`Compose.Plug`): `eval_append3`
* §3 model side through `C02_main2` / `C02_naive2`: `rel_compose_build3`, `abs_build_indep3`
-/
namespace XPathV.Compose3
open XPathV XPathV.Model XPathV.PathSem XPathV.PredSem XPathV.PredSem2 XPathV.Compose XPathV.Compose2

variable {F : Type} [NumAlg F]

/-! ## §1 The fragments -/

/-- *relative* paths of the extended fragment: the leaf of the step chain is `.none` -/
inductive RelFrag2 : Ast → Prop
  | none : RelFrag2 .none
  | axis (a : AxisInfo) (inp : Ast) : RelFrag2 inp → a.axis ∈ axes12 → RelFrag2 (.axis a inp)
  | filter (inp b : Ast) : RelFrag2 inp → Frag2 false b → RelFrag2 (.filter inp b)

/-- *absolute* paths of the extended fragment: the leaf of the step chain is `.root _`; a
parenthesised absolute path may be filtered, `(P)[b]`, and continued -/
inductive AbsFrag2 : Ast → Prop
  | root (s : String) : AbsFrag2 (.root s)
  | axis (a : AxisInfo) (inp : Ast) : AbsFrag2 inp → a.axis ∈ axes12 → AbsFrag2 (.axis a inp)
  | filter (inp b : Ast) : AbsFrag2 inp → Frag2 false b → AbsFrag2 (.filter inp b)
  | gfilter (p b : Ast) : AbsFrag2 p → Frag2 false b → AbsFrag2 (.filter (.group p) b)

theorem RelFrag2.frag2 {p : Ast} (h : RelFrag2 p) : Frag2 true p := by
  induction h with
  | none => exact .none
  | axis a inp _ ha ih => exact .axis a inp ih ha
  | filter inp b _ hb ih => exact .filter inp b ih hb

theorem AbsFrag2.frag2 {p : Ast} (h : AbsFrag2 p) : Frag2 true p := by
  induction h with
  | root s => exact .root s
  | axis a inp _ ha ih => exact .axis a inp ih ha
  | filter inp b _ hb ih => exact .filter inp b ih hb
  | gfilter p b _ hb ih => exact .gfilter p b ih hb

theorem appendPath2_frag2 {q p : Ast} (hq : Frag2 true q) (hp : RelFrag2 p) :
    Frag2 true (appendPath2 q p) := by
  induction hp with
  | none => exact hq
  | axis a inp _ ha ih => exact .axis a _ ih ha
  | filter inp b _ hb ih => exact .filter _ b ih hb

theorem appendPath2_relFrag2 {q p : Ast} (hq : RelFrag2 q) (hp : RelFrag2 p) :
    RelFrag2 (appendPath2 q p) := by
  induction hp with
  | none => exact hq
  | axis a inp _ ha ih => exact .axis a _ ih ha
  | filter inp b _ hb ih => exact .filter _ b ih hb

theorem appendPath2_absFrag2 {q p : Ast} (hq : AbsFrag2 q) (hp : RelFrag2 p) :
    AbsFrag2 (appendPath2 q p) := by
  induction hp with
  | none => exact hq
  | axis a inp _ ha ih => exact .axis a _ ih ha
  | filter inp b _ hb ih => exact .filter _ b ih hb

theorem AbsFrag2.chain {p : Ast} (h : AbsFrag2 p) : AbsChain p := by
  induction h with
  | root s => exact .root s
  | axis a inp _ _ ih => exact .axis a inp ih
  | filter inp b _ _ ih => exact .filter inp b ih
  | gfilter p b _ _ ih => exact .filter _ b (.group p ih)

theorem appendPath2_none_left3 {p : Ast} (hp : RelFrag2 p) : appendPath2 .none p = p := by
  induction hp with
  | none => rfl
  | axis a inp _ _ ih => simp only [appendPath2, ih]
  | filter inp b _ _ ih => simp only [appendPath2, ih]

/-! ## §2 Oracle side (no model, no well-formedness hypothesis) -/

/-- **the value of an expression of `Frag2` depends on the context node only** -/
theorem eval_frag2_ctx (d : Doc) {k : Bool} {e : Ast} (he : Frag2 k e) (n : Ref) (i j i' j' : Nat) :
    Spec.eval (F := F) d e ⟨n, i, j⟩ = Spec.eval (F := F) d e ⟨n, i', j'⟩ := by
  cases k with
  | true =>
    obtain ⟨ns, g, hev, _⟩ := (frag_oracle3 (F := F) d true e he n).1 rfl
    rw [hev i j, hev i' j']
  | false =>
    obtain ⟨sv, g, hev, _⟩ := (frag_oracle3 (F := F) d false e he n).2 rfl
    rw [hev i j, hev i' j']

/-- the oracle is total on the predicates of `Frag2`; the value is never a number -/
theorem frag2_opred (d : Doc) {b : Ast} (hb : Frag2 false b) (c : Spec.Ctx) : OPred (F := F) d b c := by
  obtain ⟨sv, g, hev, hn⟩ := (frag_oracle3 (F := F) d false b hb c.node).2 rfl
  exact ⟨sv, g, hev c.pos c.size, hn⟩

theorem eval_frag2_eq_nodesOf (d : Doc) {p : Ast} (hp : Frag2 true p) (c : Spec.Ctx) :
    ∃ g, Spec.eval (F := F) d p c = .ok (.val (.nodes (nodesOf (Spec.eval (F := F) d p c))) g) :=
  (frag2_opath d hp c).eq_nodesOf

theorem RelFrag2.plug (d : Doc) (q : Ast) {p : Ast} (hp : RelFrag2 p) :
    Plug (F := F) d q p (appendPath2 q p) := by
  induction hp with
  | none => exact .none
  | axis a inp _ ha ih => exact .axis a _ _ ih ha
  | filter inp b _ hb ih => exact .filter _ _ b ih (nodeTest_frag2 d hb)

/-- **path composition (oracle), paths of `Frag2`**: a node is selected by `q/p` from context `c` iff
it is selected by `p` from some node that `q` selects from `c` -/
theorem eval_append3 (d : Doc) {q p : Ast} (hq : Frag2 true q) (hp : RelFrag2 p) (c : Spec.Ctx) (x : Ref) :
    x ∈ nodesOf (Spec.eval (F := F) d (appendPath2 q p) c) ↔
      ∃ n ∈ nodesOf (Spec.eval (F := F) d q c), x ∈ nodesOf (Spec.eval (F := F) d p ⟨n, 1, 1⟩) :=
  eval_plug (hp.plug d q) (frag2_opath d hq) c x

theorem eval_append3_docOrder (d : Doc) {q p : Ast} (hq : Frag2 true q) (hp : RelFrag2 p) (c : Spec.Ctx) :
    Spec.docOrder d (nodesOf (Spec.eval (F := F) d (appendPath2 q p) c)) =
      Spec.docOrder d ((nodesOf (Spec.eval (F := F) d q c)).flatMap
        (fun n => nodesOf (Spec.eval (F := F) d p ⟨n, 1, 1⟩))) :=
  eval_plug_docOrder (hp.plug d q) (frag2_opath d hq) c

theorem rel_compose_spec3 (d : Doc) {q p : Ast} (hq : Frag2 true q) (hp : RelFrag2 p) (n : Ref)
    (h : nodesOf (Spec.eval (F := F) d q ⟨.node 0, 1, 1⟩) = [n]) (x : Ref) :
    x ∈ nodesOf (Spec.eval (F := F) d p ⟨n, 1, 1⟩) ↔
      x ∈ nodesOf (Spec.eval (F := F) d (appendPath2 q p) ⟨.node 0, 1, 1⟩) :=
  plug_single (hp.plug d q) (frag2_opath d hq) _ n (mem_singleton_of_eq h) x

/-- **start-node independence (oracle)**: an absolute path of `AbsFrag2` has the same value in every
context -/
theorem abs_eval_indep3 (d : Doc) {p : Ast} (hp : AbsFrag2 p) (c₁ c₂ : Spec.Ctx) :
    Spec.eval (F := F) d p c₁ = Spec.eval (F := F) d p c₂ :=
  hp.chain.eval_indep d c₁ c₂

/-! ## §3 Model side (through C02 on `Frag2`) -/

/-- `C02_naive2`: the un-rewritten plan of a path of `Frag2` computes it from every valid node, and
the nodes the path denotes are valid -/
theorem naive_computes3 {d : Doc} (wf : WF d) (cfg : ECfg) (hns : cfg.nsIface = true)
    (hinj : HashInj d cfg) {p : Ast} (hp : Frag2 true p) (c : Ref) (hc : validRef d c = true) :
    Computes (F := F) d cfg (predPlan2 p) p c ∧
      ∀ x ∈ nodesOf (Spec.eval (F := F) d p ⟨c, 1, 1⟩), validRef d x = true := by
  obtain ⟨out, ns, g, h1, h2, h3, h4⟩ := C02_naive2 (F := F) wf cfg hns hinj p hp c hc
  exact ⟨.of_sem h1 h2 h3, by rw [h2]; exact h4⟩

/-- `C02_main2` (built plan, all rewrites, merge included) -/
theorem build_computes3 {d : Doc} (wf : WF d) (cfg : ECfg) (hns : cfg.nsIface = true)
    (hinj : HashInj d cfg) (regexOk : RegexOk) (limit : Nat) {p : Ast} (hp : Frag2 true p)
    (st : BState) (o : BOut) (hb : build regexOk limit true false p {} st = .ok o)
    (c : Ref) (hc : validRef d c = true) : Computes (F := F) d cfg o.q p c := by
  obtain ⟨out, ns, g, h1, h2, h3⟩ := C02_main2 (F := F) wf cfg hns hinj regexOk limit p hp st o hb c hc
  exact .of_sem h1 h2 h3

theorem valid_of_single3 {d : Doc} (wf : WF d) (cfg : ECfg) (hns : cfg.nsIface = true)
    (hinj : HashInj d cfg) {q : Ast} (hq : Frag2 true q) (n : Ref)
    (h : nodesOf (Spec.eval (F := F) d q ⟨.node 0, 1, 1⟩) = [n]) : validRef d n = true :=
  (naive_computes3 (F := F) wf cfg hns hinj hq _ (valid_root wf)).2 n ((mem_singleton_of_eq h n).2 rfl)

theorem rel_compose_model3 {d : Doc} (wf : WF d) (cfg : ECfg) (hns : cfg.nsIface = true)
    (hinj : HashInj d cfg) {q p : Ast} (hq : Frag2 true q) (hp : RelFrag2 p) (n : Ref)
    (h : nodesOf (Spec.eval (F := F) d q ⟨.node 0, 1, 1⟩) = [n]) :
    ∃ o1 o2, sel (F := F) d cfg (predPlan2 p) n = .ok o1 ∧
      sel (F := F) d cfg (predPlan2 (appendPath2 q p)) (.node 0) = .ok o2 ∧
      ∀ x, x ∈ refs o1 ↔ x ∈ refs o2 :=
  (naive_computes3 wf cfg hns hinj hp.frag2 n (valid_of_single3 wf cfg hns hinj hq n h)).1.same
    (naive_computes3 wf cfg hns hinj (appendPath2_frag2 hq hp) _ (valid_root wf)).1
    (rel_compose_spec3 d hq hp n h)

/-- **`rel_compose_build3`**: a relative path `p` of `RelFrag2` evaluated (built plan, every
rewrite) at the node `n` returns the same node set as the path `q/p` that first addresses `n`
(`q` in `Frag2` denotes exactly `n`), through `C02_main2` -/
theorem rel_compose_build3 {d : Doc} (wf : WF d) (cfg : ECfg) (hns : cfg.nsIface = true)
    (hinj : HashInj d cfg) (regexOk : RegexOk) (limit : Nat)
    {q p : Ast} (hq : Frag2 true q) (hp : RelFrag2 p) (n : Ref)
    (h : nodesOf (Spec.eval (F := F) d q ⟨.node 0, 1, 1⟩) = [n])
    (st st' : BState) (o o' : BOut)
    (hb : build regexOk limit true false p {} st = .ok o)
    (hb' : build regexOk limit true false (appendPath2 q p) {} st' = .ok o') :
    ∃ o1 o2, sel (F := F) d cfg o.q n = .ok o1 ∧ sel (F := F) d cfg o'.q (.node 0) = .ok o2 ∧
      ∀ x, x ∈ refs o1 ↔ x ∈ refs o2 :=
  (build_computes3 wf cfg hns hinj regexOk limit hp.frag2 st o hb n
      (valid_of_single3 wf cfg hns hinj hq n h)).same
    (build_computes3 wf cfg hns hinj regexOk limit (appendPath2_frag2 hq hp) st' o' hb' _ (valid_root wf))
    (rel_compose_spec3 d hq hp n h)

/-- `rel_compose_build3` at the configuration the model reads off the source -/
theorem rel_compose_build3_source {d : Doc} (wf : WF d) (cfg : ECfg) (hns : cfg.nsIface = true)
    (hinj : HashInj d cfg) (regexOk : RegexOk) (limit : Nat)
    {q p : Ast} (hq : Frag2 true q) (hp : RelFrag2 p) (n : Ref)
    (h : nodesOf (Spec.eval (F := F) d q ⟨.node 0, 1, 1⟩) = [n]) (o o' : BOut)
    (hb : build regexOk limit shortcutNeedsNodeTestFromSource smartDescThroughFilterFromSource
      p {} {} = .ok o)
    (hb' : build regexOk limit shortcutNeedsNodeTestFromSource smartDescThroughFilterFromSource
      (appendPath2 q p) {} {} = .ok o') :
    ∃ o1 o2, sel (F := F) d cfg o.q n = .ok o1 ∧ sel (F := F) d cfg o'.q (.node 0) = .ok o2 ∧
      ∀ x, x ∈ refs o1 ↔ x ∈ refs o2 := by
  rw [Lemmas.SourceConfig.shortcut_guard_from_source,
    Lemmas.SourceConfig.smartdesc_stops_at_filters_from_source] at hb hb'
  exact rel_compose_build3 wf cfg hns hinj regexOk limit hq hp n h {} {} o o' hb hb'

/-- **start-node independence (model, built plan, through C02)**, node sets -/
theorem abs_build_indep3 {d : Doc} (wf : WF d) (cfg : ECfg) (hns : cfg.nsIface = true)
    (hinj : HashInj d cfg) (regexOk : RegexOk) (limit : Nat) {p : Ast} (hp : AbsFrag2 p)
    (st : BState) (o : BOut) (hb : build regexOk limit true false p {} st = .ok o)
    (c₁ c₂ : Ref) (h₁ : validRef d c₁ = true) (h₂ : validRef d c₂ = true) :
    ∃ o1 o2, sel (F := F) d cfg o.q c₁ = .ok o1 ∧ sel (F := F) d cfg o.q c₂ = .ok o2 ∧
      ∀ x, x ∈ refs o1 ↔ x ∈ refs o2 :=
  (build_computes3 wf cfg hns hinj regexOk limit hp.frag2 st o hb c₁ h₁).same
    (build_computes3 wf cfg hns hinj regexOk limit hp.frag2 st o hb c₂ h₂)
    (fun x => by rw [abs_eval_indep3 d hp ⟨c₁, 1, 1⟩ ⟨c₂, 1, 1⟩])

theorem rooted2_predPlan2 {p : Ast} (hp : AbsFrag2 p) : Rooted2 (predPlan2 p) = true := by
  induction hp with
  | root s => rfl
  | axis a inp _ ha ih => simp only [predPlan2, rooted2_stepPlan a ha, ih]
  | filter inp b _ _ ih => simp only [predPlan2, Rooted2, ih]
  | gfilter p b _ _ ih => simp only [predPlan2, Rooted2, ih]

/-- **start-node independence (model, naive plan)**: the same *sequence* from every start node -/
theorem abs_model_indep3 (d : Doc) (cfg : ECfg) {p : Ast} (hp : AbsFrag2 p) (c₁ c₂ : Ref) :
    sel (F := F) d cfg (predPlan2 p) c₁ = sel (F := F) d cfg (predPlan2 p) c₂ :=
  abs_start_indep2 d cfg _ (rooted2_predPlan2 hp) c₁ c₂

/-- appending an absolute path to anything changes nothing, on both sides -/
theorem abs_append_ignored3 (d : Doc) (cfg : ECfg) (q : Ast) {p : Ast} (hp : AbsFrag2 p)
    (c₁ c₂ : Ref) :
    Spec.eval (F := F) d (appendPath2 q p) ⟨c₁, 1, 1⟩ = Spec.eval (F := F) d p ⟨c₂, 1, 1⟩ ∧
    sel (F := F) d cfg (predPlan2 (appendPath2 q p)) c₁ = sel (F := F) d cfg (predPlan2 p) c₂ := by
  rw [hp.chain.appendPath2 q]
  exact ⟨abs_eval_indep3 d hp _ _, abs_model_indep3 d cfg hp c₁ c₂⟩

end XPathV.Compose3
