import XPathV.Lemmas.PredSem2
import XPathV.Lemmas.ParserFuel
import XPathV.Lemmas.CompileInv
/-!
# The public API: anatomy of `compile`, and C02 against it for the fragment `Frag2`

The theorems of `PathSem` / `PredSem2` start from a parse tree.  Here they are restated against
`Model.compile` / `Model.selectAll` / `Model.evaluate` exactly as the driver runs them
(`Driver.compileCase` = `compile rc.cc c.ns text`, `Driver.modelSel` = `selectAll … p ctx`,
`Driver.specEval` = `parse (fuelFor text) (defaultCfg ns) text` followed by `Spec.evalTop`).

* anatomy of `compile`: `compile_inv` (in `Lemmas/CompileInv`), `compile_of_parse`, `compile_of_build`, `compile_of_build_error`;
  `compile_lift`: a statement about every plan the builder makes of the parsed tree, carried over to `compile`
* the plan `build` makes of a step or of a filter is path-shaped, so is the plan of a path of `Frag2`
  (`build_frag2_pathShape`; the top-level `(P)[b]` included: it is built by the `.filter` arm), in
  particular it is not the nil query
* `C02_compile2`, `C02_compile_source2` (the default `CompileCfg`, whose two switches are read off the
  source), `C02_compile_evaluate2`, `C02_compile_total2`
-/
namespace XPathV.ApiSem
open XPathV XPathV.Model XPathV.PathSem XPathV.PredSem XPathV.PredSem2

variable {F : Type} [NumAlg F]

/-! ## Anatomy of `compile` -/

theorem plan_beq_nil_false (q : Plan) (h : q ≠ .nil) : (q == Plan.nil) = false := by
  cases hq : (q == Plan.nil) with
  | false => rfl
  | true => exact absurd (eq_of_beq hq) h

/-- `compile` on a non-empty text that parses: what is left is the builder and the nil-query check -/
theorem compile_of_parse (cc : CompileCfg) (ns : Option (List (String × String))) (text : List Char)
    (hne : text ≠ []) (a : Ast) (hparse : parse (fuelFor text) (defaultCfg ns) text = .ok a) :
    compile cc ns text =
      match build cc.regexOk apiLimit cc.shortcutNeedsNodeTest cc.smartDescThroughFilter a {} {} with
      | .error e => .error (.build e)
      | .ok o => if o.q == .nil then .error .nilQuery else .ok o.q := by
  unfold compile
  have he : text.isEmpty = false := by
    cases text with
    | nil => exact absurd rfl hne
    | cons _ _ => rfl
  simp only [he, Bool.false_eq_true, ↓reduceIte, hparse]
  rfl

/-- the converse: a non-empty text that parses and builds to a non-nil plan compiles to it -/
theorem compile_of_build (cc : CompileCfg) (ns : Option (List (String × String))) (text : List Char)
    (hne : text ≠ []) (a : Ast) (o : BOut)
    (hparse : parse (fuelFor text) (defaultCfg ns) text = .ok a)
    (hb : build cc.regexOk apiLimit cc.shortcutNeedsNodeTest cc.smartDescThroughFilter a {} {} = .ok o)
    (hq : o.q ≠ .nil) : compile cc ns text = .ok o.q := by
  rw [compile_of_parse cc ns text hne a hparse, hb]
  simp only [plan_beq_nil_false _ hq, Bool.false_eq_true, ↓reduceIte]

/-- the parser (as `compile` runs it) rejects the empty text -/
theorem parse_nil_default (ns : Option (List (String × String))) :
    parse (fuelFor []) (defaultCfg ns) [] = .error .notNodeSet := rfl

theorem text_ne_nil_of_parse (ns : Option (List (String × String))) (text : List Char) (a : Ast)
    (h : parse (fuelFor text) (defaultCfg ns) text = .ok a) : text ≠ [] := by
  intro ht
  rw [ht, parse_nil_default] at h
  cases h

/-- … and when the builder fails, `compile` reports the builder's error -/
theorem compile_of_build_error (cc : CompileCfg) (ns : Option (List (String × String)))
    (text : List Char) (a : Ast) (e : BErr)
    (hparse : parse (fuelFor text) (defaultCfg ns) text = .ok a)
    (hb : build cc.regexOk apiLimit cc.shortcutNeedsNodeTest cc.smartDescThroughFilter a {} {} = .error e) :
    compile cc ns text = .error (.build e) := by
  rw [compile_of_parse cc ns text (text_ne_nil_of_parse ns text a hparse) a hparse, hb]

/-- **from the parse tree to the text**: for a text that parses to `a`, what holds of every plan — not
the nil query — that the builder makes of `a` holds of what `compile` returns, and `compile` fails
with a builder error only -/
theorem compile_lift (cc : CompileCfg) (ns : Option (List (String × String))) (text : List Char) (a : Ast)
    (hparse : parse (fuelFor text) (defaultCfg ns) text = .ok a) {Q : Plan → Prop}
    (hQ : ∀ o, build cc.regexOk apiLimit cc.shortcutNeedsNodeTest cc.smartDescThroughFilter a {} {} = .ok o →
      o.q ≠ .nil ∧ Q o.q) :
    (∀ p, compile cc ns text = .ok p → Q p) ∧
    ((∃ e, compile cc ns text = .error (.build e)) ∨ ∃ p, compile cc ns text = .ok p ∧ Q p) := by
  refine ⟨fun p hcomp => ?_, ?_⟩
  · obtain ⟨_, a', o, hp', hb, hq, _⟩ := compile_inv cc ns text p hcomp
    rw [hparse] at hp'; cases hp'
    exact hq ▸ (hQ o hb).2
  · cases hb : build cc.regexOk apiLimit cc.shortcutNeedsNodeTest cc.smartDescThroughFilter a {} {} with
    | error e => exact .inl ⟨e, compile_of_build_error cc ns text a e hparse hb⟩
    | ok o =>
      exact .inr ⟨o.q, compile_of_build cc ns text (text_ne_nil_of_parse ns text a hparse) a o hparse hb
        (hQ o hb).1, (hQ o hb).2⟩

/-- `selectAll` is `sel` with the items projected to their nodes -/
theorem selectAll_of_sel (d : Doc) (cfg : ECfg) (p : Plan) (c : Ref) (out : List Item)
    (h : sel (F := F) d cfg p c = .ok out) : selectAll (F := F) d cfg p c = .ok (refs out) := by
  simp only [selectAll, h, bind, Except.bind, pure, Except.pure, refs]

/-- `evaluate` on a plan whose value is a node set: the drained iterator -/
theorem evaluate_of_nodes (d : Doc) (cfg : ECfg) (p : Plan) (c : Ref) (out : List Item) (v : List Ref)
    (hE : evalP (F := F) d cfg p c = .ok (.nodes v)) (h : sel (F := F) d cfg p c = .ok out) :
    evaluate (F := F) d cfg p c = .ok (.nodes (refs out)) := by
  simp only [evaluate, hE, selectAll_of_sel d cfg p c out h, bind, Except.bind, pure, Except.pure]

/-- … in particular on a path-shaped plan -/
theorem evaluate_of_sel (d : Doc) (cfg : ECfg) (p : Plan) (hp : PathShape p) (c : Ref) (out : List Item)
    (h : sel (F := F) d cfg p c = .ok out) : evaluate (F := F) d cfg p c = .ok (.nodes (refs out)) :=
  evaluate_of_nodes d cfg p c out _ (evalP_pathShape d cfg p hp c out h) h

/-- the default `CompileCfg` guards the `//name` shortcut (read off the source) -/
theorem srcCfg_snt (regexOk : RegexOk) :
    ({ regexOk := regexOk } : CompileCfg).shortcutNeedsNodeTest = true :=
  by simp only [Lemmas.SourceConfig.shortcut_guard_from_source]

/-- the default `CompileCfg` does not pass smartDesc through filters (read off the source) -/
theorem srcCfg_sdf (regexOk : RegexOk) :
    ({ regexOk := regexOk } : CompileCfg).smartDescThroughFilter = false :=
  by simp only [Lemmas.SourceConfig.smartdesc_stops_at_filters_from_source]

/-! ## Built paths are path-shaped -/

theorem pathShape_ne_nil (q : Plan) (h : PathShape q) : q ≠ .nil := by
  intro hq; rw [hq] at h; exact h

/-- **the plan `build` makes of a step is path-shaped**, whatever its input, the flags, the state and
the two switches -/
theorem build_axis_pathShape (regexOk : RegexOk) (limit : Nat) (snt sdf : Bool) (a : AxisInfo)
    (inp : Ast) (fl : Flags) (st : BState) (o : BOut)
    (h : build regexOk limit snt sdf (.axis a inp) fl st = .ok o) : PathShape o.q := by
  rcases build_axis_ok h with
    ⟨_, _, gq, _, _, _, _, _, _, _, hfin⟩ | ⟨qin, pin, q, props, _, _, hq, hfin⟩
  · rw [finAxis_q _ _ _ _ hfin]; trivial
  · rw [finAxis_q _ _ _ _ hfin]
    exact (axisPlan_inv a fl pin qin q props hq).1

/-- **the plan `build` makes of a filter is path-shaped** (a filter or a merge), whatever the flags,
the state and the two switches -/
theorem build_filter_pathShape (regexOk : RegexOk) (limit : Nat) (snt sdf : Bool) (inp b : Ast)
    (fl : Flags) (st : BState) (o : BOut)
    (h : build regexOk limit snt sdf (.filter inp b) fl st = .ok o) : PathShape o.q := by
  obtain ⟨_, _, _, _, _, _, hor, _⟩ := build_filter_ok h
  rcases hor with hq | ⟨_, parent, _, hq⟩ <;> (rw [hq]; trivial)

/-- **the plan `build` makes of a path of the extended fragment is path-shaped** (a step, a filter
or a merge), whatever the flags, the state and the two switches -/
theorem build_frag2_pathShape (regexOk : RegexOk) (limit : Nat) (snt sdf : Bool) {p : Ast}
    (hp : Frag2 true p) (fl : Flags) (st : BState) (o : BOut)
    (h : build regexOk limit snt sdf p fl st = .ok o) : PathShape o.q := by
  cases hp with
  | none => rw [build] at h; cases h
  | root s => cases build_root_ok h; trivial
  | filter inp b _ _ => exact build_filter_pathShape regexOk limit snt sdf inp b fl st o h
  | gfilter p b _ _ => exact build_filter_pathShape regexOk limit snt sdf _ b fl st o h
  | axis a inp _ _ => exact build_axis_pathShape regexOk limit snt sdf a inp fl st o h

/-- **C02 (extended fragment), the three stages spelled out**: parser result `a` in `Frag2`, builder
result `o` (switches as read off the source) ⇒ `selectAll` of `o.q` from a valid context node
succeeds with exactly the members of the node-set `Spec.evalTop` assigns to `a`, and `evaluate`
returns the same list -/
theorem C02_api_build2 {d : Doc} (wf : WF d) (cfg : ECfg) (hns : cfg.nsIface = true)
    (hinj : HashInj d cfg) (regexOk : RegexOk) (limit : Nat) (a : Ast) (hfrag : Frag2 true a)
    (o : BOut) (hb : build regexOk limit true false a {} {} = .ok o)
    (c : Ref) (hc : validRef d c = true) :
    ∃ l ns, selectAll (F := F) d cfg o.q c = .ok l ∧ evaluate (F := F) d cfg o.q c = .ok (.nodes l) ∧
      Spec.evalTop (F := F) d a c = .ok (.nodes ns) ∧ ∀ x, x ∈ l ↔ x ∈ ns := by
  obtain ⟨out, ns, h1, h2, h3⟩ := C02_evalTop2 (F := F) wf cfg hns hinj regexOk limit a hfrag {} o hb c hc
  exact ⟨refs out, ns, selectAll_of_sel d cfg o.q c out h1,
    evaluate_of_sel d cfg o.q (build_frag2_pathShape _ _ _ _ hfrag _ _ o hb) c out h1, h2, h3⟩

/-- **C02 (extended fragment) against `compile` / `evaluate`**: `Expr.Evaluate` of the compiled path
returns a node-set with exactly the oracle's members — the same list `selectAll` returns -/
theorem C02_compile_evaluate2 {d : Doc} (wf : WF d) (cfg : ECfg) (hns : cfg.nsIface = true)
    (hinj : HashInj d cfg) (cc : CompileCfg) (hsnt : cc.shortcutNeedsNodeTest = true)
    (hsdf : cc.smartDescThroughFilter = false) (ns : Option (List (String × String)))
    (text : List Char) (a : Ast) (hparse : parse (fuelFor text) (defaultCfg ns) text = .ok a)
    (hfrag : Frag2 true a) (p : Plan) (hcomp : compile cc ns text = .ok p)
    (c : Ref) (hc : validRef d c = true) :
    ∃ l nsl, evaluate (F := F) d cfg p c = .ok (.nodes l) ∧ selectAll (F := F) d cfg p c = .ok l ∧
      Spec.evalTop (F := F) d a c = .ok (.nodes nsl) ∧ ∀ x, x ∈ l ↔ x ∈ nsl := by
  apply (compile_lift cc ns text a hparse ?_).1 p hcomp
  intro o hb
  have hsh := build_frag2_pathShape _ _ _ _ hfrag _ _ o hb
  rw [hsnt, hsdf] at hb
  obtain ⟨l, nsl, h1, h2, h3, h4⟩ := C02_api_build2 (F := F) wf cfg hns hinj cc.regexOk apiLimit a hfrag o hb c hc
  exact ⟨pathShape_ne_nil _ hsh, l, nsl, h2, h1, h3, h4⟩

/-- **C02 (extended fragment) against `compile` / `selectAll`** -/
theorem C02_compile2 {d : Doc} (wf : WF d) (cfg : ECfg) (hns : cfg.nsIface = true)
    (hinj : HashInj d cfg) (cc : CompileCfg) (hsnt : cc.shortcutNeedsNodeTest = true)
    (hsdf : cc.smartDescThroughFilter = false) (ns : Option (List (String × String)))
    (text : List Char) (a : Ast) (hparse : parse (fuelFor text) (defaultCfg ns) text = .ok a)
    (hfrag : Frag2 true a) (p : Plan) (hcomp : compile cc ns text = .ok p)
    (c : Ref) (hc : validRef d c = true) :
    ∃ l nsl, selectAll (F := F) d cfg p c = .ok l ∧
      Spec.evalTop (F := F) d a c = .ok (.nodes nsl) ∧ ∀ x, x ∈ l ↔ x ∈ nsl := by
  obtain ⟨l, nsl, _, h1, h2, h3⟩ :=
    C02_compile_evaluate2 (F := F) wf cfg hns hinj cc hsnt hsdf ns text a hparse hfrag p hcomp c hc
  exact ⟨l, nsl, h1, h2, h3⟩

/-- **C02 (extended fragment) against `compile` at the source configuration** -/
theorem C02_compile_source2 {d : Doc} (wf : WF d) (cfg : ECfg) (hns : cfg.nsIface = true)
    (hinj : HashInj d cfg) (regexOk : RegexOk) (ns : Option (List (String × String)))
    (text : List Char) (a : Ast) (hparse : parse (fuelFor text) (defaultCfg ns) text = .ok a)
    (hfrag : Frag2 true a) (p : Plan) (hcomp : compile { regexOk := regexOk } ns text = .ok p)
    (c : Ref) (hc : validRef d c = true) :
    ∃ l nsl, selectAll (F := F) d cfg p c = .ok l ∧
      Spec.evalTop (F := F) d a c = .ok (.nodes nsl) ∧ ∀ x, x ∈ l ↔ x ∈ nsl :=
  C02_compile2 wf cfg hns hinj { regexOk := regexOk } (srcCfg_snt regexOk) (srcCfg_sdf regexOk)
    ns text a hparse hfrag p hcomp c hc

/-- **the whole pipeline on a text of the extended fragment**: `compile` (source configuration)
either reports a *builder* error (never "empty", a parse error, lack of fuel or the nil query), or
returns a path-shaped plan on which `selectAll` and `evaluate` agree with the oracle at every valid
context node of every well-formed document -/
theorem C02_compile_total2 (regexOk : RegexOk) (ns : Option (List (String × String)))
    (text : List Char) (a : Ast) (hparse : parse (fuelFor text) (defaultCfg ns) text = .ok a)
    (hfrag : Frag2 true a) :
    (∃ e, compile { regexOk := regexOk } ns text = .error (.build e)) ∨
    (∃ p, compile { regexOk := regexOk } ns text = .ok p ∧ PathShape p ∧
      ∀ (F : Type) [NumAlg F] (d : Doc), WF d → ∀ cfg : ECfg, cfg.nsIface = true → HashInj d cfg →
        ∀ c, validRef d c = true →
          ∃ l nsl, selectAll (F := F) d cfg p c = .ok l ∧ evaluate (F := F) d cfg p c = .ok (.nodes l) ∧
            Spec.evalTop (F := F) d a c = .ok (.nodes nsl) ∧ ∀ x, x ∈ l ↔ x ∈ nsl) := by
  refine (compile_lift { regexOk := regexOk } ns text a hparse (fun o hb => ?_)).2
  have hsh := build_frag2_pathShape _ _ _ _ hfrag _ _ o hb
  rw [srcCfg_snt, srcCfg_sdf] at hb
  exact ⟨pathShape_ne_nil _ hsh, hsh, fun F _ d wf cfg hns hinj c hc =>
    C02_api_build2 (F := F) wf cfg hns hinj regexOk apiLimit a hfrag o hb c hc⟩

/-- `C02_compile_total2` on the fragment `PredSem.Frag` -/
theorem C02_compile_total_of_total2 (regexOk : RegexOk) (ns : Option (List (String × String)))
    (text : List Char) (a : Ast) (hparse : parse (fuelFor text) (defaultCfg ns) text = .ok a)
    (hfrag : Frag true a) :
    (∃ e, compile { regexOk := regexOk } ns text = .error (.build e)) ∨
    (∃ p, compile { regexOk := regexOk } ns text = .ok p ∧ PathShape p ∧
      ∀ (F : Type) [NumAlg F] (d : Doc), WF d → ∀ cfg : ECfg, cfg.nsIface = true → HashInj d cfg →
        ∀ c, validRef d c = true →
          ∃ l nsl, selectAll (F := F) d cfg p c = .ok l ∧ evaluate (F := F) d cfg p c = .ok (.nodes l) ∧
            Spec.evalTop (F := F) d a c = .ok (.nodes nsl) ∧ ∀ x, x ∈ l ↔ x ∈ nsl) :=
  C02_compile_total2 regexOk ns text a hparse (frag2_of_frag true a hfrag)

end XPathV.ApiSem
