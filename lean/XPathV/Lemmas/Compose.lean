import XPathV.Lemmas.PredSem
import XPathV.Lemmas.C11Base
/-!
# C13 — absolute paths ignore the start node; relative paths compose with the context

* §1 `appendPath q p` (plug `q` into the `.none` leaf of the relative path `p`), `RelPF`/`AbsPF`
* §2 oracle side. The idea, used for all three fragments (here, `Compose2`, `Compose3`): a relative
  path is a chain of steps and of predicates that are *node tests* (`NodeTest`: one value per
  candidate node, never a number, so proximity positions play no part); `Plug d q p r` says that `r`
  is such a chain `p` with `q` in place of its leaf, and `eval_plug` that the denotation of `r` is
  the union over the nodes of `q` of the denotation of `p`. Instance: `eval_append`, `rel_compose_spec`
* §3 model side: `Computes` (a plan selects the oracle's node-set of a path), `compose_sel`,
  `Computes.same`, which `Theorems/C13` and the other two files instantiate; through C01 here:
  `compose_model`, `rel_compose_model`; absolute paths: `AbsChain`, `abs_eval_indep`, `abs_build_indep`
* §4 what the wrapper identities of `Theorems/C13` rest on: `P | P` (`union_self`), `P[true()]`
  (`evalP_true`, `PredSem.filterPositions_refs`), `not(not(P))` vs `boolean(P)` (`not_not_callFn`, `not_not_plan_spec`)
-/
namespace XPathV.Compose
open XPathV XPathV.Model XPathV.PathSem

variable {F : Type} [NumAlg F]

/-! ## §1 Path composition on parse trees -/

/-- `appendPath q p`: the path `q/p` — the `.none` leaf of the (left-nested) step chain `p` is
replaced by `q`; an absolute `p` (leaf `.root _`) is left alone -/
def appendPath (q : Ast) : Ast → Ast
  | .none => q
  | .axis a inp => .axis a (appendPath q inp)
  | p => p

/-- predicate-free *relative* location paths: step chains whose leaf is `.none` -/
inductive RelPF : Ast → Prop
  | none : RelPF .none
  | axis (a : AxisInfo) (inp : Ast) : RelPF inp → a.axis ∈ axes12 → RelPF (.axis a inp)

/-- predicate-free *absolute* location paths: step chains whose leaf is `.root _` -/
inductive AbsPF : Ast → Prop
  | root (s : String) : AbsPF (.root s)
  | axis (a : AxisInfo) (inp : Ast) : AbsPF inp → a.axis ∈ axes12 → AbsPF (.axis a inp)

theorem RelPF.pathPF {p : Ast} (h : RelPF p) : PathPF p := by
  induction h with
  | none => exact .none
  | axis a inp _ ha ih => exact .axis a inp ih ha

theorem AbsPF.pathPF {p : Ast} (h : AbsPF p) : PathPF p := by
  induction h with
  | root s => exact .root s
  | axis a inp _ ha ih => exact .axis a inp ih ha

theorem pathPF_rel_or_abs {p : Ast} (h : PathPF p) : RelPF p ∨ AbsPF p := by
  induction h with
  | none => exact .inl .none
  | root s => exact .inr (.root s)
  | axis a inp _ ha ih =>
    rcases ih with ih | ih
    · exact .inl (.axis a inp ih ha)
    · exact .inr (.axis a inp ih ha)

theorem appendPath_pathPF {q p : Ast} (hq : PathPF q) (hp : RelPF p) : PathPF (appendPath q p) := by
  induction hp with
  | none => exact hq
  | axis a inp _ ha ih => exact .axis a _ ih ha

theorem appendPath_relPF {q p : Ast} (hq : RelPF q) (hp : RelPF p) : RelPF (appendPath q p) := by
  induction hp with
  | none => exact hq
  | axis a inp _ ha ih => exact .axis a _ ih ha

theorem appendPath_absPF {q p : Ast} (hq : AbsPF q) (hp : RelPF p) : AbsPF (appendPath q p) := by
  induction hp with
  | none => exact hq
  | axis a inp _ ha ih => exact .axis a _ ih ha

theorem appendPath_abs (q : Ast) {p : Ast} (hp : AbsPF p) : appendPath q p = p := by
  induction hp with
  | root s => rfl
  | axis a inp _ _ ih => simp only [appendPath, ih]

theorem appendPath_none_left {p : Ast} (hp : RelPF p) : appendPath .none p = p := by
  induction hp with
  | none => rfl
  | axis a inp _ _ ih => simp only [appendPath, ih]

theorem appendPath_none_right (q : Ast) : appendPath q .none = q := rfl

theorem appendPath_assoc (q p r : Ast) :
    appendPath q (appendPath p r) = appendPath (appendPath q p) r := by
  induction r with
  | none => rfl
  | axis a inp ih => simp only [appendPath, ih]
  | _ => rfl

/-! ## §2 Oracle side -/

/-- the node list of an evaluation result (`[]` for failures and non-node-set values; for
predicate-free paths neither occurs, see `opath_pathPF`) -/
def nodesOf : Except Spec.Err (Spec.Res F) → List Ref
  | .ok (.val (.nodes l) _) => l
  | _ => []

omit [NumAlg F] in
@[simp] theorem nodesOf_ok (l : List Ref) (g : Option (List (List Ref))) :
    nodesOf (F := F) (.ok (.val (.nodes l) g)) = l := rfl

/-- the candidates of one step from origin `o`: the axis in proximity order, node test applied -/
def stepSet (d : Doc) (a : AxisInfo) (o : Ref) : List Ref :=
  ((Spec.axisProx d a.axis o).getD []).filter (Spec.nodeTest d a)

/-- `p` has a node-set value at `c`; when the value carries per-origin groups, the node-set is the
set of valid nodes of the groups -/
def OPath (d : Doc) (p : Ast) (c : Spec.Ctx) : Prop :=
  ∃ ns g, Spec.eval (F := F) d p c = .ok (.val (.nodes ns) g) ∧
    ∀ gs, g = some gs → ∀ x, x ∈ ns ↔ (x ∈ gs.flatten ∧ validRef d x = true)

/-- the predicate `b` is a test of the candidate node alone: at every node it has one value,
whatever the context position and size, and that value is not a number -/
def NodeTest (d : Doc) (b : Ast) : Prop :=
  ∀ n, ∃ (sv : Spec.Value F) (g : Option (List (List Ref))),
    (∀ pos size, Spec.eval (F := F) d b ⟨n, pos, size⟩ = .ok (.val sv g)) ∧ PredSem.NotNum sv

theorem OPath.eq_nodesOf {d : Doc} {p : Ast} {c : Spec.Ctx} (h : OPath (F := F) d p c) :
    ∃ g, Spec.eval (F := F) d p c = .ok (.val (.nodes (nodesOf (Spec.eval (F := F) d p c))) g) := by
  obtain ⟨ns, g, h, _⟩ := h
  exact ⟨g, by rw [h]; rfl⟩

theorem opath_none (d : Doc) (c : Spec.Ctx) : OPath (F := F) d .none c :=
  ⟨[c.node], none, by simp only [Spec.eval], fun _ h => nomatch h⟩

theorem opath_root (d : Doc) (s : String) (c : Spec.Ctx) : OPath (F := F) d (.root s) c :=
  ⟨[.node 0], none, by simp only [Spec.eval], fun _ h => nomatch h⟩

theorem nodesOf_axis_eq (d : Doc) (a : AxisInfo) (ha : a.axis ∈ axes12) {inp : Ast} {c : Spec.Ctx}
    (hinp : OPath (F := F) d inp c) :
    nodesOf (Spec.eval (F := F) d (.axis a inp) c) =
      Spec.docOrder d ((nodesOf (Spec.eval (F := F) d inp c)).map (stepSet d a)).flatten := by
  obtain ⟨ns, g, h, _⟩ := hinp
  rw [PredSem.eval_axis_groups (F := F) d a ha inp c ns g h, h]
  rfl

theorem opath_axis (d : Doc) (a : AxisInfo) (ha : a.axis ∈ axes12) {inp : Ast} {c : Spec.Ctx}
    (hinp : OPath (F := F) d inp c) : OPath (F := F) d (.axis a inp) c := by
  obtain ⟨ns, g, h, _⟩ := hinp
  refine ⟨_, _, PredSem.eval_axis_groups (F := F) d a ha inp c ns g h, fun gs hgs x => ?_⟩
  cases hgs
  rw [mem_docOrder]

theorem mem_nodesOf_axis (d : Doc) (a : AxisInfo) (ha : a.axis ∈ axes12) {inp : Ast} {c : Spec.Ctx}
    (hinp : OPath (F := F) d inp c) (x : Ref) :
    x ∈ nodesOf (Spec.eval (F := F) d (.axis a inp) c) ↔
      validRef d x = true ∧ ∃ o ∈ nodesOf (Spec.eval (F := F) d inp c), x ∈ stepSet d a o := by
  rw [nodesOf_axis_eq d a ha hinp, mem_docOrder, List.mem_flatten]
  constructor
  · rintro ⟨⟨l, hl, hx⟩, hv⟩
    obtain ⟨o, ho, rfl⟩ := List.mem_map.1 hl
    exact ⟨hv, o, ho, hx⟩
  · rintro ⟨hv, o, ho, hx⟩
    exact ⟨⟨_, List.mem_map.2 ⟨o, ho, rfl⟩, hx⟩, hv⟩

/-- the oracle's filter by a node test over an evaluated input: proximity positions play no part,
the predicate keeps the nodes on which it `PredSem.holds` (groupwise, when the input carries groups) -/
theorem oracle_filter (d : Doc) (inp : Ast) {b : Ast} (hb : NodeTest (F := F) d b)
    (ns0 : List Ref) (g0 : Option (List (List Ref)))
    (hg0 : ∀ gs, g0 = some gs → ∀ x, x ∈ ns0 ↔ (x ∈ gs.flatten ∧ validRef d x = true)) :
    ∃ ns g, (∀ c, Spec.eval (F := F) d inp c = .ok (.val (.nodes ns0) g0) →
        Spec.eval (F := F) d (.filter inp b) c = .ok (.val (.nodes ns) g)) ∧
      (∀ x, x ∈ ns ↔ x ∈ ns0 ∧ PredSem.holds (F := F) d b x = true) ∧
      ∀ gs, g = some gs → ∀ x, x ∈ ns ↔ (x ∈ gs.flatten ∧ validRef d x = true) := by
  have hfp : ∀ l : List Ref,
      Spec.filterPos l (Spec.eval (F := F) d b) = .ok (l.filter (PredSem.holds (F := F) d b)) := by
    intro l
    apply PredSem.filterPos_bool
    intro r _ pos size
    obtain ⟨sv, g, hS, hnn⟩ := hb r
    refine ⟨_, hS pos size, hnn, ?_⟩
    simp only [PredSem.holds, hS 1 1]
  cases g0 with
  | none =>
    refine ⟨ns0.filter (PredSem.holds (F := F) d b), none, ?_, fun x => List.mem_filter,
      by intro gs h; cases h⟩
    intro c hev
    simp only [Spec.eval, hev, bind, Except.bind, Spec.asNodes, hfp ns0]
  | some gs =>
    have hmap : gs.mapM (fun g => Spec.filterPos g (Spec.eval (F := F) d b)) =
        .ok (gs.map (List.filter (PredSem.holds (F := F) d b))) :=
      mapM_eq_ok_map _ _ gs (fun g _ => hfp g)
    refine ⟨Spec.docOrder d (gs.map (List.filter (PredSem.holds (F := F) d b))).flatten,
      some (gs.map (List.filter (PredSem.holds (F := F) d b))), ?_, ?_, ?_⟩
    · intro c hev
      simp only [Spec.eval, hev, bind, Except.bind, hmap]
    · intro x
      rw [mem_docOrder, PredSem.mem_flatten_map_filter, hg0 gs rfl x]
      exact ⟨fun h => ⟨⟨h.1.1, h.2⟩, h.1.2⟩, fun h => ⟨⟨h.1.1, h.2⟩, h.1.2⟩⟩
    · intro gs' hgs' x
      cases hgs'
      rw [mem_docOrder]

theorem opath_filter (d : Doc) {inp b : Ast} {c : Spec.Ctx} (hinp : OPath (F := F) d inp c)
    (hb : NodeTest (F := F) d b) : OPath (F := F) d (.filter inp b) c := by
  obtain ⟨ns0, g0, hev, hg0⟩ := hinp
  obtain ⟨ns, g, h1, _, h3⟩ := oracle_filter (F := F) d inp hb ns0 g0 hg0
  exact ⟨ns, g, h1 c hev, h3⟩

/-- **a node test keeps exactly the nodes on which it holds (oracle)** -/
theorem mem_nodesOf_filter (d : Doc) {inp b : Ast} {c : Spec.Ctx} (hinp : OPath (F := F) d inp c)
    (hb : NodeTest (F := F) d b) (x : Ref) :
    x ∈ nodesOf (Spec.eval (F := F) d (.filter inp b) c) ↔
      x ∈ nodesOf (Spec.eval (F := F) d inp c) ∧ PredSem.holds (F := F) d b x = true := by
  obtain ⟨ns0, g0, hev, hg0⟩ := hinp
  obtain ⟨ns, g, h1, h2, _⟩ := oracle_filter (F := F) d inp hb ns0 g0 hg0
  rw [h1 c hev, hev]
  exact h2 x

/-- `Plug d q p r`: `p` is a relative step chain — steps over the twelve axes, predicates that are
node tests — and `r` is `p` with its `.none` leaf replaced by `q`. The three fragments for which
composition is stated (`RelPF` with `appendPath`; `RelFrag`, `RelFrag2` with `appendPath2`) are
instances. -/
inductive Plug (d : Doc) (q : Ast) : Ast → Ast → Prop
  | none : Plug d q .none q
  | axis (a : AxisInfo) (p r : Ast) : Plug d q p r → a.axis ∈ axes12 → Plug d q (.axis a p) (.axis a r)
  | filter (p r b : Ast) : Plug d q p r → NodeTest (F := F) d b → Plug d q (.filter p b) (.filter r b)

theorem Plug.self {d : Doc} {q p r : Ast} (h : Plug (F := F) d q p r) : Plug (F := F) d .none p p := by
  induction h with
  | none => exact .none
  | axis a p r _ ha ih => exact .axis a p p ih ha
  | filter p r b _ hb ih => exact .filter p p b ih hb

theorem Plug.opath {d : Doc} {q p r : Ast} (h : Plug (F := F) d q p r)
    (hq : ∀ c, OPath (F := F) d q c) (c : Spec.Ctx) : OPath (F := F) d r c := by
  induction h with
  | none => exact hq c
  | axis a p r _ ha ih => exact opath_axis d a ha ih
  | filter p r b _ hb ih => exact opath_filter d ih hb

theorem Plug.opath_rel {d : Doc} {q p r : Ast} (h : Plug (F := F) d q p r) (c : Spec.Ctx) :
    OPath (F := F) d p c :=
  h.self.opath (opath_none d) c

/-- **path composition (oracle)**: a node is selected by `q/p` from context `c` iff it is selected
by `p` from some node that `q` selects from `c` -/
theorem eval_plug {d : Doc} {q p r : Ast} (h : Plug (F := F) d q p r)
    (hq : ∀ c, OPath (F := F) d q c) (c : Spec.Ctx) (x : Ref) :
    x ∈ nodesOf (Spec.eval (F := F) d r c) ↔
      ∃ n ∈ nodesOf (Spec.eval (F := F) d q c), x ∈ nodesOf (Spec.eval (F := F) d p ⟨n, 1, 1⟩) := by
  induction h generalizing x with
  | none =>
    simp only [Spec.eval, nodesOf_ok, List.mem_cons, List.not_mem_nil, or_false]
    constructor
    · intro h; exact ⟨x, h, rfl⟩
    · rintro ⟨n, hn, rfl⟩; exact hn
  | axis a p r hpr ha ih =>
    rw [mem_nodesOf_axis d a ha (hpr.opath hq c) x]
    constructor
    · rintro ⟨hv, o, ho, hx⟩
      obtain ⟨n, hn, hon⟩ := (ih o).1 ho
      exact ⟨n, hn, (mem_nodesOf_axis d a ha (hpr.opath_rel _) x).2 ⟨hv, o, hon, hx⟩⟩
    · rintro ⟨n, hn, hx⟩
      obtain ⟨hv, o, ho, hxo⟩ := (mem_nodesOf_axis d a ha (hpr.opath_rel _) x).1 hx
      exact ⟨hv, o, (ih o).2 ⟨n, hn, ho⟩, hxo⟩
  | filter p r b hpr hb ih =>
    rw [mem_nodesOf_filter d (hpr.opath hq c) hb x, ih x]
    constructor
    · rintro ⟨⟨n, hn, hx⟩, hh⟩
      exact ⟨n, hn, (mem_nodesOf_filter d (hpr.opath_rel _) hb x).2 ⟨hx, hh⟩⟩
    · rintro ⟨n, hn, hx⟩
      obtain ⟨hx', hh⟩ := (mem_nodesOf_filter d (hpr.opath_rel _) hb x).1 hx
      exact ⟨⟨n, hn, hx'⟩, hh⟩

/-- `eval_plug` with every evaluation spelled out (no `nodesOf`): all three evaluations succeed
with node-sets `Q`, `R`, `N n`, and `R = ⋃_{n ∈ Q} N n` as sets -/
theorem eval_plug_explicit {d : Doc} {q p r : Ast} (h : Plug (F := F) d q p r)
    (hq : ∀ c, OPath (F := F) d q c) (c : Ref) :
    ∃ (Q R : List Ref) (N : Ref → List Ref) (gq gr : Option (List (List Ref)))
      (gn : Ref → Option (List (List Ref))),
      Spec.eval (F := F) d q ⟨c, 1, 1⟩ = .ok (.val (.nodes Q) gq) ∧
      Spec.eval (F := F) d r ⟨c, 1, 1⟩ = .ok (.val (.nodes R) gr) ∧
      (∀ n, Spec.eval (F := F) d p ⟨n, 1, 1⟩ = .ok (.val (.nodes (N n)) (gn n))) ∧
      ∀ x, x ∈ R ↔ ∃ n ∈ Q, x ∈ N n := by
  obtain ⟨gq, h1⟩ := (hq ⟨c, 1, 1⟩).eq_nodesOf
  obtain ⟨gr, h2⟩ := (h.opath hq ⟨c, 1, 1⟩).eq_nodesOf
  have h3 := fun n => (h.opath_rel ⟨n, 1, 1⟩).eq_nodesOf
  exact ⟨_, _, fun n => nodesOf (Spec.eval (F := F) d p ⟨n, 1, 1⟩), gq, gr, fun n => (h3 n).choose,
    h1, h2, fun n => (h3 n).choose_spec, fun x => eval_plug h hq ⟨c, 1, 1⟩ x⟩

theorem docOrder_congr_valid (d : Doc) (l l' : List Ref)
    (h : ∀ x, validRef d x = true → (x ∈ l ↔ x ∈ l')) :
    Spec.docOrder d l = Spec.docOrder d l' := by
  unfold Spec.docOrder
  apply List.filter_congr
  intro x hx
  rw [Bool.eq_iff_iff, List.contains_iff_mem, List.contains_iff_mem]
  exact h x ((mem_allRefs d x).1 hx)

theorem docOrder_congr (d : Doc) (l l' : List Ref) (h : ∀ x, x ∈ l ↔ x ∈ l') :
    Spec.docOrder d l = Spec.docOrder d l' :=
  docOrder_congr_valid d l l' (fun x _ => h x)

theorem docOrder_idem (d : Doc) (l : List Ref) :
    Spec.docOrder d (Spec.docOrder d l) = Spec.docOrder d l := by
  apply docOrder_congr_valid
  intro x hv
  rw [mem_docOrder]
  exact ⟨fun h => h.1, fun h => ⟨h, hv⟩⟩

theorem eval_plug_docOrder {d : Doc} {q p r : Ast} (h : Plug (F := F) d q p r)
    (hq : ∀ c, OPath (F := F) d q c) (c : Spec.Ctx) :
    Spec.docOrder d (nodesOf (Spec.eval (F := F) d r c)) =
      Spec.docOrder d ((nodesOf (Spec.eval (F := F) d q c)).flatMap
        (fun n => nodesOf (Spec.eval (F := F) d p ⟨n, 1, 1⟩))) := by
  apply docOrder_congr
  intro x
  rw [eval_plug h hq c x, List.mem_flatMap]

/-- **relative paths compose with the context (oracle)**: if `q` denotes exactly the node `n`
from context `c`, then `p` evaluated at `n` and `q/p` evaluated at `c` select the same nodes -/
theorem plug_single {d : Doc} {q p r : Ast} (hpr : Plug (F := F) d q p r)
    (hq : ∀ c, OPath (F := F) d q c) (c : Spec.Ctx) (n : Ref)
    (h : ∀ y, y ∈ nodesOf (Spec.eval (F := F) d q c) ↔ y = n) (x : Ref) :
    x ∈ nodesOf (Spec.eval (F := F) d p ⟨n, 1, 1⟩) ↔ x ∈ nodesOf (Spec.eval (F := F) d r c) := by
  rw [eval_plug hpr hq c x]
  constructor
  · intro hx; exact ⟨n, (h n).2 rfl, hx⟩
  · rintro ⟨m, hm, hx⟩; rw [(h m).1 hm] at hx; exact hx

theorem mem_singleton_of_eq {l : List Ref} {n : Ref} (h : l = [n]) (y : Ref) : y ∈ l ↔ y = n := by
  rw [h, List.mem_singleton]

/-- the oracle is total on predicate-free paths and yields a node-set -/
theorem opath_pathPF (d : Doc) {p : Ast} (hp : PathPF p) (c : Spec.Ctx) : OPath (F := F) d p c := by
  induction hp with
  | none => exact opath_none d c
  | root s => exact opath_root d s c
  | axis a inp _ ha ih => exact opath_axis d a ha ih

theorem RelPF.plug (d : Doc) (q : Ast) {p : Ast} (hp : RelPF p) :
    Plug (F := F) d q p (appendPath q p) := by
  induction hp with
  | none => exact .none
  | axis a inp _ ha ih => exact .axis a _ _ ih ha

/-- the value of a predicate-free path depends on the context *node* only -/
theorem eval_pathPF_ctx (d : Doc) {p : Ast} (hp : PathPF p) (n : Ref) (i j i' j' : Nat) :
    Spec.eval (F := F) d p ⟨n, i, j⟩ = Spec.eval (F := F) d p ⟨n, i', j'⟩ := by
  induction hp with
  | none => simp [Spec.eval]
  | root s => simp [Spec.eval]
  | axis a inp _ _ ih => simp only [Spec.eval, ih]

/-- **path composition (oracle)** for predicate-free paths -/
theorem eval_append (d : Doc) {q p : Ast} (hq : PathPF q) (hp : RelPF p) (c : Spec.Ctx) (x : Ref) :
    x ∈ nodesOf (Spec.eval (F := F) d (appendPath q p) c) ↔
      ∃ n ∈ nodesOf (Spec.eval (F := F) d q c), x ∈ nodesOf (Spec.eval (F := F) d p ⟨n, 1, 1⟩) :=
  eval_plug (hp.plug d q) (opath_pathPF d hq) c x

theorem eval_append_explicit (d : Doc) {q p : Ast} (hq : PathPF q) (hp : RelPF p) (c : Ref) :
    ∃ (Q R : List Ref) (N : Ref → List Ref) (gq gr : Option (List (List Ref)))
      (gn : Ref → Option (List (List Ref))),
      Spec.eval (F := F) d q ⟨c, 1, 1⟩ = .ok (.val (.nodes Q) gq) ∧
      Spec.eval (F := F) d (appendPath q p) ⟨c, 1, 1⟩ = .ok (.val (.nodes R) gr) ∧
      (∀ n, Spec.eval (F := F) d p ⟨n, 1, 1⟩ = .ok (.val (.nodes (N n)) (gn n))) ∧
      ∀ x, x ∈ R ↔ ∃ n ∈ Q, x ∈ N n :=
  eval_plug_explicit (hp.plug d q) (opath_pathPF d hq) c

/-- for a path `p` with at least one step, `q/p` *is* the document-order union -/
theorem eval_append_eq (d : Doc) {q p : Ast} (hq : PathPF q) (a : AxisInfo) (ha : a.axis ∈ axes12)
    (hp : RelPF p) (c : Spec.Ctx) :
    nodesOf (Spec.eval (F := F) d (appendPath q (.axis a p)) c) =
      Spec.docOrder d ((nodesOf (Spec.eval (F := F) d q c)).flatMap
        (fun n => nodesOf (Spec.eval (F := F) d (.axis a p) ⟨n, 1, 1⟩))) := by
  rw [← eval_plug_docOrder ((RelPF.axis a p hp ha).plug d q) (opath_pathPF d hq) c]
  simp only [appendPath]
  rw [nodesOf_axis_eq d a ha ((hp.plug d q).opath (opath_pathPF d hq) c), docOrder_idem]

/-! ## §3 Model side -/

/-- from the start node `c` the plan `pl` selects the oracle's node-set of the path `p` -/
def Computes (d : Doc) (cfg : ECfg) (pl : Plan) (p : Ast) (c : Ref) : Prop :=
  ∃ out, sel (F := F) d cfg pl c = .ok out ∧
    ∀ x, x ∈ refs out ↔ x ∈ nodesOf (Spec.eval (F := F) d p ⟨c, 1, 1⟩)

theorem Computes.of_sem {d : Doc} {cfg : ECfg} {pl : Plan} {p : Ast} {c : Ref} {out ns : List _} {g}
    (h1 : sel (F := F) d cfg pl c = .ok out)
    (h2 : Spec.eval (F := F) d p ⟨c, 1, 1⟩ = .ok (.val (.nodes ns) g)) (h3 : ∀ x, x ∈ refs out ↔ x ∈ ns) :
    Computes (F := F) d cfg pl p c :=
  ⟨out, h1, by rw [h2]; exact h3⟩

theorem Computes.same {d : Doc} {cfg : ECfg} {pl₁ pl₂ : Plan} {p₁ p₂ : Ast} {c₁ c₂ : Ref}
    (h₁ : Computes (F := F) d cfg pl₁ p₁ c₁) (h₂ : Computes (F := F) d cfg pl₂ p₂ c₂)
    (h : ∀ x, x ∈ nodesOf (Spec.eval (F := F) d p₁ ⟨c₁, 1, 1⟩) ↔
      x ∈ nodesOf (Spec.eval (F := F) d p₂ ⟨c₂, 1, 1⟩)) :
    ∃ o1 o2, sel (F := F) d cfg pl₁ c₁ = .ok o1 ∧ sel (F := F) d cfg pl₂ c₂ = .ok o2 ∧
      ∀ x, x ∈ refs o1 ↔ x ∈ refs o2 := by
  obtain ⟨o1, ho1, hm1⟩ := h₁
  obtain ⟨o2, ho2, hm2⟩ := h₂
  exact ⟨o1, o2, ho1, ho2, fun x => by rw [hm1, hm2]; exact h x⟩

/-- **path composition (model)**: if the plans `plq`, `plr` compute `q` and `q/p` from `c`, and `plp`
computes `p` from every node `q` denotes, then `plr` selects `x` iff `plp`, started at some node
that `plq` selects, selects `x`; none of the evaluations fails -/
theorem compose_sel {d : Doc} {cfg : ECfg} {plq plp plr : Plan} {q p r : Ast} {c : Ref}
    (hq : Computes (F := F) d cfg plq q c) (hr : Computes (F := F) d cfg plr r c)
    (hp : ∀ n ∈ nodesOf (Spec.eval (F := F) d q ⟨c, 1, 1⟩), Computes (F := F) d cfg plp p n)
    (happ : ∀ x, x ∈ nodesOf (Spec.eval (F := F) d r ⟨c, 1, 1⟩) ↔
      ∃ n ∈ nodesOf (Spec.eval (F := F) d q ⟨c, 1, 1⟩), x ∈ nodesOf (Spec.eval (F := F) d p ⟨n, 1, 1⟩)) :
    ∃ oq oqp, sel (F := F) d cfg plq c = .ok oq ∧ sel (F := F) d cfg plr c = .ok oqp ∧
      (∀ n ∈ refs oq, ∃ on, sel (F := F) d cfg plp n = .ok on) ∧
      ∀ x, x ∈ refs oqp ↔
        ∃ n ∈ refs oq, ∃ on, sel (F := F) d cfg plp n = .ok on ∧ x ∈ refs on := by
  obtain ⟨oq, hoq, hmq⟩ := hq
  obtain ⟨oqp, hoqp, hmqp⟩ := hr
  have hpn := fun n (hn : n ∈ refs oq) => hp n ((hmq n).1 hn)
  refine ⟨oq, oqp, hoq, hoqp, fun n hn => ⟨_, (hpn n hn).choose_spec.1⟩, fun x => ?_⟩
  rw [hmqp, happ]
  constructor
  · rintro ⟨n, hn, hx⟩
    have hn' := (hmq n).2 hn
    obtain ⟨on, hon, hmn⟩ := hpn n hn'
    exact ⟨n, hn', on, hon, (hmn x).2 hx⟩
  · rintro ⟨n, hn, on, hon, hx⟩
    obtain ⟨on', hon', hmn⟩ := hpn n hn
    rw [hon] at hon'; cases hon'
    exact ⟨n, (hmq n).1 hn, (hmn x).1 hx⟩

theorem valid_root {d : Doc} (wf : WF d) : validRef d (.node 0) = true :=
  (validRef_node d 0).2 wf.pos

/-- C01 stage 3: the un-rewritten plan of a predicate-free path computes it from every valid node,
and the nodes the path denotes are valid -/
theorem naive_computes {d : Doc} (wf : WF d) (cfg : ECfg) (hns : cfg.nsIface = true)
    (hinj : HashInj d cfg) {p : Ast} (hp : PathPF p) (c : Ref) (hc : validRef d c = true) :
    Computes (F := F) d cfg (naivePlan p) p c ∧
      ∀ x ∈ nodesOf (Spec.eval (F := F) d p ⟨c, 1, 1⟩), validRef d x = true := by
  obtain ⟨out, ns, g, h1, h2, h3, h4⟩ := naive_sem (F := F) wf cfg hns hinj p hp c hc
  exact ⟨.of_sem h1 h2 h3, by rw [h2]; exact h4⟩

/-- C01 (built plan, all rewrites) -/
theorem build_computes {d : Doc} (wf : WF d) (cfg : ECfg) (hns : cfg.nsIface = true)
    (hinj : HashInj d cfg) (regexOk : RegexOk) (limit : Nat) (sdf : Bool) {p : Ast} (hp : PathPF p)
    (st : BState) (o : BOut) (hb : build regexOk limit true sdf p {} st = .ok o)
    (c : Ref) (hc : validRef d c = true) : Computes (F := F) d cfg o.q p c := by
  obtain ⟨out, ns, g, h1, h2, h3⟩ := C01_main (F := F) wf cfg hns hinj regexOk limit sdf p hp st o hb c hc
  exact .of_sem h1 h2 h3

/-- **path composition (model)**: from a valid context node `c` the naive plan of `q/p` selects `x`
iff the naive plan of `p`, started at some node that the plan of `q` selects from `c`, selects `x`;
none of the evaluations fails -/
theorem compose_model {d : Doc} (wf : WF d) (cfg : ECfg) (hns : cfg.nsIface = true)
    (hinj : HashInj d cfg) {q p : Ast} (hq : PathPF q) (hp : RelPF p) (c : Ref)
    (hc : validRef d c = true) :
    ∃ oq oqp, sel (F := F) d cfg (naivePlan q) c = .ok oq ∧
      sel (F := F) d cfg (naivePlan (appendPath q p)) c = .ok oqp ∧
      (∀ n ∈ refs oq, ∃ on, sel (F := F) d cfg (naivePlan p) n = .ok on) ∧
      ∀ x, x ∈ refs oqp ↔
        ∃ n ∈ refs oq, ∃ on, sel (F := F) d cfg (naivePlan p) n = .ok on ∧ x ∈ refs on :=
  have hcq := naive_computes (F := F) wf cfg hns hinj hq c hc
  compose_sel hcq.1 (naive_computes wf cfg hns hinj (appendPath_pathPF hq hp) c hc).1
    (fun n hn => (naive_computes wf cfg hns hinj hp.pathPF n (hcq.2 n hn)).1) (eval_append d hq hp _)

/-- **`rel_compose_spec`**: `q` denotes exactly one node `n` from the root ⇒ the relative path `p`
at `n` has the same node set as `q/p` at the root -/
theorem rel_compose_spec (d : Doc) {q p : Ast} (hq : PathPF q) (hp : RelPF p) (n : Ref)
    (h : nodesOf (Spec.eval (F := F) d q ⟨.node 0, 1, 1⟩) = [n]) (x : Ref) :
    x ∈ nodesOf (Spec.eval (F := F) d p ⟨n, 1, 1⟩) ↔
      x ∈ nodesOf (Spec.eval (F := F) d (appendPath q p) ⟨.node 0, 1, 1⟩) :=
  plug_single (hp.plug d q) (opath_pathPF d hq) _ n (mem_singleton_of_eq h) x

theorem valid_of_single {d : Doc} (wf : WF d) (cfg : ECfg) (hns : cfg.nsIface = true)
    (hinj : HashInj d cfg) {q : Ast} (hq : PathPF q) (n : Ref)
    (h : nodesOf (Spec.eval (F := F) d q ⟨.node 0, 1, 1⟩) = [n]) : validRef d n = true :=
  (naive_computes (F := F) wf cfg hns hinj hq _ (valid_root wf)).2 n ((mem_singleton_of_eq h n).2 rfl)

/-- **`rel_compose_model`**: if (by the oracle) `q` denotes exactly the node `n` from the root, the
naive plan of the relative path `p` started at `n` and the naive plan of `q/p` started at the root
select the same node set -/
theorem rel_compose_model {d : Doc} (wf : WF d) (cfg : ECfg) (hns : cfg.nsIface = true)
    (hinj : HashInj d cfg) {q p : Ast} (hq : PathPF q) (hp : RelPF p) (n : Ref)
    (h : nodesOf (Spec.eval (F := F) d q ⟨.node 0, 1, 1⟩) = [n]) :
    ∃ o1 o2, sel (F := F) d cfg (naivePlan p) n = .ok o1 ∧
      sel (F := F) d cfg (naivePlan (appendPath q p)) (.node 0) = .ok o2 ∧
      ∀ x, x ∈ refs o1 ↔ x ∈ refs o2 :=
  (naive_computes wf cfg hns hinj hp.pathPF n (valid_of_single wf cfg hns hinj hq n h)).1.same
    (naive_computes wf cfg hns hinj (appendPath_pathPF hq hp) _ (valid_root wf)).1
    (rel_compose_spec d hq hp n h)

/-- `rel_compose_model` with the single-node hypothesis on the *model* side: the plan of `q`
selects exactly `n` (as a set) from the valid context node `c` -/
theorem rel_compose_model' {d : Doc} (wf : WF d) (cfg : ECfg) (hns : cfg.nsIface = true)
    (hinj : HashInj d cfg) {q p : Ast} (hq : PathPF q) (hp : RelPF p) (c n : Ref)
    (hc : validRef d c = true) (oq : List Item)
    (hsel : sel (F := F) d cfg (naivePlan q) c = .ok oq) (h : ∀ y, y ∈ refs oq ↔ y = n) :
    ∃ o1 o2, sel (F := F) d cfg (naivePlan p) n = .ok o1 ∧
      sel (F := F) d cfg (naivePlan (appendPath q p)) c = .ok o2 ∧
      ∀ x, x ∈ refs o1 ↔ x ∈ refs o2 := by
  obtain ⟨⟨oq', hoq', hmq⟩, hvq⟩ := naive_computes (F := F) wf cfg hns hinj hq c hc
  rw [hsel] at hoq'; cases hoq'
  have hn : ∀ y, y ∈ nodesOf (Spec.eval (F := F) d q ⟨c, 1, 1⟩) ↔ y = n := fun y => by
    rw [← hmq y]; exact h y
  exact (naive_computes wf cfg hns hinj hp.pathPF n (hvq n ((hn n).2 rfl))).1.same
    (naive_computes wf cfg hns hinj (appendPath_pathPF hq hp) c hc).1
    (plug_single (hp.plug d q) (opath_pathPF d hq) _ n hn)

/-- absolute step chains of any make: the leaf is `.root _`, above it steps, predicates (whatever
they are made of) and parentheses. Start-node independence uses no more of `AbsPF`, `AbsFrag`,
`AbsFrag2` than this shape. -/
inductive AbsChain : Ast → Prop
  | root (s : String) : AbsChain (.root s)
  | axis (a : AxisInfo) (inp : Ast) : AbsChain inp → AbsChain (.axis a inp)
  | filter (inp b : Ast) : AbsChain inp → AbsChain (.filter inp b)
  | group (p : Ast) : AbsChain p → AbsChain (.group p)

/-- **start-node independence (oracle)**: an absolute chain has the same value (node-set *and*
proximity groups) in every context -/
theorem AbsChain.eval_indep (d : Doc) {p : Ast} (hp : AbsChain p) (c₁ c₂ : Spec.Ctx) :
    Spec.eval (F := F) d p c₁ = Spec.eval (F := F) d p c₂ := by
  induction hp with
  | root s => simp only [Spec.eval]
  | axis a inp _ ih => simp only [Spec.eval, ih]
  | filter inp b _ ih => simp only [Spec.eval, ih]
  | group p _ ih => simp only [Spec.eval, ih]

theorem AbsPF.chain {p : Ast} (h : AbsPF p) : AbsChain p := by
  induction h with
  | root s => exact .root s
  | axis a inp _ _ ih => exact .axis a inp ih

theorem abs_eval_indep (d : Doc) {p : Ast} (hp : AbsPF p) (c₁ c₂ : Spec.Ctx) :
    Spec.eval (F := F) d p c₁ = Spec.eval (F := F) d p c₂ :=
  hp.chain.eval_indep d c₁ c₂

/-- **start-node independence (model, built plan, through C01)**: the plan `build` produces for an
absolute predicate-free path selects the same node set from any two valid start nodes, and that set
is the oracle's value of the path (at any context) -/
theorem abs_build_indep {d : Doc} (wf : WF d) (cfg : ECfg) (hns : cfg.nsIface = true)
    (hinj : HashInj d cfg) (regexOk : RegexOk) (limit : Nat) (sdf : Bool) {p : Ast} (hp : AbsPF p)
    (st : BState) (o : BOut) (hb : build regexOk limit true sdf p {} st = .ok o)
    (c₁ c₂ : Ref) (h₁ : validRef d c₁ = true) (h₂ : validRef d c₂ = true) :
    ∃ o1 o2, sel (F := F) d cfg o.q c₁ = .ok o1 ∧ sel (F := F) d cfg o.q c₂ = .ok o2 ∧
      ∀ x, x ∈ refs o1 ↔ x ∈ refs o2 :=
  (build_computes wf cfg hns hinj regexOk limit sdf hp.pathPF st o hb c₁ h₁).same
    (build_computes wf cfg hns hinj regexOk limit sdf hp.pathPF st o hb c₂ h₂)
    (fun x => by rw [abs_eval_indep d hp ⟨c₁, 1, 1⟩ ⟨c₂, 1, 1⟩])

/-! ## §4 Wrapper identities (model side) -/

/-- `P | P` with the no-collision hypothesis stated on the nodes `P` selects: same node set as `P`,
each node once -/
theorem union_self_local (d : Doc) (cfg : ECfg) (p : Plan) (c : Ref) (a : List Item)
    (h : sel (F := F) d cfg p c = .ok a)
    (hinj : ∀ x ∈ refs a, ∀ y ∈ refs a, identityHash d cfg x = identityHash d cfg y → x = y) :
    ∃ out, sel (F := F) d cfg (.union p p) c = .ok out ∧
      (∀ x, x ∈ refs out ↔ x ∈ refs a) ∧ (refs out).Nodup := by
  have hmem : ∀ x, x ∈ (a ++ a).map (·.r) ↔ x ∈ refs a := by
    intro x; simp [refs]
  obtain ⟨out, ho, hm, hnd⟩ := Theorems.C11.C11_union (F := F) d cfg p p c a a h h
    (fun x hx y hy => hinj x ((hmem x).1 hx) y ((hmem y).1 hy))
  exact ⟨out, ho, fun x => by rw [show refs out = out.map (·.r) from rfl, hm]; simp [refs], hnd⟩

/-- **`P | P`** under `HashInj`: when `P` selects valid nodes, `P | P` selects the same node set,
each node once -/
theorem union_self (d : Doc) (cfg : ECfg) (hinj : HashInj d cfg) (p : Plan) (c : Ref) (a : List Item)
    (h : sel (F := F) d cfg p c = .ok a) (hv : ∀ x ∈ refs a, validRef d x = true) :
    ∃ out, sel (F := F) d cfg (.union p p) c = .ok out ∧
      (∀ x, x ∈ refs out ↔ x ∈ refs a) ∧ (refs out).Nodup :=
  union_self_local d cfg p c a h (fun x hx y hy => hinj x y (hv x hx) (hv y hy))

/-- `P | P` fails exactly when `P` does -/
theorem union_self_error (d : Doc) (cfg : ECfg) (p : Plan) (c : Ref) (e : EErr)
    (h : sel (F := F) d cfg p c = .error e) : sel (F := F) d cfg (.union p p) c = .error e := by
  simp [sel, h, bind, Except.bind]

/-- oracle side: `P | P` denotes the (valid) nodes of `P` -/
theorem union_self_spec (d : Doc) (p : Ast) (c : Spec.Ctx) (l : List Ref) (g : Option (List (List Ref)))
    (h : Spec.eval (F := F) d p c = .ok (.val (.nodes l) g)) :
    Spec.eval (F := F) d (.oper "|" p p) c = .ok (.val (.nodes (Spec.docOrder d (l ++ l))) none) ∧
      ∀ x, x ∈ Spec.docOrder d (l ++ l) ↔ (x ∈ l ∧ validRef d x = true) := by
  refine ⟨?_, fun x => by rw [mem_docOrder]; simp⟩
  simp [Spec.eval, h, bind, Except.bind, Spec.Res.value, Spec.asNodes, Spec.CmpOp.ofString]

def truePlan : Plan := .func "true" .nil .pnil

theorem build_true (regexOk : RegexOk) (limit : Nat) (b1 b2 : Bool) (pfx : String) (fl : Flags)
    (st : BState) (o : BOut) (h : build regexOk limit b1 b2 (.call "true" pfx .anil) fl st = .ok o) :
    o.q = truePlan :=
  (build_call0_plain (by decide) (by decide) (by decide) rfl h).1

theorem evalP_true (d : Doc) (cfg : ECfg) (r : Ref) :
    evalP (F := F) d cfg truePlan r = .ok (.bool true) := by
  simp only [truePlan, evalP, argVals, bind, Except.bind, pure, Except.pure]
  rfl

theorem keep_all_true {α : Type} (l : List α) :
    (l.zip (l.map fun _ => true)).filterMap (fun (p : α × Bool) => if p.2 then some p.1 else none) = l := by
  induction l with
  | nil => rfl
  | cons a t ih => simp [ih]

/-- `Model.callFn_not` / `Model.callFn_boolean` on a single argument outcome -/
theorem callFn_not1 (d : Doc) (cfg : ECfg) (fi : Plan) (c : Ref) (a : Except EErr (MVal F))
    (asel : Option (List Ref)) :
    callFn (F := F) d cfg "not" fi c [a] asel =
      (do let v ← a; let b ← asBoolM v; .ok (.bool (!b))) :=
  Model.callFn_not d cfg fi c [a] asel

theorem callFn_boolean1 (d : Doc) (cfg : ECfg) (fi : Plan) (c : Ref) (a : Except EErr (MVal F))
    (asel : Option (List Ref)) :
    callFn (F := F) d cfg "boolean" fi c [a] asel =
      (do let v ← a; let b ← asBoolM v; .ok (.bool b)) :=
  Model.callFn_boolean d cfg fi c [a] asel

/-- `not(not(a))` is `boolean(a)` on **any** argument outcome (with the repaired `notFunc`): a value
of any type — the Go `int` of `round()` makes both sides panic alike — or a failure; the `position()`
inputs `fi₁ fi₂ fi₃` and the `Select` views play no part -/
theorem not_not_callFn (d : Doc) (cfg : ECfg) (fi₁ fi₂ fi₃ : Plan) (c : Ref) (a : Except EErr (MVal F))
    (asel asel' asel'' : Option (List Ref)) :
    callFn (F := F) d cfg "not" fi₁ c [callFn (F := F) d cfg "not" fi₂ c [a] asel] asel' =
      callFn (F := F) d cfg "boolean" fi₃ c [a] asel'' := by
  rw [callFn_not1, callFn_not1, callFn_boolean1]
  rcases a with e | v
  · rfl
  · rcases h : asBoolM v with e | b
    · simp only [h, bind, Except.bind]
    · simp only [h, bind, Except.bind]
      exact congrArg (fun b => Except.ok (MVal.bool b)) (Bool.not_not b)

theorem not_not_any (d : Doc) (cfg : ECfg) (fi : Plan) (c : Ref) (a : Except EErr (MVal F))
    (asel asel' asel'' : Option (List Ref)) :
    callFn (F := F) d cfg "not" fi c [callFn (F := F) d cfg "not" fi c [a] asel] asel' =
      callFn (F := F) d cfg "boolean" fi c [a] asel'' :=
  not_not_callFn d cfg fi fi fi c a asel asel' asel''

/-- at `callFn` level, on a node-set argument (what a path evaluates to) -/
theorem not_not_nodes (d : Doc) (cfg : ECfg) (fi : Plan) (c : Ref) (l : List Ref)
    (asel asel' asel'' : Option (List Ref)) :
    callFn (F := F) d cfg "not" fi c [callFn (F := F) d cfg "not" fi c [.ok (.nodes l)] asel] asel' =
      callFn (F := F) d cfg "boolean" fi c [.ok (.nodes l)] asel'' :=
  not_not_any d cfg fi c _ asel asel' asel''

/-- at `callFn` level, on a boolean argument -/
theorem not_not_bool (d : Doc) (cfg : ECfg) (fi : Plan) (c : Ref) (b : Bool)
    (asel asel' asel'' : Option (List Ref)) :
    callFn (F := F) d cfg "not" fi c [callFn (F := F) d cfg "not" fi c [.ok (.bool b)] asel] asel' =
      callFn (F := F) d cfg "boolean" fi c [.ok (.bool b)] asel'' :=
  not_not_any d cfg fi c _ asel asel' asel''

/-- a failing argument fails all three the same way -/
theorem not_not_error (d : Doc) (cfg : ECfg) (fi : Plan) (c : Ref) (e : EErr)
    (asel asel' asel'' : Option (List Ref)) :
    callFn (F := F) d cfg "not" fi c [callFn (F := F) d cfg "not" fi c [.error e] asel] asel' =
      callFn (F := F) d cfg "boolean" fi c [.error e] asel'' :=
  not_not_any d cfg fi c _ asel asel' asel''

/-- oracle: `not(not(v)) = boolean(v)` for every value -/
theorem spec_not_not (d : Doc) (c : Spec.Ctx) (v : Spec.Value F) :
    (Spec.callFn (F := F) d c "not" [v] >>= fun w => Spec.callFn (F := F) d c "not" [w]) =
      Spec.callFn (F := F) d c "boolean" [v] := by
  simp only [Spec.callFn_not, Spec.callFn_boolean, bind, Except.bind, Spec.toBool, Bool.not_not]

/-- the model's `boolean(v)` on a value the oracle also has (`w`): both are `Spec.toBool w` -/
theorem not_not_spec_of (d : Doc) (cfg : ECfg) (fi : Plan) (c : Ref) (v : MVal F) (w : Spec.Value F)
    (h : asBoolM v = .ok (Spec.toBool w)) :
    callFn (F := F) d cfg "not" fi c [callFn (F := F) d cfg "not" fi c [.ok v] none] none =
      .ok (.bool (Spec.toBool w)) ∧
    callFn (F := F) d cfg "boolean" fi c [.ok v] none = .ok (.bool (Spec.toBool w)) := by
  rw [not_not_any (asel'' := none), callFn_boolean1]
  simp only [h, bind, Except.bind, and_self]

/-- model = oracle for `boolean(P)` and `not(not(P))` on node-sets: both are "`P` is non-empty" -/
theorem not_not_nodes_spec (d : Doc) (cfg : ECfg) (fi : Plan) (c : Ref) (sc : Spec.Ctx) (l : List Ref) :
    callFn (F := F) d cfg "not" fi c [callFn (F := F) d cfg "not" fi c [.ok (.nodes l)] none] none =
      .ok (.bool (!l.isEmpty)) ∧
    callFn (F := F) d cfg "boolean" fi c [.ok (.nodes l)] none = .ok (.bool (!l.isEmpty)) ∧
    Spec.callFn (F := F) d sc "boolean" [.nodes l] = .ok (.bool (!l.isEmpty)) :=
  ⟨(not_not_spec_of d cfg fi c (.nodes l) (.nodes l) rfl).1,
    (not_not_spec_of d cfg fi c (.nodes l) (.nodes l) rfl).2, Spec.callFn_boolean d sc _⟩

/-- plan level, unconditional: `not(not(P))` and `boolean(P)` evaluate alike for **every** plan `P`
(whatever it evaluates to, failures included) -/
theorem not_not_plan_spec (d : Doc) (cfg : ECfg) (fi₁ fi₂ fi₃ : Plan) (P : Plan) (c : Ref) :
    evalP (F := F) d cfg (.func "not" fi₁ (.pcons (.func "not" fi₂ (.pcons P .pnil)) .pnil)) c =
      evalP (F := F) d cfg (.func "boolean" fi₃ (.pcons P .pnil)) c := by
  rw [evalP_func1 _ _ _ _ _ _ rfl, evalP_func1 _ _ _ _ _ _ rfl, evalP_func1 _ _ _ _ _ _ rfl]
  exact not_not_callFn d cfg fi₁ fi₂ fi₃ c _ none none none

/-- plan level: `not(not(P))` and `boolean(P)` evaluate alike whenever `P` evaluates to a node-set
(or a boolean, or fails) — the hypothesis is not used (`not_not_plan_spec`) -/
theorem not_not_plan (d : Doc) (cfg : ECfg) (fi₁ fi₂ fi₃ : Plan) (P : Plan) (c : Ref)
    (_h : (∃ l, evalP (F := F) d cfg P c = .ok (.nodes l)) ∨ (∃ b, evalP (F := F) d cfg P c = .ok (.bool b)) ∨
      (∃ e, evalP (F := F) d cfg P c = .error e)) :
    evalP (F := F) d cfg (.func "not" fi₁ (.pcons (.func "not" fi₂ (.pcons P .pnil)) .pnil)) c =
      evalP (F := F) d cfg (.func "boolean" fi₃ (.pcons P .pnil)) c :=
  not_not_plan_spec d cfg fi₁ fi₂ fi₃ P c

/-- `not(not(number))` is `boolean(number)`: "non-zero and not NaN" -/
theorem not_not_num_spec (d : Doc) (cfg : ECfg) (fi : Plan) (c : Ref) (x : F) :
    callFn (F := F) d cfg "not" fi c [callFn (F := F) d cfg "not" fi c [.ok (.num x)] none] none =
      .ok (.bool (Spec.toBool (F := F) (.num x))) ∧
    callFn (F := F) d cfg "boolean" fi c [.ok (.num x)] none = .ok (.bool (Spec.toBool (F := F) (.num x))) :=
  not_not_spec_of d cfg fi c (.num x) (.num x) rfl

/-- `not(not(string))` is `boolean(string)`: "non-empty" -/
theorem not_not_str_spec (d : Doc) (cfg : ECfg) (fi : Plan) (c : Ref) (s : String) :
    callFn (F := F) d cfg "not" fi c [callFn (F := F) d cfg "not" fi c [.ok (.str s)] none] none =
      .ok (.bool (Spec.toBool (F := F) (.str s))) ∧
    callFn (F := F) d cfg "boolean" fi c [.ok (.str s)] none = .ok (.bool (Spec.toBool (F := F) (.str s))) :=
  not_not_spec_of d cfg fi c (.str s) (.str s) rfl

end XPathV.Compose
