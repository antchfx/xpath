import XPathV.Lemmas.ParserShape
/-!
# Equations of the parser model

`Call` names a call of one of the fifteen mutually recursive parser functions by its arguments other than fuel,
configuration and state, and `run` is that call: a statement about all fifteen is one `Call`-indexed statement
about `run`, proved by one induction on the fuel.  Beside it, the two parts of the parser that do not recurse,
turned round: what an accepted `parse` is (`parse_ok`), and the four forms of a successful `parseNodeTest`
(`NodeTestOk`, `nodeTest_ok`).
-/
namespace XPathV.NameSem
open XPathV XPathV.Model

/-- the local name `parseNodeTest` records: the name of the token, except that the name `*` (the
scanner's rendering of `pfx:*`) stands for "any local name" and is recorded as the empty name.  It is
decided on the name token itself, before the token is consumed. -/
def scannedLocal (st : PState) : String := if st.s.name == "*" then "" else st.s.name

/-- the `AxisInfo` of a name test `pfx:lname` (or `lname`, `pfx = ""`) under the namespace map `ns`;
`none`: the prefix is not bound.  No binding is ever applied to an unprefixed name. -/
def nameInfo (ns : Option (List (String × String))) (axis : String) (mt : NType) (pfx lname : String) :
    Option AxisInfo :=
  if pfx = "" then some ⟨axis, mt, "", lname, "", false, ""⟩ else
  match ns with
  | none => some ⟨axis, mt, pfx, lname, "", false, ""⟩
  | some m =>
    match m.lookup pfx with
    | some uri => some ⟨axis, mt, pfx, lname, "", true, uri⟩
    | none => none

/-- a name token that is not a node-type test: `parseNodeTest` consumes that token and yields the step
whose `AxisInfo` is `nameInfo …` over the input it was given, or fails with `prefixUndefined` -/
theorem parseNodeTest_name_eq (cfg : PCfg) (inp : Ast) (axis : String) (mt : NType) (st : PState)
    (ht : st.s.typ = .name) (hnf : (st.s.canBeFunc && isNodeType st.s) = false) :
    parseNodeTest cfg inp axis mt st =
      st.next >>= fun st1 =>
        match nameInfo cfg.ns axis mt st.s.pfx (scannedLocal st) with
        | some a => .ok (.axis a inp, st1)
        | none => .error .prefixUndefined := by
  unfold parseNodeTest nameInfo scannedLocal
  simp only [ht, hnf, Bool.false_eq_true, ↓reduceIte, mkAxis, pure, Except.pure]
  congr 1
  funext st1
  by_cases hp : st.s.pfx = ""
  · simp [hp]
  · simp only [bne_iff_ne, ne_eq, hp, not_false_eq_true, ↓reduceIte]
    cases cfg.ns with
    | none => rfl
    | some m =>
      dsimp only
      cases m.lookup st.s.pfx <;> rfl

theorem nameInfo_fields {ns : Option (List (String × String))} {axis : String} {mt : NType}
    {pfx lname : String} {a : AxisInfo} (h : nameInfo ns axis mt pfx lname = some a) :
    a.axis = axis ∧ a.typeTest = mt ∧ a.lname = lname ∧ a.pfx = pfx ∧
      (a.hasNS = true ↔ ∃ m uri, pfx ≠ "" ∧ ns = some m ∧ m.lookup pfx = some uri ∧ a.nsURI = uri) := by
  unfold nameInfo at h
  split at h
  · rename_i hp
    cases h
    exact ⟨rfl, rfl, rfl, hp.symm, by simp [hp]⟩
  · rename_i hp
    split at h
    · cases h
      exact ⟨rfl, rfl, rfl, rfl, by simp⟩
    · rename_i m
      split at h
      · rename_i uri hu
        cases h
        exact ⟨rfl, rfl, rfl, rfl, by simp [hp, hu]⟩
      · cases h

end XPathV.NameSem

namespace XPathV.Lemmas.ParserRun
open XPathV XPathV.Model XPathV.NameSem
open XPathV.Lemmas.ParserShape (bind_ok)

inductive Call
  | expr
  | chain (stages : List Stage)
  | tier (ops : List String) (rest : List Stage) (opnd : Ast)
  | path
  | filter
  | pred
  | primary
  | method
  | args
  | loc
  | rel (inp : Ast)
  | step (inp : Ast)
  | preds (opnd : Ast)
  | seq (inp : Ast)
  | seqLoop (inp opnd : Ast)

def run (cfg : PCfg) (f : Nat) : Call → PState → PRes
  | .expr, st => parseExpression f cfg st
  | .chain stages, st => parseChain f cfg stages st
  | .tier ops rest opnd, st => tierLoop f cfg ops rest opnd st
  | .path, st => parsePathExpr f cfg st
  | .filter, st => parseFilterExpr f cfg st
  | .pred, st => parsePredicate f cfg st
  | .primary, st => parsePrimary f cfg st
  | .method, st => parseMethod f cfg st
  | .args, st => parseArgs f cfg st
  | .loc, st => parseLocationPath f cfg st
  | .rel inp, st => parseRelLoc f cfg inp st
  | .step inp, st => parseStep f cfg inp st
  | .preds opnd, st => stepPreds f cfg opnd st
  | .seq inp, st => parseSequence f cfg inp st
  | .seqLoop inp opnd, st => seqLoop f cfg inp opnd st

theorem ok_inj {α : Type} {a b : α} (h : (pure a : Except PErr α) = .ok b) : a = b := by
  cases h
  rfl

theorem run_zero (cfg : PCfg) (c : Call) (st : PState) : run cfg 0 c st = .error .fuel := by
  cases c <;> rfl

/-- an accepted text: it scans, `parseExpression` returns the tree, and the whole text has been read -/
theorem parse_ok {fuel : Nat} {cfg : PCfg} {text : List Char} {a : Ast} :
    parse fuel cfg text = .ok a ↔
      ∃ s st', Scan.init text = .ok s ∧ parseExpression fuel cfg { s := s, d := 0 } = .ok (a, st') ∧
        st'.s.typ = .eof := by
  unfold parse
  constructor
  · intro h
    split at h
    · cases h
    · rename_i s hs
      obtain ⟨⟨a', st'⟩, h1, h⟩ := bind_ok h
      dsimp only at h
      split at h
      · rename_i he
        cases h
        exact ⟨s, st', hs, h1, eq_of_beq he⟩
      · cases h
  · rintro ⟨s, st', hs, h1, he⟩
    rw [hs]
    dsimp only
    rw [h1]
    show (if (st'.s.typ == Tok.eof) = true then pure a else Except.error PErr.invalidToken) = Except.ok a
    rw [he]
    rfl

/-- the type test a node-type name stands for; `processing-instruction` keeps the principal node type `mt` -/
def typeTest (prop : String) (mt : NType) : NType :=
  match prop with
  | "comment" => NType.comment
  | "text" => .text
  | "processing-instruction" => mt
  | "node" => .all
  | _ => .root

/-- the four forms of a successful `parseNodeTest`: a name test, a node-type test without and with a literal, `*` -/
inductive NodeTestOk (cfg : PCfg) (inp : Ast) (axis : String) (mt : NType) (st : PState) : Ast → PState → Prop
  | name {st1 info} : st.s.typ = .name → (st.s.canBeFunc && isNodeType st.s) = false → st.next = .ok st1 →
      nameInfo cfg.ns axis mt st.s.pfx (scannedLocal st) = some info →
      NodeTestOk cfg inp axis mt st (.axis info inp) st1
  | type {st1 st2 st3} : st.s.typ = .name → (st.s.canBeFunc && isNodeType st.s) = true → st.next = .ok st1 →
      st1.skipItem .lparen = .ok st2 → st2.skipItem .rparen = .ok st3 →
      NodeTestOk cfg inp axis mt st (mkAxis axis (typeTest st.s.name mt) "" "" st.s.name inp) st3
  | pi {st1 st2 st3 st4} : st.s.typ = .name → (st.s.canBeFunc && isNodeType st.s) = true → st.next = .ok st1 →
      st1.skipItem .lparen = .ok st2 → st2.s.typ = .string → st2.next = .ok st3 → st3.skipItem .rparen = .ok st4 →
      NodeTestOk cfg inp axis mt st (mkAxis axis (typeTest st.s.name mt) st2.s.strval "" st.s.name inp) st4
  | star {st1} : st.s.typ = .star → st.next = .ok st1 →
      NodeTestOk cfg inp axis mt st (mkAxis axis mt "" "" "" inp) st1

theorem nodeTest_ok {cfg : PCfg} {inp : Ast} {axis : String} {mt : NType} {st st' : PState} {a : Ast}
    (h : parseNodeTest cfg inp axis mt st = .ok (a, st')) : NodeTestOk cfg inp axis mt st a st' := by
  by_cases hname : st.s.typ = .name ∧ (st.s.canBeFunc && isNodeType st.s) = false
  · rw [parseNodeTest_name_eq cfg inp axis mt st hname.1 hname.2] at h
    obtain ⟨st1, h1, h⟩ := bind_ok h
    split at h
    · rename_i info hi
      cases h
      exact .name hname.1 hname.2 h1 hi
    · cases h
  unfold parseNodeTest at h
  split at h
  · rename_i hty
    split at h
    · rename_i hc
      obtain ⟨st1, h1, h⟩ := bind_ok h
      obtain ⟨st2, h2, h⟩ := bind_ok h
      dsimp only at h
      split at h
      · split at h
        · rename_i hstr
          obtain ⟨st3, h3, h⟩ := bind_ok h
          obtain ⟨⟨nm, st3'⟩, h3', h⟩ := bind_ok h
          cases ok_inj h3'
          obtain ⟨st4, h4, h⟩ := bind_ok h
          cases ok_inj h
          exact .pi hty hc h1 h2 (eq_of_beq hstr) h3 h4
        · obtain ⟨_, h3, _⟩ := bind_ok h
          cases h3
      · obtain ⟨⟨nm, st3'⟩, h3', h⟩ := bind_ok h
        cases ok_inj h3'
        obtain ⟨st4, h4, h⟩ := bind_ok h
        cases ok_inj h
        exact .type hty hc h1 h2 h4
    · rename_i hc
      exact absurd ⟨hty, by simpa using hc⟩ hname
  · rename_i hty
    obtain ⟨st1, h1, h⟩ := bind_ok h
    cases ok_inj h
    exact .star hty h1
  · cases h

end XPathV.Lemmas.ParserRun
