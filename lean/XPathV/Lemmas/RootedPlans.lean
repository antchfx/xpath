import XPathV.Model.Api
import XPathV.Lemmas.Facts
/-!
# Rooted plans: start-node independence (base lemmas of C13)

`Rooted` (steps, parentheses and unions over `absoluteQuery`) and its extension `Rooted2` by filters
and merges.  `Rooted2`, `rooted2_of_rooted` and `abs_start_indep2` are declared here in
`namespace XPathV.Compose2`, below `Compose2` in the import order, so that one induction serves both:
`abs_start_indep` is the corollary.
-/
namespace XPathV.RootedPlans
open XPathV XPathV.Model XPathV.Facts NumAlg

variable {F : Type} [NumAlg F]

/-- a plan is *rooted* when every read of the context outside predicates goes through
`absoluteQuery` -/
def Rooted : Plan → Bool
  | .absolute => true
  | .child _ i | .cachedChild _ i | .attr _ i | .parent _ i | .self _ i | .descendant _ _ i | .ancestor _ _ i
  | .following _ _ i | .preceding _ _ i | .descOverDesc _ _ i | .group i | .transform _ i => Rooted i
  | .union l r => Rooted l && Rooted r
  | _ => false

end XPathV.RootedPlans

namespace XPathV.Compose2
open XPathV XPathV.Model

variable {F : Type} [NumAlg F]

/-- a plan is *rooted* when every read of the start node outside predicates goes through
`absoluteQuery`: `RootedPlans.Rooted` extended by `.filter inp pred` (the predicate is evaluated at
the candidates `inp` yields, never at the start node) and `.merge inp child` (`child` is started at
the nodes `inp` yields) -/
def Rooted2 : Plan → Bool
  | .absolute => true
  | .child _ i | .cachedChild _ i | .attr _ i | .parent _ i | .self _ i | .descendant _ _ i | .ancestor _ _ i
  | .following _ _ i | .preceding _ _ i | .descOverDesc _ _ i | .group i | .transform _ i => Rooted2 i
  | .filter i _ => Rooted2 i
  | .merge i _ => Rooted2 i
  | .union l r => Rooted2 l && Rooted2 r
  | _ => false

theorem rooted2_of_rooted (p : Plan) (h : RootedPlans.Rooted p = true) : Rooted2 p = true := by
  induction p with
  | absolute => rfl
  | child a i ih | cachedChild a i ih | attr a i ih | parent a i ih | self a i ih | group i ih =>
    simp only [RootedPlans.Rooted] at h; simp only [Rooted2, ih h]
  | descendant a s i ih | ancestor a s i ih | following a s i ih | preceding a s i ih | descOverDesc a s i ih | transform n i ih =>
    simp only [RootedPlans.Rooted] at h; simp only [Rooted2, ih h]
  | union l r ihl ihr =>
    simp only [RootedPlans.Rooted, Bool.and_eq_true] at h
    simp only [Rooted2, ihl h.1, ihr h.2, Bool.and_self]
  | _ => simp [RootedPlans.Rooted] at h

/-- a step, or a parenthesis, is rooted exactly when its input is -/
theorem rooted2_inputOf {q i : Plan} (h : q.inputOf = some i) : Rooted2 q = Rooted2 i := by
  cases q <;> cases h <;> rfl

/-- **start-node independence**: a rooted plan — filters and merges included — yields the same
sequence (or the same failure) from every start node -/
theorem abs_start_indep2 (d : Doc) (cfg : ECfg) (p : Plan) (h : Rooted2 p = true) (c₁ c₂ : Ref) :
    sel (F := F) d cfg p c₁ = sel (F := F) d cfg p c₂ := by
  induction p with
  | absolute => simp [sel]
  | child a i ih | cachedChild a i ih | attr a i ih | parent a i ih | self a i ih | group i ih =>
    simp only [Rooted2] at h; simp only [sel, ih h]
  | descendant a s i ih | ancestor a s i ih | following a s i ih | preceding a s i ih | descOverDesc a s i ih | transform n i ih =>
    simp only [Rooted2] at h; simp only [sel, ih h]
  | filter i pr ih _ =>
    simp only [Rooted2] at h; simp only [sel, ih h]
  | merge i ch ih _ =>
    simp only [Rooted2] at h; simp only [sel, ih h]
  | union l r ihl ihr =>
    simp only [Rooted2, Bool.and_eq_true] at h
    simp only [sel, ihl h.1, ihr h.2]
  | _ => simp [Rooted2] at h

end XPathV.Compose2

namespace XPathV.RootedPlans
open XPathV XPathV.Model XPathV.Facts NumAlg

variable {F : Type} [NumAlg F]

/-- **start-node independence**: a rooted plan yields the same sequence from every start node -/
theorem abs_start_indep (d : Doc) (cfg : ECfg) (p : Plan) (h : Rooted p = true) (c₁ c₂ : Ref) :
    sel (F := F) d cfg p c₁ = sel (F := F) d cfg p c₂ :=
  Compose2.abs_start_indep2 d cfg p (Compose2.rooted2_of_rooted p h) c₁ c₂

end XPathV.RootedPlans
