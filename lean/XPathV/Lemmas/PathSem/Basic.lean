import XPathV.Lemmas.AxesLemmas
import XPathV.Lemmas.C11Base
import XPathV.Lemmas.BuildInv
/-!
# C01 helpers — the node set each axis plan yields, per origin node

`C11Base` is imported for `Theorems.C11.dedup_subset`/`dedup_complete`: the ancestor steps de-duplicate by
key with the same `dedupByKey` as union.
-/
namespace XPathV.PathSem
open XPathV XPathV.Model

variable {F : Type} [NumAlg F]

/-- the nodes the model's walk for axis `ax` visits from origin `o` (before the node test) -/
def axisRefsM (d : Doc) (ax : String) (o : Ref) : List Ref :=
  match ax with
  | "child" => childrenM d o
  | "descendant" => (descM d o).map (·.1)
  | "descendant-or-self" => o :: (descM d o).map (·.1)
  | "parent" => (Nav.moveParent d o).toList
  | "ancestor" => ancestorsM d o
  | "ancestor-or-self" => o :: ancestorsM d o
  | "following" => (if o.isAttr then (descM d (.node o.idx)).map (·.1) else []) ++
      (followRoots d (2 * d.length + 2) o).flatMap (fun r => r :: (descM d r).map (·.1))
  | "following-sibling" => nextSibsM d o
  | "preceding" => (precRoots d (2 * d.length + 2) o false).flatMap
      (fun rb => rb.1 :: (descM d rb.1).map (·.1))
  | "preceding-sibling" => prevSibsM d o
  | "attribute" => attrsM d o
  | "self" => [o]
  | _ => []

/-- the key union and ancestor de-duplicate with is injective on the nodes of `d`.  Since the repair of
`getNodeKey` the engine compares the key strings, not a 64-bit hash of them, and this holds:
`hashInj_holds`. -/
def HashInj (d : Doc) (cfg : ECfg) : Prop :=
  ∀ a b, validRef d a = true → validRef d b = true →
    identityHash d cfg a = identityHash d cfg b → a = b

/-- **`HashInj` holds**: on a well-formed document in which no element has two attributes with the same
prefix, local name and value (XML well-formedness gives more: no two attributes with the same qualified
name), two valid nodes with the same node key are the same node.  No assumption on names (empty or
not), none on the configuration. -/
theorem hashInj_holds {d : Doc} (wf : WF d) (hattr : AttrTriplesDistinct d) (cfg : ECfg) :
    HashInj d cfg :=
  fun a b ha hb h => identityKey_inj wf hattr cfg a b ha hb h

/-- the same from the XML well-formedness constraint "attribute names are unique" -/
theorem hashInj_of_attrNames {d : Doc} (wf : WF d) (hattr : AttrNamesDistinct d) (cfg : ECfg) :
    HashInj d cfg := hashInj_holds wf hattr.triples cfg

/-- the side condition of `hashInj_holds` is necessary: `HashInj` implies it (two attributes of one
element with the same prefix, name and value have the same key) -/
theorem attrTriples_of_hashInj {d : Doc} {cfg : ECfg} (h : HashInj d cfg) : AttrTriplesDistinct d := by
  intro i k₁ k₂ hi h₁ h₂ e₁ e₂ e₃
  have := h (.attr i k₁) (.attr i k₂) (by simp [validRef, hi, h₁]) (by simp [validRef, hi, h₂])
    (identityKey_attr_collide d cfg i k₁ k₂ e₁ e₂ e₃)
  injection this

/-- on a well-formed document, `HashInj` is exactly `AttrTriplesDistinct` -/
theorem hashInj_iff {d : Doc} (wf : WF d) (cfg : ECfg) : HashInj d cfg ↔ AttrTriplesDistinct d :=
  ⟨attrTriples_of_hashInj, fun h => hashInj_holds wf h cfg⟩

abbrev refs (l : List Item) : List Ref := l.map (·.r)

/-! ## The twelve axis names: the plan constructor and the walk each stands for -/

-- for one effect: the equation lemmas of the two tables are derived here once, so that the proofs
-- below find them (as in `AxesLemmas`)
section
attribute [local simp] stepPlan axisRefsM
end

theorem stepPlan_descendant {a : AxisInfo} (h : a.axis = "descendant") (inp : Plan) :
    stepPlan a inp = .descendant a false inp := by simp only [stepPlan, h]

theorem stepPlan_dos {a : AxisInfo} (h : a.axis = "descendant-or-self") (inp : Plan) :
    stepPlan a inp = .descendant a true inp := by simp only [stepPlan, h]

theorem stepPlan_parent {a : AxisInfo} (h : a.axis = "parent") (inp : Plan) :
    stepPlan a inp = .parent a inp := by simp only [stepPlan, h]

theorem stepPlan_ancestor {a : AxisInfo} (h : a.axis = "ancestor") (inp : Plan) :
    stepPlan a inp = .ancestor a false inp := by simp only [stepPlan, h]

theorem stepPlan_aos {a : AxisInfo} (h : a.axis = "ancestor-or-self") (inp : Plan) :
    stepPlan a inp = .ancestor a true inp := by simp only [stepPlan, h]

theorem stepPlan_following {a : AxisInfo} (h : a.axis = "following") (inp : Plan) :
    stepPlan a inp = .following a false inp := by simp only [stepPlan, h]

theorem stepPlan_followingSibling {a : AxisInfo} (h : a.axis = "following-sibling") (inp : Plan) :
    stepPlan a inp = .following a true inp := by simp only [stepPlan, h]

theorem stepPlan_preceding {a : AxisInfo} (h : a.axis = "preceding") (inp : Plan) :
    stepPlan a inp = .preceding a false inp := by simp only [stepPlan, h]

theorem stepPlan_precedingSibling {a : AxisInfo} (h : a.axis = "preceding-sibling") (inp : Plan) :
    stepPlan a inp = .preceding a true inp := by simp only [stepPlan, h]

theorem stepPlan_attribute {a : AxisInfo} (h : a.axis = "attribute") (inp : Plan) :
    stepPlan a inp = .attr a inp := by simp only [stepPlan, h]

theorem stepPlan_self {a : AxisInfo} (h : a.axis = "self") (inp : Plan) :
    stepPlan a inp = .self a inp := by simp only [stepPlan, h]

theorem axisRefsM_child (d : Doc) (o : Ref) : axisRefsM d "child" o = childrenM d o := by
  rw [axisRefsM]

theorem axisRefsM_descendant (d : Doc) (o : Ref) :
    axisRefsM d "descendant" o = (descM d o).map (·.1) := by rw [axisRefsM]

theorem axisRefsM_dos (d : Doc) (o : Ref) :
    axisRefsM d "descendant-or-self" o = o :: (descM d o).map (·.1) := by rw [axisRefsM]

theorem axisRefsM_parent (d : Doc) (o : Ref) :
    axisRefsM d "parent" o = (Nav.moveParent d o).toList := by rw [axisRefsM]

theorem axisRefsM_ancestor (d : Doc) (o : Ref) : axisRefsM d "ancestor" o = ancestorsM d o := by
  rw [axisRefsM]

theorem axisRefsM_aos (d : Doc) (o : Ref) :
    axisRefsM d "ancestor-or-self" o = o :: ancestorsM d o := by rw [axisRefsM]

theorem axisRefsM_following (d : Doc) (o : Ref) :
    axisRefsM d "following" o =
      (if o.isAttr then (descM d (.node o.idx)).map (·.1) else []) ++
        (followRoots d (2 * d.length + 2) o).flatMap (fun r => r :: (descM d r).map (·.1)) := by
  rw [axisRefsM]

theorem axisRefsM_followingSibling (d : Doc) (o : Ref) :
    axisRefsM d "following-sibling" o = nextSibsM d o := by rw [axisRefsM]

theorem axisRefsM_preceding (d : Doc) (o : Ref) :
    axisRefsM d "preceding" o =
      (precRoots d (2 * d.length + 2) o false).flatMap
        (fun rb => rb.1 :: (descM d rb.1).map (·.1)) := by rw [axisRefsM]

theorem axisRefsM_precedingSibling (d : Doc) (o : Ref) :
    axisRefsM d "preceding-sibling" o = prevSibsM d o := by rw [axisRefsM]

theorem axisRefsM_attribute (d : Doc) (o : Ref) : axisRefsM d "attribute" o = attrsM d o := by
  rw [axisRefsM]

theorem axisRefsM_self (d : Doc) (o : Ref) : axisRefsM d "self" o = [o] := by
  rw [axisRefsM]

/-- `numbered_map_r`, `plain_map_r`, `descItems_map_r` of `AxesLemmas` read through `refs` -/
theorem numbered_refs (l : List Ref) : refs (numbered l) = l := numbered_map_r l

theorem plain_refs (l : List Ref) : refs (plain l) = l := plain_map_r l

theorem leveled_refs (l : List (Ref × Nat)) :
    refs (l.zipIdx.map (fun (p, i) => (⟨p.1, i + 1, p.2⟩ : Item))) = l.map (·.1) :=
  descItems_map_r l

theorem refs_flatMap (l : List Item) (f : Item → List Item) :
    refs (l.flatMap f) = l.flatMap (fun it => refs (f it)) :=
  List.map_flatMap

theorem exists_mem_refs {ins : List Item} {P : Ref → Prop} :
    (∃ it ∈ ins, P it.r) ↔ ∃ o ∈ refs ins, P o :=
  ⟨fun ⟨it, hit, hx⟩ => ⟨it.r, List.mem_map.2 ⟨it, hit, rfl⟩, hx⟩,
    fun ⟨_, ho, hx⟩ => by obtain ⟨it, hit, rfl⟩ := List.mem_map.1 ho; exact ⟨it, hit, hx⟩⟩

theorem mem_refs_flatMap (l : List Item) (f : Item → List Item) (g : Ref → List Ref)
    (h : ∀ it, refs (f it) = g it.r) (x : Ref) :
    x ∈ refs (l.flatMap f) ↔ ∃ o ∈ refs l, x ∈ g o := by
  rw [refs_flatMap, List.mem_flatMap]
  simp only [h]
  exact exists_mem_refs (P := fun o => x ∈ g o)

/-- a step whose `Select` maps each input item to a block `f it`, the refs of the block being
`g it.r`: the output refs are the union of the `g o` over the input refs -/
theorem sel_blocks {d : Doc} {cfg : ECfg} {q inp : Plan} {c : Ref} {ins : List Item}
    {f : Item → List Item} (g : Ref → List Ref)
    (hq : sel (F := F) d cfg q c = (sel (F := F) d cfg inp c >>= fun ins => .ok (ins.flatMap f)))
    (hf : ∀ it, refs (f it) = g it.r) (h : sel (F := F) d cfg inp c = .ok ins) :
    ∃ out, sel (F := F) d cfg q c = .ok out ∧ ∀ x, x ∈ refs out ↔ ∃ o ∈ refs ins, x ∈ g o :=
  ⟨ins.flatMap f, by rw [hq, h]; rfl, mem_refs_flatMap ins f g hf⟩

theorem followingItems_refs (d : Doc) (cfg : ECfg) (a : AxisInfo) (n : Ref) :
    refs (followingItems d cfg a n) = (axisRefsM d "following" n).filter (test d cfg a) := by
  simp only [followingItems, axisRefsM_following, refs, List.map_append, List.filter_append]
  congr 1
  · split
    · exact numbered_refs _
    · rfl
  · rw [List.map_flatMap, List.filter_flatMap]
    congr 1; funext root
    exact numbered_refs _

theorem precFold_refs (d : Doc) (cfg : ECfg) (a : AxisInfo) (roots : List (Ref × Bool))
    (acc : List Item × Nat) :
    refs (roots.foldl (fun (acc : List Item × Nat) (rb : Ref × Bool) =>
        let (out, cnt) := acc
        let cnt := if rb.2 then 0 else cnt
        let ms := ((rb.1 :: (descM d rb.1).map (·.1)).filter (test d cfg a))
        (out ++ ms.zipIdx.map (fun (r, i) => (⟨r, cnt + i + 1, 0⟩ : Item)), cnt + ms.length)) acc).1 =
      refs acc.1 ++ roots.flatMap (fun rb => (rb.1 :: (descM d rb.1).map (·.1)).filter (test d cfg a)) := by
  induction roots generalizing acc with
  | nil => simp
  | cons rb rest ih =>
    rw [List.foldl_cons, ih]
    obtain ⟨out, cnt⟩ := acc
    simp only [refs, List.map_append, List.flatMap_cons, List.append_assoc, List.map_map]
    congr 2
    have : ∀ c : Nat, ((fun (x : Item) => x.r) ∘ fun (x : Ref × Nat) => (⟨x.1, c + x.2 + 1, 0⟩ : Item)) = Prod.fst := by
      intro c; funext x; rfl
    rw [this, List.zipIdx_map_fst]

theorem precedingItems_refs (d : Doc) (cfg : ECfg) (a : AxisInfo) (n : Ref) :
    refs (precedingItems d cfg a n) = (axisRefsM d "preceding" n).filter (test d cfg a) := by
  simp only [precedingItems, axisRefsM_preceding]
  rw [List.filter_flatMap]
  exact precFold_refs d cfg a _ ([], 0)


/-! ## Validity of what the walks produce (only what the ancestor de-duplication needs) -/

theorem moveParent_valid (d : Doc) (o p : Ref) (ho : validRef d o = true)
    (h : Nav.moveParent d o = some p) : validRef d p = true := by
  cases o with
  | node i =>
    simp only [Nav.moveParent, Option.map_eq_some_iff] at h
    obtain ⟨q, hq, rfl⟩ := h
    have := (parentFrom_some d _ _ _ hq).1
    simp only [validRef, decide_eq_true_eq] at ho ⊢
    omega
  | attr i k =>
    simp only [Nav.moveParent, Option.some.injEq] at h
    subst h
    simp only [validRef, Bool.and_eq_true, decide_eq_true_eq] at ho ⊢
    exact ho.1

theorem ancestorsM_valid (d : Doc) (o : Ref) (ho : validRef d o = true) :
    ∀ x ∈ ancestorsM d o, validRef d x = true := by
  rw [ancestorsM, ancestorsFrom_chain]
  exact chain_all (moveParent_valid d) _ o ho

/-- with an injective key `dedupByKey` preserves membership on valid refs -/
theorem mem_dedup (d : Doc) (cfg : ECfg) (hinj : HashInj d cfg) (l : List Ref)
    (hv : ∀ x ∈ l, validRef d x = true) (x : Ref) :
    x ∈ dedupByKey (identityHash d cfg) l [] ↔ x ∈ l := by
  constructor
  · exact Theorems.C11.dedup_subset _ _ _ x
  · intro hx
    apply Theorems.C11.dedup_complete _ _ _ (fun a ha b hb => hinj a b (hv a ha) (hv b hb)) x hx
    simp

/-- the ancestor steps: walk, node test, then de-duplication by key, which loses no node -/
theorem sel_ancestor_refs (d : Doc) (cfg : ECfg) (hinj : HashInj d cfg) (a : AxisInfo) (s : Bool)
    (inp : Plan) (c : Ref) (ins : List Item) (hv : ∀ o ∈ refs ins, validRef d o = true)
    (h : sel (F := F) d cfg inp c = .ok ins) :
    ∃ out, sel (F := F) d cfg (.ancestor a s inp) c = .ok out ∧
      ∀ x, x ∈ refs out ↔ ∃ o ∈ refs ins,
        x ∈ ((if s then [o] else []) ++ ancestorsM d o).filter (test d cfg a) := by
  refine ⟨_, by rw [sel, h]; rfl, fun x => ?_⟩
  rw [plain_refs, mem_dedup d cfg hinj, List.mem_flatMap]
  · exact exists_mem_refs
      (P := fun o => x ∈ ((if s then [o] else []) ++ ancestorsM d o).filter (test d cfg a))
  · intro y hy
    obtain ⟨it, hit, hy⟩ := List.mem_flatMap.1 hy
    have hiv := hv _ (List.mem_map.2 ⟨it, hit, rfl⟩)
    rcases List.mem_append.1 (List.mem_filter.1 hy).1 with hy | hy
    · split at hy
      · rw [List.mem_singleton.1 hy]; exact hiv
      · cases hy
    · exact ancestorsM_valid d it.r hiv y hy

/-! ## The node set of one step over an input sequence -/

/-- **one step, model side**: the plain plan of axis `a` over `inp` yields, from the refs `ins` of
its input, exactly the nodes the walk reaches from some origin in `ins` that pass the node test -/
theorem stepPlan_sem (d : Doc) (cfg : ECfg) (hinj : HashInj d cfg) (a : AxisInfo)
    (ha : a.axis ∈ axes12) (inp : Plan) (c : Ref) (ins : List Item)
    (hv : ∀ o ∈ refs ins, validRef d o = true)
    (h : sel (F := F) d cfg inp c = .ok ins) :
    ∃ out, sel (F := F) d cfg (stepPlan a inp) c = .ok out ∧
      ∀ x, x ∈ refs out ↔ ∃ o ∈ refs ins, x ∈ (axisRefsM d a.axis o).filter (test d cfg a) := by
  simp only [axes12, List.mem_cons, List.not_mem_nil, or_false] at ha
  rcases ha with hax | hax | hax | hax | hax | hax | hax | hax | hax | hax | hax | hax
  · -- child
    rw [stepPlan_child hax, hax]
    exact sel_blocks _ (by rw [sel]) (fun it => by rw [axisRefsM_child]; exact numbered_refs _) h
  · -- descendant
    rw [stepPlan_descendant hax, hax]
    refine sel_blocks _ (by rw [sel]) (fun it => ?_) h
    simp only [leveled_refs, axisRefsM_descendant, Bool.false_and, Bool.false_eq_true, ↓reduceIte,
      List.nil_append, List.filter_map, Function.comp_def]
  · -- descendant-or-self
    rw [stepPlan_dos hax, hax]
    refine sel_blocks _ (by rw [sel]) (fun it => ?_) h
    simp only [leveled_refs, axisRefsM_dos, Bool.true_and, List.filter_cons, List.map_append,
      List.filter_map, Function.comp_def]
    split <;> rfl
  · -- parent
    rw [stepPlan_parent hax, hax]
    exact sel_blocks _ (by rw [sel]) (fun it => by rw [axisRefsM_parent]; exact plain_refs _) h
  · -- ancestor
    rw [stepPlan_ancestor hax, hax]
    simpa only [axisRefsM_ancestor, Bool.false_eq_true, ↓reduceIte, List.nil_append] using
      sel_ancestor_refs (F := F) d cfg hinj a false inp c ins hv h
  · -- ancestor-or-self
    rw [stepPlan_aos hax, hax]
    simpa only [axisRefsM_aos, ↓reduceIte, List.singleton_append] using
      sel_ancestor_refs (F := F) d cfg hinj a true inp c ins hv h
  · -- following
    rw [stepPlan_following hax, hax]
    exact sel_blocks _ (by rw [sel]; rfl) (fun it => followingItems_refs d cfg a it.r) h
  · -- following-sibling
    rw [stepPlan_followingSibling hax, hax]
    exact sel_blocks _ (by rw [sel])
      (fun it => by rw [axisRefsM_followingSibling]; exact numbered_refs _) h
  · -- preceding
    rw [stepPlan_preceding hax, hax]
    exact sel_blocks _ (by rw [sel]; rfl) (fun it => precedingItems_refs d cfg a it.r) h
  · -- preceding-sibling
    rw [stepPlan_precedingSibling hax, hax]
    exact sel_blocks _ (by rw [sel])
      (fun it => by rw [axisRefsM_precedingSibling]; exact numbered_refs _) h
  · -- attribute
    rw [stepPlan_attribute hax, hax]
    exact sel_blocks _ (by rw [sel]) (fun it => by rw [axisRefsM_attribute]; exact plain_refs _) h
  · -- self
    refine ⟨_, by rw [stepPlan_self hax, sel, h]; rfl, fun x => ?_⟩
    rw [hax, plain_refs]
    simp only [List.mem_filter, axisRefsM_self, List.mem_cons, List.not_mem_nil, or_false]
    constructor
    · rintro ⟨h1, h2⟩; exact ⟨x, h1, rfl, h2⟩
    · rintro ⟨o, h1, rfl, h2⟩; exact ⟨h1, h2⟩

end XPathV.PathSem
