import XPathV.Lemmas.PathSem.Walks
/-!
# C01 — stages 1–2 (numbered in `Lemmas/PathSem.lean`): one step from any node; predicate-free paths
and their plan without builder rewrites (stage 3, `naive_sem`, is in `PathSem/Build.lean`)
-/
namespace XPathV.PathSem
open XPathV XPathV.Model

variable {F : Type} [NumAlg F]

/-! ## the builder's plan for a step vs the plain plan -/

theorem axisPlan_desc (a : AxisInfo) (h : IsDescAxis a) (fl : Flags) (pr : Props) (inp : Plan) :
    ∃ s pr', axisPlan a fl pr inp =
        .ok (if fl.smartDesc then .descOverDesc a s inp else .descendant a s inp, pr') ∧
      ∀ n, stepPlan a n = .descendant a s n := by
  rcases h with h | h
  · exact ⟨false, _, by simp only [axisPlan, h]; rfl, stepPlan_descendant h⟩
  · exact ⟨true, _, by simp only [axisPlan, h]; rfl, stepPlan_dos h⟩

/-- off the descendant axes the builder's step is the plain one, up to `cachedChild`/`child`,
which have the same `sel` -/
theorem axisPlan_nondesc (a : AxisInfo) (ha : a.axis ∈ axes12) (hn : ¬ IsDescAxis a) (fl : Flags)
    (pr : Props) (inp : Plan) :
    ∃ q pr', axisPlan a fl pr inp = .ok (q, pr') ∧
      ∀ (d : Doc) (cfg : ECfg) (c : Ref), sel (F := F) d cfg q c = sel (F := F) d cfg (stepPlan a inp) c := by
  simp only [axes12, List.mem_cons, List.not_mem_nil, or_false] at ha
  rcases ha with hax | hax | hax | hax | hax | hax | hax | hax | hax | hax | hax | hax
  · refine ⟨_, _, by simp only [axisPlan, hax]; rfl, fun d cfg c => ?_⟩
    rw [stepPlan_child hax]
    split
    · rw [sel, sel]
    · rfl
  · exact absurd (Or.inl hax) hn
  · exact absurd (Or.inr hax) hn
  · exact ⟨_, _, by simp only [axisPlan, hax]; rfl, fun d cfg c => by rw [stepPlan_parent hax]⟩
  · exact ⟨_, _, by simp only [axisPlan, hax]; rfl, fun d cfg c => by rw [stepPlan_ancestor hax]⟩
  · exact ⟨_, _, by simp only [axisPlan, hax]; rfl, fun d cfg c => by rw [stepPlan_aos hax]⟩
  · exact ⟨_, _, by simp only [axisPlan, hax]; rfl, fun d cfg c => by rw [stepPlan_following hax]⟩
  · exact ⟨_, _, by simp only [axisPlan, hax]; rfl,
      fun d cfg c => by rw [stepPlan_followingSibling hax]⟩
  · exact ⟨_, _, by simp only [axisPlan, hax]; rfl, fun d cfg c => by rw [stepPlan_preceding hax]⟩
  · exact ⟨_, _, by simp only [axisPlan, hax]; rfl,
      fun d cfg c => by rw [stepPlan_precedingSibling hax]⟩
  · exact ⟨_, _, by simp only [axisPlan, hax]; rfl, fun d cfg c => by rw [stepPlan_attribute hax]⟩
  · exact ⟨_, _, by simp only [axisPlan, hax]; rfl, fun d cfg c => by rw [stepPlan_self hax]⟩

theorem axisPlan_sel (a : AxisInfo) (ha : a.axis ∈ axes12) (fl : Flags) (hfl : fl.smartDesc = false)
    (pr : Props) (inp : Plan) :
    ∃ q pr', axisPlan a fl pr inp = .ok (q, pr') ∧
      ∀ (d : Doc) (cfg : ECfg) (c : Ref), sel (F := F) d cfg q c = sel (F := F) d cfg (stepPlan a inp) c := by
  by_cases hd : IsDescAxis a
  · obtain ⟨s, pr', e1, e2⟩ := axisPlan_desc a hd fl pr inp
    rw [hfl] at e1
    exact ⟨_, pr', e1, fun d cfg c => by rw [e2]; rfl⟩
  · exact axisPlan_nondesc a ha hd fl pr inp

/-! ## the specification's side: node test, document order, validity and existence of axis nodes -/

theorem nodeTest_eq (d : Doc) (cfg : ECfg) (hns : cfg.nsIface = true) (a : AxisInfo) (r : Ref) :
    nodeTestM d cfg a r = Spec.nodeTest d a r := by
  simp only [nodeTestM, Spec.nodeTest, hns, Bool.true_and]
  rw [Bool.or_comm]
  congr 1
  split
  · split <;> rfl
  · rfl

theorem mem_allRefs (d : Doc) (x : Ref) : x ∈ allRefs d ↔ validRef d x = true := by
  simp only [allRefs, List.mem_flatMap, List.mem_range, List.mem_cons, attrsOf, List.mem_map]
  cases x with
  | node i =>
    simp only [validRef, decide_eq_true_eq]
    constructor
    · rintro ⟨j, hj, h | ⟨m, _, h⟩⟩
      · cases h; exact hj
      · cases h
    · intro h; exact ⟨i, h, Or.inl rfl⟩
  | attr i k =>
    simp only [validRef, Bool.and_eq_true, decide_eq_true_eq]
    constructor
    · rintro ⟨j, hj, h | ⟨m, hm, h⟩⟩
      · cases h
      · cases h; exact ⟨hj, hm⟩
    · rintro ⟨h1, h2⟩; exact ⟨i, h1, Or.inr ⟨k, h2, rfl⟩⟩

theorem mem_docOrder (d : Doc) (l : List Ref) (x : Ref) :
    x ∈ Spec.docOrder d l ↔ (x ∈ l ∧ validRef d x = true) := by
  simp only [Spec.docOrder, List.mem_filter, List.contains_iff_mem, mem_allRefs]
  exact And.comm

theorem allNodes_valid (d : Doc) (x : Ref) (h : x ∈ allNodes d) : validRef d x = true := by
  obtain ⟨j, hj, rfl⟩ := (mem_allNodes d x).1 h
  exact (validRef_node d j).2 hj

theorem axisNodes_valid {d : Doc} (wf : WF d) (o : Ref) (ho : validRef d o = true) (ax : String)
    (hax : ax ∈ axes12) : ∀ x ∈ (Spec.axisNodes d ax o).getD [], validRef d x = true := by
  intro x hx
  have hm := (axisRefsM_spec wf o ho ax hax x).2 hx
  have filt : ∀ p, x ∈ (allNodes d).filter p → validRef d x = true :=
    fun p h => allNodes_valid d x (List.mem_filter.1 h).1
  simp only [axes12, List.mem_cons, List.not_mem_nil, or_false] at hax
  rcases hax with rfl | rfl | rfl | rfl | rfl | rfl | rfl | rfl | rfl | rfl | rfl | rfl
  · rw [axisNodes_child, Option.getD_some] at hx
    exact filt _ hx
  · rw [axisNodes_descendant, Option.getD_some] at hx
    exact filt _ hx
  · rw [axisNodes_dos, Option.getD_some, List.mem_append] at hx
    rcases hx with hx | hx
    · split at hx
      · rw [List.mem_singleton.1 hx]; exact ho
      · cases hx
    · exact filt _ hx
  · rw [axisRefsM_parent, Option.mem_toList] at hm
    exact moveParent_valid d o x ho hm
  · rw [axisRefsM_ancestor] at hm
    exact ancestorsM_valid d o ho x hm
  · rw [axisRefsM_aos, List.mem_cons] at hm
    rcases hm with rfl | hm
    · exact ho
    · exact ancestorsM_valid d o ho x hm
  · rw [axisNodes_following, Option.getD_some] at hx
    exact filt _ hx
  · rw [axisNodes_followingSibling, Option.getD_some, Spec.followingSiblings] at hx
    split at hx
    · cases hx
    · exact filt _ hx
  · rw [axisNodes_preceding, Option.getD_some] at hx
    exact filt _ hx
  · rw [axisNodes_precedingSibling, Option.getD_some, Spec.precedingSiblings] at hx
    split at hx
    · cases hx
    · exact filt _ hx
  · rw [axisNodes_attribute, Option.getD_some] at hx
    cases o with
    | node i =>
      have hi := (validRef_node d i).1 ho
      rw [attributes_node wf i hi, attrsOf, List.mem_map] at hx
      obtain ⟨m, hm', rfl⟩ := hx
      exact (validRef_attr d i m).2 ⟨hi, List.mem_range.1 hm'⟩
    | attr i k => cases hx
  · rw [axisNodes_self, Option.getD_some, List.mem_singleton] at hx
    rw [hx]; exact ho

theorem mem_axisProx (d : Doc) (ax : String) (o x : Ref) :
    x ∈ (Spec.axisProx d ax o).getD [] ↔ x ∈ (Spec.axisNodes d ax o).getD [] := by
  unfold Spec.axisProx
  cases Spec.axisNodes d ax o with
  | none => simp
  | some l =>
    simp only [Option.map_some, Option.getD_some]
    split <;> simp

theorem axisNodes_some (d : Doc) (ax : String) (hax : ax ∈ axes12) (o : Ref) :
    ∃ l, Spec.axisNodes d ax o = some l := by
  simp only [axes12, List.mem_cons, List.not_mem_nil, or_false] at hax
  rcases hax with rfl | rfl | rfl | rfl | rfl | rfl | rfl | rfl | rfl | rfl | rfl | rfl
  · exact ⟨_, axisNodes_child d o⟩
  · exact ⟨_, axisNodes_descendant d o⟩
  · exact ⟨_, axisNodes_dos d o⟩
  · exact ⟨_, axisNodes_parent d o⟩
  · exact ⟨_, axisNodes_ancestor d o⟩
  · exact ⟨_, axisNodes_aos d o⟩
  · exact ⟨_, axisNodes_following d o⟩
  · exact ⟨_, axisNodes_followingSibling d o⟩
  · exact ⟨_, axisNodes_preceding d o⟩
  · exact ⟨_, axisNodes_precedingSibling d o⟩
  · exact ⟨_, axisNodes_attribute d o⟩
  · exact ⟨_, axisNodes_self d o⟩

theorem axisProx_some (d : Doc) (ax : String) (hax : ax ∈ axes12) (o : Ref) :
    ∃ l, Spec.axisProx d ax o = some l := by
  obtain ⟨l, hl⟩ := axisNodes_some d ax hax o
  exact ⟨_, by rw [Spec.axisProx, hl]; rfl⟩

/-- the spec's value of a step over an evaluated input (`PredSem.eval_axis_groups`, later in the import
order, is the same with the groups `g'` named) -/
theorem eval_axis (d : Doc) (a : AxisInfo) (ha : a.axis ∈ axes12) (inp : Ast) (c : Spec.Ctx)
    (origins : List Ref) (g : Option (List (List Ref)))
    (h : Spec.eval (F := F) d inp c = .ok (.val (.nodes origins) g)) :
    ∃ g', Spec.eval (F := F) d (.axis a inp) c =
      .ok (.val (.nodes (Spec.docOrder d (origins.map (fun o =>
        ((Spec.axisProx d a.axis o).getD []).filter (Spec.nodeTest d a))).flatten)) g') := by
  obtain ⟨l, hl⟩ := axisProx_some d a.axis ha (.node 0)
  refine ⟨some (origins.map (fun o =>
        ((Spec.axisProx d a.axis o).getD []).filter (Spec.nodeTest d a))), ?_⟩
  simp only [Spec.eval, h, bind, Except.bind, Spec.Res.value, Spec.asNodes, hl]


/-! ## Stage 1 and 2: one step from a node / from an attribute -/

theorem sel_context (d : Doc) (cfg : ECfg) (c : Ref) :
    sel (F := F) d cfg .context c = .ok [⟨c, 1, 0⟩] := by rw [sel]

theorem sel_absolute (d : Doc) (cfg : ECfg) (c : Ref) :
    sel (F := F) d cfg .absolute c = .ok [⟨.node 0, 1, 0⟩] := by rw [sel]; rfl

theorem valid_singleton {d : Doc} {c : Ref} (hc : validRef d c = true) (pos lvl : Nat) :
    ∀ o ∈ refs [(⟨c, pos, lvl⟩ : Item)], validRef d o = true :=
  fun o ho => by rw [List.mem_singleton.1 ho]; exact hc

/-- **Stage 1+2 (single step, any valid context node — element, text, comment, root or attribute)**:
the plan the builder makes for the step `axis::test` over the context node yields exactly the
nodes of the XPath axis that pass the node test -/
theorem step_sem {d : Doc} (wf : WF d) (cfg : ECfg) (hinj : HashInj d cfg) (a : AxisInfo)
    (ha : a.axis ∈ axes12) (c : Ref) (hc : validRef d c = true) :
    ∃ p pr out, axisPlan a {} {} .context = .ok (p, pr) ∧ sel (F := F) d cfg p c = .ok out ∧
      ∀ x, x ∈ refs out ↔ x ∈ ((Spec.axisNodes d a.axis c).getD []).filter (nodeTestM d cfg a) := by
  obtain ⟨q, pr', hq, hsel⟩ := axisPlan_sel (F := F) a ha {} rfl {} .context
  obtain ⟨out, hout, hmem⟩ := stepPlan_sem (F := F) d cfg hinj a ha .context c [⟨c, 1, 0⟩]
    (valid_singleton hc 1 0) (sel_context d cfg c)
  refine ⟨q, pr', out, hq, by rw [hsel, hout], fun x => ?_⟩
  rw [hmem]
  simp only [refs, List.map_cons, List.map_nil, List.mem_cons, List.not_mem_nil, or_false,
    exists_eq_left, List.mem_filter, test]
  rw [axisRefsM_spec wf c hc a.axis ha x]

/-- **Stage 1** (node context) -/
theorem step_sem_node {d : Doc} (wf : WF d) (cfg : ECfg) (hinj : HashInj d cfg) (a : AxisInfo)
    (ha : a.axis ∈ axes12) (i : Nat) (hi : i < d.length) :
    ∃ p pr out, axisPlan a {} {} .context = .ok (p, pr) ∧ sel (F := F) d cfg p (.node i) = .ok out ∧
      ∀ x, x ∈ refs out ↔
        x ∈ ((Spec.axisNodes d a.axis (.node i)).getD []).filter (nodeTestM d cfg a) :=
  step_sem wf cfg hinj a ha (.node i) ((validRef_node d i).2 hi)

/-- **Stage 2** (attribute context) -/
theorem step_sem_attr {d : Doc} (wf : WF d) (cfg : ECfg) (hinj : HashInj d cfg) (a : AxisInfo)
    (ha : a.axis ∈ axes12) (i k : Nat) (hi : i < d.length) (hk : k < (recAt d i).attrs.length) :
    ∃ p pr out, axisPlan a {} {} .context = .ok (p, pr) ∧ sel (F := F) d cfg p (.attr i k) = .ok out ∧
      ∀ x, x ∈ refs out ↔
        x ∈ ((Spec.axisNodes d a.axis (.attr i k)).getD []).filter (nodeTestM d cfg a) :=
  step_sem wf cfg hinj a ha (.attr i k) ((validRef_attr d i k).2 ⟨hi, hk⟩)

/-! ## Stage 3: composition without rewrites -/

/-- predicate-free location paths over the twelve axes (relative or absolute) -/
inductive PathPF : Ast → Prop
  | none : PathPF .none
  | root (s : String) : PathPF (.root s)
  | axis (a : AxisInfo) (inp : Ast) : PathPF inp → a.axis ∈ axes12 → PathPF (.axis a inp)

/-- the plan of a path without any builder rewrite -/
def naivePlan : Ast → Plan
  | .none => .context
  | .root _ => .absolute
  | .axis a inp => stepPlan a (naivePlan inp)
  | _ => .nil

/-- the naive plan is what `axisPlan` (no `smartDesc` flag, any props) makes of each step, up to
`cachedChild`/`child`, which have the same `sel` -/
theorem naivePlan_axisPlan (a : AxisInfo) (ha : a.axis ∈ axes12) (pr : Props) (inp : Ast) :
    ∃ q pr', axisPlan a {} pr (naivePlan inp) = .ok (q, pr') ∧
      ∀ (d : Doc) (cfg : ECfg) (c : Ref),
        sel (F := F) d cfg q c = sel (F := F) d cfg (naivePlan (.axis a inp)) c :=
  axisPlan_sel a ha {} rfl pr (naivePlan inp)

/-- one origin: model walk + model test = spec axis (proximity order) + spec test -/
theorem step_mem_iff {d : Doc} (wf : WF d) (cfg : ECfg) (hns : cfg.nsIface = true) (a : AxisInfo)
    (ha : a.axis ∈ axes12) (o : Ref) (ho : validRef d o = true) (x : Ref) :
    x ∈ (axisRefsM d a.axis o).filter (test d cfg a) ↔
      x ∈ ((Spec.axisProx d a.axis o).getD []).filter (Spec.nodeTest d a) := by
  simp only [List.mem_filter, test, nodeTest_eq d cfg hns, mem_axisProx,
    axisRefsM_spec wf o ho a.axis ha x]

end XPathV.PathSem
