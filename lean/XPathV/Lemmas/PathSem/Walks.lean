import XPathV.Lemmas.PathSem.Basic
/-!
# C01 helpers — each model walk reaches exactly the nodes of the XPath axis (node and attribute contexts)
-/
namespace XPathV.PathSem
open XPathV XPathV.Model

theorem validRef_node (d : Doc) (i : Nat) : validRef d (.node i) = true ↔ i < d.length := by
  simp [validRef]

theorem validRef_attr (d : Doc) (i k : Nat) :
    validRef d (.attr i k) = true ↔ (i < d.length ∧ k < (recAt d i).attrs.length) := by
  simp [validRef]

theorem mem_allNodes (d : Doc) (x : Ref) : x ∈ allNodes d ↔ ∃ j, j < d.length ∧ x = .node j := by
  simp only [allNodes, List.mem_map, List.mem_range]
  constructor
  · rintro ⟨j, hj, rfl⟩; exact ⟨j, hj, rfl⟩
  · rintro ⟨j, hj, rfl⟩; exact ⟨j, hj, rfl⟩

theorem parent?_is_node (d : Doc) (r p : Ref) (h : Spec.parent? d r = some p) : ∃ j, p = .node j := by
  cases r with
  | node i =>
    rw [parent?_node] at h
    simp only [Option.map_eq_some_iff] at h
    obtain ⟨q, _, rfl⟩ := h; exact ⟨q, rfl⟩
  | attr i k =>
    simp only [Spec.parent?, Nav.moveParent, Option.some.injEq] at h
    exact ⟨i, h.symm⟩

theorem ancestorsFuel_nodes (d : Doc) (f : Nat) (r : Ref) :
    ∀ x ∈ Spec.ancestorsFuel d f r, ∃ j, x = .node j := by
  intro x hx
  rw [ancestorsFuel_chain] at hx
  obtain ⟨y, hy⟩ := chain_moved _ _ x hx
  exact parent?_is_node d y x hy

theorem isAncestor_attr (d : Doc) (i k : Nat) (x : Ref) : Spec.isAncestor d (.attr i k) x = false := by
  cases h : Spec.isAncestor d (.attr i k) x with
  | false => rfl
  | true =>
    simp only [Spec.isAncestor, List.contains_iff_mem] at h
    obtain ⟨j, hj⟩ := ancestorsFuel_nodes d _ x _ h
    cases hj

/-! ## walks from an attribute -/

theorem descM_attr (d : Doc) (i k : Nat) : descM d (.attr i k) = [] := by
  unfold descM
  cases d.length with
  | zero => rfl
  | succ n => simp [walkD, stepD, Nav.moveChild, climb]

theorem nextSibsM_attr (d : Doc) (i k : Nat) : nextSibsM d (.attr i k) = [] := by
  simp [nextSibsM, Nav.moveNext]

/-! ## spec axes from an attribute -/

theorem descendants_attr (d : Doc) (i k : Nat) : Spec.descendants d (.attr i k) = [] := by
  unfold Spec.descendants
  rw [List.filter_eq_nil_iff]
  intro x _
  simp [isAncestor_attr]

/-! ## attribute axis from a node -/

theorem attributes_node {d : Doc} (wf : WF d) (i : Nat) (hi : i < d.length) :
    Spec.attributes d (.node i) = attrsOf d i := by
  show (if kindAt d i == .elem then attrsOf d i else []) = attrsOf d i
  split
  · rfl
  · rename_i hk
    unfold attrsOf
    rw [wf.attrs i hi (fun e => hk (by rw [e]; rfl))]
    rfl

/-! ## following / preceding from an attribute -/

theorem lt_attr_node (i k j : Nat) : Ref.lt (.attr i k) (.node j) = true ↔ i < j := by
  simp [Ref.lt, Ref.ord]
  exact decide_eq_true_iff

theorem lt_node_attr (i k j : Nat) : Ref.lt (.node j) (.attr i k) = true ↔ j ≤ i := by
  unfold Ref.lt Ref.ord
  simp only [Bool.or_eq_true, Bool.and_eq_true, decide_eq_true_eq, beq_iff_eq]
  omega

theorem mem_range'_node (s n : Nat) (x : Ref) :
    x ∈ (List.range' s n).map Ref.node ↔ ∃ j, x = .node j ∧ s ≤ j ∧ j < s + n := by
  simp only [List.mem_map, List.mem_range'_1]
  constructor
  · rintro ⟨j, hj, rfl⟩; exact ⟨j, rfl, hj⟩
  · rintro ⟨j, rfl, hj⟩; exact ⟨j, hj, rfl⟩

theorem following_attr_walk {d : Doc} (wf : WF d) (i k : Nat) (hi : i < d.length) (x : Ref) :
    x ∈ axisRefsM d "following" (.attr i k) ↔ ∃ j, x = .node j ∧ i < j ∧ j < d.length := by
  -- from an attribute the first move is to its element, which has the same roots
  have hroots : followRoots d (2 * d.length + 2) (.attr i k) = FR d (.node i) :=
    FR_unfold d wf (r := .attr i k) hi
  have hflat := followRoots_flat wf i hi
  have hgt := endOf_gt d i
  have hle := endOf_le d i hi
  simp only [axisRefsM_following, Ref.isAttr, ↓reduceIte, Ref.idx, hroots, List.mem_append]
  rw [desc_range wf i hi]
  change _ ∨ x ∈ (FR d (.node i)).flatMap (subtreeM d) ↔ _
  rw [hflat, mem_range'_node, mem_range'_node]
  constructor
  · rintro (⟨j, rfl, h1, h2⟩ | ⟨j, rfl, h1, h2⟩)
    · exact ⟨j, rfl, by omega, by omega⟩
    · exact ⟨j, rfl, by omega, by omega⟩
  · rintro ⟨j, rfl, h1, h2⟩
    by_cases h : j < endOf d i
    · left; exact ⟨j, rfl, by omega, by omega⟩
    · right; exact ⟨j, rfl, by omega, by omega⟩

theorem following_attr_spec (d : Doc) (i k : Nat) (x : Ref) :
    x ∈ Spec.following d (.attr i k) ↔ ∃ j, x = .node j ∧ i < j ∧ j < d.length := by
  simp only [Spec.following, List.mem_filter, mem_allNodes, isAncestor_attr, Bool.not_false,
    Bool.and_true]
  constructor
  · rintro ⟨⟨j, hj, rfl⟩, h⟩; exact ⟨j, rfl, (lt_attr_node i k j).1 h, hj⟩
  · rintro ⟨j, rfl, h1, h2⟩; exact ⟨⟨j, h2, rfl⟩, (lt_attr_node i k j).2 h1⟩

theorem preceding_attr_walk {d : Doc} (wf : WF d) (i k : Nat) (hi : i < d.length) (x : Ref) :
    x ∈ axisRefsM d "preceding" (.attr i k) ↔ ∃ j, x = .node j ∧ j < i ∧ endOf d j ≤ i := by
  have hroots : precRoots d (2 * d.length + 2) (.attr i k) false = PR d (.node i) true :=
    PR_unfold d (r := .attr i k) hi false
  rw [axisRefsM_preceding, hroots]
  exact precRoots_mem wf i true hi x

theorem isAncestor_node_attr {d : Doc} (wf : WF d) (i k j : Nat) (hi : i < d.length) :
    Spec.isAncestor d (.node j) (.attr i k) = true ↔ (j = i ∨ (j < i ∧ i < endOf d j)) := by
  simp only [Spec.isAncestor, List.contains_iff_mem, Spec.ancestors, Spec.ancestorsFuel,
    Spec.parent?, Nav.moveParent, List.mem_cons, Ref.node.injEq]
  rw [anc_mem wf j d.length i hi hi]

theorem preceding_attr_spec {d : Doc} (wf : WF d) (i k : Nat) (hi : i < d.length) (x : Ref) :
    x ∈ Spec.preceding d (.attr i k) ↔ ∃ j, x = .node j ∧ j < i ∧ endOf d j ≤ i := by
  simp only [Spec.preceding, List.mem_filter, mem_allNodes, Bool.and_eq_true, Bool.not_eq_true']
  constructor
  · rintro ⟨⟨j, hj, rfl⟩, h1, h2⟩
    have h1 := (lt_node_attr i k j).1 h1
    have h3 : ¬ (j = i ∨ (j < i ∧ i < endOf d j)) := by
      intro h; rw [(isAncestor_node_attr wf i k j hi).2 h] at h2; cases h2
    exact ⟨j, rfl, by omega, by omega⟩
  · rintro ⟨j, rfl, h1, h2⟩
    refine ⟨⟨j, by omega, rfl⟩, (lt_node_attr i k j).2 (by omega), ?_⟩
    cases h : Spec.isAncestor d (.node j) (.attr i k) with
    | false => rfl
    | true => have := (isAncestor_node_attr wf i k j hi).1 h; omega

/-! ## the twelve axes, any valid origin -/

-- for one effect: the equation lemmas of `Spec.axisNodes` are derived here once, so that the proofs
-- below find them (as in `AxesLemmas`)
section
attribute [local simp] Spec.axisNodes
end

theorem axisNodes_child (d : Doc) (o : Ref) :
    Spec.axisNodes d "child" o = some (Spec.children d o) := by rw [Spec.axisNodes]

theorem axisNodes_descendant (d : Doc) (o : Ref) :
    Spec.axisNodes d "descendant" o = some (Spec.descendants d o) := by rw [Spec.axisNodes]

theorem axisNodes_dos (d : Doc) (o : Ref) :
    Spec.axisNodes d "descendant-or-self" o =
      some ((if o.isAttr then [o] else []) ++
        (allNodes d).filter (fun x => x == o || Spec.isAncestor d o x)) := by rw [Spec.axisNodes]

theorem axisNodes_parent (d : Doc) (o : Ref) :
    Spec.axisNodes d "parent" o = some (Spec.parent? d o).toList := by rw [Spec.axisNodes]

theorem axisNodes_ancestor (d : Doc) (o : Ref) :
    Spec.axisNodes d "ancestor" o = some (Spec.ancestors d o).reverse := by rw [Spec.axisNodes]

theorem axisNodes_aos (d : Doc) (o : Ref) :
    Spec.axisNodes d "ancestor-or-self" o = some ((Spec.ancestors d o).reverse ++ [o]) := by
  rw [Spec.axisNodes]

theorem axisNodes_following (d : Doc) (o : Ref) :
    Spec.axisNodes d "following" o = some (Spec.following d o) := by rw [Spec.axisNodes]

theorem axisNodes_followingSibling (d : Doc) (o : Ref) :
    Spec.axisNodes d "following-sibling" o = some (Spec.followingSiblings d o) := by
  rw [Spec.axisNodes]

theorem axisNodes_preceding (d : Doc) (o : Ref) :
    Spec.axisNodes d "preceding" o = some (Spec.preceding d o) := by rw [Spec.axisNodes]

theorem axisNodes_precedingSibling (d : Doc) (o : Ref) :
    Spec.axisNodes d "preceding-sibling" o = some (Spec.precedingSiblings d o) := by
  rw [Spec.axisNodes]

theorem axisNodes_attribute (d : Doc) (o : Ref) :
    Spec.axisNodes d "attribute" o = some (Spec.attributes d o) := by rw [Spec.axisNodes]

theorem axisNodes_self (d : Doc) (o : Ref) : Spec.axisNodes d "self" o = some [o] := by
  rw [Spec.axisNodes]

/-- **walks = axes**: from every valid node (element, text, comment, root or attribute) of a
well-formed document the model's walk for each of the twelve axes reaches exactly the nodes of
the XPath 1.0 axis -/
theorem axisRefsM_spec {d : Doc} (wf : WF d) (o : Ref) (ho : validRef d o = true) (ax : String)
    (hax : ax ∈ axes12) (x : Ref) :
    x ∈ axisRefsM d ax o ↔ x ∈ (Spec.axisNodes d ax o).getD [] := by
  simp only [axes12, List.mem_cons, List.not_mem_nil, or_false] at hax
  rcases hax with rfl | rfl | rfl | rfl | rfl | rfl | rfl | rfl | rfl | rfl | rfl | rfl
  · -- child
    rw [axisRefsM_child, axisNodes_child, Option.getD_some, children_spec_all wf]
  · -- descendant
    rw [axisRefsM_descendant, axisNodes_descendant, Option.getD_some]
    cases o with
    | node i => rw [desc_spec wf i ((validRef_node d i).1 ho)]
    | attr i k => rw [descM_attr, descendants_attr]; rfl
  · -- descendant-or-self
    rw [axisRefsM_dos, axisNodes_dos, Option.getD_some]
    cases o with
    | node i =>
      have hi := (validRef_node d i).1 ho
      rw [desc_spec wf i hi]
      simp only [Spec.descendants, Ref.isAttr, Bool.false_eq_true, ↓reduceIte, List.nil_append,
        List.mem_cons, List.mem_filter, Bool.or_eq_true, beq_iff_eq]
      constructor
      · rintro (rfl | ⟨h1, h2⟩)
        · exact ⟨(mem_allNodes d _).2 ⟨i, hi, rfl⟩, Or.inl rfl⟩
        · exact ⟨h1, Or.inr h2⟩
      · rintro ⟨h1, h2 | h2⟩
        · exact Or.inl h2
        · exact Or.inr ⟨h1, h2⟩
    | attr i k =>
      simp [descM_attr, Ref.isAttr, isAncestor_attr, mem_allNodes]
  · -- parent
    rw [axisRefsM_parent, axisNodes_parent, Option.getD_some]; rfl
  · -- ancestor
    rw [axisRefsM_ancestor, axisNodes_ancestor, Option.getD_some, ancestors_spec, List.mem_reverse]
  · -- ancestor-or-self
    rw [axisRefsM_aos, axisNodes_aos, Option.getD_some, ancestors_spec, List.mem_append,
      List.mem_reverse, List.mem_singleton, List.mem_cons]
    exact Or.comm
  · -- following
    rw [axisNodes_following, Option.getD_some]
    cases o with
    | node i =>
      rw [axisRefsM_following]
      exact following_spec wf i ((validRef_node d i).1 ho) x
    | attr i k =>
      rw [following_attr_walk wf i k ((validRef_attr d i k).1 ho).1, following_attr_spec]
  · -- following-sibling
    rw [axisRefsM_followingSibling, axisNodes_followingSibling, Option.getD_some]
    cases o with
    | node i => rw [nextSibs_spec wf i ((validRef_node d i).1 ho)]
    | attr i k => rw [nextSibsM_attr]; rfl
  · -- preceding
    rw [axisNodes_preceding, Option.getD_some]
    cases o with
    | node i =>
      rw [axisRefsM_preceding]
      exact preceding_spec wf i ((validRef_node d i).1 ho) x
    | attr i k =>
      have hi := ((validRef_attr d i k).1 ho).1
      rw [preceding_attr_walk wf i k hi, preceding_attr_spec wf i k hi]
  · -- preceding-sibling
    rw [axisRefsM_precedingSibling, axisNodes_precedingSibling, Option.getD_some]
    cases o with
    | node i => rw [← prevSibs_spec wf i ((validRef_node d i).1 ho), List.mem_reverse]
    | attr i k => rw [prevSibsM_attr]; rfl
  · -- attribute
    rw [axisRefsM_attribute, axisNodes_attribute, Option.getD_some]
    cases o with
    | node i => rw [attrsM_node, attributes_node wf i ((validRef_node d i).1 ho)]
    | attr i k => rfl
  · -- self
    rw [axisRefsM_self, axisNodes_self, Option.getD_some]

end XPathV.PathSem
