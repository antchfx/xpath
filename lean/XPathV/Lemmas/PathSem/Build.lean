import XPathV.Lemmas.PathSem.Agree
import XPathV.Lemmas.BuildInv
/-!
# C01 — stages 3 and 4 (numbered in `Lemmas/PathSem.lean`): the un-rewritten plan of a predicate-free path
agrees with the oracle (`naive_sem`, by `pathOK_step`); the plan `build` makes selects the same node set as
the un-rewritten plan
-/
namespace XPathV.PathSem
open XPathV XPathV.Model XPathV.PredSem

variable {F : Type} [NumAlg F]

/-! ## validity and congruence of a step -/

theorem axisRefsM_valid {d : Doc} (wf : WF d) (o : Ref) (ho : validRef d o = true) (ax : String)
    (hax : ax ∈ axes12) (x : Ref) (hx : x ∈ axisRefsM d ax o) : validRef d x = true :=
  axisNodes_valid wf o ho ax hax x ((axisRefsM_spec wf o ho ax hax x).1 hx)

theorem stepPlan_ok {d : Doc} (wf : WF d) (cfg : ECfg) (hinj : HashInj d cfg) (a : AxisInfo)
    (ha : a.axis ∈ axes12) (inp : Plan) (c : Ref) (ins : List Item)
    (hv : ∀ o ∈ refs ins, validRef d o = true) (h : sel (F := F) d cfg inp c = .ok ins) :
    ∃ out, sel (F := F) d cfg (stepPlan a inp) c = .ok out ∧
      (∀ x, x ∈ refs out ↔ ∃ o ∈ refs ins, x ∈ (axisRefsM d a.axis o).filter (test d cfg a)) ∧
      ∀ x ∈ refs out, validRef d x = true := by
  obtain ⟨out, hout, hmem⟩ := stepPlan_sem (F := F) d cfg hinj a ha inp c ins hv h
  refine ⟨out, hout, hmem, fun x hx => ?_⟩
  obtain ⟨o, ho, hxo⟩ := (hmem x).1 hx
  exact axisRefsM_valid wf o (hv o ho) a.axis ha x (List.mem_filter.1 hxo).1

theorem stepPlan_congr {d : Doc} (cfg : ECfg) (hinj : HashInj d cfg) (a : AxisInfo)
    (ha : a.axis ∈ axes12) (inp' inp : Plan) (c : Ref) (ins' ins : List Item)
    (h' : sel (F := F) d cfg inp' c = .ok ins') (h : sel (F := F) d cfg inp c = .ok ins)
    (hv : ∀ o ∈ refs ins, validRef d o = true) (heq : ∀ x, x ∈ refs ins' ↔ x ∈ refs ins) :
    ∃ o1 o2, sel (F := F) d cfg (stepPlan a inp') c = .ok o1 ∧
      sel (F := F) d cfg (stepPlan a inp) c = .ok o2 ∧ ∀ x, x ∈ refs o1 ↔ x ∈ refs o2 := by
  obtain ⟨o1, ho1, hm1⟩ := stepPlan_sem (F := F) d cfg hinj a ha inp' c ins'
    (fun o ho => hv o ((heq o).1 ho)) h'
  obtain ⟨o2, ho2, hm2⟩ := stepPlan_sem (F := F) d cfg hinj a ha inp c ins hv h
  refine ⟨o1, o2, ho1, ho2, fun x => ?_⟩
  rw [hm1, hm2]
  constructor
  · rintro ⟨o, ho, hx⟩; exact ⟨o, (heq o).1 ho, hx⟩
  · rintro ⟨o, ho, hx⟩; exact ⟨o, (heq o).2 ho, hx⟩

/-! ## Stage 3: composition without rewrites -/

theorem naive_pathOK {d : Doc} (wf : WF d) (cfg : ECfg) (hns : cfg.nsIface = true)
    (hinj : HashInj d cfg) (p : Ast) (hp : PathPF p) (c : Spec.Ctx) (hc : validRef d c.node = true) :
    PathOK (F := F) d cfg (naivePlan p) p c := by
  induction hp with
  | none => exact pathOK_none d cfg c hc
  | root s => exact pathOK_root wf cfg s c
  | axis a inp _ ha ih => exact pathOK_step wf cfg hns hinj a ha (cover_of_pathOK ih) (fun _ => ih)

/-- **Stage 3**: for a predicate-free path, the un-rewritten plan yields from every valid context
node exactly the node-set the XPath 1.0 oracle assigns to the path (neither side fails) -/
theorem naive_sem {d : Doc} (wf : WF d) (cfg : ECfg) (hns : cfg.nsIface = true)
    (hinj : HashInj d cfg) (p : Ast) (hp : PathPF p) (c : Ref) (hc : validRef d c = true) :
    ∃ out ns g, sel (F := F) d cfg (naivePlan p) c = .ok out ∧
      Spec.eval (F := F) d p ⟨c, 1, 1⟩ = .ok (.val (.nodes ns) g) ∧
      (∀ x, x ∈ refs out ↔ x ∈ ns) ∧ (∀ x ∈ ns, validRef d x = true) := by
  obtain ⟨out, ns, g, h1, _, h2, h3, h4, _⟩ := naive_pathOK (F := F) wf cfg hns hinj p hp ⟨c, 1, 1⟩ hc
  exact ⟨out, ns, g, h1, h2, h3, h4⟩

/-- the un-rewritten plan never fails and yields valid nodes -/
theorem naive_ok {d : Doc} (wf : WF d) (cfg : ECfg) (hinj : HashInj d cfg) (p : Ast)
    (hp : PathPF p) (c : Ref) (hc : validRef d c = true) :
    ∃ nv, sel (F := F) d cfg (naivePlan p) c = .ok nv ∧ ∀ o ∈ refs nv, validRef d o = true := by
  induction hp with
  | none =>
    exact ⟨_, sel_context d cfg c, valid_singleton hc 1 0⟩
  | root s =>
    exact ⟨_, sel_absolute d cfg c, valid_singleton ((validRef_node d 0).2 wf.pos) 1 0⟩
  | axis a inp _ ha ih =>
    obtain ⟨ins, hsel, hv⟩ := ih
    obtain ⟨out, hout, _, hval⟩ := stepPlan_ok (F := F) wf cfg hinj a ha (naivePlan inp) c ins hv hsel
    exact ⟨out, hout, hval⟩

/-! ## one `processAxis` over an already related input -/

/-- relation between the built plan and the naive plan at context `c`: same node set when the
consumer did not ask for `smartDesc`, a covering subset otherwise -/
def Rel (d : Doc) (cfg : ECfg) (smart : Bool) (q n : Plan) (c : Ref) : Prop :=
  ∃ out nv, sel (F := F) d cfg q c = .ok out ∧ sel (F := F) d cfg n c = .ok nv ∧
    (∀ o ∈ refs nv, validRef d o = true) ∧
    (smart = false → ∀ x, x ∈ refs out ↔ x ∈ refs nv) ∧ Covers d (refs out) (refs nv)

theorem Rel.refl_of_ok (d : Doc) (cfg : ECfg) (smart : Bool) (q : Plan) (c : Ref) (nv : List Item)
    (h : sel (F := F) d cfg q c = .ok nv) (hv : ∀ o ∈ refs nv, validRef d o = true) :
    Rel (F := F) d cfg smart q q c :=
  ⟨nv, nv, h, h, hv, fun _ _ => Iff.rfl, Covers.of_seteq d _ _ (fun _ => Iff.rfl)⟩

theorem Rel.context (d : Doc) (cfg : ECfg) (smart : Bool) (c : Ref) (hc : validRef d c = true) :
    Rel (F := F) d cfg smart .context .context c :=
  Rel.refl_of_ok d cfg smart .context c _ (sel_context d cfg c) (valid_singleton hc 1 0)

theorem Rel.absolute {d : Doc} (wf : WF d) (cfg : ECfg) (smart : Bool) (c : Ref) :
    Rel (F := F) d cfg smart .absolute .absolute c :=
  Rel.refl_of_ok d cfg smart .absolute c _ (sel_absolute d cfg c)
    (valid_singleton ((validRef_node d 0).2 wf.pos) 1 0)

theorem axis_combine {d : Doc} (wf : WF d) (cfg : ECfg) (hinj : HashInj d cfg) (a : AxisInfo)
    (ha : a.axis ∈ axes12) (fl : Flags) (pr pr' : Props) (qin nin q : Plan) (c : Ref) (smartIn : Bool)
    (hin : Rel (F := F) d cfg smartIn qin nin c) (hsm : ¬ IsDescAxis a → smartIn = false)
    (hq : axisPlan a fl pr qin = .ok (q, pr')) :
    Rel (F := F) d cfg fl.smartDesc q (stepPlan a nin) c := by
  obtain ⟨ins', ins, hsel', hsel, hv, heq, hcov⟩ := hin
  by_cases hd : IsDescAxis a
  · obtain ⟨s, pr'', e1, e2⟩ := axisPlan_desc a hd fl pr qin
    rw [e1] at hq
    simp only [Except.ok.injEq, Prod.mk.injEq] at hq
    obtain ⟨hq, _⟩ := hq
    subst hq
    rw [e2]
    cases hsd : fl.smartDesc with
    | false =>
      simp only [Bool.false_eq_true, ↓reduceIte]
      obtain ⟨o1, o2, h1, h2, hm⟩ := descendant_of_covers (F := F) wf cfg a s qin nin c ins' ins hsel' hsel hv hcov
      obtain ⟨o2', h2', _, hval⟩ := stepPlan_ok (F := F) wf cfg hinj a ha nin c ins hv hsel
      rw [e2, h2] at h2'; cases h2'
      exact ⟨o1, o2, h1, h2, hval, fun _ => hm, Covers.of_seteq d _ _ hm⟩
    | true =>
      simp only [↓reduceIte]
      obtain ⟨o1, o2, h1, h2, hm⟩ := descOverDesc_covers (F := F) wf cfg a s qin nin c ins' ins hsel' hsel hv hcov
      obtain ⟨o2', h2', _, hval⟩ := stepPlan_ok (F := F) wf cfg hinj a ha nin c ins hv hsel
      rw [e2, h2] at h2'; cases h2'
      exact ⟨o1, o2, h1, h2, hval, (fun h => by cases h), hm⟩
  · obtain ⟨q', pr'', e1, e2⟩ := axisPlan_nondesc (F := F) a ha hd fl pr qin
    rw [e1] at hq
    simp only [Except.ok.injEq, Prod.mk.injEq] at hq
    obtain ⟨hq, _⟩ := hq
    subst hq
    obtain ⟨o1, o2, h1, h2, hm⟩ := stepPlan_congr (F := F) cfg hinj a ha qin nin c ins' ins hsel' hsel hv
      (heq (hsm hd))
    obtain ⟨o2', h2', _, hval⟩ := stepPlan_ok (F := F) wf cfg hinj a ha nin c ins hv hsel
    rw [h2] at h2'; cases h2'
    exact ⟨o1, o2, by rw [e2, h1], h2, hval, fun _ => hm, Covers.of_seteq d _ _ hm⟩

/-! ## `build` on predicate-free paths -/

def BuildOK (d : Doc) (cfg : ECfg) (regexOk : RegexOk) (limit : Nat) (sdf : Bool) (p : Ast) : Prop :=
  ∀ fl st o, fl.filter = false → build regexOk limit true sdf p fl st = .ok o →
    ∀ c, validRef d c = true → Rel (F := F) d cfg fl.smartDesc o.q (naivePlan p) c

theorem finAxis_q (q : Plan) (props : Props) (st : BState) (o : BOut)
    (h : build.finAxis q props st = .ok o) : o.q = q := by
  unfold build.finAxis at h
  cases h; rfl

theorem inFlagsOf_filter (a : AxisInfo) (fl : Flags) : (build.inFlagsOf a fl).filter = false := by
  unfold build.inFlagsOf; split <;> rfl

theorem inFlagsOf_smart (a : AxisInfo) (fl : Flags) (hn : ¬ IsDescAxis a) :
    (build.inFlagsOf a fl).smartDesc = false := by
  unfold build.inFlagsOf
  split
  · rename_i h
    simp only [Bool.and_eq_true, Bool.or_eq_true, beq_iff_eq] at h
    exact absurd h.2 hn
  · rfl

theorem shortcut_combine {d : Doc} (wf : WF d) (cfg : ECfg) (hinj : HashInj d cfg)
    (a b : AxisInfo) (ha : a.axis = "child") (hb : b.axis = "descendant-or-self")
    (h1 : b.typeTest = .all) (h2 : b.lname = "") (h3 : b.pfx = "")
    (gq ng : Plan) (c : Ref) (smart : Bool)
    (hin : Rel (F := F) d cfg true gq ng c) :
    Rel (F := F) d cfg smart (.descendant a false gq) (stepPlan a (stepPlan b ng)) c := by
  obtain ⟨ins', ins, hsel', hsel, hv, _, hcov⟩ := hin
  obtain ⟨o1, o2, ho1, ho2, hm12⟩ :=
    descendant_of_covers (F := F) wf cfg a false gq ng c ins' ins hsel' hsel hv hcov
  obtain ⟨o2', o3, ho2', ho3, hm23⟩ := shortcut_sem (F := F) wf cfg a b h1 h2 h3 ng c ins hsel hv
  rw [ho2] at ho2'; cases ho2'
  have ha12 : a.axis ∈ axes12 := by simp [axes12, ha]
  have hb12 : b.axis ∈ axes12 := by simp [axes12, hb]
  obtain ⟨mid, hmid, _, hmidv⟩ := stepPlan_ok (F := F) wf cfg hinj b hb12 ng c ins hv hsel
  obtain ⟨o3', ho3', _, hv3⟩ := stepPlan_ok (F := F) wf cfg hinj a ha12 (stepPlan b ng) c mid hmidv hmid
  have e : stepPlan a (stepPlan b ng) = .child a (.descendant b true ng) := by
    rw [stepPlan_child ha, stepPlan_dos hb]
  rw [e] at ho3' ⊢
  rw [ho3] at ho3'; cases ho3'
  have hm : ∀ x, x ∈ refs o1 ↔ x ∈ refs o3 := fun x => (hm12 x).trans (hm23 x)
  exact ⟨o1, o3, ho1, ho3, hv3, fun _ => hm, Covers.of_seteq d _ _ hm⟩

/-- a step over an input that is built as the induction says (`ihp`; for the `//name` shortcut the
input of the input, `ihg`): the shortcut, or `axisPlan` over the built input -/
theorem build_axis_rel {d : Doc} (wf : WF d) (cfg : ECfg) (hinj : HashInj d cfg)
    (regexOk : RegexOk) (limit : Nat) (sdf : Bool) (a : AxisInfo) (ha : a.axis ∈ axes12) (inp : Ast)
    (ihp : inp ≠ .none → BuildOK (F := F) d cfg regexOk limit sdf inp)
    (ihg : ∀ b g, inp = .axis b g → g ≠ .none → BuildOK (F := F) d cfg regexOk limit sdf g) :
    BuildOK (F := F) d cfg regexOk limit sdf (.axis a inp) := by
  intro fl st o _ h c hc
  show Rel d cfg fl.smartDesc o.q (stepPlan a (naivePlan inp)) c
  rcases build_axis_ok h with
    ⟨b, grand, gq, gprops, st', rfl, _, hax, hb, hg, hfin⟩ | ⟨qin, pin, q, props, st', hin, hq, hfin⟩
  · -- the shortcut: descendant over the grand-input
    simp only [isPlainDos, Bool.and_eq_true, beq_iff_eq, Bool.not_true, Bool.false_or] at hb
    obtain ⟨hbx, ⟨h1, h2⟩, h3⟩ := hb
    rw [finAxis_q _ _ _ _ hfin]
    refine shortcut_combine wf cfg hinj a b hax hbx h1 h2 h3 gq _ c _ ?_
    rcases hg with ⟨rfl, rfl, _⟩ | ⟨hn, go, hgo, rfl, _⟩
    · exact Rel.context d cfg true c hc
    · exact ihg b grand rfl hn _ _ go rfl hgo c hc
  · rw [finAxis_q _ _ _ _ hfin]
    rcases hin with ⟨rfl, rfl, _⟩ | ⟨hn, io, hio, rfl, _⟩
    · exact axis_combine (F := F) wf cfg hinj a ha fl _ _ .context .context q c false
        (Rel.context d cfg false c hc) (fun _ => rfl) hq
    · exact axis_combine (F := F) wf cfg hinj a ha fl _ _ io.q (naivePlan inp) q c _
        (ihp hn _ _ io (inFlagsOf_filter a fl) hio c hc) (inFlagsOf_smart a fl) hq

/-- every predicate-free path (and the input of its last step) is built into a related plan -/
theorem build_ok_all {d : Doc} (wf : WF d) (cfg : ECfg) (hinj : HashInj d cfg)
    (regexOk : RegexOk) (limit : Nat) (sdf : Bool) (p : Ast) (hp : PathPF p) :
    BuildOK (F := F) d cfg regexOk limit sdf p ∧
      ∀ b g, p = .axis b g → BuildOK (F := F) d cfg regexOk limit sdf g := by
  induction hp with
  | none =>
    refine ⟨?_, fun b g h => by cases h⟩
    intro fl st o _ h; rw [build_none_error] at h; cases h
  | root s =>
    refine ⟨?_, fun b g h => by cases h⟩
    intro fl st o _ h c hc
    cases build_root_ok h
    exact Rel.absolute wf cfg _ c
  | axis a inp hinp ha ih =>
    refine ⟨?_, fun b g h => by cases h; exact ih.1⟩
    exact build_axis_rel wf cfg hinj regexOk limit sdf a ha inp (fun _ => ih.1) (fun b g e _ => ih.2 b g e)

/-- **Stage 4, `build`**: for a predicate-free path the plan `build` returns (with the `//name`
shortcut, the descendant-over-descendant rewrite and `cachedChild`) selects, from every valid
context node, the same node set as the un-rewritten plan -/
theorem build_pathpf {d : Doc} (wf : WF d) (cfg : ECfg) (hinj : HashInj d cfg)
    (regexOk : RegexOk) (limit : Nat) (sdf : Bool) (p : Ast) (hp : PathPF p) (st : BState) (o : BOut)
    (h : build regexOk limit true sdf p {} st = .ok o) (c : Ref) (hc : validRef d c = true) :
    ∃ out nv, sel (F := F) d cfg o.q c = .ok out ∧ sel (F := F) d cfg (naivePlan p) c = .ok nv ∧
      ∀ x, x ∈ refs out ↔ x ∈ refs nv := by
  obtain ⟨out, nv, h1, h2, _, heq, _⟩ :=
    (build_ok_all (F := F) wf cfg hinj regexOk limit sdf p hp).1 {} st o rfl h c hc
  exact ⟨out, nv, h1, h2, heq rfl⟩

end XPathV.PathSem
