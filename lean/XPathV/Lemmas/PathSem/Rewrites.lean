import XPathV.Lemmas.PathSem.Naive
/-!
# C01 — stage 4 (numbered in `Lemmas/PathSem.lean`): the builder's rewrites (a), (b), (c) preserve the
node set
-/
namespace XPathV.PathSem
open XPathV XPathV.Model

variable {F : Type} [NumAlg F]

/-! ## descendant / child relations in index form -/

/-- `x` is a proper descendant of `o` (never an attribute, never below an attribute) -/
def InSub (d : Doc) (o x : Ref) : Prop :=
  ∃ p j, o = .node p ∧ x = .node j ∧ p < j ∧ j < endOf d p

def IsChild (d : Doc) (o x : Ref) : Prop :=
  ∃ p j, o = .node p ∧ x = .node j ∧ p < j ∧ j < endOf d p ∧ dep d j = dep d p + 1

theorem mem_descM {d : Doc} (wf : WF d) (o : Ref) (ho : validRef d o = true) (x : Ref) :
    x ∈ (descM d o).map (·.1) ↔ InSub d o x := by
  cases o with
  | node i =>
    have hi := (validRef_node d i).1 ho
    rw [desc_range wf i hi, mem_range'_node]
    have := endOf_gt d i
    constructor
    · rintro ⟨j, rfl, h1, h2⟩; exact ⟨i, j, rfl, rfl, by omega, by omega⟩
    · rintro ⟨p, j, hp, rfl, h1, h2⟩; cases hp; exact ⟨j, rfl, by omega, by omega⟩
  | attr i k =>
    rw [descM_attr]
    simp only [List.map_nil, List.not_mem_nil, false_iff]
    rintro ⟨p, j, hp, _⟩; cases hp

theorem mem_childrenM {d : Doc} (wf : WF d) (o : Ref) (ho : validRef d o = true) (x : Ref) :
    x ∈ childrenM d o ↔ IsChild d o x := by
  cases o with
  | node i =>
    have hi := (validRef_node d i).1 ho
    rw [childrenM_node, List.mem_map]
    constructor
    · rintro ⟨j, hj, rfl⟩
      obtain ⟨a, b, c⟩ := (childIdx_mem wf i hi j).1 hj
      exact ⟨i, j, rfl, rfl, a, b, c⟩
    · rintro ⟨p, j, hp, rfl, a, b, c⟩; cases hp
      exact ⟨j, (childIdx_mem wf i hi j).2 ⟨a, b, c⟩, rfl⟩
  | attr i k =>
    rw [childrenM_attr]
    simp only [List.not_mem_nil, false_iff]
    rintro ⟨p, j, hp, _⟩; cases hp

theorem InSub_valid {d : Doc} (o x : Ref) (ho : validRef d o = true) (h : InSub d o x) :
    validRef d x = true := by
  obtain ⟨p, j, rfl, rfl, h1, h2⟩ := h
  have hp := (validRef_node d p).1 ho
  have := endOf_le d p hp
  exact (validRef_node d j).2 (by omega)

theorem valid_of_cover {d : Doc} (o y : Ref) (ho : validRef d o = true)
    (h : y = o ∨ InSub d o y) : validRef d y = true := by
  rcases h with rfl | h
  · exact ho
  · exact InSub_valid o y ho h

theorem InSub_trans {d : Doc} (o' o x : Ref) (ho : validRef d o' = true)
    (h1 : InSub d o' o) (h2 : InSub d o x) : InSub d o' x := by
  obtain ⟨p', p, rfl, rfl, a, b⟩ := h1
  obtain ⟨q, j, hq, rfl, e, f⟩ := h2
  cases hq
  have hp := (validRef_node d p').1 ho
  have := endOf_nested d p' p hp a b
  exact ⟨p', j, rfl, rfl, by omega, by omega⟩

/-- what lies below a node lies below every ancestor-or-self of it -/
theorem InSub_of_cover {d : Doc} (o' o x : Ref) (ho : validRef d o' = true)
    (hcov : o' = o ∨ InSub d o' o) (h : InSub d o x) : InSub d o' x := by
  rcases hcov with rfl | hcov
  · exact h
  · exact InSub_trans o' o x ho hcov h

/-- a proper descendant `j` of `c` has its parent in the subtree of `c` (or is a child of `c`) -/
theorem parent_in_sub {d : Doc} (wf : WF d) (c j : Nat) (hc : c < d.length) (h1 : c < j)
    (h2 : j < endOf d c) : ∃ p, c ≤ p ∧ p < j ∧ j < endOf d p ∧ dep d j = dep d p + 1 := by
  have hle := endOf_le d c hc
  have hj : j < d.length := by omega
  obtain ⟨p, hp⟩ := parent_exists wf j (by omega) hj
  obtain ⟨hpj, hpd, hb⟩ := parentFrom_some d _ _ _ hp
  have hin := endOf_inside d c j h1 h2
  have hcp : c ≤ p := by
    rcases Nat.lt_or_ge p c with h | h
    · have := hb c h h1; omega
    · exact h
  have := (parent_iff_subtree wf p j hj hpj).1 hp
  exact ⟨p, hcp, hpj, this.1, this.2⟩

/-- every proper descendant lies in the subtree of exactly one child; here: of some child -/
theorem child_cover {d : Doc} (wf : WF d) (c : Nat) (hc : c < d.length) :
    ∀ j, c < j → j < endOf d c → ∃ m ∈ childIdx d c, m ≤ j ∧ j < endOf d m := by
  intro j
  induction j using Nat.strongRecOn with
  | ind j ih =>
    intro h1 h2
    obtain ⟨p, hcp, hpj, hjp, hdep⟩ := parent_in_sub wf c j hc h1 h2
    rcases Nat.eq_or_lt_of_le hcp with h | h
    · subst h
      exact ⟨j, (childIdx_mem wf c hc j).2 ⟨h1, h2, hdep⟩, Nat.le_refl _, endOf_gt d j⟩
    · obtain ⟨m, hm, hmp, hpm⟩ := ih p hpj h (by omega)
      refine ⟨m, hm, by omega, ?_⟩
      rcases Nat.eq_or_lt_of_le hmp with e | e
      · subst e; exact hjp
      · have hml : m < d.length := by
          have := ((childIdx_mem wf c hc m).1 hm).2.1
          have := endOf_le d c hc; omega
        have := endOf_nested d m p hml e hpm
        omega

/-- `x` is a descendant of `o` iff it is a child of `o` or of a descendant of `o` -/
theorem desc_iff_child_of_dos {d : Doc} (wf : WF d) (o : Ref) (ho : validRef d o = true) (x : Ref) :
    InSub d o x ↔ ∃ y, (y = o ∨ InSub d o y) ∧ IsChild d y x := by
  constructor
  · rintro ⟨c, j, rfl, rfl, h1, h2⟩
    have hc := (validRef_node d c).1 ho
    obtain ⟨p, hcp, hpj, hjp, hdep⟩ := parent_in_sub wf c j hc h1 h2
    refine ⟨.node p, ?_, ⟨p, j, rfl, rfl, hpj, hjp, hdep⟩⟩
    rcases Nat.eq_or_lt_of_le hcp with h | h
    · left; rw [h]
    · right; exact ⟨c, p, rfl, rfl, h, by omega⟩
  · rintro ⟨y, hy, ⟨p, j, rfl, rfl, a, b, _⟩⟩
    rcases hy with rfl | hy
    · exact ⟨p, j, rfl, rfl, a, b⟩
    · exact InSub_trans o (.node p) (.node j) ho hy ⟨p, j, rfl, rfl, a, b⟩

/-! ## `topMost`: the matching descendants with no matching node between them and the origin -/

theorem isChild_inSub {d : Doc} {o x : Ref} (h : IsChild d o x) : InSub d o x := by
  obtain ⟨p, j, e1, e2, a, b, _⟩ := h
  exact ⟨p, j, e1, e2, a, b⟩

theorem inSub_idx_lt {d : Doc} {o x : Ref} (h : InSub d o x) : o.idx < x.idx := by
  obtain ⟨p, j, rfl, rfl, a, _⟩ := h
  exact a

theorem valid_idx_lt {d : Doc} {o : Ref} (ho : validRef d o = true) : o.idx < d.length := by
  cases o with
  | node i => exact (validRef_node d i).1 ho
  | attr i k => exact ((validRef_attr d i k).1 ho).1

/-- every proper descendant is a child or lies below a child -/
theorem child_cover_ref {d : Doc} (wf : WF d) (o x : Ref) (ho : validRef d o = true) (h : InSub d o x) :
    ∃ m, IsChild d o m ∧ (m = x ∨ InSub d m x) := by
  obtain ⟨i, j, rfl, rfl, h1, h2⟩ := h
  have hi := (validRef_node d i).1 ho
  obtain ⟨m, hm, hmj, hjm⟩ := child_cover wf i hi j h1 h2
  obtain ⟨a, b, c⟩ := (childIdx_mem wf i hi m).1 hm
  refine ⟨.node m, ⟨i, m, rfl, rfl, a, b, c⟩, ?_⟩
  rcases Nat.eq_or_lt_of_le hmj with e | e
  · left; rw [e]
  · right; exact ⟨m, j, rfl, rfl, e, hjm⟩

/- Both by induction on the number of nodes after the origin, through the recursion equation
`topMost_children`: a child that matches is reported, below one that does not the same holds again. -/

theorem mem_topMost_sound {d : Doc} (wf : WF d) (t : Ref → Bool) (o : Ref)
    (ho : validRef d o = true) (x : Ref) (hx : x ∈ topMost d t o) : InSub d o x ∧ t x = true := by
  have key : ∀ n (o : Ref), validRef d o = true → d.length - o.idx ≤ n →
      ∀ x ∈ topMost d t o, InSub d o x ∧ t x = true := by
    intro n
    induction n with
    | zero => intro o ho hn; have := valid_idx_lt ho; omega
    | succ n ih =>
      intro o ho hn x hx
      rw [topMost_children, List.mem_flatMap] at hx
      obtain ⟨m, hm, hx⟩ := hx
      have hc := isChild_inSub ((mem_childrenM wf o ho m).1 hm)
      split at hx
      · rw [List.mem_singleton.1 hx]; exact ⟨hc, ‹_›⟩
      · have := inSub_idx_lt hc
        obtain ⟨h1, h2⟩ := ih m (InSub_valid o m ho hc) (by omega) x hx
        exact ⟨InSub_trans o m x ho hc h1, h2⟩
  exact key _ o ho (Nat.le_refl _) x hx

theorem mem_topMost_cover {d : Doc} (wf : WF d) (t : Ref → Bool) (o : Ref)
    (ho : validRef d o = true) (x : Ref) (hx : InSub d o x) (ht : t x = true) :
    ∃ y ∈ topMost d t o, y = x ∨ InSub d y x := by
  have key : ∀ n (o : Ref), validRef d o = true → d.length - o.idx ≤ n → InSub d o x →
      ∃ y ∈ topMost d t o, y = x ∨ InSub d y x := by
    intro n
    induction n with
    | zero => intro o ho hn; have := valid_idx_lt ho; omega
    | succ n ih =>
      intro o ho hn hx
      obtain ⟨m, hm, hmx⟩ := child_cover_ref wf o x ho hx
      have hmem : ∀ y ∈ (if t m then [m] else topMost d t m), y ∈ topMost d t o := fun y hy => by
        rw [topMost_children, List.mem_flatMap]
        exact ⟨m, (mem_childrenM wf o ho m).2 hm, hy⟩
      by_cases htm : t m = true
      · exact ⟨m, hmem m (by rw [if_pos htm]; exact List.mem_singleton.2 rfl), hmx⟩
      · have hsub : InSub d m x := hmx.resolve_left fun e => htm (e ▸ ht)
        have := inSub_idx_lt (isChild_inSub hm)
        obtain ⟨y, hy, hyx⟩ := ih m (InSub_valid o m ho (isChild_inSub hm)) (by omega) hsub
        exact ⟨y, hmem y (by rw [if_neg htm]; exact hy), hyx⟩
  exact key _ o ho (Nat.le_refl _) hx

/-! ## node sets of the plans involved in the rewrites -/

section
variable (d : Doc) (cfg : ECfg)

theorem sel_child (a : AxisInfo) (inp : Plan) (c : Ref) (ins : List Item)
    (h : sel (F := F) d cfg inp c = .ok ins) :
    ∃ out, sel (F := F) d cfg (.child a inp) c = .ok out ∧
      ∀ x, x ∈ refs out ↔ ∃ o ∈ refs ins, x ∈ (childrenM d o).filter (test d cfg a) :=
  sel_blocks _ (by rw [sel]) (fun _ => numbered_refs _) h

/-- **(a)** `cachedChild` and `child` have the same `sel` -/
theorem sel_cachedChild (a : AxisInfo) (inp : Plan) (c : Ref) :
    sel (F := F) d cfg (.cachedChild a inp) c = sel (F := F) d cfg (.child a inp) c := by
  rw [sel, sel]

theorem sel_descendant (a : AxisInfo) (s : Bool) (inp : Plan) (c : Ref) (ins : List Item)
    (h : sel (F := F) d cfg inp c = .ok ins) :
    ∃ out, sel (F := F) d cfg (.descendant a s inp) c = .ok out ∧
      ∀ x, x ∈ refs out ↔ ∃ o ∈ refs ins,
        ((s = true ∧ x = o) ∨ x ∈ (descM d o).map (·.1)) ∧ test d cfg a x = true := by
  refine Exists.imp (fun out ho => ⟨ho.1, fun x => ?_⟩) (sel_blocks (F := F)
    (fun o => ((if s then [o] else []) ++ (descM d o).map (·.1)).filter (test d cfg a))
    (by rw [sel]) (fun it => ?_) h)
  · rw [ho.2]
    simp only [List.mem_filter, List.mem_append]
    constructor
    · rintro ⟨o, ho, h1 | h1, h2⟩
      · split at h1
        · exact ⟨o, ho, Or.inl ⟨‹_›, List.mem_singleton.1 h1⟩, h2⟩
        · cases h1
      · exact ⟨o, ho, Or.inr h1, h2⟩
    · rintro ⟨o, ho, ⟨hs, rfl⟩ | h1, h2⟩
      · exact ⟨x, ho, Or.inl (by rw [if_pos hs]; exact List.mem_singleton.2 rfl), h2⟩
      · exact ⟨o, ho, Or.inr h1, h2⟩
  · simp only [leveled_refs, List.map_append, List.filter_append, List.filter_map, Function.comp_def]
    congr 1
    cases s
    · rfl
    · simp only [Bool.true_and, ↓reduceIte, List.filter_cons, List.filter_nil]
      split <;> rfl

theorem sel_descOverDesc (a : AxisInfo) (m : Bool) (inp : Plan) (c : Ref) (ins : List Item)
    (h : sel (F := F) d cfg inp c = .ok ins) :
    ∃ out, sel (F := F) d cfg (.descOverDesc a m inp) c = .ok out ∧
      ∀ x, x ∈ refs out ↔ ∃ o ∈ refs ins,
        x ∈ (if m && test d cfg a o then [o] else topMost d (test d cfg a) o) := by
  refine sel_blocks _ (by rw [sel]) (fun it => ?_) h
  split
  · rfl
  · exact numbered_refs _

end

/-! ## (b) the `//name` shortcut -/

theorem test_dos (d : Doc) (cfg : ECfg) (dos : AxisInfo) (h1 : dos.typeTest = .all)
    (h2 : dos.lname = "") (h3 : dos.pfx = "") (y : Ref) : test d cfg dos y = true := by
  simp [test, nodeTestM, h1, h2, h3]

/-- **(b)** `//name`: `descendant::name` over `g` selects the same nodes as
`child::name` over `descendant-or-self::node()` over `g` -/
theorem shortcut_sem {d : Doc} (wf : WF d) (cfg : ECfg) (a dos : AxisInfo)
    (h1 : dos.typeTest = .all) (h2 : dos.lname = "") (h3 : dos.pfx = "")
    (g : Plan) (c : Ref) (ins : List Item) (h : sel (F := F) d cfg g c = .ok ins)
    (hv : ∀ o ∈ refs ins, validRef d o = true) :
    ∃ o1 o2, sel (F := F) d cfg (.descendant a false g) c = .ok o1 ∧
      sel (F := F) d cfg (.child a (.descendant dos true g)) c = .ok o2 ∧
      ∀ x, x ∈ refs o1 ↔ x ∈ refs o2 := by
  obtain ⟨o1, ho1, hm1⟩ := sel_descendant (F := F) d cfg a false g c ins h
  obtain ⟨mid, hmid, hmm⟩ := sel_descendant (F := F) d cfg dos true g c ins h
  obtain ⟨o2, ho2, hm2⟩ := sel_child (F := F) d cfg a (.descendant dos true g) c mid hmid
  refine ⟨o1, o2, ho1, ho2, fun x => ?_⟩
  rw [hm1, hm2]
  constructor
  · rintro ⟨o, ho, hx | hx, ht⟩
    · exact absurd hx.1 (by simp)
    · have hov := hv o ho
      obtain ⟨y, hy, hc⟩ := (desc_iff_child_of_dos wf o hov x).1 ((mem_descM wf o hov x).1 hx)
      have hyv := valid_of_cover o y hov hy
      refine ⟨y, (hmm y).2 ⟨o, ho, ?_, test_dos d cfg dos h1 h2 h3 y⟩, ?_⟩
      · rcases hy with rfl | hy
        · exact Or.inl ⟨rfl, rfl⟩
        · exact Or.inr ((mem_descM wf o hov y).2 hy)
      · exact List.mem_filter.2 ⟨(mem_childrenM wf y hyv x).2 hc, ht⟩
  · rintro ⟨y, hy, hx⟩
    obtain ⟨o, ho, hyo, _⟩ := (hmm y).1 hy
    have hov := hv o ho
    obtain ⟨hx, ht⟩ := List.mem_filter.1 hx
    have hyo' : y = o ∨ InSub d o y := by
      rcases hyo with ⟨_, rfl⟩ | hyo
      · exact Or.inl rfl
      · exact Or.inr ((mem_descM wf o hov y).1 hyo)
    have hyv := valid_of_cover o y hov hyo'
    refine ⟨o, ho, Or.inr ((mem_descM wf o hov x).2 ?_), ht⟩
    exact (desc_iff_child_of_dos wf o hov x).2 ⟨y, hyo', (mem_childrenM wf y hyv x).1 hx⟩

/-! ## (c) descendant over descendant -/

/-- `S'` is a sub-list of `S` (as sets) containing an ancestor-or-self of every member of `S` -/
def Covers (d : Doc) (S' S : List Ref) : Prop :=
  (∀ x ∈ S', x ∈ S) ∧ ∀ o ∈ S, ∃ o' ∈ S', o' = o ∨ InSub d o' o

theorem Covers.of_seteq (d : Doc) (S' S : List Ref) (h : ∀ x, x ∈ S' ↔ x ∈ S) : Covers d S' S :=
  ⟨fun x hx => (h x).1 hx, fun o ho => ⟨o, (h o).2 ho, Or.inl rfl⟩⟩

/-- consumer, on sets: what lies at or below a node of `S` lies at or below a node of a covering part
`S'` (`P` is the node test of the step, the same on both sides) -/
theorem desc_of_covers {d : Doc} (wf : WF d) {S' S : List Ref} (hv : ∀ o ∈ S, validRef d o = true)
    (hc : Covers d S' S) (s : Bool) (x : Ref) (P : Prop) :
    (∃ o ∈ S', ((s = true ∧ x = o) ∨ x ∈ (descM d o).map (·.1)) ∧ P) ↔
      ∃ o ∈ S, ((s = true ∧ x = o) ∨ x ∈ (descM d o).map (·.1)) ∧ P := by
  constructor
  · rintro ⟨o, ho, hx⟩; exact ⟨o, hc.1 o ho, hx⟩
  · rintro ⟨o, ho, hx, hP⟩
    obtain ⟨o', ho', hcov⟩ := hc.2 o ho
    have hov := hv o ho
    have hov' := hv o' (hc.1 o' ho')
    rcases hcov with rfl | hcov
    · exact ⟨o', ho', hx, hP⟩
    · refine ⟨o', ho', Or.inr ((mem_descM wf o' hov' x).2 ?_), hP⟩
      rcases hx with ⟨_, rfl⟩ | hx
      · exact hcov
      · exact InSub_of_cover o' o x hov' (Or.inr hcov) ((mem_descM wf o hov x).1 hx)

/-- producer, on sets: the top-most matches at or below a covering part `S'` of `S` (the nodes `T'`)
cover the matches at or below `S` (the nodes `T`) -/
theorem topMost_covers {d : Doc} (wf : WF d) (t : Ref → Bool) (m : Bool) {S' S T' T : List Ref}
    (hv : ∀ o ∈ S, validRef d o = true) (hc : Covers d S' S)
    (h1 : ∀ x, x ∈ T' ↔ ∃ o ∈ S', x ∈ (if m && t o then [o] else topMost d t o))
    (h2 : ∀ x, x ∈ T ↔ ∃ o ∈ S, ((m = true ∧ x = o) ∨ x ∈ (descM d o).map (·.1)) ∧ t x = true) :
    Covers d T' T := by
  constructor
  · intro x hx
    obtain ⟨o', ho', hx⟩ := (h1 x).1 hx
    have hov' := hv o' (hc.1 o' ho')
    refine (h2 x).2 ⟨o', hc.1 o' ho', ?_⟩
    split at hx
    · rename_i hmt
      simp only [List.mem_cons, List.not_mem_nil, or_false] at hx
      subst hx
      simp only [Bool.and_eq_true] at hmt
      exact ⟨Or.inl ⟨hmt.1, rfl⟩, hmt.2⟩
    · obtain ⟨k1, k2⟩ := mem_topMost_sound wf _ o' hov' x hx
      exact ⟨Or.inr ((mem_descM wf o' hov' x).2 k1), k2⟩
  · intro x hx
    obtain ⟨o, ho, hxo, ht⟩ := (h2 x).1 hx
    obtain ⟨o', ho', hcov⟩ := hc.2 o ho
    have hov := hv o ho
    have hov' := hv o' (hc.1 o' ho')
    by_cases hmt : (m && t o') = true
    · -- `o'` itself is yielded
      refine ⟨o', (h1 o').2 ⟨o', ho', by simp [hmt]⟩, ?_⟩
      rcases hxo with ⟨_, rfl⟩ | hxo
      · exact hcov
      · exact Or.inr (InSub_of_cover o' o x hov' hcov ((mem_descM wf o hov x).1 hxo))
    · -- the top-most matches below `o'` are yielded
      have hsub : InSub d o' x := by
        rcases hxo with ⟨hm, rfl⟩ | hxo
        · rcases hcov with rfl | hcov
          · exfalso; apply hmt; simp [hm, ht]
          · exact hcov
        · exact InSub_of_cover o' o x hov' hcov ((mem_descM wf o hov x).1 hxo)
      obtain ⟨y, hy, hyx⟩ := mem_topMost_cover wf t o' hov' x hsub ht
      exact ⟨y, (h1 y).2 ⟨o', ho', by simp only [hmt]; exact hy⟩, hyx⟩

/-- consumer: a descendant step over a covering input yields the same node set -/
theorem descendant_of_covers {d : Doc} (wf : WF d) (cfg : ECfg) (a : AxisInfo) (s : Bool)
    (inp' inp : Plan) (c : Ref) (ins' ins : List Item)
    (h' : sel (F := F) d cfg inp' c = .ok ins') (h : sel (F := F) d cfg inp c = .ok ins)
    (hv : ∀ o ∈ refs ins, validRef d o = true) (hc : Covers d (refs ins') (refs ins)) :
    ∃ o1 o2, sel (F := F) d cfg (.descendant a s inp') c = .ok o1 ∧
      sel (F := F) d cfg (.descendant a s inp) c = .ok o2 ∧ ∀ x, x ∈ refs o1 ↔ x ∈ refs o2 := by
  obtain ⟨o1, ho1, hm1⟩ := sel_descendant (F := F) d cfg a s inp' c ins' h'
  obtain ⟨o2, ho2, hm2⟩ := sel_descendant (F := F) d cfg a s inp c ins h
  exact ⟨o1, o2, ho1, ho2, fun x => by rw [hm1, hm2]; exact desc_of_covers wf hv hc s x _⟩

/-- producer: `descOverDesc` over a covering input covers the plain descendant step -/
theorem descOverDesc_covers {d : Doc} (wf : WF d) (cfg : ECfg) (a : AxisInfo) (m : Bool)
    (inp' inp : Plan) (c : Ref) (ins' ins : List Item)
    (h' : sel (F := F) d cfg inp' c = .ok ins') (h : sel (F := F) d cfg inp c = .ok ins)
    (hv : ∀ o ∈ refs ins, validRef d o = true) (hc : Covers d (refs ins') (refs ins)) :
    ∃ o1 o2, sel (F := F) d cfg (.descOverDesc a m inp') c = .ok o1 ∧
      sel (F := F) d cfg (.descendant a m inp) c = .ok o2 ∧ Covers d (refs o1) (refs o2) := by
  obtain ⟨o1, ho1, hm1⟩ := sel_descOverDesc (F := F) d cfg a m inp' c ins' h'
  obtain ⟨o2, ho2, hm2⟩ := sel_descendant (F := F) d cfg a m inp c ins h
  exact ⟨o1, o2, ho1, ho2, topMost_covers wf (test d cfg a) m hv hc hm1 hm2⟩

/-- **(c)** an outer descendant step only needs the top-most matches of an inner one -/
theorem descOverDesc_sem {d : Doc} (wf : WF d) (cfg : ECfg) (a b : AxisInfo) (s m : Bool)
    (g : Plan) (c : Ref) (ins : List Item) (h : sel (F := F) d cfg g c = .ok ins)
    (hv : ∀ o ∈ refs ins, validRef d o = true) :
    ∃ o1 o2, sel (F := F) d cfg (.descendant a s (.descOverDesc b m g)) c = .ok o1 ∧
      sel (F := F) d cfg (.descendant a s (.descendant b m g)) c = .ok o2 ∧
      ∀ x, x ∈ refs o1 ↔ x ∈ refs o2 := by
  obtain ⟨m1, m2, hm1, hm2, hcov⟩ := descOverDesc_covers (F := F) wf cfg b m g g c ins ins h h hv
    (Covers.of_seteq d _ _ (fun _ => Iff.rfl))
  have hv2 : ∀ o ∈ refs m2, validRef d o = true := by
    obtain ⟨m2', hm2', hmem⟩ := sel_descendant (F := F) d cfg b m g c ins h
    rw [hm2] at hm2'; cases hm2'
    intro o ho
    obtain ⟨o0, ho0, hx, _⟩ := (hmem o).1 ho
    rcases hx with ⟨_, rfl⟩ | hx
    · exact hv _ ho0
    · exact InSub_valid o0 o (hv _ ho0) ((mem_descM wf o0 (hv _ ho0) o).1 hx)
  exact descendant_of_covers wf cfg a s _ _ c m1 m2 hm1 hm2 hv2 hcov

end XPathV.PathSem
