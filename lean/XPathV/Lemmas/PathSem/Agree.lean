import XPathV.Lemmas.PathSem.Rewrites
/-!
# A plan against the oracle: node sets

`PathOK pl p c`: the plan `pl` selects the node set the oracle assigns to the path `p` at the context `c`;
`Cover`: it selects a covering part of it, which is all a descendant step asks of its input.  One lemma
per plan constructor the builder puts over a path — the plain step, descendant over descendant, the
`//name` shortcut, union — each against the oracle directly: `eval_step` states the oracle's value of a
step in the terms of the model's walks, so that the two sides meet on sets of nodes.
-/
namespace XPathV.PredSem
open XPathV XPathV.Model XPathV.PathSem

variable {F : Type} [NumAlg F]

/-- the node-set *value* `evalP` makes of a selected sequence -/
def nodesVal (d : Doc) (cfg : ECfg) (out : List Item) : List Ref :=
  if cfg.setSemantics then Spec.docOrder d (refs out) else refs out

/-! ## plans on which `evalP` takes the default arm -/

theorem evalP_pathShape (d : Doc) (cfg : ECfg) (q : Plan) (hq : PathShape q) (c : Ref)
    (out : List Item) (h : sel (F := F) d cfg q c = .ok out) :
    evalP (F := F) d cfg q c = .ok (.nodes (nodesVal d cfg out)) := by
  cases q <;> first
    | exact False.elim hq
    | simp only [evalP, h, bind, Except.bind, nodesVal, refs]

theorem stepPlan_pathShape (a : AxisInfo) (ha : a.axis ∈ axes12) (inp : Plan) :
    PathShape (stepPlan a inp) := by
  simp only [axes12, List.mem_cons, List.not_mem_nil, or_false] at ha
  rcases ha with hax | hax | hax | hax | hax | hax | hax | hax | hax | hax | hax | hax <;>
    (simp only [stepPlan, hax]; trivial)

/-- plan `pl` and path `p` agree at context `c`: both succeed, same node set, all nodes valid;
`evalP` takes the default arm; the oracle's per-origin groups cover exactly the node set -/
def PathOK (d : Doc) (cfg : ECfg) (pl : Plan) (p : Ast) (c : Spec.Ctx) : Prop :=
  ∃ out ns g, sel (F := F) d cfg pl c.node = .ok out ∧
    evalP (F := F) d cfg pl c.node = .ok (.nodes (nodesVal d cfg out)) ∧
    Spec.eval (F := F) d p c = .ok (.val (.nodes ns) g) ∧
    (∀ x, x ∈ refs out ↔ x ∈ ns) ∧ (∀ x ∈ ns, validRef d x = true) ∧
    (∀ gs, g = some gs → ∀ x, x ∈ gs.flatten ↔ x ∈ ns)

/-! ## base cases -/

theorem pathOK_none (d : Doc) (cfg : ECfg) (c : Spec.Ctx) (hc : validRef d c.node = true) :
    PathOK (F := F) d cfg .context .none c := by
  refine ⟨[⟨c.node, 1, 0⟩], [c.node], none, sel_context d cfg c.node,
    evalP_pathShape d cfg .context trivial c.node _ (sel_context d cfg c.node),
    by simp only [Spec.eval], by simp [refs], ?_, by intro gs h; cases h⟩
  intro x hx; simp only [List.mem_cons, List.not_mem_nil, or_false] at hx; rw [hx]; exact hc

theorem pathOK_root {d : Doc} (wf : WF d) (cfg : ECfg) (s : String) (c : Spec.Ctx) :
    PathOK (F := F) d cfg .absolute (.root s) c := by
  have hsel : sel (F := F) d cfg .absolute c.node = .ok [⟨.node 0, 1, 0⟩] := by simp [sel, Nav.root]
  refine ⟨[⟨.node 0, 1, 0⟩], [.node 0], none, hsel,
    evalP_pathShape d cfg .absolute trivial c.node _ hsel,
    by simp only [Spec.eval], by simp [refs], ?_, by intro gs h; cases h⟩
  intro x hx; simp only [List.mem_cons, List.not_mem_nil, or_false] at hx; rw [hx]
  exact (validRef_node d 0).2 wf.pos

/-! ## the oracle on a step -/

/-- the oracle's value of a step over an evaluated input, with its per-origin groups -/
theorem eval_axis_groups (d : Doc) (a : AxisInfo) (ha : a.axis ∈ axes12) (inp : Ast) (c : Spec.Ctx)
    (origins : List Ref) (g : Option (List (List Ref)))
    (h : Spec.eval (F := F) d inp c = .ok (.val (.nodes origins) g)) :
    Spec.eval (F := F) d (.axis a inp) c =
      .ok (.val (.nodes (Spec.docOrder d (origins.map (fun o =>
        ((Spec.axisProx d a.axis o).getD []).filter (Spec.nodeTest d a))).flatten))
        (some (origins.map (fun o =>
        ((Spec.axisProx d a.axis o).getD []).filter (Spec.nodeTest d a))))) := by
  obtain ⟨l, hl⟩ := axisProx_some d a.axis ha (.node 0)
  simp only [Spec.eval, h, bind, Except.bind, Spec.Res.value, Spec.asNodes, hl]

end XPathV.PredSem

namespace XPathV.UnionSem
open XPathV XPathV.PathSem

variable {F : Type} [NumAlg F]

/-! ## the oracle on `|` -/

theorem ofString_union : Spec.CmpOp.ofString "|" = none := by decide

theorem eval_union (d : Doc) (l r : Ast) (c : Spec.Ctx) (a b : List Ref)
    (ga gb : Option (List (List Ref)))
    (hl : Spec.eval (F := F) d l c = .ok (.val (.nodes a) ga))
    (hr : Spec.eval (F := F) d r c = .ok (.val (.nodes b) gb)) :
    Spec.eval (F := F) d (.oper "|" l r) c = .ok (.val (.nodes (Spec.docOrder d (a ++ b))) none) := by
  rw [Spec.eval]
  simp only [hl, hr, bind, Except.bind]
  split
  · rename_i h; exact absurd h (by decide)
  · rename_i h; exact absurd h (by decide)
  · simp [ofString_union, Spec.Res.value, Spec.asNodes]

theorem mem_union_spec (d : Doc) (a b : List Ref) (hva : ∀ x ∈ a, validRef d x = true)
    (hvb : ∀ x ∈ b, validRef d x = true) (x : Ref) :
    x ∈ Spec.docOrder d (a ++ b) ↔ x ∈ a ∨ x ∈ b := by
  rw [mem_docOrder, List.mem_append]
  constructor
  · exact fun h => h.1
  · rintro (h | h)
    · exact ⟨Or.inl h, hva x h⟩
    · exact ⟨Or.inr h, hvb x h⟩

end XPathV.UnionSem

namespace XPathV.PathSem
open XPathV XPathV.Model XPathV.PredSem

variable {F : Type} [NumAlg F]

/-! ## a covering part of the node set -/

/-- `q` selects a covering part of the node set of `e`: every selected node is in the set, and every
node of the set has an ancestor-or-self among the selected ones -/
def Cover (d : Doc) (cfg : ECfg) (q : Plan) (e : Ast) (c : Spec.Ctx) : Prop :=
  ∃ out ns g, sel (F := F) d cfg q c.node = .ok out ∧
    evalP (F := F) d cfg q c.node = .ok (.nodes (nodesVal d cfg out)) ∧
    Spec.eval (F := F) d e c = .ok (.val (.nodes ns) g) ∧
    Covers d (refs out) ns ∧ (∀ x ∈ ns, validRef d x = true)

section Plans
variable {d : Doc} {cfg : ECfg} {q : Plan} {e : Ast} {c : Spec.Ctx}

theorem cover_of_pathOK (h : PathOK (F := F) d cfg q e c) : Cover (F := F) d cfg q e c := by
  obtain ⟨out, ns, g, h1, h2, h3, hm, hv, _⟩ := h
  exact ⟨out, ns, g, h1, h2, h3, Covers.of_seteq d _ _ hm, hv⟩

/-- a path-shaped plan that selects the same set agrees as well: how the rewrites that are stated plan
against plan (`shortcut_sem`, the merge rewrite) are carried over to the oracle -/
theorem pathOK_of_seteq {q' : Plan} (hq' : PathShape q') (h : PathOK (F := F) d cfg q e c)
    (hs : ∃ o' o, sel (F := F) d cfg q' c.node = .ok o' ∧ sel (F := F) d cfg q c.node = .ok o ∧
      ∀ x, x ∈ refs o' ↔ x ∈ refs o) : PathOK (F := F) d cfg q' e c := by
  obtain ⟨out, ns, g, h1, _, h3, hm, hv, hg⟩ := h
  obtain ⟨o', o, ho', ho, heq⟩ := hs
  rw [h1] at ho; cases ho
  exact ⟨o', ns, g, ho', evalP_pathShape d cfg q' hq' c.node o' ho', h3,
    fun x => (heq x).trans (hm x), hv, hg⟩

end Plans

/-! ## a step -/

/-- **the oracle on one step, in the model's terms**: over an input with the valid node set `ns` the
step denotes the nodes the model's walk reaches from some node of `ns` that pass the model's node test -/
theorem eval_step {d : Doc} (wf : WF d) (cfg : ECfg) (hns : cfg.nsIface = true) (a : AxisInfo)
    (ha : a.axis ∈ axes12) {inp : Ast} {c : Spec.Ctx} {ns : List Ref} {g : Option (List (List Ref))}
    (hev : Spec.eval (F := F) d inp c = .ok (.val (.nodes ns) g)) (hv : ∀ o ∈ ns, validRef d o = true) :
    ∃ ns' gs, Spec.eval (F := F) d (.axis a inp) c = .ok (.val (.nodes ns') (some gs)) ∧
      (∀ x ∈ ns', validRef d x = true) ∧ (∀ x, x ∈ gs.flatten ↔ x ∈ ns') ∧
      ∀ x, x ∈ ns' ↔ ∃ o ∈ ns, x ∈ (axisRefsM d a.axis o).filter (test d cfg a) := by
  -- every node in a group is valid
  have hgv : ∀ x, x ∈ (ns.map (fun o =>
      ((Spec.axisProx d a.axis o).getD []).filter (Spec.nodeTest d a))).flatten → validRef d x = true := by
    intro x hx
    obtain ⟨l, hl, hx⟩ := List.mem_flatten.1 hx
    obtain ⟨o, ho, rfl⟩ := List.mem_map.1 hl
    exact axisNodes_valid wf o (hv o ho) a.axis ha x ((mem_axisProx d _ o x).1 (List.mem_filter.1 hx).1)
  refine ⟨_, _, eval_axis_groups (F := F) d a ha inp c ns g hev,
    fun x hx => ((mem_docOrder d _ x).1 hx).2, fun x => ?_, fun x => ?_⟩
  · rw [mem_docOrder]
    exact ⟨fun h => ⟨h, hgv x h⟩, fun h => h.1⟩
  · rw [mem_docOrder, List.mem_flatten]
    constructor
    · rintro ⟨⟨l, hl, hx⟩, _⟩
      obtain ⟨o, ho, rfl⟩ := List.mem_map.1 hl
      exact ⟨o, ho, (step_mem_iff wf cfg hns a ha o (hv o ho) x).2 hx⟩
    · rintro ⟨o, ho, hx⟩
      have hin : x ∈ (ns.map (fun o =>
          ((Spec.axisProx d a.axis o).getD []).filter (Spec.nodeTest d a))).flatten :=
        List.mem_flatten.2 ⟨_, List.mem_map.2 ⟨o, ho, rfl⟩,
          (step_mem_iff wf cfg hns a ha o (hv o ho) x).1 hx⟩
      exact ⟨List.mem_flatten.1 hin, hgv x hin⟩

/-- the walk of a descendant axis: the origin itself (on `descendant-or-self`) and what lies below it -/
theorem mem_axisRefsM_desc {d : Doc} {a : AxisInfo} (hd : IsDescAxis a) (o x : Ref) :
    x ∈ axisRefsM d a.axis o ↔
      ((a.axis == "descendant-or-self") = true ∧ x = o) ∨ x ∈ (descM d o).map (·.1) := by
  rcases hd with h | h <;> rw [h]
  · rw [axisRefsM_descendant]; simp
  · rw [axisRefsM_dos, List.mem_cons]; simp

section Steps
variable {d : Doc} (wf : WF d) (cfg : ECfg) (hns : cfg.nsIface = true) (hinj : HashInj d cfg)
include wf hns hinj

/-- **a step**: over an input that agrees — or, on a descendant axis, merely covers — the plain step
selects the oracle's node set -/
theorem pathOK_step (a : AxisInfo) (ha : a.axis ∈ axes12) {q : Plan} {inp : Ast} {c : Spec.Ctx}
    (h : Cover (F := F) d cfg q inp c) (hex : ¬ IsDescAxis a → PathOK (F := F) d cfg q inp c) :
    PathOK (F := F) d cfg (stepPlan a q) (.axis a inp) c := by
  obtain ⟨ins, ns, g, hsel, _, hev, hcov, hv⟩ := h
  have hinsv : ∀ o ∈ refs ins, validRef d o = true := fun o ho => hv o (hcov.1 o ho)
  obtain ⟨out, hout, hom⟩ := stepPlan_sem (F := F) d cfg hinj a ha q c.node ins hinsv hsel
  obtain ⟨ns', gs, hev', hv', hg', hmem'⟩ := eval_step (F := F) wf cfg hns a ha hev hv
  refine ⟨out, ns', some gs, hout, evalP_pathShape d cfg _ (stepPlan_pathShape a ha q) c.node out hout,
    hev', fun x => ?_, hv', fun gs' e => by cases e; exact hg'⟩
  rw [hom, hmem']
  by_cases hd : IsDescAxis a
  · simp only [List.mem_filter, mem_axisRefsM_desc hd]
    exact desc_of_covers wf hv hcov _ x _
  · obtain ⟨ins', _, _, hsel', _, hev'', hm, _, _⟩ := hex hd
    rw [hsel] at hsel'; cases hsel'
    rw [hev] at hev''; cases hev''
    exact ⟨fun ⟨o, ho, hx⟩ => ⟨o, (hm o).1 ho, hx⟩, fun ⟨o, ho, hx⟩ => ⟨o, (hm o).2 ho, hx⟩⟩

omit hinj in
/-- **descendant over descendant**: over a covering input, the top-most matches cover the step -/
theorem cover_dod (a : AxisInfo) (ha : a.axis ∈ axes12) (hd : IsDescAxis a) {q : Plan} {inp : Ast}
    {c : Spec.Ctx} (h : Cover (F := F) d cfg q inp c) :
    Cover (F := F) d cfg (.descOverDesc a (a.axis == "descendant-or-self") q) (.axis a inp) c := by
  obtain ⟨ins, ns, g, hsel, _, hev, hcov, hv⟩ := h
  obtain ⟨out, hout, hom⟩ :=
    sel_descOverDesc (F := F) d cfg a (a.axis == "descendant-or-self") q c.node ins hsel
  obtain ⟨ns', gs, hev', hv', _, hmem'⟩ := eval_step (F := F) wf cfg hns a ha hev hv
  refine ⟨out, ns', some gs, hout,
    evalP_pathShape d cfg (.descOverDesc a _ q) trivial c.node out hout, hev', ?_, hv'⟩
  refine topMost_covers wf (test d cfg a) _ hv hcov hom (fun x => ?_)
  simp only [hmem', List.mem_filter, mem_axisRefsM_desc hd]

/-- **the `//name` shortcut**: one descendant step over (a covering part of) `g` for
`g/descendant-or-self::node()/child::name` -/
theorem pathOK_shortcut (a dos : AxisInfo) (hax : a.axis = "child") (hdx : dos.axis = "descendant-or-self")
    (h1 : dos.typeTest = .all) (h2 : dos.lname = "") (h3 : dos.pfx = "") {gq : Plan} {g : Ast}
    {c : Spec.Ctx} (h : Cover (F := F) d cfg gq g c) :
    PathOK (F := F) d cfg (.descendant a false gq) (.axis a (.axis dos g)) c := by
  have k1 := pathOK_step (F := F) wf cfg hns hinj dos (by simp [axes12, hdx]) h
    (fun hn => absurd (Or.inr hdx) hn)
  have k2 := pathOK_step (F := F) wf cfg hns hinj a (by simp [axes12, hax]) (cover_of_pathOK k1)
    (fun _ => k1)
  rw [stepPlan_child hax, stepPlan_dos hdx] at k2
  obtain ⟨ins, ns, _, hsel, _, _, hcov, hv⟩ := h
  exact pathOK_of_seteq trivial k2 (shortcut_sem (F := F) wf cfg a dos h1 h2 h3 gq c.node ins hsel
    (fun o ho => hv o (hcov.1 o ho)))

omit wf hns in
/-- **union** -/
theorem pathOK_union {ql qr : Plan} {l r : Ast} {c : Spec.Ctx} (hl : PathOK (F := F) d cfg ql l c)
    (hr : PathOK (F := F) d cfg qr r c) : PathOK (F := F) d cfg (.union ql qr) (.oper "|" l r) c := by
  obtain ⟨oa, na, ga, hsa, _, hea, hma, hva, _⟩ := hl
  obtain ⟨ob, nb, gb, hsb, _, heb, hmb, hvb, _⟩ := hr
  have hvalid : ∀ x ∈ (oa ++ ob).map (·.r), validRef d x = true := by
    intro x hx
    rw [List.map_append, List.mem_append] at hx
    exact hx.elim (fun h => hva x ((hma x).1 h)) (fun h => hvb x ((hmb x).1 h))
  obtain ⟨out, ho, hm, _⟩ := Theorems.C11.C11_union (F := F) d cfg ql qr c.node oa ob hsa hsb
    (fun x hx y hy => hinj x y (hvalid x hx) (hvalid y hy))
  refine ⟨out, _, none, ho, by simp only [evalP, ho, bind, Except.bind, nodesVal, refs],
    UnionSem.eval_union d l r c na nb ga gb hea heb, fun x => ?_, fun x hx => ?_, fun _ e => nomatch e⟩
  · rw [UnionSem.mem_union_spec d na nb hva hvb]
    exact (hm x).trans (or_congr (hma x) (hmb x))
  · exact ((UnionSem.mem_union_spec d na nb hva hvb x).1 hx).elim (hva x) (hvb x)

end Steps

end XPathV.PathSem
