import XPathV.Spec.Axes
/-!
# Documents that differ only in the prefixes they use

`SameShape`: same tree (length, depths, kinds, number of attributes) — the oracle's axes depend on
nothing else (`axisNodes_shape`).  `SameNames`: in addition the same local names and namespace URIs.
`rePrefix f d` rewrites every prefix of `d` with `f`; it is `SameNames` with `d` (`rePrefix_same`).
-/
namespace XPathV.NameSem
open XPathV

structure SameShape (d₁ d₂ : Doc) : Prop where
  len : d₁.length = d₂.length
  dep : ∀ i, dep d₁ i = dep d₂ i
  kind : ∀ i, kindAt d₁ i = kindAt d₂ i
  nattrs : ∀ i, (recAt d₁ i).attrs.length = (recAt d₂ i).attrs.length

structure SameNames (d₁ d₂ : Doc) : Prop extends SameShape d₁ d₂ where
  lname : ∀ x, localName d₁ x = localName d₂ x
  uri : ∀ x, nsURL d₁ x = nsURL d₂ x

section Shape
variable {d₁ d₂ : Doc} (h : SameShape d₁ d₂)
include h

theorem parentFrom_shape (di : Nat) : ∀ j, parentFrom d₁ di j = parentFrom d₂ di j
  | 0 => rfl
  | j+1 => by simp only [parentFrom, h.dep, parentFrom_shape di j]

theorem parent_shape : Spec.parent? d₁ = Spec.parent? d₂ := by
  funext r
  cases r with
  | node i => simp only [Spec.parent?, Nav.moveParent, h.dep, parentFrom_shape h]
  | attr i k => rfl

theorem allNodes_shape : allNodes d₁ = allNodes d₂ := by
  simp only [allNodes, h.len]

theorem ancestorsFuel_shape : ∀ (f : Nat) (r : Ref),
    Spec.ancestorsFuel d₁ f r = Spec.ancestorsFuel d₂ f r
  | 0, _ => rfl
  | f+1, r => by
    simp only [Spec.ancestorsFuel, parent_shape h]
    cases Spec.parent? d₂ r with
    | none => rfl
    | some p => simp only [ancestorsFuel_shape f p]

theorem ancestors_shape : Spec.ancestors d₁ = Spec.ancestors d₂ := by
  funext r
  simp only [Spec.ancestors, h.len, ancestorsFuel_shape h]

theorem isAncestor_shape : Spec.isAncestor d₁ = Spec.isAncestor d₂ := by
  funext a r
  simp only [Spec.isAncestor, ancestors_shape h]

theorem attributes_shape : Spec.attributes d₁ = Spec.attributes d₂ := by
  funext r
  cases r with
  | node i => simp only [Spec.attributes, h.kind, attrsOf, h.nattrs]
  | attr i k => rfl

/-- the oracle's axes see only the shape of the tree -/
theorem axisNodes_shape : Spec.axisNodes d₁ = Spec.axisNodes d₂ := by
  funext ax r
  unfold Spec.axisNodes
  simp only [Spec.children, Spec.descendants, Spec.following, Spec.preceding,
    Spec.followingSiblings, Spec.precedingSiblings, attributes_shape h,
    parent_shape h, allNodes_shape h, ancestors_shape h, isAncestor_shape h]

theorem nodeType_shape (x : Ref) : nodeType d₁ x = nodeType d₂ x := by
  cases x with
  | node i => simp only [nodeType, h.kind]
  | attr i k => rfl

theorem validRef_shape (x : Ref) : validRef d₁ x = validRef d₂ x := by
  cases x with
  | node i => simp only [validRef, h.len]
  | attr i k => simp only [validRef, h.len, h.nattrs]

theorem SameShape.wf (wf : WF d₁) : WF d₂ where
  pos := by rw [← h.len]; exact wf.pos
  root := by rw [← h.dep, ← h.kind]; exact wf.root
  step := by intro i hi; rw [← h.dep, ← h.dep]; exact wf.step i (by rw [h.len]; exact hi)
  nonroot := by intro i h0 hi; rw [← h.kind]; exact wf.nonroot i h0 (by rw [h.len]; exact hi)
  leaf := by
    intro i hi hk
    rw [← h.dep, ← h.dep]
    rw [← h.kind] at hk
    exact wf.leaf i (by rw [h.len]; exact hi) hk
  attrs := by
    intro i hi hk
    rw [← h.kind] at hk
    have := wf.attrs i (by rw [h.len]; exact hi) hk
    have hl := h.nattrs i
    rw [this] at hl
    exact List.eq_nil_of_length_eq_zero hl.symm

end Shape

theorem SameShape.symm {d₁ d₂ : Doc} (h : SameShape d₁ d₂) : SameShape d₂ d₁ :=
  ⟨h.len.symm, fun i => (h.dep i).symm, fun i => (h.kind i).symm, fun i => (h.nattrs i).symm⟩

def reAttr (f : String → String) (a : Attr) : Attr := { a with pfx := f a.pfx }

def reRec (f : String → String) (r : Rec) : Rec :=
  { r with pfx := f r.pfx, attrs := r.attrs.map (reAttr f) }

/-- the same document with every prefix `p` (of elements and attributes) replaced by `f p` -/
def rePrefix (f : String → String) (d : Doc) : Doc := d.map (reRec f)

theorem recAt_rePrefix (f : String → String) (d : Doc) (i : Nat) :
    recAt (rePrefix f d) i = reRec f (recAt d i) ∨
      (recAt (rePrefix f d) i = default ∧ recAt d i = default) := by
  unfold recAt rePrefix
  by_cases hi : i < d.length
  · left
    simp [List.getD_eq_getElem?_getD, hi]
  · right
    simp [List.getD_eq_getElem?_getD, Nat.le_of_not_lt hi]

theorem attr_getD_re (f : String → String) (l : List Attr) (k : Nat) :
    (l.map (reAttr f)).getD k default = reAttr f (l.getD k default) ∨
      ((l.map (reAttr f)).getD k default = default ∧ l.getD k default = default) := by
  by_cases hk : k < l.length
  · left
    simp [List.getD_eq_getElem?_getD, hk]
  · right
    simp [List.getD_eq_getElem?_getD, Nat.le_of_not_lt hk]

theorem rePrefix_same (f : String → String) (d : Doc) : SameNames d (rePrefix f d) where
  len := by simp [rePrefix]
  dep := by
    intro i
    show (recAt d i).depth = (recAt (rePrefix f d) i).depth
    rcases recAt_rePrefix f d i with h | ⟨h1, h2⟩
    · rw [h]; rfl
    · rw [h1, h2]
  kind := by
    intro i
    show (recAt d i).kind = (recAt (rePrefix f d) i).kind
    rcases recAt_rePrefix f d i with h | ⟨h1, h2⟩
    · rw [h]; rfl
    · rw [h1, h2]
  nattrs := by
    intro i
    rcases recAt_rePrefix f d i with h | ⟨h1, h2⟩
    · rw [h]; simp [reRec]
    · rw [h1, h2]
  lname := by
    intro x
    cases x with
    | node i =>
      simp only [localName, kindAt]
      rcases recAt_rePrefix f d i with h | ⟨h1, h2⟩
      · rw [h]; rfl
      · rw [h1, h2]
    | attr i k =>
      simp only [localName, attrAt]
      rcases recAt_rePrefix f d i with h | ⟨h1, h2⟩
      · rw [h]
        show _ = (((recAt d i).attrs.map (reAttr f)).getD k default).name
        rcases attr_getD_re f (recAt d i).attrs k with g | ⟨g1, g2⟩
        · rw [g]; rfl
        · rw [g1, g2]
      · rw [h1, h2]
  uri := by
    intro x
    cases x with
    | node i =>
      simp only [nsURL, kindAt]
      rcases recAt_rePrefix f d i with h | ⟨h1, h2⟩
      · rw [h]; rfl
      · rw [h1, h2]
    | attr i k =>
      simp only [nsURL, attrAt]
      rcases recAt_rePrefix f d i with h | ⟨h1, h2⟩
      · rw [h]
        show _ = (((recAt d i).attrs.map (reAttr f)).getD k default).ns
        rcases attr_getD_re f (recAt d i).attrs k with g | ⟨g1, g2⟩
        · rw [g]; rfl
        · rw [g1, g2]
      · rw [h1, h2]

/-- what `rePrefix` does to the prefixes of the nodes of the document -/
theorem prefixOf_rePrefix (f : String → String) (d : Doc) (x : Ref) (hx : validRef d x = true)
    (hk : ∀ i, x = .node i → kindAt d i = .elem) :
    prefixOf (rePrefix f d) x = f (prefixOf d x) := by
  cases x with
  | node i =>
    have hi : i < d.length := by simpa [validRef] using hx
    have hr : recAt (rePrefix f d) i = reRec f (recAt d i) := by
      unfold recAt rePrefix; simp [List.getD_eq_getElem?_getD, hi]
    have hke := hk i rfl
    have hk2 : kindAt (rePrefix f d) i = .elem := by
      rw [← (rePrefix_same f d).kind]; exact hke
    simp only [prefixOf, hke, hk2, hr]; rfl
  | attr i k =>
    simp only [validRef, Bool.and_eq_true, decide_eq_true_eq] at hx
    have hr : recAt (rePrefix f d) i = reRec f (recAt d i) := by
      unfold recAt rePrefix; simp [List.getD_eq_getElem?_getD, hx.1]
    simp only [prefixOf, attrAt, hr]
    show (((recAt d i).attrs.map (reAttr f)).getD k default).pfx = _
    simp [List.getD_eq_getElem?_getD, hx.2, reAttr]

end XPathV.NameSem

section AxiomAudit
open XPathV.NameSem
#print axioms axisNodes_shape
#print axioms rePrefix_same
#print axioms prefixOf_rePrefix
end AxiomAudit
