import XPathV.Lemmas.Lexeme
/-!
# The scanner's `name` / `prefix` fields persist across non-name tokens

Unless the following token is itself a name or an axis specifier, `nextItem` leaves `name` and `pfx`
untouched.  `parseNodeTest` does not rely on it: it decides `prefix:*` on the name token itself, before
consuming it (the Go code read `p.r.name` after `p.next()` until the repair of `parseNodeTest`).
-/
namespace XPathV.Lemmas.ScanKeep
open XPathV XPathV.Model

/-- the new token is a name/axis token, or the `name` and `pfx` fields are those of before -/
def Keep (s s' : Scan) : Prop :=
  (s'.typ = .name ∨ s'.typ = .axe) ∨ (s'.name = s.name ∧ s'.pfx = s.pfx)

theorem nextItem_keep (s0 s' : Scan) (h : s0.nextItem = .ok s') : Keep s0 s' := by
  obtain ⟨k, r, hk, rfl⟩ := Whitespace.nextItem_out h
  cases k with
  | nameLike t n p => exact .inl hk
  | _ => exact .inr ⟨rfl, rfl⟩

/-- in particular: a token followed by the end of the input leaves both fields alone -/
theorem nextItem_eof_keep (s s' : Scan) (h : s.nextItem = .ok s') (he : s'.typ = .eof) :
    s'.name = s.name ∧ s'.pfx = s.pfx := by
  rcases nextItem_keep s s' h with (h1 | h1) | h2
  · rw [he] at h1; cases h1
  · rw [he] at h1; cases h1
  · exact h2

end XPathV.Lemmas.ScanKeep

section AxiomAudit
open XPathV.Lemmas.ScanKeep
#print axioms nextItem_keep
#print axioms nextItem_eof_keep
end AxiomAudit
