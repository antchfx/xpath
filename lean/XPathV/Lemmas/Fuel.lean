/-!
# A recursion bounded by fuel does not depend on the fuel once the fuel covers a measure

The functions of the model that mirror a Go loop take a fuel argument, one unit per round.  When one round
`Φ` asks for the rest of the run only from states of smaller measure, any two fuels above the measure give
the same result (`fuel_stable`), so the function at such a fuel is a fixed point of `Φ` (`fuel_unfold`).
-/
namespace XPathV.Model

/-- A walk `W` with fuel whose step `Φ` asks for the rest of the walk only from states of smaller measure
`μ` (among the states satisfying `G`) does not depend on the fuel once the fuel covers the measure. -/
theorem fuel_stable {σ α : Type} (W : Nat → σ → α) (Φ : σ → (σ → α) → α) (μ : σ → Nat) (G : σ → Prop)
    (hstep : ∀ f s, W (f+1) s = Φ s (W f))
    (h0 : ∀ s g, G s → μ s = 0 → W 0 s = Φ s g)
    (hΦ : ∀ s g g', G s → (∀ s', G s' → μ s' < μ s → g s' = g' s') → Φ s g = Φ s g') :
    ∀ (f f' : Nat) (s : σ), G s → μ s ≤ f → μ s ≤ f' → W f s = W f' s
  | 0, 0, _, _, _, _ => rfl
  | 0, f'+1, s, hg, h, _ => by rw [hstep]; exact h0 s _ hg (by omega)
  | f+1, 0, s, hg, _, h => by rw [hstep]; exact (h0 s _ hg (by omega)).symm
  | f+1, f'+1, s, hg, h, h' => by
    rw [hstep, hstep]
    exact hΦ s _ _ hg fun s' hg' hlt => fuel_stable W Φ μ G hstep h0 hΦ f f' s' hg' (by omega) (by omega)

/-- a walk as in `fuel_stable`, at a fuel `F+1` that covers the measure, is a fixed point of its step -/
theorem fuel_unfold {σ α : Type} (W : Nat → σ → α) (Φ : σ → (σ → α) → α) (μ : σ → Nat) (G : σ → Prop)
    (hstep : ∀ f s, W (f+1) s = Φ s (W f))
    (h0 : ∀ s g, G s → μ s = 0 → W 0 s = Φ s g)
    (hΦ : ∀ s g g', G s → (∀ s', G s' → μ s' < μ s → g s' = g' s') → Φ s g = Φ s g')
    (F : Nat) (s : σ) (hg : G s) (hF : μ s ≤ F + 1) : W (F+1) s = Φ s (W (F+1)) :=
  (hstep F s).trans (hΦ s _ _ hg fun s' hg' hlt =>
    fuel_stable W Φ μ G hstep h0 hΦ F (F+1) s' hg' (by omega) (by omega))

end XPathV.Model
