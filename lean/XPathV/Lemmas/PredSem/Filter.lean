import XPathV.Lemmas.PathSem
/-!
# C02 helpers — what a filter keeps when the predicate value is never a number

Model side: `sel_filter_bool` (the `.filter` arm of `sel`, `predDecision`, `filterPositions`).
Oracle side: `filterPos_bool` (`Spec.filterPos` with proximity positions).
-/
namespace XPathV.PredSem
open XPathV XPathV.Model XPathV.PathSem

variable {F : Type} [NumAlg F]

/-! ## generic list facts -/

theorem zip_map_filterMap {α : Type} (l : List α) (g : α → Bool) :
    (l.zip (l.map g)).filterMap (fun (p : α × Bool) => if p.2 then some p.1 else none) = l.filter g := by
  induction l with
  | nil => rfl
  | cons a t ih =>
    simp only [List.map_cons, List.zip_cons_cons, List.filterMap_cons, List.filter_cons, ih]
    cases g a <;> simp

theorem any_congr_mem {α : Type} (l1 l2 : List α) (f : α → Bool) (h : ∀ x, x ∈ l1 ↔ x ∈ l2) :
    l1.any f = l2.any f := by
  rw [Bool.eq_iff_iff, List.any_eq_true, List.any_eq_true]
  constructor
  · rintro ⟨x, hx, hf⟩; exact ⟨x, (h x).1 hx, hf⟩
  · rintro ⟨x, hx, hf⟩; exact ⟨x, (h x).2 hx, hf⟩

theorem isEmpty_congr_mem {α : Type} (l1 l2 : List α) (h : ∀ x, x ∈ l1 ↔ x ∈ l2) :
    l1.isEmpty = l2.isEmpty := by
  cases l1 with
  | nil =>
    cases l2 with
    | nil => rfl
    | cons b t => exact absurd ((h b).2 List.mem_cons_self) (by simp)
  | cons a t =>
    cases l2 with
    | nil => exact absurd ((h a).1 List.mem_cons_self) (by simp)
    | cons b t' => rfl

/-! ## model side -/

/-- the truth a filter reads off a non-numeric predicate value -/
def truthM : MVal F → Bool
  | .bool b => b
  | .str s => s != ""
  | .nodes l => !l.isEmpty
  | _ => false

/-- a boolean, a string or a node-set: the values for which the position plays no role -/
def IsBSN : MVal F → Prop
  | .bool _ | .str _ | .nodes _ => True
  | _ => False

/-- `filterPositions` renumbers, it keeps the refs and their order -/
theorem filterPositions_refs (kept : List Item) : refs (filterPositions kept) = refs kept := by
  unfold filterPositions
  have gen : ∀ (l : List Item) (acc : List Item × List (Nat × Nat)),
      refs (l.foldl (fun (acc : List Item × List (Nat × Nat)) (it : Item) =>
          let (out, counts) := acc
          let c := ((counts.lookup it.lvl).getD 0) + 1
          (out ++ [⟨it.r, c, 0⟩], (it.lvl, c) :: counts.filter (fun p => p.1 != it.lvl))) acc).1
        = refs acc.1 ++ refs l := by
    intro l
    induction l with
    | nil => intro acc; simp
    | cons a t ih =>
      intro acc
      rw [List.foldl_cons, ih]
      obtain ⟨out, counts⟩ := acc
      simp [refs]
  have := gen kept ([], [])
  simpa using this

/-- **filter semantics, model side**: when the predicate plan evaluates, on every candidate, to a
boolean, a string or a node-set (never a number), the filter keeps exactly the candidates on which
that value is true — same order; the verdict for a candidate depends on that candidate alone -/
theorem sel_filter_bool (d : Doc) (cfg : ECfg) (inp pred : Plan) (c : Ref) (ins : List Item)
    (tr : Ref → Bool)
    (h : sel (F := F) d cfg inp c = .ok ins)
    (hp : ∀ it ∈ ins, ∃ v, evalP (F := F) d cfg pred it.r = .ok v ∧ IsBSN v ∧ truthM v = tr it.r) :
    ∃ out, sel (F := F) d cfg (.filter inp pred) c = .ok out ∧ refs out = (refs ins).filter tr := by
  refine ⟨filterPositions (ins.filter (fun it => tr it.r)), ?_, ?_⟩
  · simp only [sel, h, bind, Except.bind]
    rw [mapM_eq_ok_map _ (fun it => tr it.r) ins ?_]
    · simp only [zip_map_filterMap]
    · intro it hit
      obtain ⟨v, hv, hbsn, htr⟩ := hp it hit
      rw [hv]
      cases v with
      | bool b => simp only [truthM] at htr; simp [pure, Except.pure, predDecision, htr]
      | str s => simp only [truthM] at htr; simp [pure, Except.pure, predDecision, htr]
      | nodes l => simp only [truthM] at htr; simp [pure, Except.pure, predDecision, htr]
      | num x => exact absurd hbsn (by simp [IsBSN])
      | int i => exact absurd hbsn (by simp [IsBSN])
      | nilv => exact absurd hbsn (by simp [IsBSN])
  · rw [filterPositions_refs]
    simp only [refs, List.filter_map, Function.comp_def]

/-! ## oracle side -/

/-- a spec value that is not a number -/
def NotNum : Spec.Value F → Prop
  | .num _ => False
  | _ => True

theorem predTruth_notNum (v : Spec.Value F) (h : NotNum v) (pos : Nat) :
    Spec.predTruth v pos = Spec.toBool v := by
  cases v <;> simp_all [Spec.predTruth, NotNum]

/-- **filter semantics, oracle side**: proximity positions are irrelevant when the predicate value
is never a number — `filterPos` is `filter` -/
theorem filterPos_bool (l : List Ref) (cond : Spec.Ctx → Except Spec.Err (Spec.Res F)) (tr : Ref → Bool)
    (h : ∀ r ∈ l, ∀ pos size, ∃ res, cond ⟨r, pos, size⟩ = .ok res ∧ NotNum res.value ∧
      Spec.toBool res.value = tr r) :
    Spec.filterPos l cond = .ok (l.filter tr) := by
  unfold Spec.filterPos
  have hflags : l.zipIdx.mapM (fun (p : Ref × Nat) => do
      let v ← cond ⟨p.1, p.2 + 1, l.length⟩
      pure (Spec.predTruth v.value (p.2 + 1))) = .ok (l.zipIdx.map (fun p => tr p.1)) := by
    apply mapM_eq_ok_map
    intro p hp
    have hmem : p.1 ∈ l := by
      have := List.mem_map_of_mem (f := Prod.fst) hp
      rwa [List.zipIdx_map_fst] at this
    obtain ⟨res, hres, hnn, htr⟩ := h p.1 hmem (p.2 + 1) l.length
    simp only [hres, bind, Except.bind, pure, Except.pure, predTruth_notNum _ hnn, htr]
  have hmap : l.zipIdx.map (fun p => tr p.1) = l.map tr := by
    rw [show (fun (p : Ref × Nat) => tr p.1) = tr ∘ Prod.fst from rfl, ← List.map_map,
      List.zipIdx_map_fst]
  simp only [bind, Except.bind, pure, Except.pure] at hflags ⊢
  rw [hflags, hmap]
  simp only [zip_map_filterMap]

end XPathV.PredSem
