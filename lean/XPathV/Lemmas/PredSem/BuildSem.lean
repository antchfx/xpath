import XPathV.Lemmas.PredSem.Path
/-!
# C02 helpers — the builder on the fragment: inversion of `build` on its constructors, plan
shapes, the filter over related inputs, the merge rewrite, one step over a related input
-/
namespace XPathV.PredSem
open XPathV XPathV.Model XPathV.PathSem

variable {F : Type} [NumAlg F]

/-! ## inversion of `build` on the constructors of the fragment

Instances of the inversions of `Lemmas/BuildInv.lean`, in the form the inductions over the fragment
use them (here, in `PredSem2/Build` and in `PosSem`): the states the sub-builds start from are left
existential, only plan and properties are read off. -/

section Inv
variable (regexOk : RegexOk) (limit : Nat) (snt sdf : Bool)

theorem build_num_inv (s : String) (fl : Flags)
    (st : BState) (o : BOut) (h : build regexOk limit snt sdf (.num s) fl st = .ok o) :
    o.q = .constNum s ∧ o.props = {} := by
  cases build_num_ok h; exact ⟨rfl, rfl⟩

theorem build_cmp_inv (op : String) (hop : op ∈ cmpOps) (l r : Ast) (fl : Flags)
    (st : BState) (o : BOut) (h : build regexOk limit snt sdf (.oper op l r) fl st = .ok o) :
    ∃ st1 lo ro, build regexOk limit snt sdf l {} st1 = .ok lo ∧
      build regexOk limit snt sdf r {} lo.st = .ok ro ∧
      o.q = .logical op lo.q ro.q ∧ o.props = lo.props.or ro.props := by
  obtain ⟨lo, ro, hlo, hro, rfl⟩ := build_oper_ok h
  rw [operOut_cmp hop]
  exact ⟨_, lo, ro, hlo, hro, rfl, rfl⟩

theorem build_and_inv (l r : Ast) (fl : Flags)
    (st : BState) (o : BOut) (h : build regexOk limit snt sdf (.oper "and" l r) fl st = .ok o) :
    ∃ st1 lo ro, build regexOk limit snt sdf l {} st1 = .ok lo ∧
      build regexOk limit snt sdf r {} lo.st = .ok ro ∧
      o.q = .boolean false lo.q ro.q ∧ o.props = lo.props.or ro.props := by
  obtain ⟨lo, ro, hlo, hro, rfl⟩ := build_oper_ok h
  exact ⟨_, lo, ro, hlo, hro, rfl, rfl⟩

theorem build_or_inv (l r : Ast) (fl : Flags)
    (st : BState) (o : BOut) (h : build regexOk limit snt sdf (.oper "or" l r) fl st = .ok o) :
    ∃ st1 lo ro, build regexOk limit snt sdf l {} st1 = .ok lo ∧
      build regexOk limit snt sdf r {} lo.st = .ok ro ∧
      o.q = .boolean true lo.q ro.q ∧ o.props = lo.props.or ro.props := by
  obtain ⟨lo, ro, hlo, hro, rfl⟩ := build_oper_ok h
  exact ⟨_, lo, ro, hlo, hro, rfl, rfl⟩

theorem fnArity_not : fnArity "not" = some (1, none, false) := by rfl
theorem fnUsed_not (n : Nat) : fnUsed "not" n = 1 := by rfl

theorem build_not_inv (pfx : String) (b : Ast) (fl : Flags) (st : BState) (o : BOut)
    (h : build regexOk limit snt sdf (.call "not" pfx (.acons b .anil)) fl st = .ok o) :
    ∃ st1 ho, build regexOk limit snt sdf b {} st1 = .ok ho ∧
      o.q = .func "not" .nil (.pcons ho.q .pnil) ∧ o.props = ho.props := by
  obtain ⟨ho, hho, hq, hp, _⟩ := build_call1_ok rfl (by decide) (by decide) (by decide) h
  exact ⟨_, ho, hho, hq, hp⟩

/-- `processFilter` when the predicate does not use `last()`: its own plan is installed;
`hasPosition`/`hasLast` of the result are those of the input -/
theorem build_filter_inv (inp cond : Ast) (fl : Flags)
    (st : BState) (o : BOut) (h : build regexOk limit snt sdf (.filter inp cond) fl st = .ok o) :
    ∃ st1 io co,
      build regexOk limit snt sdf inp { fl with filter := true, smartDesc := fl.smartDesc && sdf } st1 = .ok io ∧
      build regexOk limit snt sdf cond fl ⟨io.st.depth, io.st.firstInput, io.st.firstInput⟩ = .ok co ∧
      (co.props.hasLast = false →
        (o.q = .filter io.q co.q ∨
          (inp.isAxis = true ∧ ∃ parent, io.q.inputOf = some parent ∧
            o.q = .merge parent (.filter (io.q.withInput .context) co.q))) ∧
        o.props.hasPosition = io.props.hasPosition ∧ o.props.hasLast = io.props.hasLast) := by
  obtain ⟨io, co, _, hio, hco, _, hq, hp, _⟩ := build_filter_ok h
  refine ⟨_, io, co, hio, hco, fun hlast => ?_⟩
  rw [filterCond_of_hasLast hlast] at hq
  exact ⟨hq, by rw [hp], by rw [hp]⟩

end Inv

/-! ## props -/

/-- neither `position()` nor `last()` occurs -/
def PropsOK (pr : Props) : Prop := pr.hasPosition = false ∧ pr.hasLast = false

theorem propsOK_empty : PropsOK {} := ⟨rfl, rfl⟩

theorem propsOK_or (a b : Props) (ha : PropsOK a) (hb : PropsOK b) : PropsOK (a.or b) := by
  obtain ⟨a1, a2⟩ := ha
  obtain ⟨b1, b2⟩ := hb
  simp [PropsOK, Props.or, a1, a2, b1, b2]

/-! ## the plan of a step -/

theorem axisPlan_inv (a : AxisInfo) (fl : Flags) (pr : Props) (inp q : Plan) (pr' : Props)
    (h : axisPlan a fl pr inp = .ok (q, pr')) :
    PathShape q ∧ pr'.hasPosition = pr.hasPosition ∧ pr'.hasLast = pr.hasLast := by
  unfold axisPlan at h
  split at h <;> cases h
  all_goals (refine ⟨?_, rfl, rfl⟩; first | trivial | (split <;> trivial))

/-- with `smartDesc` off (it matters on the two descendant axes only), the plan of a step is the step
constructor over its input: its input can be replaced, and over any input it selects what the plain
`stepPlan` selects -/
theorem axisPlan_step (a : AxisInfo) (ha : a.axis ∈ axes12) (fl : Flags)
    (hfl : IsDescAxis a → fl.smartDesc = false)
    (pr : Props) (qi q : Plan) (pr' : Props) (h : axisPlan a fl pr qi = .ok (q, pr')) :
    q.inputOf = some qi ∧
    (∀ (n : Plan) (d : Doc) (cfg : ECfg) (c : Ref),
      sel (F := F) d cfg (q.withInput n) c = sel (F := F) d cfg (stepPlan a n) c) ∧
    (∀ (d : Doc) (cfg : ECfg) (c : Ref), sel (F := F) d cfg q c = sel (F := F) d cfg (stepPlan a qi) c) := by
  by_cases hd : IsDescAxis a
  · have hf := hfl hd
    rcases hd with hax | hax
    all_goals
      simp only [axisPlan, hax, hf, Except.ok.injEq, Prod.mk.injEq] at h
      obtain ⟨rfl, _⟩ := h
      exact ⟨rfl, fun n d cfg c => by simp [Plan.withInput, stepPlan, hax],
        fun d cfg c => by simp [stepPlan, hax]⟩
  simp only [axes12, List.mem_cons, List.not_mem_nil, or_false] at ha
  rcases ha with hax | hax | hax | hax | hax | hax | hax | hax | hax | hax | hax | hax
  · -- child
    simp only [axisPlan, hax, Except.ok.injEq, Prod.mk.injEq] at h
    obtain ⟨rfl, _⟩ := h
    split
    · exact ⟨rfl, fun n d cfg c => by simp [Plan.withInput, stepPlan, hax, sel],
        fun d cfg c => by simp [stepPlan, hax, sel]⟩
    · exact ⟨rfl, fun n d cfg c => by simp [Plan.withInput, stepPlan, hax],
        fun d cfg c => by simp [stepPlan, hax]⟩
  · exact absurd (Or.inl hax) hd
  · exact absurd (Or.inr hax) hd
  all_goals
    simp only [axisPlan, hax, Except.ok.injEq, Prod.mk.injEq] at h
    obtain ⟨rfl, _⟩ := h
    exact ⟨rfl, fun n d cfg c => by simp [Plan.withInput, stepPlan, hax],
      fun d cfg c => by simp [stepPlan, hax]⟩

/-! ## `Rel` bookkeeping -/

theorem covers_congr_left (d : Doc) (S1 S1' S : List Ref) (h : ∀ x, x ∈ S1' ↔ x ∈ S1)
    (hc : Covers d S1 S) : Covers d S1' S :=
  ⟨fun x hx => hc.1 x ((h x).1 hx), fun o ho => by
    obtain ⟨o', ho', hr⟩ := hc.2 o ho
    exact ⟨o', (h o').2 ho', hr⟩⟩

theorem rel_of_seteq (d : Doc) (cfg : ECfg) (smart : Bool) (q' q n : Plan) (c : Ref)
    (o1 o2 : List Item) (h1 : sel (F := F) d cfg q' c = .ok o1) (h2 : sel (F := F) d cfg q c = .ok o2)
    (hm : ∀ x, x ∈ refs o1 ↔ x ∈ refs o2) (hr : Rel (F := F) d cfg smart q n c) :
    Rel (F := F) d cfg smart q' n c := by
  obtain ⟨out, nv, hq, hn, hv, heq, hcov⟩ := hr
  rw [h2] at hq; cases hq
  exact ⟨o1, nv, h1, hn, hv, fun hs x => (hm x).trans (heq hs x), covers_congr_left d _ _ _ hm hcov⟩

theorem rel_out_valid (d : Doc) (cfg : ECfg) (smart : Bool) (q n : Plan) (c : Ref)
    (hr : Rel (F := F) d cfg smart q n c) :
    ∃ out, sel (F := F) d cfg q c = .ok out ∧ ∀ o ∈ refs out, validRef d o = true := by
  obtain ⟨out, nv, hq, _, hv, _, hcov⟩ := hr
  exact ⟨out, hq, fun o ho => hv o (hcov.1 o ho)⟩

theorem covers_isEmpty (d : Doc) (S' S : List Ref) (h : Covers d S' S) : S'.isEmpty = S.isEmpty := by
  cases S' with
  | nil =>
    cases S with
    | nil => rfl
    | cons b t =>
      obtain ⟨o', ho', _⟩ := h.2 b List.mem_cons_self
      cases ho'
  | cons a t =>
    cases S with
    | nil => exact absurd (h.1 a List.mem_cons_self) (by simp)
    | cons b t' => rfl

/-- a built path plan that selects the naive plan's node set agrees with the oracle -/
theorem pathOK_of_rel (d : Doc) (cfg : ECfg) (q n : Plan) (p : Ast) (c : Spec.Ctx)
    (hr : Rel (F := F) d cfg false q n c.node) (hq : PathShape q)
    (hn : PathOK (F := F) d cfg n p c) : PathOK (F := F) d cfg q p c := by
  obtain ⟨out, nv, h1, h2, _, heq, _⟩ := hr
  obtain ⟨nv', ns, g, hsel, _, hS, hm, hv, hg⟩ := hn
  rw [h2] at hsel; cases hsel
  exact ⟨out, ns, g, h1, evalP_pathShape d cfg q hq c.node out h1, hS,
    fun x => (heq rfl x).trans (hm x), hv, hg⟩

/-- existence test through a covering plan -/
theorem predOK_of_rel (d : Doc) (cfg : ECfg) (smart : Bool) (q n : Plan) (p : Ast) (c : Spec.Ctx)
    (hr : Rel (F := F) d cfg smart q n c.node) (hq : PathShape q)
    (hn : PathOK (F := F) d cfg n p c) : PredOK (F := F) d cfg q p c := by
  obtain ⟨out, nv, h1, h2, hvn, _, hcov⟩ := hr
  obtain ⟨nv', ns, g, hsel, _, hS, hm, hv, _⟩ := hn
  rw [h2] at hsel; cases hsel
  refine ⟨_, _, g, evalP_pathShape d cfg q hq c.node out h1, hS, trivial, trivial, ?_⟩
  simp only [truthM, Spec.toBool]
  have e1 : (nodesVal d cfg out).isEmpty = (refs out).isEmpty :=
    isEmpty_congr_mem _ _ (mem_nodesVal d cfg out (refs out) (fun _ => Iff.rfl)
      (fun x hx => hvn x (hcov.1 x hx)))
  rw [e1, covers_isEmpty d _ _ hcov, isEmpty_congr_mem _ _ hm]

/-! ## the filter over related inputs -/

/-- what `sel_filter_bool` needs from a predicate plan, on valid nodes -/
def PredTr (d : Doc) (cfg : ECfg) (pred : Plan) (tr : Ref → Bool) : Prop :=
  ∀ x, validRef d x = true → ∃ v, evalP (F := F) d cfg pred x = .ok v ∧ IsBSN v ∧ truthM v = tr x

theorem predTr_of_predOK (d : Doc) (cfg : ECfg) (pl : Plan) (b : Ast)
    (h : ∀ c : Spec.Ctx, validRef d c.node = true → PredOK (F := F) d cfg pl b c) :
    PredTr (F := F) d cfg pl (holds (F := F) d b) := by
  intro x hx
  obtain ⟨v, _, hE, _, hbn, _, htr, _⟩ := predOK_holds (F := F) d cfg pl b x
    (fun pos size => h ⟨x, pos, size⟩ hx) 1 1
  exact ⟨v, hE, hbn.isBSN, htr⟩

theorem rel_filter (d : Doc) (cfg : ECfg) (smart : Bool) (q n pq pn : Plan) (c : Ref) (tr : Ref → Bool)
    (hin : Rel (F := F) d cfg false q n c)
    (hpq : PredTr (F := F) d cfg pq tr) (hpn : PredTr (F := F) d cfg pn tr) :
    Rel (F := F) d cfg smart (.filter q pq) (.filter n pn) c := by
  obtain ⟨out, nv, h1, h2, hv, heq, _⟩ := hin
  have heq := heq rfl
  obtain ⟨o1, ho1, hr1⟩ := sel_filter_bool (F := F) d cfg q pq c out tr h1
    (fun it hit => hpq it.r (hv _ ((heq _).1 (List.mem_map.2 ⟨it, hit, rfl⟩))))
  obtain ⟨o2, ho2, hr2⟩ := sel_filter_bool (F := F) d cfg n pn c nv tr h2
    (fun it hit => hpn it.r (hv _ (List.mem_map.2 ⟨it, hit, rfl⟩)))
  have hm : ∀ x, x ∈ refs o1 ↔ x ∈ refs o2 := by
    intro x; rw [hr1, hr2, List.mem_filter, List.mem_filter, heq]
  refine ⟨o1, o2, ho1, ho2, ?_, fun _ => hm, Covers.of_seteq d _ _ hm⟩
  intro o ho
  rw [hr2] at ho
  exact hv o (List.mem_filter.1 ho).1

/-! ## the merge rewrite -/

theorem sel_filter_congr (d : Doc) (cfg : ECfg) (i1 i2 pred : Plan) (c : Ref)
    (h : sel (F := F) d cfg i1 c = sel (F := F) d cfg i2 c) :
    sel (F := F) d cfg (.filter i1 pred) c = sel (F := F) d cfg (.filter i2 pred) c := by
  simp only [sel, h]

theorem sel_merge (d : Doc) (cfg : ECfg) (inp child : Plan) (c : Ref) (ins : List Item)
    (g : Item → List Item) (h : sel (F := F) d cfg inp c = .ok ins)
    (hc : ∀ it ∈ ins, sel (F := F) d cfg child it.r = .ok (g it)) :
    sel (F := F) d cfg (.merge inp child) c = .ok (plain ((ins.map g).flatten.map (·.r))) := by
  simp only [sel, h, bind, Except.bind]
  rw [mapM_eq_ok_map _ g ins hc]

/-- **the merge rewrite preserves the node set** when the predicate value is never a number:
filtering the step per input node and concatenating selects what filtering the whole step selects -/
theorem merge_sem {d : Doc} (wf : WF d) (cfg : ECfg) (hinj : HashInj d cfg) (a : AxisInfo)
    (ha : a.axis ∈ axes12) (q qi pred : Plan)
    (hwi : ∀ (n : Plan) (c : Ref), sel (F := F) d cfg (q.withInput n) c = sel (F := F) d cfg (stepPlan a n) c)
    (hq : ∀ c : Ref, sel (F := F) d cfg q c = sel (F := F) d cfg (stepPlan a qi) c)
    (c : Ref) (ins : List Item) (hsel : sel (F := F) d cfg qi c = .ok ins)
    (hv : ∀ o ∈ refs ins, validRef d o = true) (tr : Ref → Bool)
    (hpred : PredTr (F := F) d cfg pred tr) :
    ∃ o1 o2, sel (F := F) d cfg (.merge qi (.filter (q.withInput .context) pred)) c = .ok o1 ∧
      sel (F := F) d cfg (.filter q pred) c = .ok o2 ∧ ∀ x, x ∈ refs o1 ↔ x ∈ refs o2 := by
  -- the plain filter
  obtain ⟨s2, hs2, hm2, hv2⟩ := stepPlan_ok (F := F) wf cfg hinj a ha qi c ins hv hsel
  have hs2' : sel (F := F) d cfg q c = .ok s2 := by rw [hq]; exact hs2
  obtain ⟨o2, ho2, hr2⟩ := sel_filter_bool (F := F) d cfg q pred c s2 tr hs2'
    (fun it hit => hpred it.r (hv2 _ (List.mem_map.2 ⟨it, hit, rfl⟩)))
  -- per input node
  have hitem : ∀ it ∈ ins, ∃ l, sel (F := F) d cfg (.filter (q.withInput .context) pred) it.r = .ok l ∧
      ∀ x, x ∈ refs l ↔ (x ∈ (axisRefsM d a.axis it.r).filter (test d cfg a) ∧ tr x = true) := by
    intro it hit
    have hvit : validRef d it.r = true := hv it.r (List.mem_map.2 ⟨it, hit, rfl⟩)
    obtain ⟨s, hs, hm, hvs⟩ := stepPlan_ok (F := F) wf cfg hinj a ha .context it.r [⟨it.r, 1, 0⟩]
      (by intro o ho; simp only [refs, List.map_cons, List.map_nil, List.mem_cons, List.not_mem_nil,
            or_false] at ho; rw [ho]; exact hvit)
      (sel_context d cfg it.r)
    have hs' : sel (F := F) d cfg (q.withInput .context) it.r = .ok s := by rw [hwi]; exact hs
    obtain ⟨l, hl, hrl⟩ := sel_filter_bool (F := F) d cfg (q.withInput .context) pred it.r s tr hs'
      (fun jt hjt => hpred jt.r (hvs _ (List.mem_map.2 ⟨jt, hjt, rfl⟩)))
    refine ⟨l, hl, fun x => ?_⟩
    rw [hrl, List.mem_filter, hm]
    simp only [refs, List.map_cons, List.map_nil, List.mem_cons, List.not_mem_nil, or_false,
      exists_eq_left]
  let g : Item → List Item := fun it =>
    match sel (F := F) d cfg (.filter (q.withInput .context) pred) it.r with
    | .ok l => l
    | .error _ => []
  have hg : ∀ it ∈ ins, sel (F := F) d cfg (.filter (q.withInput .context) pred) it.r = .ok (g it) := by
    intro it hit
    obtain ⟨l, hl, _⟩ := hitem it hit
    simp only [g, hl]
  refine ⟨_, o2, sel_merge d cfg qi _ c ins g hsel hg, ho2, fun x => ?_⟩
  rw [plain_refs, hr2, List.mem_filter, hm2]
  constructor
  · intro hx
    obtain ⟨y, hy, rfl⟩ := List.mem_map.1 hx
    obtain ⟨l', hl', hy⟩ := List.mem_flatten.1 hy
    obtain ⟨it, hit, rfl⟩ := List.mem_map.1 hl'
    obtain ⟨l, hl, hchar⟩ := hitem it hit
    have hgl : g it = l := by simp only [g, hl]
    have := (hchar y.r).1 (List.mem_map.2 ⟨y, hgl ▸ hy, rfl⟩)
    exact ⟨⟨it.r, List.mem_map.2 ⟨it, hit, rfl⟩, this.1⟩, this.2⟩
  · rintro ⟨⟨o, ho, hx⟩, ht⟩
    obtain ⟨it, hit, rfl⟩ := List.mem_map.1 ho
    obtain ⟨l, hl, hchar⟩ := hitem it hit
    have hgl : g it = l := by simp only [g, hl]
    obtain ⟨y, hy, rfl⟩ := List.mem_map.1 ((hchar x).2 ⟨hx, ht⟩)
    exact List.mem_map.2 ⟨y, List.mem_flatten.2 ⟨g it, List.mem_map.2 ⟨it, hit, rfl⟩, hgl ▸ hy⟩, rfl⟩

/-- the merge rewrite against the oracle: `merge_sem` carried over by `pathOK_of_seteq` -/
theorem pathOK_merge {d : Doc} (wf : WF d) (cfg : ECfg) (hinj : HashInj d cfg) (a : AxisInfo)
    (ha : a.axis ∈ axes12) {q qi pred : Plan} {e : Ast} {c : Spec.Ctx}
    (hwi : ∀ (n : Plan) (c : Ref), sel (F := F) d cfg (q.withInput n) c = sel (F := F) d cfg (stepPlan a n) c)
    (hq : ∀ c : Ref, sel (F := F) d cfg q c = sel (F := F) d cfg (stepPlan a qi) c)
    (hqi : ∃ ins, sel (F := F) d cfg qi c.node = .ok ins ∧ ∀ o ∈ refs ins, validRef d o = true)
    {tr : Ref → Bool} (hpred : PredTr (F := F) d cfg pred tr)
    (h : PathOK (F := F) d cfg (.filter q pred) e c) :
    PathOK (F := F) d cfg (.merge qi (.filter (q.withInput .context) pred)) e c := by
  obtain ⟨ins, hins, hinsv⟩ := hqi
  exact pathOK_of_seteq trivial h
    (merge_sem (F := F) wf cfg hinj a ha q qi pred hwi hq c.node ins hins hinsv tr hpred)

/-! ## one step over a related input -/

/-- a step built as the input of a filter: the step constructor over a plan `qi` that succeeds -/
def StepOver (d : Doc) (cfg : ECfg) (a : AxisInfo) (q : Plan) : Prop :=
  ∃ qi, q.inputOf = some qi ∧
    (∀ (n : Plan) (c : Ref), sel (F := F) d cfg (q.withInput n) c = sel (F := F) d cfg (stepPlan a n) c) ∧
    (∀ c : Ref, sel (F := F) d cfg q c = sel (F := F) d cfg (stepPlan a qi) c) ∧
    ∀ c, validRef d c = true →
      ∃ ins, sel (F := F) d cfg qi c = .ok ins ∧ ∀ x ∈ refs ins, validRef d x = true

theorem finAxis_props (q : Plan) (props : Props) (st : BState) (o : BOut)
    (h : build.finAxis q props st = .ok o) : o.props = props := by
  unfold build.finAxis at h
  cases h; rfl

/-- `axisPlan` + `finAxis` over an already related input -/
theorem axis_core {d : Doc} (wf : WF d) (cfg : ECfg) (hinj : HashInj d cfg) (a : AxisInfo)
    (ha : a.axis ∈ axes12) (fl : Flags) (qin nin : Plan) (pin : Props) (smartIn : Bool)
    (hpr : PropsOK pin)
    (hin : ∀ c, validRef d c = true → Rel (F := F) d cfg smartIn qin nin c)
    (hsm : ¬ IsDescAxis a → smartIn = false)
    (q : Plan) (props : Props) (st' : BState) (o : BOut)
    (hq : axisPlan a fl pin qin = .ok (q, props)) (hfin : build.finAxis q props st' = .ok o) :
    PropsOK o.props ∧ PathShape o.q ∧
      (∀ c, validRef d c = true → Rel (F := F) d cfg fl.smartDesc o.q (stepPlan a nin) c) ∧
      (fl.smartDesc = false → StepOver (F := F) d cfg a o.q) := by
  rw [finAxis_q _ _ _ _ hfin, finAxis_props _ _ _ _ hfin]
  obtain ⟨hshape, hp1, hp2⟩ := axisPlan_inv a fl pin qin q props hq
  refine ⟨⟨hp1 ▸ hpr.1, hp2 ▸ hpr.2⟩, hshape, fun c hc => ?_, fun hfl => ?_⟩
  · exact axis_combine (F := F) wf cfg hinj a ha fl _ _ qin nin q c smartIn (hin c hc) hsm hq
  · obtain ⟨h1, h2, h3⟩ := axisPlan_step (F := F) a ha fl (fun _ => hfl) pin qin q props hq
    exact ⟨qin, h1, fun n c => h2 n d cfg c, fun c => h3 d cfg c,
      fun c hc => rel_out_valid d cfg smartIn qin nin c (hin c hc)⟩

end XPathV.PredSem
