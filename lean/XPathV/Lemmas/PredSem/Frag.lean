import XPathV.Lemmas.PredSem2.Build
/-!
# C02 — the fragments `PredB` and `Frag`: model = oracle on naive plans

`Frag` is contained in `PredSem2.Frag2` (`frag2_of_frag`) and the naive plans coincide on it
(`predPlan2_frag`), so the statements here are those of `PredSem2/Frag.lean` read on the smaller
fragment: `frag_sem`, `pred_truth`, `filtered_step_sem`, `C02_naive`, `C02_filter_keeps_true`; and
`build_frag` is `PredSem2.build_frag2` (`PredSem2/Build.lean`) read on it.

Standing assumptions as for C01: `WF d`, `cfg.nsIface = true`, `HashInj d cfg`.
-/
namespace XPathV.PredSem
open XPathV XPathV.Model XPathV.PathSem

variable {F : Type} [NumAlg F]

/-! ## model = oracle on naive plans -/

/-- **model = oracle on the whole fragment** (naive plans): at every valid context node and any
context position/size, a path of the fragment yields the same node set on both sides (`PathOK`), a
predicate of the fragment the same truth, and never a number (`PredOK`) -/
theorem frag_sem {d : Doc} (wf : WF d) (cfg : ECfg) (hns : cfg.nsIface = true) (hinj : HashInj d cfg)
    (k : Bool) (e : Ast) (he : Frag k e) :
    ∀ c : Spec.Ctx, validRef d c.node = true →
      (k = true → PathOK (F := F) d cfg (predPlan e) e c) ∧
      (k = false → PredOK (F := F) d cfg (predPlan e) e c) := by
  have h := PredSem2.frag_sem2 (F := F) wf cfg hns hinj k e (PredSem2.frag2_of_frag k e he)
  rwa [PredSem2.predPlan2_frag k e he] at h

/-! ## predicates over predicate-free paths, one filtered step -/

/-- **truth of a boolean predicate**: for `b ∈ PredB` the naive predicate plan
evaluates, at every valid node and whatever the context position/size, to a value that is not a
number (a boolean or a node-set) and whose truth is `boolean()` of the oracle's value — which is
not a number either -/
theorem pred_truth {d : Doc} (wf : WF d) (cfg : ECfg) (hns : cfg.nsIface = true)
    (hinj : HashInj d cfg) (b : Ast) (hb : PredB b) (c : Ref) (hc : validRef d c = true)
    (pos size : Nat) :
    ∃ v sv g, evalP (F := F) d cfg (predPlan b) c = .ok v ∧
      Spec.eval (F := F) d b ⟨c, pos, size⟩ = .ok (.val sv g) ∧
      truthM v = Spec.toBool sv ∧ IsBN v ∧ NotNum sv := by
  have hb' := frag_of_predB b hb
  have h := PredSem2.pred_truth2 (F := F) wf cfg hns hinj b (PredSem2.frag2_of_frag false b hb') c hc pos size
  rwa [PredSem2.predPlan2_frag false b hb'] at h

/-! ## the general statements (naive plans) -/

/-- **C02, naive plans**: for every path of the fragment — predicates on any step, several
predicates per step, predicates nested inside predicates — the un-rewritten plan yields from every
valid context node exactly the node-set of the XPath 1.0 oracle; neither side fails -/
theorem C02_naive {d : Doc} (wf : WF d) (cfg : ECfg) (hns : cfg.nsIface = true)
    (hinj : HashInj d cfg) (p : Ast) (hp : Frag true p) (c : Ref) (hc : validRef d c = true) :
    ∃ out ns g, sel (F := F) d cfg (predPlan p) c = .ok out ∧
      Spec.eval (F := F) d p ⟨c, 1, 1⟩ = .ok (.val (.nodes ns) g) ∧
      (∀ x, x ∈ refs out ↔ x ∈ ns) ∧ (∀ x ∈ ns, validRef d x = true) := by
  have h := PredSem2.C02_naive2 (F := F) wf cfg hns hinj p (PredSem2.frag2_of_frag true p hp) c hc
  rwa [PredSem2.predPlan2_frag true p hp] at h

/-- **C02, the property itself** (naive plans): a predicate `b` of the fragment on top of *any*
path `p` of the fragment (so also `p[b1][b2]…` and predicates on inner steps) keeps exactly the
nodes of `p` at which `b` is true — on the oracle side as a set, on the model side as the
sub-sequence of the unfiltered sequence (same order, nothing else dropped, nothing added) -/
theorem C02_filter_keeps_true {d : Doc} (wf : WF d) (cfg : ECfg) (hns : cfg.nsIface = true)
    (hinj : HashInj d cfg) (p b : Ast) (hp : Frag true p) (hb : Frag false b)
    (c : Ref) (hc : validRef d c = true) :
    ∃ out0 ns0 g0 out ns g,
      sel (F := F) d cfg (predPlan p) c = .ok out0 ∧
      Spec.eval (F := F) d p ⟨c, 1, 1⟩ = .ok (.val (.nodes ns0) g0) ∧
      (∀ x, x ∈ refs out0 ↔ x ∈ ns0) ∧
      sel (F := F) d cfg (predPlan (.filter p b)) c = .ok out ∧
      Spec.eval (F := F) d (.filter p b) ⟨c, 1, 1⟩ = .ok (.val (.nodes ns) g) ∧
      refs out = (refs out0).filter (holds (F := F) d b) ∧
      (∀ x, x ∈ ns ↔ x ∈ ns0 ∧ holds (F := F) d b x = true) ∧
      (∀ x, x ∈ refs out ↔ x ∈ ns) := by
  have h := PredSem2.C02_filter_keeps_true2 (F := F) wf cfg hns hinj p b
    (PredSem2.frag2_of_frag true p hp) (PredSem2.frag2_of_frag false b hb) c hc
  rwa [PredSem2.predPlan2_frag true p hp, PredSem2.predPlan2_frag true _ (.filter p b hp hb)] at h

/-- **one filtered step**: for a predicate-free path `q`, one more step `a` and a
predicate `b ∈ PredB`, the naive plan `.filter (stepPlan a (naivePlan q)) (predPlan b)` selects,
from any valid context node, exactly the nodes `x` of the XPath denotation `ns0` of `q/a` for which
`b` is true at `x`, and this is the node set the oracle assigns to `q/a[b]`; the model keeps the
order of the unfiltered step -/
theorem filtered_step_sem {d : Doc} (wf : WF d) (cfg : ECfg) (hns : cfg.nsIface = true)
    (hinj : HashInj d cfg) (q : Ast) (hq : PathPF q) (a : AxisInfo) (ha : a.axis ∈ axes12)
    (b : Ast) (hb : PredB b) (c : Ref) (hc : validRef d c = true) :
    ∃ out0 ns0 g0 out ns g,
      sel (F := F) d cfg (stepPlan a (naivePlan q)) c = .ok out0 ∧
      Spec.eval (F := F) d (.axis a q) ⟨c, 1, 1⟩ = .ok (.val (.nodes ns0) g0) ∧
      (∀ x, x ∈ refs out0 ↔ x ∈ ns0) ∧
      sel (F := F) d cfg (.filter (stepPlan a (naivePlan q)) (predPlan b)) c = .ok out ∧
      Spec.eval (F := F) d (.filter (.axis a q) b) ⟨c, 1, 1⟩ = .ok (.val (.nodes ns) g) ∧
      refs out = (refs out0).filter (holds (F := F) d b) ∧
      (∀ x, x ∈ ns ↔ x ∈ ns0 ∧ holds (F := F) d b x = true) ∧
      (∀ x, x ∈ refs out ↔ x ∈ ns) := by
  have h := C02_filter_keeps_true (F := F) wf cfg hns hinj (.axis a q) b
    (.axis a q (frag_of_pathPF q hq) ha) (frag_of_predB b hb) c hc
  simpa only [predPlan, predPlan_pathPF q hq] using h

/-- the truth `holds` used above is the model's own verdict: on every valid node the predicate plan
evaluates to a boolean or a node-set whose truth is `holds` -/
theorem holds_is_model_truth {d : Doc} (wf : WF d) (cfg : ECfg) (hns : cfg.nsIface = true)
    (hinj : HashInj d cfg) (b : Ast) (hb : Frag false b) (x : Ref) (hx : validRef d x = true) :
    ∃ v, evalP (F := F) d cfg (predPlan b) x = .ok v ∧ IsBN v ∧ truthM v = holds (F := F) d b x := by
  have h := PredSem2.holds_is_model_truth2 (F := F) wf cfg hns hinj b (PredSem2.frag2_of_frag false b hb) x hx
  rwa [PredSem2.predPlan2_frag false b hb] at h

/-- `pred_truth` with the oracle's truth written as `holds` (context position 1 of 1; it does not
depend on them) -/
theorem pred_truth_holds {d : Doc} (wf : WF d) (cfg : ECfg) (hns : cfg.nsIface = true)
    (hinj : HashInj d cfg) (b : Ast) (hb : PredB b) (c : Ref) (hc : validRef d c = true) :
    ∃ v, evalP (F := F) d cfg (predPlan b) c = .ok v ∧ IsBN v ∧ truthM v = holds (F := F) d b c :=
  holds_is_model_truth wf cfg hns hinj b (frag_of_predB b hb) c hc

/-! ## `build` on the fragment

The plan `build` makes of a path of the fragment `Frag` (with `smartDescThroughFilter = false`, the
configuration read off the source, and the `//name` shortcut guarded by the node test) selects the
node set of the naive plan `predPlan`; a predicate of the fragment is built into a plan with the
oracle's truth.  All rewrites are covered: `cachedChild`, the `//name` shortcut,
descendant-over-descendant (also inside predicates and around filtered steps) and the merge rewrite
of `processFilter` (it fires for `not(…)` predicates, whose static type is "any").  The induction is
that of `PredSem2.build_frag2`, read on the smaller fragment. -/

/-- a path: props without position/last, a path-shaped plan, related to the naive plan -/
def BuildP (d : Doc) (cfg : ECfg) (regexOk : RegexOk) (limit : Nat) (p : Ast) : Prop :=
  ∀ fl st o, build regexOk limit true false p fl st = .ok o →
    PropsOK o.props ∧ PathShape o.q ∧
      ∀ c, validRef d c = true → Rel (F := F) d cfg fl.smartDesc o.q (predPlan p) c

/-- `PredSem2.AxisDecomp2` under the name the statement of `build_frag` uses -/
def AxisDecomp (d : Doc) (cfg : ECfg) (regexOk : RegexOk) (limit : Nat) (p : Ast) : Prop :=
  PredSem2.AxisDecomp2 (F := F) d cfg regexOk limit p

/-- `PredSem2.BuildB2` (a predicate: props without position/last, a plan with the oracle's truth) under
the name the statement of `build_frag` uses -/
def BuildB (d : Doc) (cfg : ECfg) (regexOk : RegexOk) (limit : Nat) (b : Ast) : Prop :=
  PredSem2.BuildB2 (F := F) d cfg regexOk limit b

theorem buildP_of_buildP2 {d : Doc} {cfg : ECfg} {regexOk : RegexOk} {limit : Nat} {p : Ast}
    (hp : Frag true p) (h : PredSem2.BuildP2 (F := F) d cfg regexOk limit p) :
    BuildP (F := F) d cfg regexOk limit p := by
  unfold BuildP
  rw [← PredSem2.predPlan2_frag true p hp]
  exact h

section
variable {d : Doc} (wf : WF d) (cfg : ECfg) (hns : cfg.nsIface = true) (hinj : HashInj d cfg)
  (regexOk : RegexOk) (limit : Nat)
include wf hns hinj

/-- every path of the fragment is built into a plan related to its naive plan (together with the
decomposition used by the merge rewrite and the statement for the input of its last step), every
predicate into a plan with the oracle's truth -/
theorem build_frag (k : Bool) (e : Ast) (he : Frag k e) :
    (k = true → BuildP (F := F) d cfg regexOk limit e ∧ AxisDecomp (F := F) d cfg regexOk limit e ∧
      ∀ b g, e = .axis b g → BuildP (F := F) d cfg regexOk limit g) ∧
    (k = false → BuildB (F := F) d cfg regexOk limit e) := by
  have h2 := PredSem2.build_frag2 (F := F) wf cfg hns hinj regexOk limit k e (PredSem2.frag2_of_frag k e he)
  refine ⟨fun hk => ?_, h2.2⟩
  subst hk
  obtain ⟨hp, hd, hg⟩ := h2.1 rfl
  refine ⟨buildP_of_buildP2 he hp, hd, fun b g hbg => ?_⟩
  subst hbg
  cases he with
  | axis _ _ hg' _ => exact buildP_of_buildP2 hg' (hg b g rfl)

end

end XPathV.PredSem

