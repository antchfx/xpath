import XPathV.Lemmas.PredSem.Truth
/-!
# C02 helpers — `PathOK` is preserved by a step and by a boolean-valued predicate; the fragments

* `pathOK_axis` (an instance of `PathSem.pathOK_step`), `filter_sem`, `pathOK_filter`, `holds`
* `predPlan` — the naive plan; `PredB` — the basic fragment: boolean-valued predicates over
  predicate-free paths (`PathPF`); `Frag` — the mutually nested generalisation (one inductive family
  indexed by "is a path"): predicates on every step, stacked predicates, predicates inside predicates
-/
namespace XPathV.PredSem
open XPathV XPathV.Model XPathV.PathSem

variable {F : Type} [NumAlg F]

/-- truth of predicate `b` at node `x` according to the oracle (false if the oracle fails) -/
def holds (d : Doc) (b : Ast) (x : Ref) : Bool :=
  match Spec.eval (F := F) d b ⟨x, 1, 1⟩ with
  | .ok r => Spec.toBool r.value
  | .error _ => false

/-! ## one more step -/

theorem pathOK_axis {d : Doc} (wf : WF d) (cfg : ECfg) (hns : cfg.nsIface = true)
    (hinj : HashInj d cfg) (a : AxisInfo) (ha : a.axis ∈ axes12) (pl : Plan) (inp : Ast)
    (c : Spec.Ctx) (h : PathOK (F := F) d cfg pl inp c) :
    PathOK (F := F) d cfg (stepPlan a pl) (.axis a inp) c :=
  pathOK_step wf cfg hns hinj a ha (cover_of_pathOK h) (fun _ => h)

/-! ## one more predicate -/

theorem mem_flatten_map_filter (gs : List (List Ref)) (tr : Ref → Bool) (x : Ref) :
    x ∈ (gs.map (List.filter tr)).flatten ↔ x ∈ gs.flatten ∧ tr x = true := by
  simp only [List.mem_flatten, List.mem_map]
  constructor
  · rintro ⟨l, ⟨g, hg, rfl⟩, hx⟩
    have := List.mem_filter.1 hx
    exact ⟨⟨g, hg, this.1⟩, this.2⟩
  · rintro ⟨⟨g, hg, hx⟩, ht⟩
    exact ⟨_, ⟨g, hg, rfl⟩, List.mem_filter.2 ⟨hx, ht⟩⟩

/-- `PredOK` at every position/size fixes the oracle's truth: it is `holds` -/
theorem predOK_holds (d : Doc) (cfg : ECfg) (plb : Plan) (b : Ast) (x : Ref)
    (h : ∀ pos size, PredOK (F := F) d cfg plb b ⟨x, pos, size⟩) (pos size : Nat) :
    ∃ v res, evalP (F := F) d cfg plb x = .ok v ∧ Spec.eval (F := F) d b ⟨x, pos, size⟩ = .ok res ∧
      IsBN v ∧ NotNum res.value ∧ truthM v = holds (F := F) d b x ∧
      Spec.toBool res.value = holds (F := F) d b x := by
  obtain ⟨v, sv, g, hE, hS, hbn, hnn, htr⟩ := h pos size
  obtain ⟨v1, sv1, g1, hE1, hS1, _, _, htr1⟩ := h 1 1
  have hv : v1 = v := by
    have := hE1.symm.trans hE
    cases this; rfl
  subst hv
  have hh : holds (F := F) d b x = Spec.toBool sv1 := by
    simp only [holds, hS1, Spec.Res.value]
  refine ⟨v1, _, hE, hS, hbn, hnn, ?_, ?_⟩
  · rw [hh, htr1]
  · rw [hh, ← htr1]; exact htr.symm

/-- **one boolean-valued predicate on top of an agreeing path**: both sides keep exactly the nodes
on which the predicate holds; the model keeps them in the order of its input -/
theorem filter_sem (d : Doc) (cfg : ECfg) (pl plb : Plan) (inp b : Ast) (c : Spec.Ctx)
    (out0 : List Item) (ns0 : List Ref) (g0 : Option (List (List Ref)))
    (hsel : sel (F := F) d cfg pl c.node = .ok out0)
    (hev : Spec.eval (F := F) d inp c = .ok (.val (.nodes ns0) g0))
    (hm0 : ∀ x, x ∈ refs out0 ↔ x ∈ ns0) (hv0 : ∀ x ∈ ns0, validRef d x = true)
    (hg0 : ∀ gs, g0 = some gs → ∀ x, x ∈ gs.flatten ↔ x ∈ ns0)
    (hpred : ∀ x, validRef d x = true → ∀ pos size, PredOK (F := F) d cfg plb b ⟨x, pos, size⟩) :
    ∃ out ns g, sel (F := F) d cfg (.filter pl plb) c.node = .ok out ∧
      Spec.eval (F := F) d (.filter inp b) c = .ok (.val (.nodes ns) g) ∧
      refs out = (refs out0).filter (holds (F := F) d b) ∧
      (∀ x, x ∈ ns ↔ x ∈ ns0 ∧ holds (F := F) d b x = true) ∧
      (∀ gs, g = some gs → ∀ x, x ∈ gs.flatten ↔ x ∈ ns) := by
  -- model side
  obtain ⟨out, hout, hrefs⟩ := sel_filter_bool (F := F) d cfg pl plb c.node out0 (holds (F := F) d b) hsel
    (by
      intro it hit
      have hv : validRef d it.r = true := hv0 _ ((hm0 _).1 (List.mem_map.2 ⟨it, hit, rfl⟩))
      obtain ⟨v, res, hE, _, hbn, _, htr, _⟩ := predOK_holds d cfg plb b it.r (hpred it.r hv) 1 1
      exact ⟨v, hE, hbn.isBSN, htr⟩)
  -- oracle side: one group
  have hfp : ∀ l : List Ref, (∀ x ∈ l, validRef d x = true) →
      Spec.filterPos l (Spec.eval (F := F) d b) = .ok (l.filter (holds (F := F) d b)) := by
    intro l hl
    apply filterPos_bool
    intro r hr pos size
    obtain ⟨v, res, _, hS, _, hnn, _, htb⟩ := predOK_holds d cfg plb b r (hpred r (hl r hr)) pos size
    exact ⟨res, hS, hnn, htb⟩
  cases g0 with
  | none =>
    refine ⟨out, ns0.filter (holds (F := F) d b), none, hout, ?_, hrefs, ?_, by intro gs h; cases h⟩
    · simp only [Spec.eval, hev, bind, Except.bind, Spec.asNodes, hfp ns0 hv0]
    · intro x; exact List.mem_filter
  | some gs =>
    have hgv : ∀ g ∈ gs, ∀ x ∈ g, validRef d x = true := fun g hg x hx =>
      hv0 x ((hg0 gs rfl x).1 (List.mem_flatten.2 ⟨g, hg, hx⟩))
    have hmap : gs.mapM (fun g => Spec.filterPos g (Spec.eval (F := F) d b)) =
        .ok (gs.map (List.filter (holds (F := F) d b))) :=
      mapM_eq_ok_map _ _ gs (fun g hg => hfp g (hgv g hg))
    refine ⟨out, Spec.docOrder d (gs.map (List.filter (holds (F := F) d b))).flatten,
      some (gs.map (List.filter (holds (F := F) d b))), hout, ?_, hrefs, ?_, ?_⟩
    · simp only [Spec.eval, hev, bind, Except.bind, hmap]
    · intro x
      rw [mem_docOrder, mem_flatten_map_filter, hg0 gs rfl x]
      exact ⟨fun h => h.1, fun h => ⟨h, hv0 x h.1⟩⟩
    · intro gs' hgs' x
      cases hgs'
      rw [mem_docOrder, mem_flatten_map_filter, hg0 gs rfl x]
      exact ⟨fun h => ⟨h, hv0 x h.1⟩, fun h => h.1⟩

theorem pathOK_filter (d : Doc) (cfg : ECfg) (pl plb : Plan) (inp b : Ast) (c : Spec.Ctx)
    (h : PathOK (F := F) d cfg pl inp c)
    (hpred : ∀ x, validRef d x = true → ∀ pos size, PredOK (F := F) d cfg plb b ⟨x, pos, size⟩) :
    PathOK (F := F) d cfg (.filter pl plb) (.filter inp b) c := by
  obtain ⟨out0, ns0, g0, hsel, _, hev, hm0, hv0, hg0⟩ := h
  obtain ⟨out, ns, g, hout, hev', hrefs, hns, hg⟩ :=
    filter_sem (F := F) d cfg pl plb inp b c out0 ns0 g0 hsel hev hm0 hv0 hg0 hpred
  refine ⟨out, ns, g, hout, evalP_pathShape d cfg (.filter pl plb) trivial c.node out hout, hev',
    fun x => ?_,
    fun x hx => hv0 x ((hns x).1 hx).1, hg⟩
  rw [hrefs, List.mem_filter, hm0, hns]

/-! ## the naive plan of a path-with-predicates / of a predicate -/

/-- the plan without any builder rewrite: steps as `stepPlan`, predicates as `.filter`,
comparisons as `.logical`, `and`/`or` as `.boolean`, `not(b)` as the `not` function -/
def predPlan : Ast → Plan
  | .none => .context
  | .root _ => .absolute
  | .axis a inp => stepPlan a (predPlan inp)
  | .filter inp b => .filter (predPlan inp) (predPlan b)
  | .oper op l r =>
    if op = "and" then .boolean false (predPlan l) (predPlan r)
    else if op = "or" then .boolean true (predPlan l) (predPlan r)
    else .logical op (predPlan l) (predPlan r)
  | .str s => .constStr s
  | .num l => .constNum l
  | .call name _ (.acons b .anil) => .func name .nil (.pcons (predPlan b) .pnil)
  | _ => .nil

theorem predPlan_pathPF (p : Ast) (hp : PathPF p) : predPlan p = naivePlan p := by
  induction hp with
  | none => rfl
  | root s => rfl
  | axis a inp _ _ ih => simp only [predPlan, naivePlan, ih]

theorem predPlan_cmp (op : String) (hop : op ∈ cmpOps) (l r : Ast) :
    predPlan (.oper op l r) = .logical op (predPlan l) (predPlan r) := by
  simp only [cmpOps, List.mem_cons, List.not_mem_nil, or_false] at hop
  rcases hop with rfl | rfl | rfl | rfl | rfl | rfl <;> simp [predPlan]

/-! ## the basic fragment: boolean predicates over predicate-free paths -/

/-- boolean-valued predicates over predicate-free paths -/
inductive PredB : Ast → Prop
  /-- existence test (relative or absolute path) -/
  | path (p : Ast) : PathPF p → PredB p
  | eqStr (p : Ast) (s : String) : PathPF p → PredB (.oper "=" p (.str s))
  | neStr (p : Ast) (s : String) : PathPF p → PredB (.oper "!=" p (.str s))
  | cmpNumR (op : String) (p : Ast) (lex : String) : op ∈ cmpOps → PathPF p →
      PredB (.oper op p (.num lex))
  | cmpNumL (op : String) (lex : String) (p : Ast) : op ∈ cmpOps → PathPF p →
      PredB (.oper op (.num lex) p)
  | not (pfx : String) (b : Ast) : PredB b → PredB (.call "not" pfx (.acons b .anil))
  | and (b1 b2 : Ast) : PredB b1 → PredB b2 → PredB (.oper "and" b1 b2)
  | or (b1 b2 : Ast) : PredB b1 → PredB b2 → PredB (.oper "or" b1 b2)

/-! ## the general fragment: predicates on every step, stacked, and nested -/

/-- `Frag true e`: `e` is a location path over the twelve axes whose steps (and the path start) may
carry any number of boolean-valued predicates; `Frag false e`: `e` is a boolean-valued predicate
(existence test, path compared with a literal, `not`, `and`, `or`) over such paths -/
inductive Frag : Bool → Ast → Prop
  | none : Frag true .none
  | root (s : String) : Frag true (.root s)
  | axis (a : AxisInfo) (inp : Ast) : Frag true inp → a.axis ∈ axes12 → Frag true (.axis a inp)
  | filter (inp b : Ast) : Frag true inp → Frag false b → Frag true (.filter inp b)
  | exist (p : Ast) : Frag true p → Frag false p
  | eqStr (p : Ast) (s : String) : Frag true p → Frag false (.oper "=" p (.str s))
  | neStr (p : Ast) (s : String) : Frag true p → Frag false (.oper "!=" p (.str s))
  | cmpNumR (op : String) (p : Ast) (lex : String) : op ∈ cmpOps → Frag true p →
      Frag false (.oper op p (.num lex))
  | cmpNumL (op : String) (lex : String) (p : Ast) : op ∈ cmpOps → Frag true p →
      Frag false (.oper op (.num lex) p)
  | not (pfx : String) (b : Ast) : Frag false b → Frag false (.call "not" pfx (.acons b .anil))
  | and (b1 b2 : Ast) : Frag false b1 → Frag false b2 → Frag false (.oper "and" b1 b2)
  | or (b1 b2 : Ast) : Frag false b1 → Frag false b2 → Frag false (.oper "or" b1 b2)

theorem frag_of_pathPF (p : Ast) (hp : PathPF p) : Frag true p := by
  induction hp with
  | none => exact .none
  | root s => exact .root s
  | axis a inp _ ha ih => exact .axis a inp ih ha

theorem frag_of_predB (b : Ast) (hb : PredB b) : Frag false b := by
  induction hb with
  | path p hp => exact .exist p (frag_of_pathPF p hp)
  | eqStr p s hp => exact .eqStr p s (frag_of_pathPF p hp)
  | neStr p s hp => exact .neStr p s (frag_of_pathPF p hp)
  | cmpNumR op p lex hop hp => exact .cmpNumR op p lex hop (frag_of_pathPF p hp)
  | cmpNumL op lex p hop hp => exact .cmpNumL op lex p hop (frag_of_pathPF p hp)
  | not pfx b _ ih => exact .not pfx b ih
  | and b1 b2 _ _ ih1 ih2 => exact .and b1 b2 ih1 ih2
  | or b1 b2 _ _ ih1 ih2 => exact .or b1 b2 ih1 ih2

end XPathV.PredSem
