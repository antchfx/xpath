import XPathV.Lemmas.PredSem.Filter
import XPathV.Lemmas.C07Base
import XPathV.Lemmas.C08Base
import XPathV.Lemmas.Sem.Agree
/-!
# C02 helpers — truth of boolean-valued predicates: model value vs oracle value

`PredOK` is the agreement statement between a plan and a predicate at one context, beside `PathOK`
(`PathSem/Agree.lean`) for paths.  It is `Sem.Agree` up to truth (`predOK_iff`), so the per-constructor
steps are the closure lemmas of `Lemmas/Sem/Agree`: `predOK_cmp` (any two operands whose values have
the oracle's members), `predOK_not`, `predOK_and`, `predOK_or`; the existence test is `predOK_path`.
-/
namespace XPathV.PredSem
open XPathV XPathV.Model XPathV.PathSem XPathV.Sem
open XPathV.CmpSem (VRel)

variable {F : Type} [NumAlg F]

/-- the six comparison operators -/
def cmpOps : List String := ["=", "!=", "<", "<=", ">", ">="]

/-- a boolean or a node-set (what the predicate fragment produces on the model side) -/
def IsBN : MVal F → Prop
  | .bool _ | .nodes _ => True
  | _ => False

omit [NumAlg F] in
theorem IsBN.isBSN {v : MVal F} (h : IsBN v) : IsBSN v := by
  cases v <;> simp_all [IsBN, IsBSN]

/-- plan `pl` and predicate `b` agree at context `c`: both succeed, neither value is a number
(the model's is a boolean or a node-set), same truth -/
def PredOK (d : Doc) (cfg : ECfg) (pl : Plan) (b : Ast) (c : Spec.Ctx) : Prop :=
  ∃ v sv g, evalP (F := F) d cfg pl c.node = .ok v ∧ Spec.eval (F := F) d b c = .ok (.val sv g) ∧
    IsBN v ∧ NotNum sv ∧ truthM v = Spec.toBool sv

theorem mem_nodesVal (d : Doc) (cfg : ECfg) (out : List Item) (ns : List Ref)
    (hm : ∀ x, x ∈ refs out ↔ x ∈ ns) (hv : ∀ x ∈ ns, validRef d x = true) (x : Ref) :
    x ∈ nodesVal d cfg out ↔ x ∈ ns := by
  unfold nodesVal
  split
  · rw [mem_docOrder, hm]
    exact ⟨fun h => h.1, fun h => ⟨h, hv x h⟩⟩
  · exact hm x

/-! ## `PredOK` is agreement up to truth, of values that are not numbers -/

/-- the relation of `PredOK` -/
def PredR (m : MVal F) (v : Spec.Value F) : Prop := IsBN m ∧ NotNum v ∧ truthM m = Spec.toBool v

theorem predOK_iff {d : Doc} {cfg : ECfg} {q : Plan} {e : Ast} {c : Spec.Ctx} :
    PredOK (F := F) d cfg q e c ↔ Agree (F := F) d cfg PredR q e c := Iff.rfl

theorem asBoolM_BN (v : MVal F) (h : IsBN v) : asBoolM v = .ok (truthM v) := by
  cases v <;> simp_all [IsBN, asBoolM, truthM]

theorem PredR.truth (m : MVal F) (v : Spec.Value F) (h : PredR m v) : Truth m v :=
  (asBoolM_BN m h.1).trans (congrArg _ h.2.2)

theorem _root_.XPathV.Sem.ExactK.predR (m : MVal F) (v : Spec.Value F) (h : ExactK .bool m v) :
    PredR m v := by
  obtain ⟨rfl, hk⟩ := h
  cases v <;> cases hk
  exact ⟨trivial, trivial, rfl⟩

/-- a path agrees up to membership -/
theorem PathOK.vrel {d : Doc} {cfg : ECfg} {pl : Plan} {p : Ast} {c : Spec.Ctx}
    (h : PathOK (F := F) d cfg pl p c) : Agree (F := F) d cfg VRel pl p c :=
  let ⟨out, _, g, _, hE, hS, hm, hv, _⟩ := h; ⟨_, _, g, hE, hS, mem_nodesVal d cfg out _ hm hv⟩

/-! ## existence test -/

theorem predOK_path (d : Doc) (cfg : ECfg) (pl : Plan) (p : Ast) (c : Spec.Ctx)
    (h : PathOK (F := F) d cfg pl p c) : PredOK (F := F) d cfg pl p c := by
  obtain ⟨out, ns, g, _, hE, hS, hm, hv, _⟩ := h
  refine ⟨_, _, g, hE, hS, trivial, trivial, ?_⟩
  simp only [truthM, Spec.toBool]
  rw [CmpSem.isEmpty_congr_mem _ _ (mem_nodesVal d cfg out ns hm hv)]

/-! ## the oracle and the model on one node, in the words of this namespace (`Lemmas/CallFn`) -/

theorem cmpOps_ofString (op : String) (h : op ∈ cmpOps) : ∃ cop, Spec.CmpOp.ofString op = some cop := by
  simp only [cmpOps, List.mem_cons, List.not_mem_nil, or_false] at h
  rcases h with rfl | rfl | rfl | rfl | rfl | rfl <;> exact ⟨_, rfl⟩

theorem eval_cmp (d : Doc) (op : String) (cop : Spec.CmpOp) (hop : Spec.CmpOp.ofString op = some cop)
    (l r : Ast) (c : Spec.Ctx) (lv rv : Spec.Res F)
    (hl : Spec.eval (F := F) d l c = .ok lv) (hr : Spec.eval (F := F) d r c = .ok rv) :
    Spec.eval (F := F) d (.oper op l r) c =
      .ok (.val (.bool (Spec.compare d cop lv.value rv.value)) none) :=
  Spec.eval_cmp d op cop hop l r c lv rv hl hr

theorem eval_and (d : Doc) (l r : Ast) (c : Spec.Ctx) (lv rv : Spec.Res F)
    (hl : Spec.eval (F := F) d l c = .ok lv) (hr : Spec.eval (F := F) d r c = .ok rv) :
    Spec.eval (F := F) d (.oper "and" l r) c =
      .ok (.val (.bool (Spec.toBool lv.value && Spec.toBool rv.value)) none) := by
  rw [Spec.eval]
  simp only [hl, hr, bind, Except.bind]
  cases h : Spec.toBool lv.value <;> simp

theorem eval_or (d : Doc) (l r : Ast) (c : Spec.Ctx) (lv rv : Spec.Res F)
    (hl : Spec.eval (F := F) d l c = .ok lv) (hr : Spec.eval (F := F) d r c = .ok rv) :
    Spec.eval (F := F) d (.oper "or" l r) c =
      .ok (.val (.bool (Spec.toBool lv.value || Spec.toBool rv.value)) none) := by
  rw [Spec.eval]
  simp only [hl, hr, bind, Except.bind]
  cases h : Spec.toBool lv.value <;> simp

theorem spec_callFn_not (d : Doc) (c : Spec.Ctx) (a : Spec.Value F) :
    Spec.callFn d c "not" [a] = .ok (.bool (!Spec.toBool a)) := Spec.callFn_not d c a

theorem eval_not (d : Doc) (pfx : String) (b : Ast) (c : Spec.Ctx) (bv : Spec.Res F)
    (hb : Spec.eval (F := F) d b c = .ok bv) :
    Spec.eval (F := F) d (.call "not" pfx (.acons b .anil)) c =
      .ok (.val (.bool (!Spec.toBool bv.value)) none) := by
  simp only [Spec.eval, hb, bind, Except.bind, Spec.Res.argList, spec_callFn_not]

theorem eval_str (d : Doc) (s : String) (c : Spec.Ctx) :
    Spec.eval (F := F) d (.str s) c = .ok (.val (.str s) none) := Spec.eval_str d s c

theorem eval_num (d : Doc) (l : String) (c : Spec.Ctx) :
    Spec.eval (F := F) d (.num l) c = .ok (.val (.num (Spec.strToNum l)) none) := Spec.eval_num d l c

theorem callFn_not_nodes (d : Doc) (cfg : ECfg) (c : Ref) (l : List Ref) :
    callFn (F := F) d cfg "not" .nil c [.ok (.nodes l)] none = .ok (.bool l.isEmpty) := by
  rw [callFn_not]
  exact congrArg (fun b => Except.ok (MVal.bool b)) (Bool.not_not _)

theorem callFn_not_str (d : Doc) (cfg : ECfg) (c : Ref) (s : String) :
    callFn (F := F) d cfg "not" .nil c [.ok (.str s)] none =
      .ok (.bool (!Spec.toBool (F := F) (.str s))) := by
  rw [callFn_not]; rfl

theorem evalP_not (d : Doc) (cfg : ECfg) (pl : Plan) (c : Ref) :
    evalP (F := F) d cfg (.func "not" .nil (.pcons pl .pnil)) c =
      callFn (F := F) d cfg "not" .nil c [evalP (F := F) d cfg pl c] none :=
  evalP_func1 d cfg "not" .nil pl c rfl

theorem evalP_logical (d : Doc) (cfg : ECfg) (op : String) (cop : Spec.CmpOp)
    (hop : Spec.CmpOp.ofString op = some cop) (l r : Plan) (c : Ref) (m n : MVal F) (b : Bool)
    (hl : evalP (F := F) d cfg l c = .ok m) (hr : evalP (F := F) d cfg r c = .ok n)
    (hc : cmpM d cop m n = .ok b) :
    evalP (F := F) d cfg (.logical op l r) c = .ok (.bool b) := by
  simp only [evalP, hl, hr, bind, Except.bind, logicalVal, hop, hc]

protected theorem evalP_constNum (d : Doc) (cfg : ECfg) (l : String) (c : Ref) :
    evalP (F := F) d cfg (.constNum l) c = .ok (.num (Spec.strToNum l)) :=
  Model.evalP_constNum d cfg l c

/-! ## comparisons -/

section
variable {d : Doc} {cfg : ECfg} {c : Spec.Ctx}

/-- **`a op b` as a predicate**, whatever the two operands are, as soon as the value of each has the
members of the oracle's: every pair of types, all six operators (`Agree.cmp`) -/
theorem predOK_cmp {op : String} (hop : op ∈ cmpOps) {ql qr : Plan} {a b : Ast}
    (ha : Agree (F := F) d cfg VRel ql a c) (hb : Agree (F := F) d cfg VRel qr b c) :
    PredOK (F := F) d cfg (.logical op ql qr) (.oper op a b) c :=
  let ⟨_, hcop⟩ := cmpOps_ofString op hop; (ha.cmp hcop hb).as ExactK.predR

theorem agree_num_lit (lex : String) : Agree (F := F) d cfg VRel (.constNum lex) (.num lex) c :=
  (agree0_num_lit d cfg lex c).as ExactK.vrel

theorem agree_str_lit (s : String) : Agree (F := F) d cfg VRel (.constStr s) (.str s) c :=
  (agree0_str_lit d cfg s c).as ExactK.vrel

end

/-- path `op` number -/
theorem predOK_cmpNumR (d : Doc) (cfg : ECfg) (op : String) (hop : op ∈ cmpOps) (pl : Plan) (p : Ast)
    (lex : String) (c : Spec.Ctx) (h : PathOK (F := F) d cfg pl p c) :
    PredOK (F := F) d cfg (.logical op pl (.constNum lex)) (.oper op p (.num lex)) c :=
  predOK_cmp hop h.vrel (agree_num_lit lex)

/-- number `op` path -/
theorem predOK_cmpNumL (d : Doc) (cfg : ECfg) (op : String) (hop : op ∈ cmpOps) (pl : Plan) (p : Ast)
    (lex : String) (c : Spec.Ctx) (h : PathOK (F := F) d cfg pl p c) :
    PredOK (F := F) d cfg (.logical op (.constNum lex) pl) (.oper op (.num lex) p) c :=
  predOK_cmp hop (agree_num_lit lex) h.vrel

/-! ## `not`, `and`, `or` -/

theorem predOK_not (d : Doc) (cfg : ECfg) (pl : Plan) (b : Ast) (pfx : String) (c : Spec.Ctx)
    (h : PredOK (F := F) d cfg pl b c) :
    PredOK (F := F) d cfg (.func "not" .nil (.pcons pl .pnil)) (.call "not" pfx (.acons b .anil)) c :=
  ((Agree.mono PredR.truth h).not pfx .nil).as ExactK.predR

theorem predOK_and (d : Doc) (cfg : ECfg) (pl1 pl2 : Plan) (b1 b2 : Ast) (c : Spec.Ctx)
    (h1 : PredOK (F := F) d cfg pl1 b1 c) (h2 : PredOK (F := F) d cfg pl2 b2 c) :
    PredOK (F := F) d cfg (.boolean false pl1 pl2) (.oper "and" b1 b2) c :=
  ((Agree.mono PredR.truth h1).andor false (Agree.mono PredR.truth h2)).as ExactK.predR

theorem predOK_or (d : Doc) (cfg : ECfg) (pl1 pl2 : Plan) (b1 b2 : Ast) (c : Spec.Ctx)
    (h1 : PredOK (F := F) d cfg pl1 b1 c) (h2 : PredOK (F := F) d cfg pl2 b2 c) :
    PredOK (F := F) d cfg (.boolean true pl1 pl2) (.oper "or" b1 b2) c :=
  ((Agree.mono PredR.truth h1).andor true (Agree.mono PredR.truth h2)).as ExactK.predR

end XPathV.PredSem
