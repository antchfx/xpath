import XPathV.Doc
/-!
# Arithmetic facts about the pre-order/depth encoding

`endOf`, `parentFrom`, `prevFrom` characterised by depth inequalities; subtree nesting; the facts
about indices behind the sibling, descendant and preceding walks of `AxesLemmas`.
-/
namespace XPathV

/-- the executable well-formedness check is sound -/
theorem wf_of_wfb {d : Doc} (h : wfb d = true) : WF d := by
  simp only [wfb, Bool.and_eq_true, decide_eq_true_eq, beq_iff_eq, List.all_eq_true, List.mem_range,
    Bool.or_eq_true, bne_iff_ne, ne_eq, Bool.not_eq_true', List.isEmpty_iff] at h
  obtain ⟨⟨⟨⟨hpos, h0⟩, hk⟩, hstep⟩, hattrs⟩ := h
  refine ⟨hpos, ⟨h0, hk⟩, ?_, ?_, ?_, ?_⟩
  · intro i hi
    have := hstep i (by omega)
    exact ⟨this.1.1.1, this.1.1.2⟩
  · intro i h0 hi
    obtain ⟨j, rfl⟩ : ∃ j, i = j + 1 := ⟨i - 1, by omega⟩
    exact (hstep j (by omega)).1.2
  · intro i hi hk
    have := (hstep i (by omega)).2
    rcases this with h | h
    · rcases hk with hk | hk <;> simp [hk] at h
    · exact h
  · intro i hi hne
    rcases hattrs i hi with h | h
    · exact absurd h hne
    · exact h

/-! ## `endFrom` / `endOf` -/

theorem endFrom_ge (di : Nat) (xs : List Rec) (j : Nat) : j ≤ endFrom di xs j := by
  induction xs generalizing j with
  | nil => simp [endFrom]
  | cons x xs ih =>
    simp only [endFrom]; split
    · exact Nat.le_refl _
    · exact Nat.le_trans (Nat.le_succ j) (ih (j+1))

theorem endFrom_le (di : Nat) (xs : List Rec) (j : Nat) : endFrom di xs j ≤ j + xs.length := by
  induction xs generalizing j with
  | nil => simp [endFrom]
  | cons x xs ih =>
    simp only [endFrom, List.length_cons]; split
    · omega
    · have := ih (j+1); omega

theorem endFrom_gt (di : Nat) (xs : List Rec) (j k : Nat) (hk : j + k < endFrom di xs j) :
    di < (xs.getD k default).depth := by
  induction xs generalizing j k with
  | nil => simp [endFrom] at hk; omega
  | cons x xs ih =>
    simp only [endFrom] at hk
    split at hk
    · omega
    · cases k with
      | zero => simp; omega
      | succ k =>
        simp only [List.getD_cons_succ]
        apply ih (j+1) k; omega

theorem endFrom_at (di : Nat) (xs : List Rec) (j : Nat) (h : endFrom di xs j < j + xs.length) :
    (xs.getD (endFrom di xs j - j) default).depth ≤ di := by
  induction xs generalizing j with
  | nil => simp [endFrom] at h
  | cons x xs ih =>
    simp only [endFrom] at h ⊢
    split
    · simpa
    · rename_i hx
      simp only [hx, ↓reduceIte, List.length_cons] at h
      have hge := endFrom_ge di xs (j+1)
      have : endFrom di xs (j+1) - j = (endFrom di xs (j+1) - (j+1)) + 1 := by omega
      rw [this, List.getD_cons_succ]
      apply ih; omega

theorem dep_drop (d : Doc) (i k : Nat) : ((d.drop i).getD k default).depth = dep d (i + k) := by
  simp [dep, List.getD_eq_getElem?_getD, List.getElem?_drop]

theorem endOf_gt (d : Doc) (i : Nat) : i < endOf d i := by
  have := endFrom_ge (dep d i) (d.drop (i+1)) (i+1); unfold endOf; omega

theorem endOf_le (d : Doc) (i : Nat) (hi : i < d.length) : endOf d i ≤ d.length := by
  have := endFrom_le (dep d i) (d.drop (i+1)) (i+1); unfold endOf
  simp only [List.length_drop] at this; omega

theorem endOf_inside (d : Doc) (i k : Nat) (h1 : i < k) (h2 : k < endOf d i) :
    dep d i < dep d k := by
  have := endFrom_gt (dep d i) (d.drop (i+1)) (i+1) (k - (i+1)) (by unfold endOf at h2; omega)
  rw [dep_drop] at this
  have e : i + 1 + (k - (i+1)) = k := by omega
  rwa [e] at this

theorem endOf_at (d : Doc) (i : Nat) (h : endOf d i < d.length) :
    dep d (endOf d i) ≤ dep d i := by
  have hgt := endOf_gt d i
  have := endFrom_at (dep d i) (d.drop (i+1)) (i+1) (by
    unfold endOf at h; simp only [List.length_drop]; omega)
  rw [dep_drop] at this
  have e : i + 1 + (endFrom (dep d i) (d.drop (i+1)) (i+1) - (i+1)) = endOf d i := by
    unfold endOf at hgt ⊢; omega
  rwa [e] at this

/-- the subtree of `i` stops at the end of the document or at a node that is not deeper than `i` -/
theorem endOf_stop (d : Doc) (i : Nat) (hi : i < d.length) :
    endOf d i = d.length ∨ dep d (endOf d i) ≤ dep d i := by
  rcases Nat.lt_or_ge (endOf d i) d.length with h | h
  · exact Or.inr (endOf_at d i h)
  · exact Or.inl (Nat.le_antisymm (endOf_le d i hi) h)

/-- a node deeper than `i` that lies at or before the end of the subtree of `i` lies inside it -/
theorem lt_endOf_of_dep (d : Doc) (i j : Nat) (hj : j < d.length) (hle : j ≤ endOf d i)
    (hd : dep d i < dep d j) : j < endOf d i := by
  apply Nat.lt_of_le_of_ne hle
  intro e
  have := endOf_at d i (e ▸ hj)
  rw [← e] at this
  exact absurd this (Nat.not_le_of_lt hd)

theorem dep_le_of_in (d : Doc) (s k : Nat) (h1 : s ≤ k) (h2 : k < endOf d s) : dep d s ≤ dep d k := by
  rcases Nat.eq_or_lt_of_le h1 with rfl | h
  · exact Nat.le_refl _
  · exact Nat.le_of_lt (endOf_inside d s k h h2)

/-- past the end of a subtree that lies inside the document comes a node not deeper than its root,
so strictly shallower than anything inside -/
theorem dep_endOf_lt (d : Doc) (j x : Nat) (h1 : j < x) (h2 : x < endOf d j)
    (he : endOf d j < d.length) : dep d (endOf d j) < dep d x :=
  Nat.lt_of_le_of_lt (endOf_at d j he) (endOf_inside d j x h1 h2)

/-- characterisation of `endOf`: the first index after `i` whose depth is not greater -/
theorem endOf_eq (d : Doc) (i m : Nat) (hi : i < m) (hm : m ≤ d.length)
    (hin : ∀ k, i < k → k < m → dep d i < dep d k)
    (hat : m = d.length ∨ dep d m ≤ dep d i) : endOf d i = m := by
  have hlt : i < d.length := by omega
  have hle := endOf_le d i hlt
  have hgt := endOf_gt d i
  rcases Nat.lt_trichotomy (endOf d i) m with h | h | h
  · have := endOf_at d i (by omega)
    have := hin _ hgt h
    omega
  · exact h
  · have := endOf_inside d i m hi h
    rcases hat with hat | hat <;> omega

/-! ## `parentFrom` -/

theorem parentFrom_some (d : Doc) (di j p : Nat) (h : parentFrom d di j = some p) :
    p < j ∧ dep d p < di ∧ ∀ k, p < k → k < j → di ≤ dep d k := by
  induction j with
  | zero => simp [parentFrom] at h
  | succ j ih =>
    simp only [parentFrom] at h
    split at h
    · cases h; refine ⟨by omega, by assumption, ?_⟩; intro k h1 h2; omega
    · rename_i hn
      obtain ⟨a, b, c⟩ := ih h
      refine ⟨by omega, b, ?_⟩
      intro k h1 h2
      by_cases hk : k = j
      · subst hk; omega
      · exact c k h1 (by omega)

theorem parentFrom_none (d : Doc) (di j : Nat) (h : parentFrom d di j = none) :
    ∀ k, k < j → di ≤ dep d k := by
  induction j with
  | zero => intro k hk; omega
  | succ j ih =>
    simp only [parentFrom] at h
    split at h
    · cases h
    · intro k hk
      by_cases hkj : k = j
      · subst hkj; omega
      · exact ih h k (by omega)

/-- converse of `parentFrom_some`: the characterisation determines the result -/
theorem parentFrom_eq (d : Doc) (di j p : Nat) (hp : p < j) (hd : dep d p < di)
    (hb : ∀ k, p < k → k < j → di ≤ dep d k) : parentFrom d di j = some p := by
  cases h : parentFrom d di j with
  | none => have := parentFrom_none d di j h p hp; omega
  | some q =>
    obtain ⟨hq, hqd, hqb⟩ := parentFrom_some d di j q h
    rcases Nat.lt_trichotomy p q with h1 | h1 | h1
    · have := hb q h1 hq; omega
    · rw [h1]
    · have := hqb p h1 hp; omega

theorem parentFrom_zero (d : Doc) (di : Nat) : parentFrom d di 0 = none := rfl

/-- depths inside a wf document: every non-root node has depth ≥ 1 -/
theorem WF.dep_pos {d : Doc} (wf : WF d) (j : Nat) (h0 : 0 < j) (hj : j < d.length) :
    1 ≤ dep d j := by
  cases j with
  | zero => omega
  | succ j => exact (wf.step j hj).1

theorem dep_le_idx {d : Doc} (wf : WF d) (i : Nat) (hi : i < d.length) : dep d i ≤ i := by
  induction i with
  | zero => rw [wf.root.1]; exact Nat.le_refl _
  | succ i ih =>
    have := ih (by omega)
    have := (wf.step i hi).2
    omega

theorem parent_depth {d : Doc} (wf : WF d) (j p : Nat) (hj : j < d.length)
    (h : parentFrom d (dep d j) j = some p) : dep d p + 1 = dep d j := by
  obtain ⟨hpj, hpd, hb⟩ := parentFrom_some d _ _ _ h
  have h1 : dep d j ≤ dep d (p+1) := by
    rcases Nat.lt_or_ge (p+1) j with h | h
    · exact hb (p+1) (by omega) h
    · have : p + 1 = j := by omega
      rw [this]; exact Nat.le_refl _
  have := (wf.step p (by omega)).2
  omega

theorem parent_exists {d : Doc} (wf : WF d) (j : Nat) (h0 : 0 < j) (hj : j < d.length) :
    ∃ p, parentFrom d (dep d j) j = some p := by
  cases h : parentFrom d (dep d j) j with
  | some p => exact ⟨p, rfl⟩
  | none =>
    have := parentFrom_none d _ _ h 0 h0
    have := wf.dep_pos j h0 hj
    have := wf.root.1
    omega

/-! ## `prevFrom` -/

theorem prevFrom_some (d : Doc) (di j p : Nat) (h : prevFrom d di j = some p) :
    p < j ∧ dep d p = di ∧ ∀ k, p < k → k < j → di < dep d k := by
  induction j with
  | zero => simp [prevFrom] at h
  | succ j ih =>
    simp only [prevFrom] at h
    split at h
    · cases h
    · split at h
      · cases h; refine ⟨by omega, by assumption, ?_⟩; intro k h1 h2; omega
      · obtain ⟨a, b, c⟩ := ih h
        refine ⟨by omega, b, ?_⟩
        intro k h1 h2
        by_cases hk : k = j
        · subst hk; omega
        · exact c k h1 (by omega)

/-- `prevFrom = none`: either nothing before has depth `≤ di`, or the nearest such has depth `< di` -/
theorem prevFrom_none (d : Doc) (di j : Nat) (h : prevFrom d di j = none) :
    (∀ k, k < j → di < dep d k) ∨
    (∃ q, q < j ∧ dep d q < di ∧ ∀ k, q < k → k < j → di < dep d k) := by
  induction j with
  | zero => left; intro k hk; omega
  | succ j ih =>
    simp only [prevFrom] at h
    split at h
    · right; refine ⟨j, by omega, by assumption, ?_⟩; intro k h1 h2; omega
    · split at h
      · cases h
      · rcases ih h with h1 | ⟨q, hq, hqd, hqb⟩
        · left; intro k hk
          by_cases hkj : k = j
          · subst hkj; omega
          · exact h1 k (by omega)
        · right; refine ⟨q, by omega, hqd, ?_⟩
          intro k h1 h2
          by_cases hkj : k = j
          · subst hkj; omega
          · exact hqb k h1 (by omega)

theorem prevFrom_eq (d : Doc) (di j p : Nat) (hp : p < j) (hd : dep d p = di)
    (hb : ∀ k, p < k → k < j → di < dep d k) : prevFrom d di j = some p := by
  cases h : prevFrom d di j with
  | none =>
    rcases prevFrom_none d di j h with h1 | ⟨q, hq, hqd, hqb⟩
    · have := h1 p hp; omega
    · rcases Nat.lt_trichotomy p q with h1 | h1 | h1
      · have := hb q h1 hq; omega
      · subst h1; omega
      · have := hqb p h1 hp; omega
  | some q =>
    obtain ⟨hq, hqd, hqb⟩ := prevFrom_some d di j q h
    rcases Nat.lt_trichotomy p q with h1 | h1 | h1
    · have := hb q h1 hq; omega
    · rw [h1]
    · have := hqb p h1 hp; omega

/-- the previous sibling: greatest `p < j` of the same depth with only deeper nodes between -/
theorem prevFrom_iff (d : Doc) (j p : Nat) :
    prevFrom d (dep d j) j = some p ↔
      (p < j ∧ dep d p = dep d j ∧ ∀ k, p < k → k < j → dep d j < dep d k) :=
  ⟨prevFrom_some d _ j p, fun ⟨a, b, c⟩ => prevFrom_eq d _ j p a b c⟩

theorem parentFrom_iff (d : Doc) (di j p : Nat) :
    parentFrom d di j = some p ↔ (p < j ∧ dep d p < di ∧ ∀ k, p < k → k < j → di ≤ dep d k) :=
  ⟨parentFrom_some d di j p, fun ⟨a, b, c⟩ => parentFrom_eq d di j p a b c⟩

/-! ## Subtree nesting -/

/-- for a wf document, `p` is the parent of `j` iff `j` lies in the subtree interval of `p`
one level below `p` -/
theorem parent_iff_subtree {d : Doc} (wf : WF d) (p j : Nat) (hj : j < d.length) (hpj : p < j) :
    parentFrom d (dep d j) j = some p ↔ (j < endOf d p ∧ dep d j = dep d p + 1) := by
  constructor
  · intro h
    have hdep := parent_depth wf j p hj h
    obtain ⟨_, hpd, hb⟩ := parentFrom_some d _ _ _ h
    refine ⟨?_, by omega⟩
    rcases Nat.lt_or_ge j (endOf d p) with h1 | h1
    · exact h1
    · have hgt := endOf_gt d p
      have hat := endOf_at d p (by omega)
      rcases Nat.lt_or_ge (endOf d p) j with h2 | h2
      · have := hb _ hgt h2; omega
      · have : endOf d p = j := by omega
        rw [this] at hat; omega
  · intro ⟨hlt, hdep⟩
    apply parentFrom_eq d _ j p hpj (by omega)
    intro k h1 h2
    have := endOf_inside d p k h1 (by omega)
    omega

/-- subtrees are nested: a node inside the subtree of `p` has its whole subtree inside -/
theorem endOf_nested (d : Doc) (p j : Nat) (hp : p < d.length) (h1 : p < j) (h2 : j < endOf d p) :
    endOf d j ≤ endOf d p := by
  have hle := endOf_le d p hp
  rcases Nat.lt_or_ge (endOf d p) (endOf d j) with h | h
  · have hgt := endOf_gt d p
    have a := endOf_inside d j (endOf d p) h2 h
    have b := endOf_at d p (by have := endOf_le d j (by omega); omega)
    have c := endOf_inside d p j h1 h2
    omega
  · exact h

/-- the parent's subtree contains the child's subtree -/
theorem parent_endOf {d : Doc} (wf : WF d) (p j : Nat) (hj : j < d.length)
    (h : parentFrom d (dep d j) j = some p) : p < j ∧ j < endOf d p ∧ endOf d j ≤ endOf d p := by
  have hpj := (parentFrom_some d _ _ _ h).1
  have := (parent_iff_subtree wf p j hj hpj).1 h
  exact ⟨hpj, this.1, endOf_nested d p j (by omega) hpj this.1⟩

/-- a node whose successor is not one level deeper has no children: its subtree is the node alone -/
theorem endOf_succ_of_leaf {d : Doc} (wf : WF d) (i : Nat) (hi : i < d.length)
    (hc : ¬ (i + 1 < d.length ∧ dep d (i+1) = dep d i + 1)) : endOf d i = i + 1 := by
  apply endOf_eq d i (i+1) (Nat.lt_succ_self i) hi (fun k h1 h2 => by omega)
  rcases Nat.lt_or_ge (i+1) d.length with h | h
  · right
    have := (wf.step i h).2
    exact Nat.le_of_not_lt fun h3 => hc ⟨h, by omega⟩
  · left; omega

/-! ## Sibling chains: `[c, e)` a stretch of nodes not shallower than `c`, closed by the end of the
document or by a shallower node; the siblings of `c` after `c` are the nodes of its depth in it -/

/-- when the node after the subtree of `c` is a sibling, it is the first of them -/
theorem sibs_after_split (d : Doc) (c e : Nat) (hce : c < e)
    (hin : ∀ k, c ≤ k → k < e → dep d c ≤ dep d k) (hat : e = d.length ∨ dep d e < dep d c)
    (hlen : endOf d c < d.length) (hdep : dep d (endOf d c) = dep d c) :
    endOf d c < e ∧ ∀ j, (c < j ∧ j < e ∧ dep d j = dep d c) ↔
      (j = endOf d c ∨ (endOf d c < j ∧ j < e ∧ dep d j = dep d (endOf d c))) := by
  have hgt := endOf_gt d c
  have hne : endOf d c < e := Nat.lt_of_not_le fun h => by
    rcases hat with hat | hat
    · omega
    · rcases Nat.eq_or_lt_of_le h with e' | h'
      · rw [e'] at hat; omega
      · have := endOf_inside d c e hce h'; omega
  refine ⟨hne, fun j => ⟨fun ⟨h1, h2, h3⟩ => ?_, ?_⟩⟩
  · rcases Nat.lt_trichotomy j (endOf d c) with h | h | h
    · have := endOf_inside d c j h1 h; omega
    · exact Or.inl h
    · exact Or.inr ⟨h, h2, h3.trans hdep.symm⟩
  · rintro (rfl | ⟨h1, h2, h3⟩)
    · exact ⟨hgt, hne, hdep⟩
    · exact ⟨Nat.lt_trans hgt h1, h2, h3.trans hdep⟩

/-- when the node after the subtree of `c` is no sibling, `c` has none after it -/
theorem no_sibs_after (d : Doc) (c e : Nat) (he : e ≤ d.length)
    (hin : ∀ k, c ≤ k → k < e → dep d c ≤ dep d k)
    (hstop : endOf d c = d.length ∨ dep d (endOf d c) < dep d c) (j : Nat) :
    ¬ (c < j ∧ j < e ∧ dep d j = dep d c) := by
  intro ⟨h1, h2, h3⟩
  have hge : endOf d c ≤ j := Nat.le_of_not_lt fun h => by
    have := endOf_inside d c j h1 h; omega
  have := hin (endOf d c) (Nat.le_of_lt (endOf_gt d c)) (by omega)
  omega

/-- the earlier siblings of `c` (same depth, nothing shallower in between), when `p` is the previous
one: `p` and its earlier siblings -/
theorem prev_sibs_split (d : Doc) (c p : Nat) (hp : prevFrom d (dep d c) c = some p) (j : Nat) :
    (j < c ∧ dep d j = dep d c ∧ ∀ k, j < k → k < c → dep d c ≤ dep d k) ↔
      (j = p ∨ (j < p ∧ dep d j = dep d p ∧ ∀ k, j < k → k < p → dep d p ≤ dep d k)) := by
  obtain ⟨hpc, hpd, hpb⟩ := prevFrom_some d _ _ _ hp
  constructor
  · intro ⟨h1, h2, h3⟩
    rcases Nat.lt_trichotomy j p with h | h | h
    · exact Or.inr ⟨h, h2.trans hpd.symm, fun k a b => hpd ▸ h3 k a (Nat.lt_trans b hpc)⟩
    · exact Or.inl h
    · have := hpb j h h1; omega
  · rintro (rfl | ⟨h1, h2, h3⟩)
    · exact ⟨hpc, hpd, fun k a b => Nat.le_of_lt (hpb k a b)⟩
    · refine ⟨Nat.lt_trans h1 hpc, h2.trans hpd, fun k a b => ?_⟩
      rcases Nat.lt_trichotomy k p with h | h | h
      · exact hpd ▸ h3 k a h
      · subst h; exact Nat.le_of_eq hpd.symm
      · exact Nat.le_of_lt (hpb k h b)

theorem no_prev_sibs (d : Doc) (c : Nat) (hp : prevFrom d (dep d c) c = none) (j : Nat) :
    ¬ (j < c ∧ dep d j = dep d c ∧ ∀ k, j < k → k < c → dep d c ≤ dep d k) := by
  intro ⟨h1, h2, h3⟩
  rcases prevFrom_none d _ _ hp with h | ⟨q, hq, hqd, hqb⟩
  · have := h j h1; omega
  · rcases Nat.lt_trichotomy j q with h | h | h
    · have := h3 q h hq; omega
    · subst h; omega
    · have := hqb j h h1; omega

/-! ## Siblings: the nodes with the same parent -/

/-- `x` has the parent `p` of `i` iff it lies in the subtree of `p` at the depth of `i` -/
theorem same_parent_iff {d : Doc} (wf : WF d) (i p : Nat) (hi : i < d.length)
    (hq : parentFrom d (dep d i) i = some p) (x : Nat) (hx : x < d.length) :
    parentFrom d (dep d x) x = some p ↔ (p < x ∧ x < endOf d p ∧ dep d x = dep d i) := by
  have hdep := parent_depth wf i p hi hq
  constructor
  · intro h
    have hpx := (parentFrom_some d _ _ _ h).1
    have := (parent_iff_subtree wf p x hx hpx).1 h
    exact ⟨hpx, this.1, by omega⟩
  · intro ⟨h1, h2, h3⟩
    exact (parent_iff_subtree wf p x hx h1).2 ⟨h2, by omega⟩

/-- the earlier nodes of the depth of `i` with nothing shallower in between are the earlier nodes of
that depth below the parent of `i` -/
theorem earlier_sibs_iff {d : Doc} (wf : WF d) (i p : Nat) (hi : i < d.length)
    (hq : parentFrom d (dep d i) i = some p) (x : Nat) :
    (x < i ∧ dep d x = dep d i ∧ ∀ k, x < k → k < i → dep d i ≤ dep d k) ↔
      (x < i ∧ p < x ∧ dep d x = dep d i) := by
  obtain ⟨hpi, hpd, _⟩ := parentFrom_some d _ _ _ hq
  obtain ⟨_, hie, _⟩ := parent_endOf wf p i hi hq
  have hdep := parent_depth wf i p hi hq
  constructor
  · intro ⟨h1, h2, h3⟩
    refine ⟨h1, ?_, h2⟩
    rcases Nat.lt_trichotomy x p with h | h | h
    · have := h3 p h hpi; omega
    · subst h; omega
    · exact h
  · intro ⟨h1, h2, h3⟩
    refine ⟨h1, h3, fun k a b => ?_⟩
    have := endOf_inside d p k (by omega) (by omega)
    omega

/-! ## Last children, previous siblings, first children -/

/-- the subtree of a last child ends where its parent's does -/
theorem endOf_parent {d : Doc} (wf : WF d) (k p : Nat) (hk : k < d.length)
    (hp : parentFrom d (dep d k) k = some p)
    (hstop : endOf d k = d.length ∨ dep d (endOf d k) < dep d k) : endOf d p = endOf d k := by
  obtain ⟨hpk, hkp, hle⟩ := parent_endOf wf p k hk hp
  refine Nat.le_antisymm (Nat.le_of_not_lt fun hlt => ?_) hle
  have hdep := parent_depth wf k p hk hp
  have hpl := endOf_le d p (Nat.lt_trans hpk hk)
  have := endOf_inside d p (endOf d k) (Nat.lt_trans hpk (endOf_gt d k)) hlt
  rcases hstop with h | h <;> omega

/-- the nodes wholly before `c` (their subtree ends at or before `c`), when `c` has the previous
sibling `p`: the subtree of `p`, and the nodes wholly before `p` -/
theorem before_of_prev (d : Doc) (c p : Nat) (hc : c < d.length) (hpc : p < c)
    (hpe : endOf d p = c) (hpd : dep d p = dep d c) (j : Nat) :
    (j < c ∧ endOf d j ≤ c) ↔ ((p ≤ j ∧ j < c) ∨ (j < p ∧ endOf d j ≤ p)) := by
  constructor
  · intro ⟨h1, h2⟩
    rcases Nat.lt_or_ge j p with h | h
    · refine Or.inr ⟨h, Nat.le_of_not_lt fun h' => ?_⟩
      -- `p` inside `j`: the subtree of `j` ends at `c` as well, so `c` is shallower than `p`
      have hn := endOf_nested d j p (by omega) h h'
      have he : endOf d j = c := by omega
      have := dep_endOf_lt d j p h h' (by omega)
      rw [he] at this; omega
    · exact Or.inl ⟨h, h1⟩
  · rintro (⟨h1, h2⟩ | ⟨h1, h2⟩)
    · refine ⟨h2, ?_⟩
      rcases Nat.eq_or_lt_of_le h1 with rfl | h
      · exact Nat.le_of_eq hpe
      · exact hpe ▸ endOf_nested d p j (by omega) h (by omega)
    · exact ⟨by omega, by omega⟩

/-- the nodes wholly before a first child `q+1` are those wholly before its parent `q` -/
theorem before_of_first_child (d : Doc) (q : Nat) (hc : q + 1 < d.length) (hin : q + 1 < endOf d q)
    (hdep : dep d (q+1) = dep d q + 1) (j : Nat) :
    (j < q + 1 ∧ endOf d j ≤ q + 1) ↔ (j < q ∧ endOf d j ≤ q) := by
  constructor
  · intro ⟨h1, h2⟩
    have hjq : j < q := Nat.lt_of_le_of_ne (Nat.le_of_lt_succ h1) (fun e => by subst e; omega)
    refine ⟨hjq, Nat.le_of_not_lt fun h' => ?_⟩
    have he : endOf d j = q + 1 := by omega
    have := dep_endOf_lt d j q hjq h' (by omega)
    rw [he] at this; omega
  · intro ⟨h1, h2⟩; exact ⟨by omega, by omega⟩

/-- a node without previous sibling comes right after its parent -/
theorem first_child_of_prev_none {d : Doc} (wf : WF d) (c q : Nat) (hc : c < d.length)
    (hp : prevFrom d (dep d c) c = none) (hq : parentFrom d (dep d c) c = some q) : c = q + 1 := by
  obtain ⟨hqc, _, hqb⟩ := parentFrom_some d _ _ _ hq
  have hdep := parent_depth wf c q hc hq
  refine Nat.le_antisymm (Nat.le_of_not_lt fun h => ?_) hqc
  have hstep := (wf.step q (by omega)).2
  rcases prevFrom_none d _ _ hp with h1 | ⟨q', hq', hqd', hqb'⟩
  · have := h1 q hqc; omega
  · rcases Nat.lt_trichotomy q' q with h2 | h2 | h2
    · have := hqb' q h2 hqc; omega
    · subst h2; have := hqb' (q'+1) (by omega) h; omega
    · have := hqb q' h2 hq'; omega

/-- the subtree of a previous sibling ends at the node -/
theorem endOf_prev (d : Doc) (c p : Nat) (hc : c ≤ d.length) (hp : prevFrom d (dep d c) c = some p) :
    endOf d p = c := by
  obtain ⟨hpc, hpd, hpb⟩ := prevFrom_some d _ _ _ hp
  exact endOf_eq d p c hpc hc (fun k a b => hpd ▸ hpb k a b) (Or.inr (Nat.le_of_eq hpd.symm))

end XPathV
