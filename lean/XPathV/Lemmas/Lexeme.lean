import XPathV.Lemmas.Lex
/-!
# Lexemes: the items of the scanner, by the characters they are made of

`Lexeme lex r k`: followed by the text `r`, the characters `lex` are one complete item of kind `k`.  `Lexeme.lex`:
`lexItem` reads a lexeme as that item; `lexItem_inv`: whatever `lexItem` reads is a lexeme — except a name-like item
whose name the model marks because the character behind it is not ASCII (`OffAscii`).  Facts about every item
`nextItem` returns are then proved by cases on `Lexeme` (`nextItem_out`: the fields a token sets).
-/
namespace XPathV.BuildRejects
open XPathV XPathV.Model

/-- a name as the scanner reads one: its first character starts a name token, all characters are
name characters (`a`, `foo`, `string-length`, `x1`, `_a.b`; not `1a`, `-a`, `a:b`) -/
def plainName (w : List Char) : Bool :=
  match w with
  | [] => false
  | c :: _ => startsName c && w.all isName

/-- the local part of a qualified name as the scanner reads one -/
def localPart (w : List Char) : Bool :=
  match w with
  | [] => false
  | c :: _ => isNameStart c && w.all isName

theorem isNameStart_star : isNameStart '*' = false := by decide

theorem plainName_cons {w : List Char} (h : plainName w = true) :
    ∃ c w', w = c :: w' ∧ startsName c = true ∧ ∀ y ∈ w, isName y = true := by
  cases w with
  | nil => simp [plainName] at h
  | cons c w' =>
    simp only [plainName, Bool.and_eq_true, List.all_eq_true] at h
    exact ⟨c, w', rfl, h.1, h.2⟩

theorem startsName_not_space {c : Char} (h : startsName c = true) : isSpace c = false := by
  simp only [startsName, Bool.and_eq_true, Bool.not_eq_true'] at h
  exact h.1.1.1

theorem isName_colon : isName ':' = false := by decide


theorem isNameStart_isName {c : Char} (h : isNameStart c = true) : isName c = true := by
  by_cases hs : c = '/'
  · subst hs; revert h; decide
  · simp only [isNameStart, Bool.and_eq_true, bne_iff_ne, ne_eq, decide_eq_true_eq] at h
    simp [isName, h.1.1, h.1.2, h.2, hs]

theorem dropWhile_plain {w : List Char} (hw : plainName w = true) (tail : List Char) :
    (w ++ tail).dropWhile isSpace = w ++ tail := by
  obtain ⟨c, w', rfl, hc, _⟩ := plainName_cons hw
  simp [startsName_not_space hc]

theorem startsName_not_punct {c : Char} (h : startsName c = true) : c ∉ punct ∧ isDigit c = false ∧ isName c = true := by
  simp only [startsName, Bool.and_eq_true, Bool.not_eq_true', List.contains_eq_mem, decide_eq_false_iff_not] at h
  exact ⟨h.1.1.2, h.1.2, h.2⟩

end XPathV.BuildRejects

namespace XPathV.Whitespace
open XPathV XPathV.Model XPathV.BuildRejects XPathV.Lex
open XPathV.Lemmas.ScanTail (At mkCR Done)

/-- all characters are blanks in the scanner's sense -/
def Blank (ws : List Char) : Prop := ∀ c ∈ ws, isSpace c = true

/-- the first character, if any, is an ASCII character -/
def AsciiHead (ws : List Char) : Prop := ∀ c, ws.head? = some c → c.toNat < 0x80

/-- the code points of Go's `unicode.IsSpace`, grouped as the definition of `isSpace` groups them -/
def spaceCodes : List Nat :=
  List.range' 9 5 ++ [0x20, 0x85, 0xA0, 0x1680] ++ List.range' 0x2000 11 ++ [0x2028, 0x2029, 0x202F, 0x205F, 0x3000]

theorem isSpace_code {c : Char} (h : isSpace c = true) : c.toNat ∈ spaceCodes := by
  simp only [isSpace, Bool.or_eq_true, Bool.and_eq_true, decide_eq_true_eq, beq_iff_eq, or_assoc] at h
  simp only [spaceCodes, List.mem_append, List.mem_range'_1, List.mem_cons, List.not_mem_nil, or_false]
  -- one case per disjunct of `isSpace`; a single `omega` on the whole disjunction is far slower
  rcases h with h | h | h | h | h | h | h | h | h | h | h <;> omega

/-- what the scanner needs to know about a blank: a look-up in the name and digit tables for each of the
25 code points -/
theorem spaces_facts : ∀ n ∈ spaceCodes, isName (Char.ofNat n) = false ∧ isDigit (Char.ofNat n) = false ∧
    Char.ofNat n ≠ '\x00' ∧ Char.ofNat n ≠ '=' ∧ Char.ofNat n ≠ '/' ∧ Char.ofNat n ≠ '.' ∧ Char.ofNat n ≠ ':' ∧
    Char.ofNat n ≠ '(' := by decide +kernel

theorem blank_facts {c : Char} (h : isSpace c = true) : isName c = false ∧ isDigit c = false ∧ c ≠ '\x00' ∧
    c ≠ '=' ∧ c ≠ '/' ∧ c ≠ '.' ∧ c ≠ ':' ∧ c ≠ '(' := by
  have := spaces_facts _ (isSpace_code h)
  rwa [Char.ofNat_toNat] at this

theorem Blank.nil : Blank [] := fun _ h => by cases h

theorem Blank.append {a b : List Char} (ha : Blank a) (hb : Blank b) : Blank (a ++ b) := by
  intro c hc
  rcases List.mem_append.mp hc with h | h
  · exact ha c h
  · exact hb c h

theorem Blank.dropWhile {b : List Char} (hb : Blank b) (t : List Char) :
    (b ++ t).dropWhile isSpace = t.dropWhile isSpace := by
  induction b with
  | nil => rfl
  | cons c b ih =>
    have hc : isSpace c = true := hb c (List.mem_cons_self ..)
    simp only [List.cons_append, List.dropWhile_cons, hc, ↓reduceIte]
    exact ih (fun x hx => hb x (List.mem_cons_of_mem _ hx))

theorem isSpace_colon : isSpace ':' = false := by decide


theorem colon_ne_nul : ':' ≠ '\x00' := by decide


def AsciiDigits (l : List Char) : Prop := ∀ d ∈ l, isAsciiDigit d = true

theorem isDigit_of_ascii {c : Char} (h : isAsciiDigit c = true) : isDigit c = true := by
  simp [isDigit, h]

theorem isDigit_dot : isDigit '.' = false := by decide


theorem all_ascii_or_dot {l : List Char} (h : ∀ c ∈ l, isAsciiDigit c = true ∨ c = '.') :
    l.all (fun ch => isAsciiDigit ch || ch == '.') = true := by
  rw [List.all_eq_true]
  intro c hc
  rcases h c hc with h | h <;> simp [h]

theorem localPart_cons {w : List Char} (h : localPart w = true) :
    ∃ c w', w = c :: w' ∧ isNameStart c = true ∧ ∀ y ∈ w, isName y = true := by
  cases w with
  | nil => simp [localPart] at h
  | cons c w' =>
    simp only [localPart, Bool.and_eq_true, List.all_eq_true] at h
    exact ⟨c, w', rfl, h.1, h.2⟩

/-! ## runs of characters -/

theorem split_while (p : Char → Bool) (l : List Char) : l = l.takeWhile p ++ l.dropWhile p :=
  (List.takeWhile_append_dropWhile).symm

theorem head_dropWhile {p : Char → Bool} (hp : p '\x00' = false) : ∀ l : List Char, p (Head (l.dropWhile p)) = false
  | [] => hp
  | c :: l => by
    by_cases hc : p c = true
    · simp only [List.dropWhile_cons, hc, ↓reduceIte]; exact head_dropWhile hp l
    · simp only [List.dropWhile_cons, hc]
      show p c = false
      simpa using hc

theorem all_takeWhile (p : Char → Bool) : ∀ (l : List Char), ∀ y ∈ l.takeWhile p, p y = true
  | [], _, h => by cases h
  | c :: l, y, h => by
    by_cases hc : p c = true
    · simp only [List.takeWhile_cons, hc, ↓reduceIte] at h
      rcases List.mem_cons.mp h with rfl | h
      · exact hc
      · exact all_takeWhile p l y h
    · simp [hc] at h

/-- an unread input whose first character is `x ≠ U+0000` -/
theorem cons_of_head {w : List Char} {x : Char} (h : Head w = x) (hx : x ≠ '\x00') : ∃ t, w = x :: t := by
  cases w with
  | nil => exact absurd h.symm hx
  | cons c t => exact ⟨t, by rw [show c = x from h]⟩

theorem eq_cons_tail {w : List Char} {x : Char} (h : Head w = x) (hx : x ≠ '\x00') : w = x :: w.tail := by
  obtain ⟨t, rfl⟩ := cons_of_head h hx
  rfl

theorem takeWhile_ne_nil {p : Char → Bool} {w : List Char} (h : p (Head w) = true) (hp : p '\x00' = false) :
    w.takeWhile p ≠ [] := by
  cases w with
  | nil => rw [show Head [] = '\x00' from rfl, hp] at h; cases h
  | cons c t =>
    have : p c = true := h
    simp [this]

/-- a run of `p`-characters in front of a text that does not go on with one -/
theorem span_run {p : Char → Bool} {a r : List Char} (ha : ∀ x ∈ a, p x = true) (hr : p (Head r) = false) :
    (a ++ r).takeWhile p = a ∧ (a ++ r).dropWhile p = r := by
  rw [List.takeWhile_append_of_pos ha, List.dropWhile_append_of_pos ha]
  cases r with
  | nil => simp
  | cons x xs =>
    have : p x = false := hr
    simp [this]

theorem scanStringAux_body {q : Char} : ∀ {body : List Char} (r : List Char), q ∉ body →
    scanStringAux q (body ++ q :: r) = some (body, r)
  | [], r, _ => by simp [scanStringAux]
  | c :: body, r, h => by
    have hc : c ≠ q := fun e => h (e ▸ List.mem_cons_self ..)
    have hb : q ∉ body := fun e => h (List.mem_cons_of_mem _ e)
    simp [scanStringAux, hc, scanStringAux_body r hb]

theorem scanStringAux_inv {q : Char} : ∀ {l str rest : List Char}, scanStringAux q l = some (str, rest) →
    l = str ++ q :: rest ∧ q ∉ str
  | [], _, _, h => by simp [scanStringAux] at h
  | c :: l, str, rest, h => by
    unfold scanStringAux at h
    split at h
    · rename_i hc
      cases h
      exact ⟨by rw [eq_of_beq hc]; rfl, by simp⟩
    · rename_i hc
      split at h
      · rename_i s1 r1 hq
        cases h
        obtain ⟨e, hn⟩ := scanStringAux_inv hq
        refine ⟨by rw [e]; rfl, ?_⟩
        intro hm
        rcases List.mem_cons.mp hm with h | h
        · exact hc (by rw [h]; exact beq_self_eq_true _)
        · exact hn h
      · cases h

/-! ## lexemes -/

/-- `Lexeme lex r k`: followed by `r`, the characters `lex` are one complete item of kind `k`.
The conditions on `r` say that the item cannot go on: they only look at the first character of `r`
(`Head r`, `U+0000` at the end of the text) — and, for a plain name, at the first character after
the blanks of `r`, which must not be a colon (`a ::` is an axis, `a :b` an error). -/
inductive Lexeme : List Char → List Char → Kind → Prop
  /-- `, @ ( ) | * [ ] + - = $` -/
  | single {c : Char} {t : Tok} (r : List Char) : (c, t) ∈ singles → Lexeme [c] r (.plain t)
  /-- `< > ! /` not followed by `=` (`/` for `/`) -/
  | two1 {c c2 : Char} {t1 t2 : Tok} {r : List Char} : (c, c2, t1, t2) ∈ twos → Head r ≠ c2 → Lexeme [c] r (.plain t1)
  /-- `<= >= != //` -/
  | two2 {c c2 : Char} {t1 t2 : Tok} (r : List Char) : (c, c2, t1, t2) ∈ twos → Lexeme [c, c2] r (.plain t2)
  /-- `.` not followed by `.` or a digit -/
  | dot {r : List Char} : Head r ≠ '.' → isDigit (Head r) = false → Lexeme ['.'] r (.plain .dot)
  | dotdot (r : List Char) : Lexeme ['.', '.'] r (.plain .dotdot)
  /-- `.5` -/
  | dotnum {ds r : List Char} : ds ≠ [] → AsciiDigits ds → isDigit (Head r) = false →
      Lexeme ('.' :: ds) r (.num (String.ofList ('.' :: ds)))
  /-- a string literal -/
  | str {q : Char} {body : List Char} (r : List Char) : (q = '"' ∨ q = '\'') → q ∉ body →
      Lexeme (q :: (body ++ [q])) r (.str (String.ofList body))
  /-- `12` not followed by a digit or `.` -/
  | int {ip r : List Char} : ip ≠ [] → AsciiDigits ip → isDigit (Head r) = false → Head r ≠ '.' →
      numOverflows ip [] = false → Lexeme ip r (.num (String.ofList ip))
  /-- `12.` and `12.5` not followed by a digit -/
  | dec {ip fp r : List Char} : ip ≠ [] → AsciiDigits ip → AsciiDigits fp → isDigit (Head r) = false →
      numOverflows ip fp = false → Lexeme (ip ++ '.' :: fp) r (.num (String.ofList (ip ++ '.' :: fp)))
  /-- a name without prefix: not followed by a name character or (even after blanks) a colon -/
  | name {w r : List Char} : plainName w = true → isName (Head r) = false → (Head r).toNat < 0x80 →
      Head (r.dropWhile isSpace) ≠ ':' → Lexeme w r (.nameLike .name (String.ofList w) "")
  /-- an axis specifier: name, optional blanks, `::` -/
  | axis {w b : List Char} (r : List Char) : plainName w = true → Blank b → AsciiHead b →
      Lexeme (w ++ (b ++ [':', ':'])) r (.nameLike .axe (String.ofList w) "")
  /-- `prefix:*` -/
  | pfxStar {w : List Char} (r : List Char) : plainName w = true →
      Lexeme (w ++ [':', '*']) r (.nameLike .name "*" (String.ofList w))
  /-- `prefix:local` -/
  | qname {w w2 r : List Char} : plainName w = true → localPart w2 = true → isName (Head r) = false →
      (Head r).toNat < 0x80 → Lexeme (w ++ ':' :: w2) r (.nameLike .name (String.ofList w2) (String.ofList w))

theorem singles_head : ∀ p ∈ singles, isSpace p.1 = false ∧ p.1 ≠ ':' := by decide
theorem twos_head : ∀ p ∈ twos, isSpace p.1 = false ∧ p.1 ≠ ':' := by decide
theorem twos_second : ∀ p ∈ twos, p.2.1 = '=' ∨ p.2.1 = '/' := by decide

theorem asciiDigit_head {d : Char} (h : isAsciiDigit d = true) : isSpace d = false ∧ d ≠ ':' := by
  have hd := isDigit_of_ascii h
  refine ⟨?_, fun e => by rw [e] at hd; revert hd; decide⟩
  cases hs : isSpace d with
  | false => rfl
  | true => rw [(blank_facts hs).2.1] at hd; cases hd

theorem plainName_head {w : List Char} (h : plainName w = true) (t : List Char) :
    ∃ c l, w ++ t = c :: l ∧ isSpace c = false ∧ c ≠ ':' := by
  obtain ⟨c, w', rfl, hc, _⟩ := plainName_cons h
  exact ⟨c, _, rfl, startsName_not_space hc, fun e => by rw [e] at hc; revert hc; decide⟩

/-- a lexeme starts with a character that is neither a blank nor a colon -/
theorem Lexeme.head_facts {lex r : List Char} {k : Kind} (h : Lexeme lex r k) :
    ∃ c l, lex = c :: l ∧ isSpace c = false ∧ c ≠ ':' := by
  cases h with
  | @single c t r hm => exact ⟨c, [], rfl, singles_head (c, t) hm⟩
  | @two1 c c2 t1 t2 r hm hr => exact ⟨c, [], rfl, twos_head (c, c2, t1, t2) hm⟩
  | @two2 c c2 t1 t2 r hm => exact ⟨c, [c2], rfl, twos_head (c, c2, t1, t2) hm⟩
  | dot | dotdot | dotnum => exact ⟨_, _, rfl, by decide⟩
  | str r hq hb => rcases hq with rfl | rfl <;> exact ⟨_, _, rfl, by decide⟩
  | int hne hd =>
    cases lex with
    | nil => exact absurd rfl hne
    | cons d ds => exact ⟨d, ds, rfl, asciiDigit_head (hd d (List.mem_cons_self ..))⟩
  | @dec ip fp r hne hd =>
    cases ip with
    | nil => exact absurd rfl hne
    | cons d ds => exact ⟨d, _, rfl, asciiDigit_head (hd d (List.mem_cons_self ..))⟩
  | name hw => simpa using plainName_head hw []
  | axis r hw | pfxStar r hw | qname hw => exact plainName_head hw _

theorem Lexeme.head {lex r : List Char} {k : Kind} (h : Lexeme lex r k) : ∃ c l, lex = c :: l ∧ isSpace c = false :=
  let ⟨c, l, e, hs, _⟩ := h.head_facts
  ⟨c, l, e, hs⟩

theorem Lexeme.dropWhile {lex r : List Char} {k : Kind} (h : Lexeme lex r k) (t : List Char) :
    (lex ++ t).dropWhile isSpace = lex ++ t := by
  obtain ⟨c, l, rfl, hc⟩ := h.head
  simp [hc]

theorem Lexeme.head_ne_colon {lex r : List Char} {k : Kind} (h : Lexeme lex r k) : ∃ c l, lex = c :: l ∧ c ≠ ':' :=
  let ⟨c, l, e, _, hc⟩ := h.head_facts
  ⟨c, l, e, hc⟩

/-- the characters of which the items other than punctuation and string literals are made -/
def Inner (x : Char) : Prop := isDigit x = true ∨ isName x = true ∨ isSpace x = true ∨ x = '.' ∨ x = ':' ∨ x = '*'

theorem inner_append {a b : List Char} (ha : ∀ x ∈ a, Inner x) (hb : ∀ x ∈ b, Inner x) : ∀ x ∈ a ++ b, Inner x :=
  fun x hx => (List.mem_append.mp hx).elim (ha x) (hb x)

theorem inner_plain {w : List Char} (h : plainName w = true) : ∀ x ∈ w, Inner x := by
  obtain ⟨_, _, _, _, hall⟩ := plainName_cons h
  exact fun x hx => .inr (.inl (hall x hx))

theorem inner_digits {ds : List Char} (hd : AsciiDigits ds) : ∀ x ∈ ds, Inner x :=
  fun x hx => .inl (isDigit_of_ascii (hd x hx))

/-- a lexeme is a single character, one of `<= >= != //`, a string literal, or made of inner characters -/
theorem Lexeme.shape {lex r : List Char} {k : Kind} (h : Lexeme lex r k) :
    (∃ c, lex = [c]) ∨ (∃ c c2 t1 t2, (c, c2, t1, t2) ∈ twos ∧ lex = [c, c2] ∧ k = .plain t2) ∨
      (∃ q body, (q = '"' ∨ q = '\'') ∧ lex = q :: (body ++ [q]) ∧ k = .str (String.ofList body)) ∨
      ∀ x ∈ lex, Inner x := by
  have dot : ∀ x ∈ ['.'], Inner x := by simp [Inner]
  have colon : ∀ x ∈ [':'], Inner x := by simp [Inner]
  cases h with
  | single | two1 | dot => exact .inl ⟨_, rfl⟩
  | two2 r hm => exact .inr (.inl ⟨_, _, _, _, hm, rfl, rfl⟩)
  | str r hq => exact .inr (.inr (.inl ⟨_, _, hq, rfl, rfl⟩))
  | dotdot => exact .inr (.inr (.inr (inner_append dot dot)))
  | dotnum _ hd => exact .inr (.inr (.inr (inner_append dot (inner_digits hd))))
  | int _ hd => exact .inr (.inr (.inr (inner_digits hd)))
  | dec _ hd hf => exact .inr (.inr (.inr (inner_append (inner_digits hd) (inner_append dot (inner_digits hf)))))
  | name hw => exact .inr (.inr (.inr (inner_plain hw)))
  | axis r hw hb =>
    exact .inr (.inr (.inr (inner_append (inner_plain hw)
      (inner_append (fun x hx => .inr (.inr (.inl (hb x hx)))) (inner_append colon colon)))))
  | pfxStar r hw => exact .inr (.inr (.inr (inner_append (inner_plain hw) (by simp [Inner]))))
  | qname hw hw2 =>
    obtain ⟨_, _, _, _, hall⟩ := localPart_cons hw2
    exact .inr (.inr (.inr (inner_append (inner_plain hw) (inner_append colon fun x hx => .inr (.inl (hall x hx))))))

/-! ## `lexItem` reads a lexeme as one item -/

/-- the name run of `w ++ r` when `r` goes on with an ASCII character that is no name character: no mark -/
theorem spanName_ascii {w r : List Char} (hw : ∀ x ∈ w, isName x = true) (hr : isName (Head r) = false)
    (ha : (Head r).toNat < 0x80) : spanName (w ++ r) = (String.ofList w, r) := by
  obtain ⟨h1, h2⟩ := span_run hw hr
  simp only [spanName, h1, h2]
  rw [if_neg (by omega)]

theorem lexItem_startsName {w : List Char} (h : startsName (Head w) = true) : lexItem w = lexName w := by
  obtain ⟨hp, hd, hn⟩ := startsName_not_punct h
  rw [lexItem_not_punct hp, hd, hn]
  rfl

/-- at a name: `lexItem` is `lexAfterName` behind the run of name characters -/
theorem lexItem_plain {w r : List Char} (hw : plainName w = true) (hr : isName (Head r) = false)
    (ha : (Head r).toNat < 0x80) : lexItem (w ++ r) = lexAfterName (String.ofList w) r := by
  obtain ⟨c, w', rfl, hc, hall⟩ := plainName_cons hw
  rw [lexItem_startsName (w := c :: w' ++ r) hc, lexName, spanName_ascii hall hr ha]

/-- a colon directly behind a name would be the first character behind the blanks as well -/
theorem head_ne_colon_of_dropWhile {r : List Char} (hc : Head (r.dropWhile isSpace) ≠ ':') : Head r ≠ ':' := by
  intro e
  refine hc ?_
  cases r with
  | nil => cases e
  | cons x xs =>
    rw [show x = ':' from e]
    simp only [List.dropWhile_cons, isSpace_colon]
    rfl

theorem lexItem_digits {ip : List Char} (r : List Char) (hne : ip ≠ []) (hd : AsciiDigits ip) :
    lexItem (ip ++ r) = lexNumber (ip ++ r) := by
  obtain ⟨d, ds, rfl⟩ := List.exists_cons_of_ne_nil hne
  have hdd : isDigit d = true := isDigit_of_ascii (hd d (List.mem_cons_self ..))
  have hp : Head (d :: ds ++ r) ∉ punct :=
    fun hp => Bool.false_ne_true ((Lemmas.ScanCases.punct_not_digit d hp).symm.trans hdd)
  rw [lexItem_not_punct hp, show Head (d :: ds ++ r) = d from rfl, hdd]
  rfl

theorem isName_head_colon (r : List Char) : isName (Head (':' :: r)) = false := isName_colon

theorem ascii_head_colon (r : List Char) : (Head (':' :: r)).toNat < 0x80 := by
  show ':'.toNat < 0x80
  decide

theorem Lexeme.lex {lex r : List Char} {k : Kind} (h : Lexeme lex r k) : lexItem (lex ++ r) = .ok (k, r) := by
  cases h with
  | @single c t r hm =>
    obtain ⟨h0, h1⟩ := singles_lookup (c, t) hm
    simp only [lexItem, List.singleton_append, show Head (c :: r) = c from rfl, h0, h1, ↓reduceIte, List.tail_cons]
  | @two1 c c2 t1 t2 r hm hr =>
    obtain ⟨h0, h1, h2, h3⟩ := twos_lookup _ hm
    simp only [lexItem, List.singleton_append, show Head (c :: r) = c from rfl, h0, h1, h2, h3, ↓reduceIte,
      List.tail_cons, lexTwo, hr]
  | @two2 c c2 t1 t2 r hm =>
    obtain ⟨h0, h1, h2, h3⟩ := twos_lookup _ hm
    simp only [lexItem, List.cons_append, List.nil_append, show Head (c :: c2 :: r) = c from rfl, h0, h1, h2, h3,
      ↓reduceIte, List.tail_cons, lexTwo, show Head (c2 :: r) = c2 from rfl]
  | dot h1 h2 =>
    show lexDot r = _
    simp only [lexDot, h1, h2, ↓reduceIte, Bool.false_eq_true]
  | dotdot r => rfl
  | @dotnum ds r hne hd hr =>
    show lexDot (ds ++ r) = _
    obtain ⟨e1, e2⟩ := span_run (fun y hy => isDigit_of_ascii (hd y hy)) hr
    have hall : ds.all isAsciiDigit = true := List.all_eq_true.mpr hd
    obtain ⟨d, ds', rfl⟩ := List.exists_cons_of_ne_nil hne
    have hdd : isDigit d = true := isDigit_of_ascii (hd d (List.mem_cons_self ..))
    have hdot : d ≠ '.' := fun e => by rw [e, isDigit_dot] at hdd; cases hdd
    simp only [lexDot, e1, e2, hall, show Head (d :: ds' ++ r) = d from rfl, hdot, hdd, ↓reduceIte]
  | @str q body r hq hb =>
    have e : q :: (body ++ [q]) ++ r = q :: (body ++ q :: r) := by simp
    have hs : lexItem (q :: (body ++ q :: r)) = lexString q (body ++ q :: r) := by
      rcases hq with rfl | rfl <;> rfl
    rw [e, hs, lexString, scanStringAux_body r hb]
  | int hne hd hr hdot hov =>
    obtain ⟨e1, e2⟩ := span_run (fun y hy => isDigit_of_ascii (hd y hy)) hr
    have hall := all_ascii_or_dot (l := lex) (fun c hc => Or.inl (hd c hc))
    rw [lexItem_digits r hne hd]
    simp only [lexNumber, e1, e2, hdot, ↓reduceIte, List.append_nil, hall, hov, List.drop_nil, Bool.not_false,
      Bool.and_self]
  | @dec ip fp r hne hd hf hr hov =>
    have e : ip ++ '.' :: fp ++ r = ip ++ '.' :: (fp ++ r) := by simp
    obtain ⟨e1, e2⟩ := span_run (r := '.' :: (fp ++ r)) (fun y hy => isDigit_of_ascii (hd y hy)) isDigit_dot
    obtain ⟨e3, e4⟩ := span_run (fun y hy => isDigit_of_ascii (hf y hy)) hr
    have hall := all_ascii_or_dot (l := ip ++ '.' :: fp) (fun c hc => by
      rcases List.mem_append.mp hc with h | h
      · exact Or.inl (hd c h)
      · rcases List.mem_cons.mp h with h | h
        · exact Or.inr h
        · exact Or.inl (hf c h))
    rw [e, lexItem_digits _ hne hd]
    simp only [lexNumber, e1, e2, show Head ('.' :: (fp ++ r)) = '.' from rfl, ↓reduceIte, List.tail_cons, e3, e4, hall,
      List.drop_one, hov, Bool.not_false, Bool.and_self]
  | @name w r hw hn ha hc =>
    rw [lexItem_plain hw hn ha]
    simp only [lexAfterName, head_ne_colon_of_dropWhile hc, hc, ↓reduceIte]
  | @axis w b r hw hb ha =>
    have e : w ++ (b ++ [':', ':']) ++ r = w ++ (b ++ ':' :: ':' :: r) := by simp
    rw [e]
    cases b with
    | nil =>
      rw [List.nil_append, lexItem_plain hw (isName_head_colon _) (ascii_head_colon _)]
      rfl
    | cons c b' =>
      have hf := blank_facts (hb c (List.mem_cons_self ..))
      rw [lexItem_plain hw (r := c :: b' ++ ':' :: ':' :: r) hf.1 (ha c rfl)]
      have hsp : (c :: b' ++ ':' :: ':' :: r).dropWhile isSpace = ':' :: ':' :: r := by
        rw [hb.dropWhile]
        simp [isSpace_colon]
      simp only [lexAfterName, show Head (c :: b' ++ ':' :: ':' :: r) = c from rfl, hf.2.2.2.2.2.2.1, ↓reduceIte, hsp,
        List.tail_cons, show Head (':' :: ':' :: r) = ':' from rfl, show Head (':' :: r) = ':' from rfl]
  | @pfxStar w r hw =>
    have e : w ++ [':', '*'] ++ r = w ++ ':' :: '*' :: r := by simp
    rw [e, lexItem_plain hw (isName_head_colon _) (ascii_head_colon _)]
    rfl
  | @qname w w2 r hw hw2 hn ha =>
    have e : w ++ ':' :: w2 ++ r = w ++ ':' :: (w2 ++ r) := by simp
    obtain ⟨c, w', rfl, hc, hall⟩ := localPart_cons hw2
    have hcc : c ≠ ':' := fun e => by rw [e] at hc; revert hc; decide
    have hcs : c ≠ '*' := fun e => by rw [e, isNameStart_star] at hc; cases hc
    rw [e, lexItem_plain hw (isName_head_colon _) (ascii_head_colon _)]
    simp only [lexAfterName, show Head (':' :: (c :: w' ++ r)) = ':' from rfl, ↓reduceIte, List.tail_cons,
      show Head (c :: w' ++ r) = c from rfl, hcc, hcs, hc, spanName_ascii hall hn ha]

/-- a state in front of a lexeme reads it -/
theorem nextItem_lexeme {s : Scan} {lex r : List Char} {k : Kind} (hl : Lexeme lex r k) (h : At (lex ++ r) s) :
    s.nextItem = .ok (k.out s r) := by
  rw [nextItem_lex h, lexNext, hl.dropWhile, hl.lex]
  rfl

theorem nextItem_single {s s1 : Scan} {c : Char} {t : Tok} (hm : (c, t) ∈ singles) (hc : s.curr = c)
    (h : s.nextItem = .ok s1) : s1.typ = t := by
  rw [nextItem_lexeme (.single s.rest hm) ⟨hc, rfl⟩] at h
  cases h
  rfl

/-! ## whatever `lexItem` reads is a lexeme -/

/-- what is kept of a name-like item that is no `Lexeme` because the character behind a name is not an ASCII one
(the model then marks the name): the text is not ASCII, and the characters the item is made of -/
def OffAscii (w lex : List Char) (k : Kind) : Prop :=
  (∃ x ∈ w, 0x80 ≤ x.toNat) ∧ (∃ t n p, k = .nameLike t n p ∧ (t = .name ∨ t = .axe)) ∧ lex ≠ [] ∧
    ∀ x ∈ lex, Inner x

/-- a text that goes on, somewhere, with a character that is not ASCII -/
theorem off_of_head (u : List Char) {v : List Char} (h : ¬ (Head v).toNat < 0x80) : ∃ x ∈ u ++ v, 0x80 ≤ x.toNat := by
  cases v with
  | nil => exact absurd (by decide) h
  | cons c v => exact ⟨c, List.mem_append_right _ List.mem_cons_self, by have : ¬ c.toNat < 0x80 := h; omega⟩

/-- the digits the number check has passed are ASCII digits -/
theorem asciiDigits_of_all {l : List Char} (hd : ∀ x ∈ l, isDigit x = true)
    (h : l.all (fun ch => isAsciiDigit ch || ch == '.') = true) : AsciiDigits l := by
  intro d hm
  have := List.all_eq_true.mp h d hm
  simp only [Bool.or_eq_true, beq_iff_eq] at this
  rcases this with h | h
  · exact h
  · have := hd d hm
    rw [h, isDigit_dot] at this
    cases this

theorem twos_second_ne : ∀ p ∈ twos, p.2.1 ≠ '\x00' := by decide

theorem inv_lexTwo {c c2 : Char} {t1 t2 : Tok} {w r : List Char} {k : Kind} (hm : (c, c2, t1, t2) ∈ twos)
    (h : lexTwo t1 t2 c2 w = (k, r)) : ∃ lex, c :: w = lex ++ r ∧ Lexeme lex r k := by
  have hc2 : c2 ≠ '\x00' := twos_second_ne _ hm
  unfold lexTwo at h
  split at h <;> cases h
  · rename_i h1
    exact ⟨[c, c2], by rw [eq_cons_tail h1 hc2]; rfl, .two2 _ hm⟩
  · rename_i h1
    exact ⟨[c], rfl, .two1 hm h1⟩

theorem inv_lexDot {w r : List Char} {k : Kind} (h : lexDot w = .ok (k, r)) :
    ∃ lex, '.' :: w = lex ++ r ∧ Lexeme lex r k := by
  unfold lexDot at h
  split at h
  · rename_i h1
    cases h
    exact ⟨['.', '.'], by rw [eq_cons_tail h1 (by decide)]; rfl, .dotdot _⟩
  · rename_i h1
    split at h
    · rename_i h2
      split at h <;> cases h
      rename_i hall
      refine ⟨'.' :: w.takeWhile isDigit, by rw [List.cons_append, List.takeWhile_append_dropWhile], ?_⟩
      exact .dotnum (takeWhile_ne_nil h2 isDigit_nul) (fun d hd => List.all_eq_true.mp hall d hd)
        (head_dropWhile isDigit_nul w)
    · rename_i h2
      cases h
      exact ⟨['.'], rfl, .dot h1 (by simpa using h2)⟩

theorem inv_lexString {q : Char} {w r : List Char} {k : Kind} (hq : q = '"' ∨ q = '\'')
    (h : lexString q w = .ok (k, r)) : ∃ lex, q :: w = lex ++ r ∧ Lexeme lex r k := by
  unfold lexString at h
  split at h <;> cases h
  rename_i str hs
  obtain ⟨e, hn⟩ := scanStringAux_inv hs
  exact ⟨q :: (str ++ [q]), by rw [e]; simp, .str _ hq hn⟩

theorem inv_lexNumber {w r : List Char} {k : Kind} (hd : isDigit (Head w) = true) (h : lexNumber w = .ok (k, r)) :
    ∃ lex, w = lex ++ r ∧ Lexeme lex r k := by
  have e := split_while isDigit w
  have hne := takeWhile_ne_nil hd isDigit_nul
  have hr := head_dropWhile isDigit_nul w
  have hdig := all_takeWhile isDigit w
  unfold lexNumber at h
  generalize w.takeWhile isDigit = ip at e hne hdig h
  generalize w.dropWhile isDigit = t at e hr h
  dsimp only at h
  by_cases hdot : Head t = '.'
  · have e1 := split_while isDigit t.tail
    have hr1 := head_dropWhile isDigit_nul t.tail
    have hdig1 := all_takeWhile isDigit t.tail
    rw [if_pos hdot] at h
    split at h <;> cases h
    rename_i hc
    simp only [Bool.and_eq_true, Bool.not_eq_true', List.drop_one, List.tail_cons, List.all_append,
      List.all_cons, beq_self_eq_true, Bool.or_true, Bool.true_and] at hc
    refine ⟨ip ++ '.' :: t.tail.takeWhile isDigit, ?_, ?_⟩
    · rw [e, eq_cons_tail hdot (by decide), List.tail_cons, List.append_assoc, List.cons_append, ← e1]
    · exact .dec hne (asciiDigits_of_all hdig hc.1.1) (asciiDigits_of_all hdig1 hc.1.2) hr1 hc.2
  · rw [if_neg hdot] at h
    split at h <;> cases h
    rename_i hc
    simp only [List.append_nil, Bool.and_eq_true, Bool.not_eq_true', List.drop_nil] at hc
    rw [List.append_nil]
    exact ⟨ip, e, .int hne (asciiDigits_of_all hdig hc.1) hr hdot hc.2⟩

/-- the five ways in which `lexAfterName` returns an item -/
theorem lexAfterName_ok {nm : String} {t r : List Char} {k : Kind} (h : lexAfterName nm t = .ok (k, r)) :
    (t = ':' :: ':' :: r ∧ k = .nameLike .axe nm "") ∨
    (t = ':' :: '*' :: r ∧ k = .nameLike .name "*" nm) ∨
    (Head t = ':' ∧ isNameStart (Head t.tail) = true ∧ k = .nameLike .name (spanName t.tail).1 nm ∧
      r = t.tail.dropWhile isName) ∨
    (Head t ≠ ':' ∧ t.dropWhile isSpace = ':' :: ':' :: r ∧ k = .nameLike .axe nm "") ∨
    (Head t ≠ ':' ∧ Head (t.dropWhile isSpace) ≠ ':' ∧ k = .nameLike .name nm "" ∧ r = t) := by
  unfold lexAfterName at h
  split at h
  · rename_i h1
    have et := eq_cons_tail h1 colon_ne_nul
    split at h
    · rename_i h2
      cases h
      exact .inl ⟨by rw [et, List.tail_cons, eq_cons_tail h2 colon_ne_nul]; rfl, rfl⟩
    split at h
    · rename_i h2
      cases h
      exact .inr (.inl ⟨by rw [et, List.tail_cons, eq_cons_tail h2 (by decide)]; rfl, rfl⟩)
    split at h <;> cases h
    rename_i h3
    exact .inr (.inr (.inl ⟨h1, h3, rfl, rfl⟩))
  · rename_i h1
    split at h
    · rename_i h2
      split at h <;> cases h
      rename_i h3
      refine .inr (.inr (.inr (.inl ⟨h1, ?_, rfl⟩)))
      rw [eq_cons_tail h2 colon_ne_nul, List.tail_cons, eq_cons_tail h3 colon_ne_nul]
      rfl
    · rename_i h2
      cases h
      exact .inr (.inr (.inr (.inr ⟨h1, h2, rfl, rfl⟩)))

theorem plainName_takeWhile {w : List Char} (hc : startsName (Head w) = true) : plainName (w.takeWhile isName) = true := by
  cases w with
  | nil => revert hc; decide
  | cons c w' =>
    have hc : startsName c = true := hc
    have hcn : isName c = true := (startsName_not_punct hc).2.2
    have hall := all_takeWhile isName (c :: w')
    simp only [List.takeWhile_cons, hcn, ↓reduceIte] at hall ⊢
    simp only [plainName, hc, Bool.true_and, List.all_eq_true]
    exact hall

theorem localPart_takeWhile {w : List Char} (hc : isNameStart (Head w) = true) : localPart (w.takeWhile isName) = true := by
  cases w with
  | nil => revert hc; decide
  | cons c w' =>
    have hc : isNameStart c = true := hc
    have hall := all_takeWhile isName (c :: w')
    simp only [List.takeWhile_cons, isNameStart_isName hc, ↓reduceIte] at hall ⊢
    simp only [localPart, hc, Bool.true_and, List.all_eq_true]
    exact hall

theorem asciiHead_takeWhile {t : List Char} (p : Char → Bool) (h : (Head t).toNat < 0x80) : AsciiHead (t.takeWhile p) := by
  intro c hc
  cases t with
  | nil => cases hc
  | cons x t =>
    by_cases hx : p x = true
    · simp only [List.takeWhile_cons, hx, ↓reduceIte, List.head?_cons, Option.some.injEq] at hc
      rw [← hc]
      exact h
    · simp [hx] at hc

/-- … and in each of them the characters read behind the name -/
theorem lexAfterName_chars {nm : String} {t r : List Char} {k : Kind} (h : lexAfterName nm t = .ok (k, r)) :
    ∃ a, t = a ++ r ∧ (∀ x ∈ a, Inner x) ∧ ∃ ty n p, k = .nameLike ty n p ∧ (ty = .name ∨ ty = .axe) := by
  have colons : ∀ x ∈ [':', ':'], Inner x := by simp [Inner]
  rcases lexAfterName_ok h with ⟨e, rfl⟩ | ⟨e, rfl⟩ | ⟨h1, _, rfl, rfl⟩ | ⟨_, e, rfl⟩ | ⟨_, _, rfl, rfl⟩
  · exact ⟨[':', ':'], e, colons, _, _, _, rfl, .inr rfl⟩
  · exact ⟨[':', '*'], e, by simp [Inner], _, _, _, rfl, .inl rfl⟩
  · refine ⟨':' :: t.tail.takeWhile isName, ?_, fun x hx => ?_, _, _, _, rfl, .inl rfl⟩
    · rw [List.cons_append, List.takeWhile_append_dropWhile]
      exact eq_cons_tail h1 colon_ne_nul
    · rcases List.mem_cons.mp hx with hx | hx
      · exact .inr (.inr (.inr (.inr (.inl hx))))
      · exact .inr (.inl (all_takeWhile isName _ x hx))
  · refine ⟨t.takeWhile isSpace ++ [':', ':'], ?_, fun x hx => ?_, _, _, _, rfl, .inr rfl⟩
    · rw [List.append_assoc, List.cons_append, List.cons_append, List.nil_append, ← e]
      exact split_while isSpace t
    · rcases List.mem_append.mp hx with hx | hx
      · exact .inr (.inr (.inl (all_takeWhile isSpace _ x hx)))
      · exact colons x hx
  · exact ⟨[], rfl, by simp, _, _, _, rfl, .inl rfl⟩

theorem inv_lexName {w r : List Char} {k : Kind} (hc : startsName (Head w) = true) (h : lexName w = .ok (k, r)) :
    ∃ lex, w = lex ++ r ∧ (Lexeme lex r k ∨ OffAscii w lex k) := by
  have e := split_while isName w
  have hw := plainName_takeWhile hc
  have hn := head_dropWhile isName_nul w
  have hnm := all_takeWhile isName w
  have hne : w.takeWhile isName ≠ [] := takeWhile_ne_nil (startsName_not_punct hc).2.2 isName_nul
  change lexAfterName (String.ofList (if (Head (w.dropWhile isName)).toNat ≥ 0x80 then _ else _)) (w.dropWhile isName) = _ at h
  generalize w.takeWhile isName = nm at e hw hnm hne h
  generalize w.dropWhile isName = t at e hn h
  obtain ⟨a, ea, hch, hk⟩ := lexAfterName_chars h
  have ew : w = nm ++ a ++ r := by rw [e, ea, List.append_assoc]
  -- the item, when the model has marked one of its names
  have off (hx : ∃ x ∈ w, 0x80 ≤ x.toNat) : ∃ lex, w = lex ++ r ∧ (Lexeme lex r k ∨ OffAscii w lex k) :=
    ⟨nm ++ a, ew, .inr ⟨hx, hk, by simp [hne], fun x hx =>
      (List.mem_append.mp hx).elim (fun h => .inr (.inl (hnm x h))) (hch x)⟩⟩
  by_cases ha : (Head t).toNat < 0x80
  · rw [if_neg (show ¬ (Head t).toNat ≥ 0x80 by omega)] at h
    rcases lexAfterName_ok h with ⟨rfl, rfl⟩ | ⟨rfl, rfl⟩ | ⟨h1, h3, rfl, rfl⟩ | ⟨h1, e2, rfl⟩ | ⟨_, h2, rfl, rfl⟩
    · exact ⟨nm ++ ([] ++ [':', ':']), by rw [e]; simp, .inl (.axis _ hw Blank.nil (fun _ h => by cases h))⟩
    · exact ⟨nm ++ [':', '*'], by rw [e]; simp, .inl (.pfxStar _ hw)⟩
    · by_cases ha2 : (Head (t.tail.dropWhile isName)).toNat < 0x80
      · refine ⟨nm ++ ':' :: t.tail.takeWhile isName, ?_, .inl ?_⟩
        · rw [e, List.append_assoc, List.cons_append, List.takeWhile_append_dropWhile]
          exact congrArg (nm ++ ·) (eq_cons_tail h1 colon_ne_nul)
        · have : (spanName t.tail).1 = String.ofList (t.tail.takeWhile isName) := by
            show String.ofList (if _ then _ else _) = _
            rw [if_neg (show ¬ (Head (t.tail.dropWhile isName)).toNat ≥ 0x80 by omega)]
          rw [this]
          exact .qname hw (localPart_takeWhile h3) (head_dropWhile isName_nul t.tail) ha2
      · exact off (ew ▸ off_of_head (nm ++ a) ha2)
    · refine ⟨nm ++ (t.takeWhile isSpace ++ [':', ':']), ?_,
        .inl (.axis _ hw (all_takeWhile isSpace t) (asciiHead_takeWhile _ ha))⟩
      rw [e]
      conv => lhs; rw [split_while isSpace t, e2]
      simp
    · exact ⟨nm, e, .inl (.name hw hn ha h2)⟩
  · exact off (e ▸ off_of_head nm ha)

theorem isName_not_space {c : Char} (h : isName c = true) : isSpace c = false := by
  cases hs : isSpace c with
  | false => rfl
  | true =>
    rw [(blank_facts hs).1] at h
    cases h

/-- **every item is a lexeme**, for every text: if `lexItem` returns a token other than the end token, the
characters it has read are a `Lexeme` of the kind returned — unless the item is name-like and a character behind a
name is not ASCII -/
theorem lexItem_inv {w r : List Char} {k : Kind} (h0 : Head w ≠ '\x00') (h : lexItem w = .ok (k, r)) :
    ∃ lex, w = lex ++ r ∧ (Lexeme lex r k ∨ OffAscii w lex k) := by
  have ew := eq_cons_tail rfl h0
  by_cases hp : Head w ∈ punct
  · -- punctuation, `.` and quotes: always a lexeme
    suffices hl : ∃ lex, Head w :: w.tail = lex ++ r ∧ Lexeme lex r k by
      obtain ⟨lex, e, hl⟩ := hl
      exact ⟨lex, ew.trans e, .inl hl⟩
    unfold lexItem at h
    simp only [h0, ↓reduceIte] at h
    -- the tests behind the quotes are not reached
    generalize (if isDigit (Head w) = true then lexNumber w else _ : Except ScanErr Item) = rest at h
    split at h
    · rename_i t hl
      cases h
      exact ⟨[Head w], rfl, .single _ (mem_of_lookup hl)⟩
    rename_i hl1
    split at h
    · cases h
    rename_i hh
    split at h
    · rename_i c2 t1 t2 hl
      exact inv_lexTwo (mem_of_lookup hl) (Except.ok.inj h)
    rename_i hl2
    split at h
    · rename_i h1
      rw [h1]
      exact inv_lexDot h
    rename_i h1
    split at h
    · rename_i h2
      exact inv_lexString h2 h
    rename_i h2
    exfalso
    rcases punct_lookup _ hp with h | h | h | h | h | h
    · exact h0 h
    · exact h hl1
    · exact hh h
    · exact h hl2
    · exact h1 h
    · exact h2 h
  · rw [lexItem_not_punct hp] at h
    split at h
    · rename_i hd
      exact (inv_lexNumber hd h).imp fun lex ⟨e, hl⟩ => ⟨e, .inl hl⟩
    rename_i hd
    split at h
    · rename_i hn
      refine inv_lexName ?_ h
      simp only [startsName, isName_not_space hn, hn, Bool.not_false, Bool.true_and, Bool.and_true, Bool.and_eq_true,
        Bool.not_eq_true', List.contains_eq_mem, decide_eq_false_iff_not]
      exact ⟨hp, by simpa using hd⟩
    · cases h

/-! ## the fields a token sets -/

/-- the token type goes with the fields a kind sets: only a name-like kind is a name or an axis specifier -/
def Kind.Typed : Kind → Prop
  | .plain t => t ≠ .name ∧ t ≠ .axe
  | .nameLike t _ _ => t = .name ∨ t = .axe
  | _ => True

theorem singles_typed : ∀ p ∈ singles, (p.2 ≠ .name ∧ p.2 ≠ .axe) ∧ p.2 ≠ .eof := by decide

theorem twos_typed : ∀ p ∈ twos, ((p.2.2.1 ≠ .name ∧ p.2.2.1 ≠ .axe) ∧ p.2.2.1 ≠ .eof) ∧
    (p.2.2.2 ≠ .name ∧ p.2.2.2 ≠ .axe) ∧ p.2.2.2 ≠ .eof := by decide

theorem Lexeme.typed {lex r : List Char} {k : Kind} (h : Lexeme lex r k) : k.Typed := by
  cases h with
  | single r hm => exact (singles_typed _ hm).1
  | two1 hm => exact (twos_typed _ hm).1.1
  | two2 r hm => exact (twos_typed _ hm).2.1
  | dot | dotdot => exact ⟨nofun, nofun⟩
  | dotnum | str | int | dec => trivial
  | name | pfxStar | qname => exact .inl rfl
  | axis => exact .inr rfl

theorem lexItem_typed {w r : List Char} {k : Kind} (h : lexItem w = .ok (k, r)) : k.Typed := by
  by_cases h0 : Head w = '\x00'
  · simp only [lexItem, h0, ↓reduceIte] at h
    cases h
    exact ⟨nofun, nofun⟩
  · obtain ⟨lex, _, hl | ⟨_, ⟨t, n, p, rfl, ht⟩, _⟩⟩ := lexItem_inv h0 h
    · exact hl.typed
    · exact ht

theorem Lexeme.typ_ne_eof {lex r : List Char} {k : Kind} (h : Lexeme lex r k) : k.typ ≠ .eof := by
  cases h with
  | single r hm => exact (singles_typed _ hm).2
  | two1 hm => exact (twos_typed _ hm).1.2
  | two2 r hm => exact (twos_typed _ hm).2.2
  | _ => nofun

/-- an item other than the end of the text is not the end token, and it is not empty -/
theorem lexItem_progress {w r : List Char} {k : Kind} (h0 : Head w ≠ '\x00') (h : lexItem w = .ok (k, r)) :
    k.typ ≠ .eof ∧ r.length < w.length := by
  obtain ⟨lex, rfl, hl⟩ := lexItem_inv h0 h
  have hne : lex ≠ [] ∧ k.typ ≠ .eof := by
    rcases hl with hl | ⟨_, ⟨t, n, p, rfl, ht⟩, hne, _⟩
    · obtain ⟨c, l, rfl, _⟩ := hl.head
      exact ⟨nofun, hl.typ_ne_eof⟩
    · exact ⟨hne, by rcases ht with rfl | rfl <;> nofun⟩
  have := List.length_pos_iff.mpr hne.1
  exact ⟨hne.2, by rw [List.length_append]; omega⟩

/-- what `nextItem` returns is the state it was called on with the fields of one kind overwritten -/
theorem nextItem_out {s s' : Scan} (h : s.nextItem = .ok s') : ∃ (k : Kind) (r : List Char), k.Typed ∧ s' = k.out s r := by
  rw [nextItem_lex (at_unread s)] at h
  cases hq : lexNext (unread s) with
  | error e =>
    rw [hq] at h
    cases h
  | ok p =>
    rw [hq] at h
    cases h
    exact ⟨p.1, p.2, lexItem_typed hq, rfl⟩

end XPathV.Whitespace
