import XPathV.Lemmas.UnionSem
import XPathV.Lemmas.Compose3
/-!
# C11 — union over the extended fragment `PredSem2.Frag2`

Operands of `PredSem2.Frag2` (count / contains / local-name forms, `(P)[b]`, path-vs-path and
path-vs-string comparisons with the six operators): a path of `Frag2 true` is an `UnionSem.Operand`
(`operand_frag2`: `C02_main2`, validity from `C02_naive2`), hence `C11_main2`, `C11_evalTop2`; `StepOK2`
with its closure lemmas serves the sequence form.  The n-ary and sequence statements for `Frag2` are
proved from these in `Theorems/C11.lean`.
Standing assumptions as there: `WF d`, `cfg.nsIface = true`, `HashInj d cfg`.
-/
namespace XPathV.UnionSem2
open XPathV XPathV.Model XPathV.PathSem XPathV.PredSem XPathV.PredSem2 XPathV.UnionSem

variable {F : Type} [NumAlg F]

/-! ## `A | B`, n-ary -/

/-- unions of paths of the extended fragment, nested in any way -/
inductive UnionF2 : Ast → Prop
  | leaf (p : Ast) : Frag2 true p → UnionF2 p
  | union (l r : Ast) : UnionF2 l → UnionF2 r → UnionF2 (.oper "|" l r)

/-- `UnionF` is the restriction of `UnionF2` to `PredSem.Frag` -/
theorem unionF2_of_unionF (e : Ast) (h : UnionF e) : UnionF2 e := by
  induction h with
  | leaf p hp => exact .leaf p (frag2_of_frag true p hp)
  | union l r _ _ ihl ihr => exact .union l r ihl ihr

section Main
variable {d : Doc} (wf : WF d) (cfg : ECfg) (hns : cfg.nsIface = true) (hinj : HashInj d cfg)
  (regexOk : RegexOk) (limit : Nat)
include wf hns hinj

/-- C02 (extended fragment) for one operand (`C02_main2`, with the validity of the oracle's nodes
from `C02_naive2`) -/
theorem operand_frag2 (p : Ast) (hp : Frag2 true p) : Operand (F := F) d cfg regexOk limit p := by
  refine ⟨fun l r h => by (subst h; cases hp), fun st o hb c hc => ?_⟩
  obtain ⟨out, ns, g, h1, h2, h3⟩ := C02_main2 (F := F) wf cfg hns hinj regexOk limit p hp st o hb c hc
  obtain ⟨_, ns', g', _, h2', _, hv⟩ := C02_naive2 (F := F) wf cfg hns hinj p hp c hc
  rw [h2] at h2'; cases h2'
  exact ⟨out, ns, g, h1, h2, h3, hv⟩

/-- **C11 for `build`, extended fragment**: as `UnionSem.C11_main`, operands in `Frag2 true` -/
theorem C11_main2 (A B : Ast) (hA : Frag2 true A) (hB : Frag2 true B) (fl : Flags)
    (st : BState) (o : BOut) (hb : build regexOk limit true false (.oper "|" A B) fl st = .ok o)
    (c : Ref) (hc : validRef d c = true) :
    ∃ out nsA gA nsB gB nsU,
      sel (F := F) d cfg o.q c = .ok out ∧ (refs out).Nodup ∧
      Spec.eval (F := F) d A ⟨c, 1, 1⟩ = .ok (.val (.nodes nsA) gA) ∧
      Spec.eval (F := F) d B ⟨c, 1, 1⟩ = .ok (.val (.nodes nsB) gB) ∧
      (∀ x, x ∈ refs out ↔ x ∈ nsA ∨ x ∈ nsB) ∧
      Spec.eval (F := F) d (.oper "|" A B) ⟨c, 1, 1⟩ = .ok (.val (.nodes nsU) none) ∧
      nsU.Nodup ∧ (∀ x, x ∈ nsU ↔ x ∈ nsA ∨ x ∈ nsB) ∧ (∀ x, x ∈ refs out ↔ x ∈ nsU) :=
  union_main cfg hinj regexOk limit A B (operand_frag2 wf cfg hns hinj regexOk limit A hA)
    (operand_frag2 wf cfg hns hinj regexOk limit B hB) fl st o hb c hc

/-- `C11_main2` against the top-level oracle `evalTop`, the operands' node-sets written as `nodesAt` -/
theorem C11_evalTop2 (A B : Ast) (hA : Frag2 true A) (hB : Frag2 true B)
    (st : BState) (o : BOut) (hb : build regexOk limit true false (.oper "|" A B) {} st = .ok o)
    (c : Ref) (hc : validRef d c = true) :
    ∃ out nsU, sel (F := F) d cfg o.q c = .ok out ∧ (refs out).Nodup ∧
      Spec.evalTop (F := F) d (.oper "|" A B) c = .ok (.nodes nsU) ∧ nsU.Nodup ∧
      (∀ x, x ∈ refs out ↔ x ∈ nodesAt d F A c ∨ x ∈ nodesAt d F B c) ∧
      (∀ x, x ∈ nsU ↔ x ∈ nodesAt d F A c ∨ x ∈ nodesAt d F B c) :=
  union_evalTop cfg hinj regexOk limit A B (operand_frag2 wf cfg hns hinj regexOk limit A hA)
    (operand_frag2 wf cfg hns hinj regexOk limit B hB) st o hb c hc

end Main

/-! ## the sequence form `p/(s₁, s₂, …)` -/

/-- a member of the extended fragment: one of the twelve axes, predicates of `Frag2 false` -/
def StepOK2 (s : SeqStep) : Prop := s.1.axis ∈ axes12 ∧ ∀ b ∈ s.2, Frag2 false b

/-- a member over `PredSem.Frag` is a member over `Frag2` -/
theorem stepOK2_of_stepOK (s : SeqStep) (h : StepOK s) : StepOK2 s :=
  ⟨h.1, fun b hb => frag2_of_frag false b (h.2 b hb)⟩

theorem filters_frag2 (preds : List Ast) (hps : ∀ b ∈ preds, Frag2 false b) :
    ∀ acc, Frag2 true acc → Frag2 true (preds.foldl Ast.filter acc) := by
  induction preds with
  | nil => exact fun acc h => h
  | cons b bs ih =>
    intro acc h
    exact ih (fun x hx => hps x (List.mem_cons_of_mem _ hx)) _
      (.filter acc b h (hps b List.mem_cons_self))

theorem stepOn_frag2 (inp : Ast) (hinp : Frag2 true inp) (s : SeqStep) (hs : StepOK2 s) :
    Frag2 true (stepOn inp s) :=
  filters_frag2 s.2 hs.2 _ (.axis s.1 inp hinp hs.1)

end XPathV.UnionSem2
