import XPathV.Model.Api
import XPathV.Lemmas.Facts
/-!
# C17 — truncated or ill-formed expressions are rejected by Compile: local lemmas

Local rejection lemmas, one per expected-token site of the parser model, and the statement
`C17TruncationStatement`.  The global truncation theorems are in `Theorems/C17.lean` (token level, via `Lemmas/ParserTokens.lean`).
-/
namespace XPathV.Theorems.C17
open XPathV XPathV.Model XPathV.Facts

/-- the character-level truncation statement with `/` among the characters — **false**
(`Theorems.C17.first_truncation_statement_was_false`: `/a` cut after the slash is the accepted `/`); the
true statements are the token-level theorems of `Theorems/C17.lean` and `truncation_rejected` there -/
def C17TruncationStatement : Prop :=
  ∀ (cfg : PCfg) (text : List Char) (a : Ast), parse (fuelFor text) cfg text = .ok a →
    ∀ cut, cut < text.length → (∃ c, text[cut - 1]? = some c ∧ (c == '[' || c == '(' || c == ',' || c == '/')) →
      ∃ e, parse (fuelFor (text.take cut)) cfg (text.take cut) = .error e

/-- `skipItem` on a different token is an error (every "expected token" site goes through it) -/
theorem skipItem_mismatch (st : PState) (t : Tok) (h : st.s.typ ≠ t) : st.skipItem t = .error .invalidToken := by
  simp [PState.skipItem, h]

/-- an operand position holding `)`, `]`, `,` or the end of input is rejected by `parseNodeTest` -/
theorem operand_missing (cfg : PCfg) (inp : Ast) (axis : String) (mt : NType) (st : PState)
    (h : st.s.typ = .eof ∨ st.s.typ = .rparen ∨ st.s.typ = .rbracket ∨ st.s.typ = .comma) :
    parseNodeTest cfg inp axis mt st = .error .notNodeSet := by
  rcases h with h | h | h | h <;> simp [parseNodeTest, h]

/-- a literal whose body does not contain its quote has no end: `scanStringAux` returns `none` (on which
`nextItem` fails with `unclosedString`) -/
theorem unclosed_string (q : Char) (body : List Char) (hq : q ∉ body) : scanStringAux q body = none := by
  induction body with
  | nil => rfl
  | cons c t ih =>
    simp only [List.mem_cons, not_or] at hq
    have hne : (c == q) = false := by
      simp only [beq_eq_false_iff_ne, ne_eq]; exact fun h => hq.1 h.symm
    simp [scanStringAux, hne, ih hq.2]

/-- a predicate that is not closed by `]` is rejected -/
theorem unclosed_predicate (f : Nat) (cfg : PCfg) (st st1 st2 : PState) (a : Ast)
    (h1 : st.skipItem .lbracket = .ok st1) (h2 : parseExpression f cfg st1 = .ok (a, st2)) (h3 : st2.s.typ ≠ .rbracket) :
    parsePredicate (f+1) cfg st = .error .invalidToken := by
  simp [parsePredicate, h1, h2, bind, Except.bind, skipItem_mismatch st2 .rbracket h3]

/-- an unknown function name is rejected by the builder -/
theorem unknown_function (rx : RegexOk) (lim : Nat) (a b : Bool) (name pfx : String) (args : Ast) (fl : Flags) (st : BState)
    (hlim : st.depth + 1 ≤ lim) (hn : fnArity name = none) :
    build rx lim a b (.call name pfx args) fl st = .error (.unknownFunction name) := by
  simp [build, build.enter, hn]
  omega

/-- text left over after a complete expression is rejected -/
theorem trailing_text_rejected (fuel : Nat) (cfg : PCfg) (text : List Char) (s : Scan) (a : Ast) (st : PState)
    (hs : Scan.init text = .ok s) (hp : parseExpression fuel cfg { s := s, d := 0 } = .ok (a, st)) (he : st.s.typ ≠ .eof) :
    parse fuel cfg text = .error .invalidToken := by
  simp [parse, hs, hp, bind, Except.bind, he]

end XPathV.Theorems.C17
