import XPathV.Generated.ExtraFacts
import XPathV.Model.Api
import XPathV.Lemmas.Facts
import XPathV.Lemmas.CallFn
/-!
# C08 — arithmetic and numeric functions follow XPath 1.0 / IEEE 754

Parametric in the number algebra `F`: the theorems show that the engine converts each operand with
the XPath `number()` rule and applies *the same IEEE operation to the same operands in the same
order* as the specification; what the operations compute on doubles is the Go runtime's business.
-/
namespace XPathV.Theorems.C08
open XPathV XPathV.Model XPathV.Facts NumAlg

variable {F : Type} [NumAlg F]

/-- embedding of spec values into model values -/
def emb : Spec.Value F → MVal F
  | .nodes l => .nodes l
  | .bool b => .bool b
  | .num x => .num x
  | .str s => .str s

/-- `asNumber` is the XPath `number()` conversion on node-sets, numbers and strings
(booleans are outside C08's fragment: Go maps them to NaN) -/
theorem asNumber_spec (d : Doc) (v : Spec.Value F) (hb : ∀ b, v ≠ .bool b) :
    asNumberM d (emb v) = Spec.toNum d v := by
  cases v with
  | nodes l => cases l <;> rfl
  | bool b => exact absurd rfl (hb b)
  | num x => rfl
  | str s => rfl

/-- the engine converts both operands of an arithmetic operator exactly as `number()` does (the
pair form of `asNumber_spec`; which operation is then applied is not part of this statement) -/
theorem arith_operands_spec (d : Doc) (a b : Spec.Value F) (ha : ∀ x, a ≠ .bool x) (hb : ∀ x, b ≠ .bool x) :
    (asNumberM d (emb a), asNumberM d (emb b)) = (Spec.toNum d a, Spec.toNum d b) := by
  rw [asNumber_spec d a ha, asNumber_spec d b hb]

/-- the engine on two number literals under `+`, `div` and `mod`: the `NumAlg` operation of the
operator on the two `number()` values (engine side only; both sides, for any operands: `Sem.Agree.arith_value`) -/
theorem arith_literals_spec (d : Doc) (cfg : ECfg) (c : Ref) (l1 l2 : String) :
    evalP (F := F) d cfg (.numeric "+" (.constNum l1) (.constNum l2)) c
      = .ok (.num (add (Spec.strToNum l1) (Spec.strToNum l2))) ∧
    evalP (F := F) d cfg (.numeric "div" (.constNum l1) (.constNum l2)) c
      = .ok (.num (div (Spec.strToNum l1) (Spec.strToNum l2))) ∧
    evalP (F := F) d cfg (.numeric "mod" (.constNum l1) (.constNum l2)) c
      = .ok (.num (fmod (Spec.strToNum l1) (Spec.strToNum l2))) := by
  simp [evalP, asNumberM, bind, Except.bind]

/-- the engine reads a number literal with the oracle's `number()` rule (`goParseFloat` is defined
as `Spec.strToNum`: the statement holds by definition) -/
theorem literal_is_lexeme (l : String) : (Spec.strToNum l : F) = goParseFloat l := rfl

/-- `string()` of a number renders as XPath prescribes (the model's `asString` *is* the spec's) -/
theorem number_to_string_spec (d : Doc) (x : F) : asStringM d (.num x) = .ok (Spec.numToStr x) := rfl

/-- count() is the length of the node list -/
theorem count_spec (d : Doc) (cfg : ECfg) (c : Ref) (l : List Ref) :
    callFn (F := F) d cfg "count" .nil c [.ok (.nodes l)] none = .ok (.num (ofNat l.length)) := by
  rw [callFn_count]; rfl

end XPathV.Theorems.C08
