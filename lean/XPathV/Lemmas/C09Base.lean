import XPathV.Generated.ExtraFacts
import XPathV.Model.Api
import XPathV.Lemmas.Facts
import XPathV.Lemmas.CallFn
/-!
# C09 — string functions compute the XPath result on their arguments
-/

namespace XPathV.Theorems.C09
open XPathV XPathV.Model XPathV.Facts NumAlg

variable {F : Type} [NumAlg F]

/-- three-argument substring: exactly the characters at the positions `p` with
`round(start) ≤ p < round(start) + round(length)` -/
theorem substring3_spec (m : String) (start len : F) :
    substringM m start (some len) = Spec.fnSubstring3 m start len := by
  unfold substringM Spec.fnSubstring3 Spec.roundHalfUp xpathRoundM
  rfl

theorem substring2_spec (m : String) (start : F) :
    substringM m start none = Spec.fnSubstring2 m start := by
  unfold substringM Spec.fnSubstring2 Spec.roundHalfUp xpathRoundM
  rfl

/-- `substring` never fails: the model has explicit crash outcomes and produces none here, for
every string and every (finite or not) start and length -/
theorem substring_never_fails (d : Doc) (cfg : ECfg) (c : Ref) (m : String) (s l : F) :
    callFn (F := F) d cfg "substring" .nil c [.ok (.str m), .ok (.num s), .ok (.num l)] none
      = .ok (.str (Spec.fnSubstring3 m s l)) := by
  rw [callFn_substring, ← substring3_spec]; rfl

/-- the result is a subsequence of the argument -/
theorem substring_is_sublist (m : String) (s l : F) :
    (Spec.fnSubstring3 m s l).toList.Sublist m.toList := by
  unfold Spec.fnSubstring3
  rw [String.toList_ofList]
  refine filterMap_zipIdx_sublist _ _ _ fun c i o h => ?_
  split at h <;> simp_all

theorem contains_spec (d : Doc) (cfg : ECfg) (c : Ref) (a b : String) :
    callFn (F := F) d cfg "contains" .nil c [.ok (.str a), .ok (.str b)] none = .ok (.bool (Spec.fnContains a b)) := by
  rw [callFn_contains]; rfl

theorem starts_with_spec (d : Doc) (cfg : ECfg) (c : Ref) (a b : String) :
    callFn (F := F) d cfg "starts-with" .nil c [.ok (.str a), .ok (.str b)] none = .ok (.bool (Spec.fnStartsWith a b)) := by
  rw [callFn_startsWith]; rfl

theorem substring_after_spec (d : Doc) (cfg : ECfg) (c : Ref) (a b : String) :
    callFn (F := F) d cfg "substring-after" .nil c [.ok (.str a), .ok (.str b)] none = .ok (.str (Spec.fnSubstringAfter a b)) := by
  rw [callFn_substringAfter]; rfl

theorem substring_before_spec (d : Doc) (cfg : ECfg) (c : Ref) (a b : String) :
    callFn (F := F) d cfg "substring-before" .nil c [.ok (.str a), .ok (.str b)] none = .ok (.str (Spec.fnSubstringBefore a b)) := by
  rw [callFn_substringBefore]; rfl

theorem translate_spec (d : Doc) (cfg : ECfg) (c : Ref) (s a b : String) :
    callFn (F := F) d cfg "translate" .nil c [.ok (.str s), .ok (.str a), .ok (.str b)] none = .ok (.str (Spec.fnTranslate s a b)) := by
  rw [callFn_translate]; rfl

theorem string_length_spec (d : Doc) (cfg : ECfg) (c : Ref) (s : String) :
    callFn (F := F) d cfg "string-length" .nil c [.ok (.str s)] none = .ok (.num (ofNat s.length)) := by
  rw [callFn_stringLength]; rfl

/-- a node-set argument is taken as the string-value of its first node, the empty set as "" -/
theorem nodeset_argument_first (d : Doc) (cfg : ECfg) (c : Ref) (r : Ref) (rest : List Ref) (b : String) :
    callFn (F := F) d cfg "contains" .nil c [.ok (.nodes (r :: rest)), .ok (.str b)] none
      = .ok (.bool (Spec.fnContains (stringValue d r) b)) := by
  rw [callFn_contains]; rfl

theorem nodeset_argument_empty (d : Doc) (cfg : ECfg) (c : Ref) (b : String) :
    callFn (F := F) d cfg "contains" .nil c [.ok (.nodes []), .ok (.str b)] none
      = .ok (.bool (Spec.fnContains "" b)) := by
  rw [callFn_contains]; rfl

end XPathV.Theorems.C09
