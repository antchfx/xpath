import XPathV.Lemmas.StringFns
import XPathV.Lemmas.ArithSem2
/-!
# C09 — nested string-function calls whose leaves are string literals **and flat (filtered) paths**

`StringFns/Nested` has the fragment `StrEP L NS b e` of nested string-function calls (`b = true`: `e`
is a string-valued expression, a literal or a call; `b = false`: `e` is an *argument*, a string-valued
expression or a leaf `p` with `L p`; `NS a` is the side condition of `normalize-space(a)`), the
oracle-side domain `NormDom d ctx F a` of `normalize-space(a)` (the string the oracle reads `a` as
is `Plain`) and the induction `strEP_sem` under the leaf obligation `LeafOK`.  This module puts flat
filtered paths at the leaves:

* `StrE2 d ctx F := StrEP FlatF2 (NormDom d ctx F) true`
* `leafOK_flat2` — the leaf obligation from `ArithSem2.flat2_same_list`
* `strE2_sem` — built plan's value = oracle's value, at every context position and size
-/
namespace XPathV.StringFns2
open XPathV XPathV.Model NumAlg XPathV.StringFns XPathV.PathSem
open XPathV.Theorems.C08 (emb)
open XPathV.ArithSem2 (FlatF2 flat2_same_list)

variable {F : Type} [NumAlg F]

/-- **the C09 fragment with path leaves**: `StrE` plus flat (possibly filtered) paths of the C02
fragment wherever a string-valued argument is allowed (including `string(P)`) -/
abbrev StrE2 (d : Doc) (ctx : Spec.Ctx) (F : Type) [NumAlg F] : Ast → Prop :=
  StrEP FlatF2 (NormDom d ctx F) true

/-- the leaf obligation holds for flat filtered paths (`ArithSem2.flat2_same_list`) -/
theorem leafOK_flat2 {d : Doc} (wf : WF d) (cfg : ECfg) (hns : cfg.nsIface = true)
    (hinj : HashInj d cfg) (regexOk : RegexOk) (limit : Nat)
    (c : Ref) (hc : validRef d c = true) (i n : Nat) :
    LeafOK d cfg regexOk limit true false c i n F FlatF2 := by
  intro p hp st o hb
  exact Sem.agree_set.1 (flat2_same_list (F := F) wf cfg hns hinj regexOk limit c hc i n hp st o hb)

/-- **C09, nested, with path leaves**: for a nested string-function expression whose leaves are
string literals and flat paths with `Frag2` predicates (`StrE2`), the plan the builder makes
evaluates to the string the oracle assigns, at every context position and size.  Standing
assumptions: those of C02 (`WF`, valid context node, `NamespaceURL()` implemented, injective node
keys); builder at `smartDescThroughFilter = false`. -/
theorem strE2_sem {d : Doc} (wf : WF d) (cfg : ECfg) (hns : cfg.nsIface = true)
    (hinj : HashInj d cfg) (regexOk : RegexOk) (limit : Nat)
    (c : Ref) (hc : validRef d c = true) (i n : Nat) {e : Ast} (he : StrE2 d ⟨c, i, n⟩ F e)
    (fl : Flags) (st : BState) (o : BOut) (hb : build regexOk limit true false e fl st = .ok o) :
    ∃ s, evalP (F := F) d cfg o.q c = .ok (.str s) ∧
      Spec.eval (F := F) d e ⟨c, i, n⟩ = .ok (.val (.str s) none) :=
  strEP_sem d cfg regexOk limit true false c i n (leafOK_flat2 wf cfg hns hinj regexOk limit c hc i n) he fl st o hb

end XPathV.StringFns2
