import XPathV.Spec.FullGrammar
/-!
# C10, third clause — abbreviations and their expansions: definitions, and inversion lemmas for `EE`

XPath 1.0 §2.5: `a` = `child::a`, `@a` = `attribute::a`, `.` = `self::node()`, `..` = `parent::node()`,
`//` = `/descendant-or-self::node()/`.

* `expandWith sel prev i toks` — the token stream `toks` (scanner tokens `TokV`, what a user writes)
  with the abbreviations at the positions selected by `sel : Nat → Bool` written out; it walks the list
  exactly as `classify` does, so that "a NameTest or NodeType in step position with no axis specifier"
  can be recognised: a name or `*` token that §3.7 classifies as a NameTest / NodeType and whose
  preceding token is neither `@` nor an `AxisName '::'`.
  `expandAbbrev` = all positions; `expandAt i` = the single position `i`.
* `EE b ts ts'` — the same on classified tokens (`ETok`), as a relation: `ts'` is `ts` with some
  abbreviations written out (`b`: the token before `ts` is an axis specifier).  `EE.*_inv`, `EE.append`,
  `EE.append_inv`: what `ts'` looks like when `ts` begins with a given token or is a concatenation.
-/
namespace XPathV.Lemmas.Abbrev
open XPathV XPathV.Spec.Full

/-- `@` or `AxisName '::'` -/
def isAxTok : ETok → Bool
  | .at | .axisName _ => true
  | _ => false

def isAx : Option ETok → Bool
  | some t => isAxTok t
  | none => false

/-- the first token of a NodeTest [7]: a NameTest [37] or a NodeType [38] -/
def nameTestStart : ETok → Bool
  | .wild | .nsWild _ | .qname _ _ | .nodeType _ => true
  | _ => false

/-- tokens that no abbreviation rule touches -/
def plain : ETok → Bool
  | .at | .dot | .dotdot | .slashslash | .wild | .nsWild _ | .qname _ _ | .nodeType _ => false
  | _ => true

/-- `ax::node()` -/
def nodeE (ax : String) : List ETok := [.axisName ax, .nodeType "node", .lparen, .rparen]

/-- `/descendant-or-self::node()/` -/
def dosE : List ETok := .slash :: nodeE "descendant-or-self" ++ [.slash]

/-- `EE b ts ts'`: `ts'` is `ts` with some of its abbreviations written out.  `b` = the token before
`ts` is `@` or an `AxisName '::'` (then the first token of `ts` is not a step without axis specifier). -/
inductive EE : Bool → List ETok → List ETok → Prop
  | nil {b} : EE b [] []
  /-- leave the token as it is -/
  | keep {b t ts ts'} : EE (isAxTok t) ts ts' → EE b (t :: ts) (t :: ts')
  /-- `@` ↦ `attribute::` -/
  | at {b ts ts'} : EE true ts ts' → EE b (.at :: ts) (.axisName "attribute" :: ts')
  /-- `.` ↦ `self::node()` -/
  | dot {b ts ts'} : EE false ts ts' → EE b (.dot :: ts) (nodeE "self" ++ ts')
  /-- `..` ↦ `parent::node()` -/
  | dotdot {b ts ts'} : EE false ts ts' → EE b (.dotdot :: ts) (nodeE "parent" ++ ts')
  /-- `//` ↦ `/descendant-or-self::node()/` -/
  | slashslash {b ts ts'} : EE false ts ts' → EE b (.slashslash :: ts) (dosE ++ ts')
  /-- a NodeTest with no axis specifier ↦ `child::` in front -/
  | child {t ts ts'} : nameTestStart t = true → EE false ts ts' →
      EE false (t :: ts) (.axisName "child" :: t :: ts')

/-- `ax::node()` -/
def nodeT (ax : String) : List TokV := [.axis ax, .name "" "node" true, .lparen, .rparen]

/-- `/descendant-or-self::node()/` -/
def dosT : List TokV := .slash :: nodeT "descendant-or-self" ++ [.slash]

/-- `child::` in front of a name / `*` token whose classification is `t` and whose preceding token is
`prev`, when it is a NodeTest with no axis specifier (and the position is selected) -/
def childPfx (selected : Bool) (prev : Option ETok) (t : ETok) : List TokV :=
  if selected && nameTestStart t && !isAx prev then [.axis "child"] else []

/-- The token stream with the abbreviations at the selected positions (indices into the original list,
starting at `i`) written out.  `prev` is the classification of the preceding token of the *original*
stream, computed as in `classify`. -/
def expandWith (sel : Nat → Bool) : Option ETok → Nat → List TokV → List TokV
  | _, _, [] => []
  | _, i, .dollar :: .name p l b :: rest =>
    .dollar :: .name p l b ::
      expandWith sel (some (if l == "*" then .invalid else .varRef p l)) (i + 2) rest
  | _, i, .dollar :: rest => .dollar :: expandWith sel (some .invalid) (i + 1) rest
  | prev, i, .name p l b :: rest =>
    let t := classifyName prev p l b
    childPfx (sel i) prev t ++ .name p l b :: expandWith sel (some t) (i + 1) rest
  | prev, i, .star :: rest =>
    let t := if operatorPosition prev then ETok.mul else ETok.wild
    childPfx (sel i) prev t ++ .star :: expandWith sel (some t) (i + 1) rest
  | _, i, .at :: rest =>
    (if sel i then TokV.axis "attribute" else .at) :: expandWith sel (some .at) (i + 1) rest
  | _, i, .dot :: rest =>
    (if sel i then nodeT "self" else [.dot]) ++ expandWith sel (some .dot) (i + 1) rest
  | _, i, .dotdot :: rest =>
    (if sel i then nodeT "parent" else [.dotdot]) ++ expandWith sel (some .dotdot) (i + 1) rest
  | _, i, .slashslash :: rest =>
    (if sel i then dosT else [.slashslash]) ++ expandWith sel (some .slashslash) (i + 1) rest
  | _, i, .axis s :: rest => .axis s :: expandWith sel (some (.axisName s)) (i + 1) rest
  | _, i, .str s :: rest => .str s :: expandWith sel (some (.literal s)) (i + 1) rest
  | _, i, .num s :: rest => .num s :: expandWith sel (some (.number s)) (i + 1) rest
  | _, i, .slash :: rest => .slash :: expandWith sel (some .slash) (i + 1) rest
  | _, i, .lparen :: rest => .lparen :: expandWith sel (some .lparen) (i + 1) rest
  | _, i, .rparen :: rest => .rparen :: expandWith sel (some .rparen) (i + 1) rest
  | _, i, .lbracket :: rest => .lbracket :: expandWith sel (some .lbracket) (i + 1) rest
  | _, i, .rbracket :: rest => .rbracket :: expandWith sel (some .rbracket) (i + 1) rest
  | _, i, .comma :: rest => .comma :: expandWith sel (some .comma) (i + 1) rest
  | _, i, .union :: rest => .union :: expandWith sel (some .union) (i + 1) rest
  | _, i, .plus :: rest => .plus :: expandWith sel (some .plus) (i + 1) rest
  | _, i, .minus :: rest => .minus :: expandWith sel (some .minus) (i + 1) rest
  | _, i, .eq :: rest => .eq :: expandWith sel (some .eq) (i + 1) rest
  | _, i, .ne :: rest => .ne :: expandWith sel (some .ne) (i + 1) rest
  | _, i, .lt :: rest => .lt :: expandWith sel (some .lt) (i + 1) rest
  | _, i, .le :: rest => .le :: expandWith sel (some .le) (i + 1) rest
  | _, i, .gt :: rest => .gt :: expandWith sel (some .gt) (i + 1) rest
  | _, i, .ge :: rest => .ge :: expandWith sel (some .ge) (i + 1) rest

/-- every abbreviation written out -/
def expandAbbrev (toks : List TokV) : List TokV := expandWith (fun _ => true) none 0 toks

/-- the abbreviation at position `i` of `toks` (if there is one) written out, nothing else -/
def expandAt (i : Nat) (toks : List TokV) : List TokV := expandWith (fun j => j == i) none 0 toks

/-- `toks'` is `toks` with some set of its abbreviations written out -/
def Expands (toks toks' : List TokV) : Prop := ∃ sel, toks' = expandWith sel none 0 toks

theorem Expands.all (toks : List TokV) : Expands toks (expandAbbrev toks) := ⟨_, rfl⟩
theorem Expands.one (i : Nat) (toks : List TokV) : Expands toks (expandAt i toks) := ⟨_, rfl⟩

/-- the kind of abbreviation a scanner token can be (a name or `*` is one only in step position) -/
inductive Kind | child | attribute | self | parent | descendantOrSelf
  deriving DecidableEq, Repr

def kindOf : TokV → Option Kind
  | .name _ _ _ | .star => some .child
  | .at => some .attribute
  | .dot => some .self
  | .dotdot => some .parent
  | .slashslash => some .descendantOrSelf
  | _ => none

/-- all abbreviations of one kind written out, the others left as they are -/
def expandKind (k : Kind) (toks : List TokV) : List TokV :=
  expandWith (fun j => (toks[j]?).bind kindOf == some k) none 0 toks

theorem Expands.kind (k : Kind) (toks : List TokV) : Expands toks (expandKind k toks) := ⟨_, rfl⟩

theorem EE.weaken {b ts ts'} (h : EE b ts ts') : EE false ts ts' := by
  cases h with
  | nil => exact .nil
  | keep h => exact .keep h
  | «at» h => exact .at h
  | dot h => exact .dot h
  | dotdot h => exact .dotdot h
  | slashslash h => exact .slashslash h
  | child hn h => exact .child hn h

theorem EE.refl : ∀ (b : Bool) (ts : List ETok), EE b ts ts
  | _, [] => .nil
  | _, _ :: ts => .keep (EE.refl _ ts)

theorem plain_not_nameTestStart {t : ETok} (hp : plain t = true) : nameTestStart t = false := by
  cases t <;> first | rfl | cases hp

/-- a plain token stays -/
theorem EE.cons_plain {b t ts ts'} (hp : plain t = true) (h : EE b (t :: ts) ts') :
    ∃ r', ts' = t :: r' ∧ EE (isAxTok t) ts r' := by
  cases h with
  | keep h => exact ⟨_, rfl, h⟩
  | «at» h => cases hp
  | dot h => cases hp
  | dotdot h => cases hp
  | slashslash h => cases hp
  | child hn h => rw [plain_not_nameTestStart hp] at hn; cases hn

theorem EE.nil_inv {b ts'} (h : EE b [] ts') : ts' = [] := by
  cases h; rfl

theorem EE.single_plain {b t ts'} (hp : plain t = true) (h : EE b [t] ts') : ts' = [t] := by
  obtain ⟨r', rfl, h'⟩ := EE.cons_plain hp h
  rw [h'.nil_inv]

theorem EE.at_inv {b ts ts'} (h : EE b (.at :: ts) ts') :
    ∃ r', EE true ts r' ∧ (ts' = .at :: r' ∨ ts' = .axisName "attribute" :: r') := by
  cases h with
  | keep h => exact ⟨_, h, .inl rfl⟩
  | «at» h => exact ⟨_, h, .inr rfl⟩
  | child hn _ => cases hn

theorem EE.dot_inv {b ts ts'} (h : EE b (.dot :: ts) ts') :
    ∃ r', EE false ts r' ∧ (ts' = .dot :: r' ∨ ts' = nodeE "self" ++ r') := by
  cases h with
  | keep h => exact ⟨_, h, .inl rfl⟩
  | dot h => exact ⟨_, h, .inr rfl⟩
  | child hn _ => cases hn

theorem EE.dotdot_inv {b ts ts'} (h : EE b (.dotdot :: ts) ts') :
    ∃ r', EE false ts r' ∧ (ts' = .dotdot :: r' ∨ ts' = nodeE "parent" ++ r') := by
  cases h with
  | keep h => exact ⟨_, h, .inl rfl⟩
  | dotdot h => exact ⟨_, h, .inr rfl⟩
  | child hn _ => cases hn

theorem EE.slashslash_inv {b ts ts'} (h : EE b (.slashslash :: ts) ts') :
    ∃ r', EE false ts r' ∧ (ts' = .slashslash :: r' ∨ ts' = dosE ++ r') := by
  cases h with
  | keep h => exact ⟨_, h, .inl rfl⟩
  | slashslash h => exact ⟨_, h, .inr rfl⟩
  | child hn _ => cases hn

/-- a NodeTest's first token stays, with `child::` put in front or not (not after an axis specifier) -/
theorem EE.nameTest_inv {b t ts ts'} (hn : nameTestStart t = true) (h : EE b (t :: ts) ts') :
    ∃ r', EE false ts r' ∧ (ts' = t :: r' ∨ (b = false ∧ ts' = .axisName "child" :: t :: r')) := by
  cases h with
  | keep h => exact ⟨_, h.weaken, .inl rfl⟩
  | «at» h => cases hn
  | dot h => cases hn
  | dotdot h => cases hn
  | slashslash h => cases hn
  | child _ h => exact ⟨_, h, .inr ⟨rfl, rfl⟩⟩

/-- `EE` splits along `++`; the second part is in an unknown context, weakened to `false` -/
theorem EE.append_inv : ∀ {ts₁ ts₂ : List ETok} {b ts'}, EE b (ts₁ ++ ts₂) ts' →
    ∃ ts₁' ts₂', ts' = ts₁' ++ ts₂' ∧ EE b ts₁ ts₁' ∧ EE false ts₂ ts₂'
  | [], ts₂, b, ts', h => ⟨[], ts', rfl, .nil, h.weaken⟩
  | t :: r, ts₂, b, ts', h => by
    rw [List.cons_append] at h
    cases h with
    | keep h =>
      obtain ⟨a, c, rfl, h₁, h₂⟩ := EE.append_inv h
      exact ⟨t :: a, c, rfl, .keep h₁, h₂⟩
    | «at» h =>
      obtain ⟨a, c, rfl, h₁, h₂⟩ := EE.append_inv h
      exact ⟨.axisName "attribute" :: a, c, rfl, .at h₁, h₂⟩
    | dot h =>
      obtain ⟨a, c, rfl, h₁, h₂⟩ := EE.append_inv h
      exact ⟨nodeE "self" ++ a, c, by simp, .dot h₁, h₂⟩
    | dotdot h =>
      obtain ⟨a, c, rfl, h₁, h₂⟩ := EE.append_inv h
      exact ⟨nodeE "parent" ++ a, c, by simp, .dotdot h₁, h₂⟩
    | slashslash h =>
      obtain ⟨a, c, rfl, h₁, h₂⟩ := EE.append_inv h
      exact ⟨dosE ++ a, c, by simp, .slashslash h₁, h₂⟩
    | child hn h =>
      obtain ⟨a, c, rfl, h₁, h₂⟩ := EE.append_inv h
      exact ⟨.axisName "child" :: t :: a, c, rfl, .child hn h₁, h₂⟩

theorem EE.append {ts₁ ts₂ ts₁' ts₂' : List ETok} {b} (h₁ : EE b ts₁ ts₁')
    (h₂ : ∀ b', EE b' ts₂ ts₂') : EE b (ts₁ ++ ts₂) (ts₁' ++ ts₂') := by
  induction h₁ with
  | nil => exact h₂ _
  | keep _ ih => exact .keep ih
  | «at» _ ih => exact .at ih
  | dot _ ih => simpa [List.append_assoc] using EE.dot ih
  | dotdot _ ih => simpa [List.append_assoc] using EE.dotdot ih
  | slashslash _ ih => simpa [List.append_assoc] using EE.slashslash ih
  | child hn _ ih => exact .child hn ih

/-- `ts₁ tok ts₂` with a plain `tok` -/
theorem EE.mid_inv {ts₁ ts₂ : List ETok} {tok b ts'} (hp : plain tok = true)
    (h : EE b (ts₁ ++ [tok] ++ ts₂) ts') :
    ∃ ts₁' ts₂', ts' = ts₁' ++ [tok] ++ ts₂' ∧ EE b ts₁ ts₁' ∧ EE false ts₂ ts₂' := by
  rw [List.append_assoc] at h
  obtain ⟨a, c, rfl, h₁, h₂⟩ := EE.append_inv h
  obtain ⟨r', rfl, h₃⟩ := EE.cons_plain hp (by simpa using h₂)
  exact ⟨a, r', by simp, h₁, h₃.weaken⟩

/-- `ts₁ // ts₂` -/
theorem EE.mid_ss {ts₁ ts₂ : List ETok} {b ts'} (h : EE b (ts₁ ++ [.slashslash] ++ ts₂) ts') :
    ∃ ts₁' ts₂', EE b ts₁ ts₁' ∧ EE false ts₂ ts₂' ∧
      (ts' = ts₁' ++ [.slashslash] ++ ts₂' ∨ ts' = ts₁' ++ dosE ++ ts₂') := by
  rw [List.append_assoc] at h
  obtain ⟨a, c, rfl, h₁, h₂⟩ := EE.append_inv h
  obtain ⟨r', h₃, e | e⟩ := EE.slashslash_inv (by simpa using h₂)
  · exact ⟨a, r', h₁, h₃, .inl (by simp [e])⟩
  · exact ⟨a, r', h₁, h₃, .inr (by simp [e])⟩

/-- `l ts r` with plain `l`, `r` -/
theorem EE.bracket_inv {l r : ETok} {ts : List ETok} {b ts'} (hl : plain l = true) (hr : plain r = true)
    (h : EE b ([l] ++ ts ++ [r]) ts') : ∃ ts'', ts' = [l] ++ ts'' ++ [r] ∧ EE false ts ts'' := by
  obtain ⟨r', rfl, h₁⟩ := EE.cons_plain hl (by simpa using h)
  obtain ⟨a, c, rfl, h₂, h₃⟩ := EE.append_inv h₁
  rw [EE.single_plain hr h₃]
  exact ⟨a, by simp, h₂.weaken⟩

end XPathV.Lemmas.Abbrev
