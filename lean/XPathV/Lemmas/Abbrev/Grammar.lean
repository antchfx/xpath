import XPathV.Lemmas.Abbrev.Defs
/-!
# Abbreviations mean their expansions — in the grammar `D`, on classified tokens

`D_expand : D ns X ts a → EE b ts ts' → D ns (upNT X) ts' a`: writing out any set of abbreviations of
a derivable token list gives a derivable token list with the *same* tree (not merely the same up to a
normalisation).  `upNT` accounts for the three non-terminals that exist only for abbreviated forms:
what `AbbreviatedStep` derives is, written out, a `Step`, and so on.

The five single-production facts are `step_child`, `step_attribute`, `step_self`, `step_parent`,
`rel_dslash` / `abs_dslash` / `path_dslash`.
-/
namespace XPathV.Lemmas.Abbrev
open XPathV XPathV.Spec.Full

/-- the non-terminal of the written-out form -/
def upNT : NT → NT
  | .AbbreviatedStep inp => .Step inp
  | .AbbreviatedRelativeLocationPath inp => .RelativeLocationPath inp
  | .AbbreviatedAbsoluteLocationPath => .AbsoluteLocationPath
  | X => X

theorem upNT_binary {X Y : NT} {ops} (h : X.binary = some (Y, ops)) : upNT X = X ∧ upNT Y = Y := by
  cases X <;> simp [NT.binary] at h <;> obtain ⟨rfl, _⟩ := h <;> exact ⟨rfl, rfl⟩

theorem binary_tok_plain {X Y : NT} {ops tok op} (h : X.binary = some (Y, ops)) (hm : (tok, op) ∈ ops) :
    plain tok = true := by
  have key : ∀ p ∈ ops, plain p.1 = true := by
    cases X <;> simp [NT.binary] at h <;> obtain ⟨_, rfl⟩ := h <;> decide
  exact key _ hm

theorem typeOfNodeType_node : typeOfNodeType "node" = .all := by decide

/-- `ax::node()` is the step that `.`, `..` and `//` insert -/
theorem step_node (ns : Option NsMap) (inp : Ast) {ax : String} (h : ax ∈ axisNames) :
    D ns (.Step inp) (nodeE ax) (nodeStep ax inp) := by
  have d : D ns (.Step inp) ([.axisName ax] ++ [.nodeType "node", .lparen, .rparen] ++ [])
      (.axis ⟨ax, typeOfNodeType "node", "", "", "node", false, ""⟩ inp) :=
    .step (.named h) (.nodeType (by simp [nodeTypes])) .preds_nil
  rw [typeOfNodeType_node] at d
  simpa [nodeE, nodeStep] using d

/-- `.` = `self::node()` -/
theorem step_self (ns : Option NsMap) (inp : Ast) :
    D ns (.Step inp) [.dot] (nodeStep "self" inp) ∧ D ns (.Step inp) (nodeE "self") (nodeStep "self" inp) :=
  ⟨.step_abbrev .dot, step_node ns inp (by simp [axisNames])⟩

/-- `..` = `parent::node()` -/
theorem step_parent (ns : Option NsMap) (inp : Ast) :
    D ns (.Step inp) [.dotdot] (nodeStep "parent" inp) ∧
      D ns (.Step inp) (nodeE "parent") (nodeStep "parent" inp) :=
  ⟨.step_abbrev .dotdot, step_node ns inp (by simp [axisNames])⟩

/-- no axis specifier = `child::` : a step derived with the empty AbbreviatedAxisSpecifier is derived,
with the same tree, with `child::` in front -/
theorem step_child {ns : Option NsMap} {inp : Ast} {ts₂ ts₃ : List ETok} {info : AxisInfo} {t : Ast}
    (h₂ : NodeTestD ns "child" ts₂ info) (h₃ : D ns (.Predicates (.axis info inp)) ts₃ t) :
    D ns (.Step inp) (ts₂ ++ ts₃) t ∧ D ns (.Step inp) (.axisName "child" :: (ts₂ ++ ts₃)) t :=
  ⟨by simpa using D.step (.abbrev .child) h₂ h₃,
   by simpa using D.step (.named (s := "child") (by simp [axisNames])) h₂ h₃⟩

/-- `@` = `attribute::` -/
theorem step_attribute {ns : Option NsMap} {inp : Ast} {ts₂ ts₃ : List ETok} {info : AxisInfo} {t : Ast}
    (h₂ : NodeTestD ns "attribute" ts₂ info) (h₃ : D ns (.Predicates (.axis info inp)) ts₃ t) :
    D ns (.Step inp) (.at :: (ts₂ ++ ts₃)) t ∧ D ns (.Step inp) (.axisName "attribute" :: (ts₂ ++ ts₃)) t :=
  ⟨by simpa using D.step (.abbrev .attribute) h₂ h₃,
   by simpa using D.step (.named (s := "attribute") (by simp [axisNames])) h₂ h₃⟩

/-- motive of `rel_prepend` -/
def PrepM (ns : Option NsMap) (inp : Ast) (ts₀ : List ETok) : NT → List ETok → Ast → Prop
  | .RelativeLocationPath t₁, ts, t | .AbbreviatedRelativeLocationPath t₁, ts, t =>
    D ns (.RelativeLocationPath inp) ts₀ t₁ → D ns (.RelativeLocationPath inp) (ts₀ ++ [.slash] ++ ts) t
  | _, _, _ => True

theorem prepM_binary {ns inp ts₀} {X Y : NT} {ops ts t} (h : X.binary = some (Y, ops)) :
    PrepM ns inp ts₀ X ts t := by
  cases X <;> simp [NT.binary] at h <;> trivial

theorem rel_prepend_aux {ns : Option NsMap} {inp : Ast} {ts₀ : List ETok} {X : NT} {ts : List ETok}
    {t : Ast} (h : D ns X ts t) : PrepM ns inp ts₀ X ts t := by
  induction h with
  | rel_step d _ => exact fun d₀ => .rel_slash d₀ d
  | rel_slash _ d₂ ih₁ _ =>
    exact fun d₀ => by simpa [List.append_assoc] using D.rel_slash (ih₁ d₀) d₂
  | rel_abbrev _ ih => exact ih
  | abbrevRel _ d₂ ih₁ _ =>
    exact fun d₀ => by simpa [List.append_assoc] using D.rel_abbrev (D.abbrevRel (ih₁ d₀) d₂)
  | up hb _ _ => exact prepM_binary hb
  | bin hb _ _ _ _ _ => exact prepM_binary hb
  | _ => trivial

/-- a relative path over the result of a relative path is a relative path: `(p)/q` re-associated -/
theorem rel_prepend {ns : Option NsMap} {inp t₁ : Ast} {ts₀ ts : List ETok} {t : Ast}
    (d₀ : D ns (.RelativeLocationPath inp) ts₀ t₁) (d : D ns (.RelativeLocationPath t₁) ts t) :
    D ns (.RelativeLocationPath inp) (ts₀ ++ [.slash] ++ ts) t :=
  rel_prepend_aux (inp := inp) (ts₀ := ts₀) d d₀

/-- `/descendant-or-self::node()/ q` over `inp`, when `q` is a relative path over `dos inp` -/
theorem rel_dos {ns : Option NsMap} {inp : Ast} {ts : List ETok} {t : Ast}
    (d : D ns (.RelativeLocationPath (dos inp)) ts t) :
    D ns (.RelativeLocationPath inp) (nodeE "descendant-or-self" ++ [.slash] ++ ts) t :=
  rel_prepend (.rel_step (step_node ns inp (by simp [axisNames]))) d

/-- `p//s` = `p/descendant-or-self::node()/s` -/
theorem rel_dslash {ns : Option NsMap} {inp t₁ t₂ : Ast} {ts₁ ts₂ : List ETok}
    (d₁ : D ns (.RelativeLocationPath inp) ts₁ t₁) (d₂ : D ns (.Step (dos t₁)) ts₂ t₂) :
    D ns (.RelativeLocationPath inp) (ts₁ ++ [.slashslash] ++ ts₂) t₂ ∧
      D ns (.RelativeLocationPath inp) (ts₁ ++ dosE ++ ts₂) t₂ := by
  refine ⟨.rel_abbrev (.abbrevRel d₁ d₂), ?_⟩
  have := D.rel_slash (D.rel_slash d₁ (step_node ns t₁ (ax := "descendant-or-self") (by simp [axisNames]))) d₂
  simpa [dosE, nodeE, List.append_assoc] using this

/-- `//p` = `/descendant-or-self::node()/p` -/
theorem abs_dslash {ns : Option NsMap} {ts : List ETok} {t : Ast}
    (d : D ns (.RelativeLocationPath (dos (.root "/"))) ts t) :
    D ns .AbsoluteLocationPath (.slashslash :: ts) t ∧ D ns .AbsoluteLocationPath (dosE ++ ts) t := by
  refine ⟨.abs_abbrev (.abbrevAbs d), ?_⟩
  have := D.abs_rel (rel_dos d)
  simpa [dosE, nodeE, List.append_assoc] using this

/-- `f//p` = `f/descendant-or-self::node()/p` for a FilterExpr `f` -/
theorem path_dslash {ns : Option NsMap} {ts₁ ts₂ : List ETok} {f t : Ast}
    (d₁ : D ns .FilterExpr ts₁ f) (d₂ : D ns (.RelativeLocationPath (dos f)) ts₂ t) :
    D ns .PathExpr (ts₁ ++ [.slashslash] ++ ts₂) t ∧ D ns .PathExpr (ts₁ ++ dosE ++ ts₂) t := by
  refine ⟨.path_slashslash d₁ d₂, ?_⟩
  have := D.path_slash d₁ (rel_dos d₂)
  simpa [dosE, nodeE, List.append_assoc] using this

/-- after an axis specifier a NodeTest is left alone; otherwise `child::` may have been put in front -/
theorem nodeTest_inv {ns : Option NsMap} {ax : String} {ts : List ETok} {info : AxisInfo} {b ts'}
    (h : NodeTestD ns ax ts info) (e : EE b ts ts') :
    ts' = ts ∨ (b = false ∧ ts' = .axisName "child" :: ts) := by
  have key : ∀ t r, ts = t :: r → nameTestStart t = true → (∀ c r', EE c r r' → r' = r) →
      ts' = ts ∨ (b = false ∧ ts' = .axisName "child" :: ts) := by
    intro t r hts hn hr
    subst hts
    obtain ⟨r', e', h' | ⟨hb, h'⟩⟩ := EE.nameTest_inv hn e
    · left; rw [h', hr _ _ e']
    · right; exact ⟨hb, by rw [h', hr _ _ e']⟩
  cases h with
  | wild => exact key _ _ rfl rfl (fun _ _ e => e.nil_inv)
  | nsWild _ => exact key _ _ rfl rfl (fun _ _ e => e.nil_inv)
  | qname _ => exact key _ _ rfl rfl (fun _ _ e => e.nil_inv)
  | nodeType _ =>
    refine key _ _ rfl rfl (fun _ _ e => ?_)
    obtain ⟨r₁, rfl, e₁⟩ := EE.cons_plain (t := .lparen) rfl e
    rw [EE.single_plain (t := .rparen) rfl e₁]
  | pi =>
    refine key _ _ rfl rfl (fun _ _ e => ?_)
    obtain ⟨r₁, rfl, e₁⟩ := EE.cons_plain (t := .lparen) rfl e
    obtain ⟨r₂, rfl, e₂⟩ := EE.cons_plain (t := .literal _) rfl e₁
    rw [EE.single_plain (t := .rparen) rfl e₂]

/-- **Abbreviations mean their expansions (grammar, classified tokens).**  If `ts` derives `a` from
`X` and `ts'` is `ts` with any set of its abbreviations written out, then `ts'` derives the same tree
`a` (from `X`, or from the unabbreviated non-terminal if `X` is one of the three `Abbreviated…`). -/
theorem D_expand {ns : Option NsMap} {X : NT} {ts : List ETok} {a : Ast} (h : D ns X ts a)
    {b : Bool} {ts' : List ETok} (e : EE b ts ts') : D ns (upNT X) ts' a := by
  induction h generalizing b ts' with
  | loc_rel _ ih => exact .loc_rel (ih e)
  | loc_abs _ ih => exact .loc_abs (ih e)
  | abs_root => rw [EE.single_plain (t := .slash) rfl e]; exact .abs_root
  | abs_rel _ ih =>
    obtain ⟨r', rfl, e'⟩ := EE.cons_plain (t := .slash) rfl e
    exact .abs_rel (ih e')
  | abs_abbrev _ ih => exact ih e
  | rel_step _ ih => exact .rel_step (ih e)
  | rel_slash _ _ ih₁ ih₂ =>
    obtain ⟨ts₁', ts₂', rfl, e₁, e₂⟩ := EE.mid_inv (tok := .slash) rfl e
    exact .rel_slash (ih₁ e₁) (ih₂ e₂)
  | rel_abbrev _ ih => exact ih e
  | step h₁ h₂ _ ih =>
    cases h₁ with
    | named hs =>
      obtain ⟨r', rfl, e'⟩ := EE.cons_plain (t := .axisName _) rfl (by simpa using e)
      obtain ⟨ts₂', ts₃', rfl, e₂, e₃⟩ := EE.append_inv e'
      rcases nodeTest_inv h₂ e₂ with rfl | ⟨hb, _⟩
      · simpa [upNT] using D.step (.named hs) h₂ (ih e₃)
      · cases hb
    | «abbrev» hab =>
      cases hab with
      | «attribute» =>
        obtain ⟨r', e', hr⟩ := EE.at_inv (by simpa using e)
        obtain ⟨ts₂', ts₃', rfl, e₂, e₃⟩ := EE.append_inv e'
        rcases nodeTest_inv h₂ e₂ with rfl | ⟨hb, _⟩
        · rcases hr with rfl | rfl
          · exact (step_attribute h₂ (ih e₃)).1
          · exact (step_attribute h₂ (ih e₃)).2
        · cases hb
      | child =>
        obtain ⟨ts₂', ts₃', rfl, e₂, e₃⟩ := EE.append_inv (by simpa using e)
        rcases nodeTest_inv h₂ e₂ with rfl | ⟨_, rfl⟩
        · exact (step_child h₂ (ih e₃)).1
        · exact (step_child h₂ (ih e₃)).2
  | step_abbrev _ ih => exact ih e
  | preds_nil => rw [e.nil_inv]; exact .preds_nil
  | preds_snoc _ _ ih₁ ih₂ =>
    obtain ⟨ts₁', ts₂', rfl, e₁, e₂⟩ := EE.append_inv e
    exact .preds_snoc (ih₁ e₁) (ih₂ e₂)
  | predicate _ ih =>
    obtain ⟨ts'', rfl, e'⟩ := EE.bracket_inv (l := .lbracket) (r := .rbracket) rfl rfl e
    exact .predicate (ih e')
  | predicateExpr _ ih => exact .predicateExpr (ih e)
  | abbrevAbs _ ih =>
    obtain ⟨r', e', rfl | rfl⟩ := EE.slashslash_inv e
    · exact (abs_dslash (ih e')).1
    · exact (abs_dslash (ih e')).2
  | abbrevRel _ _ ih₁ ih₂ =>
    obtain ⟨ts₁', ts₂', e₁, e₂, rfl | rfl⟩ := EE.mid_ss e
    · exact (rel_dslash (ih₁ e₁) (ih₂ e₂)).1
    · exact (rel_dslash (ih₁ e₁) (ih₂ e₂)).2
  | dot =>
    obtain ⟨r', e', rfl | rfl⟩ := EE.dot_inv e <;> rw [e'.nil_inv]
    · exact (step_self ns _).1
    · simpa [upNT] using (step_self ns _).2
  | dotdot =>
    obtain ⟨r', e', rfl | rfl⟩ := EE.dotdot_inv e <;> rw [e'.nil_inv]
    · exact (step_parent ns _).1
    · simpa [upNT] using (step_parent ns _).2
  | expr _ ih => exact .expr (ih e)
  | prim_var => rw [EE.single_plain (t := .varRef _ _) rfl e]; exact .prim_var
  | prim_group _ ih =>
    obtain ⟨ts'', rfl, e'⟩ := EE.bracket_inv (l := .lparen) (r := .rparen) rfl rfl e
    exact .prim_group (ih e')
  | prim_literal => rw [EE.single_plain (t := .literal _) rfl e]; exact .prim_literal
  | prim_number => rw [EE.single_plain (t := .number _) rfl e]; exact .prim_number
  | prim_call _ ih => exact .prim_call (ih e)
  | call_nil =>
    obtain ⟨r₁, rfl, e₁⟩ := EE.cons_plain (t := .funcName _ _) rfl e
    obtain ⟨r₂, rfl, e₂⟩ := EE.cons_plain (t := .lparen) rfl e₁
    rw [EE.single_plain (t := .rparen) rfl e₂]
    exact .call_nil
  | call_args _ ih =>
    obtain ⟨r₁, rfl, e₁⟩ := EE.cons_plain (t := .funcName _ _) rfl (by simpa using e)
    obtain ⟨ts'', h'', e'⟩ := EE.bracket_inv (l := .lparen) (r := .rparen) rfl rfl (by simpa using e₁)
    subst h''
    simpa [upNT] using D.call_args (ih e')
  | args_one _ ih => exact .args_one (ih e)
  | args_cons _ _ ih₁ ih₂ =>
    obtain ⟨ts₁', ts₂', rfl, e₁, e₂⟩ := EE.mid_inv (tok := .comma) rfl e
    exact .args_cons (ih₁ e₁) (ih₂ e₂)
  | argument _ ih => exact .argument (ih e)
  | path_loc _ ih => exact .path_loc (ih e)
  | path_filter _ ih => exact .path_filter (ih e)
  | path_slash _ _ ih₁ ih₂ =>
    obtain ⟨ts₁', ts₂', rfl, e₁, e₂⟩ := EE.mid_inv (tok := .slash) rfl e
    exact .path_slash (ih₁ e₁) (ih₂ e₂)
  | path_slashslash _ _ ih₁ ih₂ =>
    obtain ⟨ts₁', ts₂', e₁, e₂, rfl | rfl⟩ := EE.mid_ss e
    · exact (path_dslash (ih₁ e₁) (ih₂ e₂)).1
    · exact (path_dslash (ih₁ e₁) (ih₂ e₂)).2
  | filter_prim _ ih => exact .filter_prim (ih e)
  | filter_pred _ _ ih₁ ih₂ =>
    obtain ⟨ts₁', ts₂', rfl, e₁, e₂⟩ := EE.append_inv e
    exact .filter_pred (ih₁ e₁) (ih₂ e₂)
  | up hb _ ih =>
    obtain ⟨hX, hY⟩ := upNT_binary hb
    rw [hX]
    exact .up hb (hY ▸ ih e)
  | bin hb hm _ _ ih₁ ih₂ =>
    obtain ⟨hX, hY⟩ := upNT_binary hb
    obtain ⟨ts₁', ts₂', rfl, e₁, e₂⟩ := EE.mid_inv (binary_tok_plain hb hm) e
    rw [hX]
    exact .bin hb hm (hX ▸ ih₁ e₁) (hY ▸ ih₂ e₂)
  | unary_union _ ih => exact .unary_union (ih e)
  | unary_minus _ ih =>
    obtain ⟨r', rfl, e'⟩ := EE.cons_plain (t := .minus) rfl e
    exact .unary_minus (ih e')
  | unary _ ih => exact .unary (ih e)

/-- for a whole expression -/
theorem D_expr_expand {ns : Option NsMap} {ts ts' : List ETok} {a : Ast} {b : Bool}
    (h : D ns .Expr ts a) (e : EE b ts ts') : D ns .Expr ts' a :=
  D_expand h e

end XPathV.Lemmas.Abbrev
