import XPathV.Lemmas.Abbrev.Classify
/-!
# What `expandWith` does at the two extremes: nothing selected, everything selected

(`Full` as in "fully written out"; not `Spec.Full`.)

(The theorems "the written-out stream has the same tree" would also hold of the identity function;
these facts, with the examples of `Abbrev.lean`, say that `expandAbbrev` really writes everything out.)

* `expandWith_none`: nothing selected — nothing changes;
* `expandAbbrev_no_abbrev_tok`: with everything selected, no `@`, `.`, `..`, `//` token is left;
* `expandWith_fix`: the fully written-out stream is a fixed point of every `expandWith sel`
  — no step without an axis specifier is left either; `Expands_expandAbbrev`, `expandAbbrev_idem`;
* `expandAt_at`, `expandAt_dot`, `expandAt_dotdot`, `expandAt_slashslash`: selecting the one position
  `|pre|` of `pre ++ t :: post` replaces `t` by its expansion and nothing else (`expandWith_skip`,
  `expandWith_none_from`).
-/
namespace XPathV.Lemmas.Abbrev
open XPathV XPathV.Spec.Full

theorem expandWith_none_from (sel : Nat → Bool) (prev : Option ETok) (i : Nat) (toks : List TokV) :
    (∀ j, i ≤ j → sel j = false) → expandWith sel prev i toks = toks := by
  induction toks using tokInduction generalizing prev i with
  | nil => intro _; rfl
  | dollarName p l b rest ih => intro h; rw [expandWith.eq_2, ih _ _ (fun j hj => h j (by omega))]
  | dollar rest hne ih => intro h; rw [expandWith.eq_3 _ _ _ _ hne, ih _ _ (fun j hj => h j (by omega))]
  | cons t rest ht ih =>
    intro h
    rw [expandWith_cons ht, h i (Nat.le_refl i), emit_false, ih _ _ (fun j hj => h j (by omega))]
    rfl

theorem expandWith_none {sel : Nat → Bool} (hsel : ∀ j, sel j = false) (prev : Option ETok) (i : Nat)
    (toks : List TokV) : expandWith sel prev i toks = toks :=
  expandWith_none_from sel prev i toks (fun j _ => hsel j)

/-- not one of the abbreviation tokens `@`, `.`, `..`, `//` -/
def notAbbrevTok : TokV → Bool
  | .at | .dot | .dotdot | .slashslash => false
  | _ => true

theorem all_childPfx (b : Bool) (prev : Option ETok) (e : ETok) :
    (childPfx b prev e).all notAbbrevTok = true := by
  unfold childPfx
  split <;> rfl

theorem emit_true_ok (prev : Option ETok) (t : TokV) : (emit true prev t).all notAbbrevTok = true := by
  cases t
  case name | star => simp only [emit, expandWith, List.all_append, all_childPfx]; rfl
  all_goals rfl

theorem expandWith_all_ok (prev : Option ETok) (i : Nat) (toks : List TokV) :
    (expandWith (fun _ => true) prev i toks).all notAbbrevTok = true := by
  induction toks using tokInduction generalizing prev i with
  | nil => rfl
  | dollarName p l b rest ih => rw [expandWith.eq_2]; exact ih _ _
  | dollar rest hne ih => rw [expandWith.eq_3 _ _ _ _ hne]; exact ih _ _
  | cons t rest ht ih => rw [expandWith_cons ht, List.all_append, emit_true_ok, ih]; rfl

theorem expandWith_all_no_abbrev_tok (prev : Option ETok) (i : Nat) (toks : List TokV) :
    ∀ t ∈ expandWith (fun _ => true) prev i toks,
      t ≠ TokV.at ∧ t ≠ .dot ∧ t ≠ .dotdot ∧ t ≠ .slashslash := by
  intro t ht
  have h := List.all_eq_true.1 (expandWith_all_ok prev i toks) t ht
  cases t <;> first | (simp; done) | (simp [notAbbrevTok] at h)

theorem expandAbbrev_no_abbrev_tok (toks : List TokV) :
    ∀ t ∈ expandAbbrev toks, t ≠ TokV.at ∧ t ≠ .dot ∧ t ≠ .dotdot ∧ t ≠ .slashslash :=
  expandWith_all_no_abbrev_tok none 0 toks

/-! ## the fully written-out stream has nothing left to write out -/

theorem childPfx_nil {s : Bool} {p : Option ETok} {t : ETok} (h : (nameTestStart t && !isAx p) = false) :
    childPfx s p t = [] := by
  unfold childPfx
  rw [Bool.and_assoc, h]
  simp

theorem expandWith_axis_cons (sel : Nat → Bool) (q : Option ETok) (j : Nat) (s : String) (r : List TokV) :
    expandWith sel q j (.axis s :: r) = .axis s :: expandWith sel (some (.axisName s)) (j + 1) r := by
  simp only [expandWith]

theorem expandWith_nodeT (sel : Nat → Bool) (q : Option ETok) (j : Nat) (ax : String) (r : List TokV) :
    expandWith sel q j (nodeT ax ++ r) = nodeT ax ++ expandWith sel (some .rparen) (j + 4) r := by
  simp [nodeT, expandWith, classifyName_node, childPfx_nil, nameTestStart, isAx, isAxTok]

theorem expandWith_dosT (sel : Nat → Bool) (q : Option ETok) (j : Nat) (r : List TokV) :
    expandWith sel q j (dosT ++ r) = dosT ++ expandWith sel (some .slash) (j + 6) r := by
  have h := expandWith_nodeT sel (some .slash) (j + 1) "descendant-or-self" (.slash :: r)
  simp only [dosT, List.cons_append, List.append_assoc, List.nil_append, expandWith] at h ⊢
  rw [h]

/-- a name or `*` token `tk` with classification `t`, after full expansion, is left alone -/
theorem fix_child_case {sel' : Nat → Bool} {p p' : Option ETok} {i' : Nat} {t : ETok} {tk : TokV}
    {R : List TokV} (hag : Agree p p')
    (hcl : ∀ q j r, operatorPosition q = operatorPosition p →
      expandWith sel' q j (tk :: r) = childPfx (sel' j) q t ++ tk :: expandWith sel' (some t) (j + 1) r)
    (hax : nameTestStart t = true → ∀ j r, expandWith sel' (some (.axisName "child")) j (tk :: r)
      = childPfx (sel' j) (some (.axisName "child")) t ++ tk :: expandWith sel' (some t) (j + 1) r)
    (ih : ∀ j, expandWith sel' (some t) j R = R) :
    expandWith sel' p' i' (childPfx true p t ++ tk :: R) = childPfx true p t ++ tk :: R := by
  by_cases hc : (nameTestStart t && !isAx p) = true
  · have e : childPfx true p t = [.axis "child"] := by simp [childPfx, hc]
    simp only [Bool.and_eq_true] at hc
    rw [e, List.cons_append, List.nil_append, expandWith_axis_cons, hax hc.1,
      childPfx_nil (by simp [isAx, isAxTok]), List.nil_append, ih]
  · have hc' : (nameTestStart t && !isAx p) = false := by simpa using hc
    have hc'' : (nameTestStart t && !isAx p') = false := by rw [hag.2]; exact hc'
    rw [childPfx_nil hc', List.nil_append, hcl p' i' R hag.1, childPfx_nil hc'', List.nil_append, ih]

/-- **The fully written-out stream is a fixed point** of writing out any set of abbreviations. -/
theorem expandWith_fix (sel' : Nat → Bool) (p : Option ETok) (i : Nat) (toks : List TokV) :
    ∀ (p' : Option ETok) (i' : Nat), Agree p p' →
      expandWith sel' p' i' (expandWith (fun _ => true) p i toks) = expandWith (fun _ => true) p i toks := by
  -- the clauses of `expandWith`: 1 `[]`, 2 `$ name`, 3 `$`, 4 name, 5 `*`, 6 `@`, 7 `.`, 8 `..`, 9 `//`, then the plain tokens
  fun_induction expandWith (fun _ => true) p i toks
  case case1 => intro p' i' _; simp [expandWith]
  case case2 x i q l b rest ih =>
    intro p' i' _
    rw [expandWith.eq_2, ih _ _ (Agree.rfl' _)]
  case case3 x i rest hne ih =>
    intro p' i' _
    rw [expandWith.eq_3 _ _ _ _ (expandWith_head_not_name _ _ _ hne), ih _ _ (Agree.rfl' _)]
  case case4 prev i q l b rest t ih =>
    intro p' i' hag
    refine fix_child_case hag (fun q' j r hq => ?_) (fun hn j r => ?_) (fun j => ih _ j (Agree.rfl' _))
    · simp only [expandWith]
      rw [classifyName_congr hq]
    · simp only [expandWith]
      rw [classifyName_after_axis "child" hn]
  case case5 prev i rest t ih =>
    intro p' i' hag
    refine fix_child_case hag (fun q' j r hq => ?_) (fun hn j r => ?_) (fun j => ih _ j (Agree.rfl' _))
    · simp only [expandWith]
      rw [hq]
    · simp only [expandWith]
      rw [star_after_axis "child" hn]
  case case6 x i rest ih =>
    intro p' i' _
    simp only [if_true, expandWith]
    rw [ih (some (.axisName "attribute")) _ ⟨rfl, rfl⟩]
  case case7 x i rest ih =>
    intro p' i' _
    simp only [if_true]
    rw [expandWith_nodeT, ih (some .rparen) _ ⟨rfl, rfl⟩]
  case case8 x i rest ih =>
    intro p' i' _
    simp only [if_true]
    rw [expandWith_nodeT, ih (some .rparen) _ ⟨rfl, rfl⟩]
  case case9 x i rest ih =>
    intro p' i' _
    simp only [if_true]
    rw [expandWith_dosT, ih (some .slash) _ ⟨rfl, rfl⟩]
  all_goals
    rename_i ih
    intro p' i' _
    simp only [expandWith]
    rw [ih _ _ (Agree.rfl' _)]

theorem Expands_expandAbbrev {toks toks' : List TokV} (h : Expands (expandAbbrev toks) toks') :
    toks' = expandAbbrev toks := by
  obtain ⟨sel, rfl⟩ := h
  exact expandWith_fix sel none 0 toks none 0 (Agree.rfl' _)

theorem expandAbbrev_idem (toks : List TokV) : expandAbbrev (expandAbbrev toks) = expandAbbrev toks :=
  Expands_expandAbbrev (Expands.all _)

theorem expandAbbrev_final (toks : List TokV) (i : Nat) :
    expandAt i (expandAbbrev toks) = expandAbbrev toks :=
  Expands_expandAbbrev (Expands.one i _)

/-! ## a single occurrence: what `expandAt` does to `@`, `.`, `..`, `//` -/

/-- an unselected prefix is copied (the context `q` in which the rest is continued is not named) -/
theorem expandWith_skip (sel : Nat → Bool) (prev : Option ETok) (i : Nat) (pre : List TokV) :
    ∀ (rest : List TokV), (∀ j, i ≤ j → j < i + pre.length → sel j = false) →
      (∀ p l b r, rest = TokV.name p l b :: r → False) →
      ∃ q, expandWith sel prev i (pre ++ rest) = pre ++ expandWith sel q (i + pre.length) rest := by
  induction pre using tokInduction generalizing prev i with
  | nil => intro rest _ _; exact ⟨prev, rfl⟩
  | dollarName p l b pre' ih =>
    intro rest h hr
    obtain ⟨q, e⟩ := ih _ (i + 2) rest (fun j h₁ h₂ => h j (by omega) (by simp only [List.length_cons]; omega)) hr
    exact ⟨q, by rw [List.cons_append, List.cons_append, expandWith.eq_2, e, List.length_cons, List.length_cons,
      Nat.add_assoc i 2, Nat.add_comm 2]; rfl⟩
  | dollar pre' hne ih =>
    intro rest h hr
    obtain ⟨q, e⟩ := ih _ (i + 1) rest (fun j h₁ h₂ => h j (by omega) (by simp only [List.length_cons]; omega)) hr
    -- `pre' ++ rest` does not begin with a name either
    have hne' : ∀ p l b r, pre' ++ rest = TokV.name p l b :: r → False := by
      intro p l b r he
      cases pre' with
      | nil => exact hr p l b r he
      | cons t r' => exact hne p l b r' (by rw [(List.cons.inj he).1])
    exact ⟨q, by rw [List.cons_append, expandWith.eq_3 _ _ _ _ hne', e, List.length_cons, Nat.add_assoc i 1,
      Nat.add_comm 1]; rfl⟩
  | cons t pre' ht ih =>
    intro rest h hr
    obtain ⟨q, e⟩ := ih _ (i + 1) rest (fun j h₁ h₂ => h j (by omega) (by simp only [List.length_cons]; omega)) hr
    exact ⟨q, by rw [List.cons_append, expandWith_cons ht, h i (Nat.le_refl i) (by simp only [List.length_cons]; omega),
      emit_false, e, List.length_cons, Nat.add_assoc i 1, Nat.add_comm 1]; rfl⟩

/-- the single-occurrence form: only position `|pre|` selected, the token there is `t` with
replacement `repl` whatever the context -/
theorem expandAt_splice {t : TokV} {repl : List TokV} (pre post : List TokV)
    (hname : ∀ p l b, t ≠ TokV.name p l b)
    (hrepl : ∀ (sel : Nat → Bool) q k r, sel k = true →
      ∃ q', expandWith sel q k (t :: r) = repl ++ expandWith sel q' (k + 1) r) :
    expandAt pre.length (pre ++ t :: post) = pre ++ repl ++ post := by
  unfold expandAt
  obtain ⟨q, e⟩ := expandWith_skip (fun j => j == pre.length) none 0 pre (t :: post)
    (fun j _ h => by simp only [Nat.zero_add] at h; simp; omega)
    (fun p l b r h => hname p l b (by simp only [List.cons.injEq] at h; exact h.1))
  obtain ⟨q', e'⟩ := hrepl (fun j => j == pre.length) q (0 + pre.length) post (by simp)
  rw [e, e', expandWith_none_from _ _ _ _ (fun j hj => by simp; omega)]
  simp

/-- `@` at position `|pre|` becomes `attribute::` -/
theorem expandAt_at (pre post : List TokV) :
    expandAt pre.length (pre ++ .at :: post) = pre ++ [.axis "attribute"] ++ post :=
  expandAt_splice pre post (by simp) (fun sel q k r h => ⟨some .at, by simp [expandWith, h]⟩)

/-- `.` at position `|pre|` becomes `self::node()` -/
theorem expandAt_dot (pre post : List TokV) :
    expandAt pre.length (pre ++ .dot :: post) = pre ++ nodeT "self" ++ post :=
  expandAt_splice pre post (by simp) (fun sel q k r h => ⟨some .dot, by simp [expandWith, h]⟩)

/-- `..` at position `|pre|` becomes `parent::node()` -/
theorem expandAt_dotdot (pre post : List TokV) :
    expandAt pre.length (pre ++ .dotdot :: post) = pre ++ nodeT "parent" ++ post :=
  expandAt_splice pre post (by simp) (fun sel q k r h => ⟨some .dotdot, by simp [expandWith, h]⟩)

/-- `//` at position `|pre|` becomes `/descendant-or-self::node()/` -/
theorem expandAt_slashslash (pre post : List TokV) :
    expandAt pre.length (pre ++ .slashslash :: post) = pre ++ dosT ++ post :=
  expandAt_splice pre post (by simp) (fun sel q k r h => ⟨some .slashslash, by simp [expandWith, h]⟩)

end XPathV.Lemmas.Abbrev
