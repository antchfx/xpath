import XPathV.Lemmas.Abbrev.Defs
/-!
# Writing out abbreviations commutes with the lexical classification of §3.7

The classification of a name or `*` depends on the token before it, and writing out an abbreviation
changes tokens.  It changes them harmlessly: every replacement ends in a token that is in operator
position exactly when the original was (`@` / `attribute::`: no;  `.` `..` / `)`: yes;  `//` / `/`:
no;  `child::` in front of a NameTest: the NameTest was not in operator position, or is one whatever
precedes it).  Hence

`classify_expand : EE (isAx p) (classify p toks) (classify p' (expandWith sel p i toks))`

for contexts `p`, `p'` that agree on `operatorPosition` and on being an axis specifier.
-/
namespace XPathV.Lemmas.Abbrev
open XPathV XPathV.Spec.Full

theorem classifyName_congr {p p' : Option ETok} (h : operatorPosition p' = operatorPosition p)
    (q l : String) (b : Bool) : classifyName p' q l b = classifyName p q l b := by
  simp only [classifyName, h]

/-- a name that is a NameTest / NodeType in its context is the same one after an axis specifier -/
theorem classifyName_after_axis {p : Option ETok} {q l : String} {b : Bool} (s : String)
    (h : nameTestStart (classifyName p q l b) = true) :
    classifyName (some (.axisName s)) q l b = classifyName p q l b := by
  unfold classifyName at h ⊢
  by_cases hl : (l == "*") = true
  · simp only [hl, if_true]
  · simp only [hl] at h ⊢
    cases hop : operatorPosition p
    · simp [operatorPosition]
    · by_cases hq : (q == "") = true
      · simp [hop, hq, nameTestStart] at h
      · simp only [hq, Bool.and_false, Bool.false_eq_true, if_false, operatorPosition] at h ⊢

theorem star_after_axis {p : Option ETok} (s : String)
    (h : nameTestStart (if operatorPosition p then ETok.mul else ETok.wild) = true) :
    (if operatorPosition (some (.axisName s)) then ETok.mul else ETok.wild)
      = (if operatorPosition p then ETok.mul else ETok.wild) := by
  cases hop : operatorPosition p
  · simp [operatorPosition]
  · simp [hop, nameTestStart] at h

theorem classify_name_cons (prev : Option ETok) (q l : String) (b : Bool) (rest : List TokV) :
    classify prev (.name q l b :: rest)
      = classifyName prev q l b :: classify (some (classifyName prev q l b)) rest := by
  simp [classify]

theorem classify_star_cons (prev : Option ETok) (rest : List TokV) :
    classify prev (.star :: rest)
      = (if operatorPosition prev then ETok.mul else ETok.wild) ::
          classify (some (if operatorPosition prev then ETok.mul else ETok.wild)) rest := by
  simp [classify]

theorem classify_axis_cons (prev : Option ETok) (s : String) (rest : List TokV) :
    classify prev (.axis s :: rest) = .axisName s :: classify (some (.axisName s)) rest := by
  simp [classify]

theorem classifyName_node (s : String) :
    classifyName (some (.axisName s)) "" "node" true = .nodeType "node" := by
  simp [classifyName, operatorPosition, nodeTypes]

/-- `ax::node()` classified -/
theorem classify_nodeT (prev : Option ETok) (ax : String) (rest : List TokV) :
    classify prev (nodeT ax ++ rest) = nodeE ax ++ classify (some .rparen) rest := by
  simp [nodeT, nodeE, classify, classifyName_node]

/-- `/descendant-or-self::node()/` classified -/
theorem classify_dosT (prev : Option ETok) (rest : List TokV) :
    classify prev (dosT ++ rest) = dosE ++ classify (some .slash) rest := by
  have h := classify_nodeT (some .slash) "descendant-or-self" (.slash :: rest)
  simp only [dosT, dosE, List.cons_append, List.append_assoc, List.nil_append, classify] at h ⊢
  rw [h]

/-! ## one token at a time

`classify` and `expandWith` treat every token but `$` by itself: they write something for it and go on
with its classification as the new context.  (`$` is fused with a name that follows it.) -/

/-- the classification of the single token `t` after `prev` -/
def cls (prev : Option ETok) (t : TokV) : ETok := (classify prev [t]).headD .invalid

/-- what `expandWith` writes for the single token `t` after `prev`, selected (`b`) or not -/
def emit (b : Bool) (prev : Option ETok) (t : TokV) : List TokV := expandWith (fun _ => b) prev 0 [t]

theorem classify_cons {t : TokV} (ht : t ≠ .dollar) (prev : Option ETok) (rest : List TokV) :
    classify prev (t :: rest) = cls prev t :: classify (some (cls prev t)) rest := by
  cases t
  case dollar => exact absurd rfl ht
  all_goals rfl

theorem expandWith_cons {t : TokV} (ht : t ≠ .dollar) (sel : Nat → Bool) (prev : Option ETok) (i : Nat)
    (rest : List TokV) :
    expandWith sel prev i (t :: rest) = emit (sel i) prev t ++ expandWith sel (some (cls prev t)) (i + 1) rest := by
  cases t
  case dollar => exact absurd rfl ht
  case name | star | dot | dotdot | slashslash =>
    simp only [emit, expandWith, List.append_assoc, List.cons_append, List.nil_append, List.append_nil]
    rfl
  all_goals rfl

theorem emit_false (prev : Option ETok) (t : TokV) : emit false prev t = [t] := by
  cases t <;> rfl

/-- induction on a token stream the way `classify` and `expandWith` walk it.  In the proofs by this
induction `expandWith.eq_2` is the clause of the definition for `$ name …`, `expandWith.eq_3` and
`classify.eq_3` the one for `$` before anything else (their side condition: the rest begins with no name). -/
theorem tokInduction {P : List TokV → Prop} (nil : P [])
    (dollarName : ∀ p l b rest, P rest → P (.dollar :: .name p l b :: rest))
    (dollar : ∀ rest, (∀ p l b r, rest = TokV.name p l b :: r → False) → P rest → P (.dollar :: rest))
    (cons : ∀ t rest, t ≠ .dollar → P rest → P (t :: rest)) (toks : List TokV) : P toks := by
  generalize hn : toks.length = n
  induction n using Nat.strongRecOn generalizing toks with
  | _ n ih =>
    subst hn
    cases toks with
    | nil => exact nil
    | cons t rest =>
      by_cases ht : t = .dollar
      · subst ht
        by_cases h : ∃ p l b r, rest = .name p l b :: r
        · obtain ⟨p, l, b, r, rfl⟩ := h
          exact dollarName p l b r (ih _ (by simp only [List.length_cons]; omega) r rfl)
        · exact dollar rest (fun p l b r e => h ⟨p, l, b, r, e⟩) (ih _ (by simp) rest rfl)
      · exact cons t rest ht (ih _ (by simp) rest rfl)

/-- the contexts `p` (original stream) and `p'` (written-out stream) agree on what matters -/
def Agree (p p' : Option ETok) : Prop :=
  operatorPosition p' = operatorPosition p ∧ isAx p' = isAx p

theorem Agree.rfl' (p : Option ETok) : Agree p p := ⟨rfl, rfl⟩

/-- a name or `*` token `tk` classified as `t` in context `p` and as the same `t` in context `p'`
(`hcl`), and as `t` again after an axis specifier when it is a NodeTest start (`hax`) -/
theorem child_case {sel : Bool} {p p' : Option ETok} {t : ETok} {tk : TokV} {rs : List ETok} {rest' : List TokV}
    (hag : Agree p p')
    (hcl : ∀ q r, operatorPosition q = operatorPosition p → classify q (tk :: r) = t :: classify (some t) r)
    (hax : nameTestStart t = true → ∀ r, classify (some (.axisName "child")) (tk :: r) = t :: classify (some t) r)
    (ih : EE (isAxTok t) rs (classify (some t) rest')) :
    EE (isAx p) (t :: rs) (classify p' (childPfx sel p t ++ tk :: rest')) := by
  unfold childPfx
  by_cases hc : (sel && nameTestStart t && !isAx p) = true
  · simp only [hc, if_true, List.cons_append, List.nil_append, classify_axis_cons]
    simp only [Bool.and_eq_true, Bool.not_eq_true'] at hc
    obtain ⟨⟨_, hn⟩, hp⟩ := hc
    rw [hax hn, hp]
    have hf : isAxTok t = false := by cases t <;> first | rfl | cases hn
    rw [hf] at ih
    exact .child hn ih
  · simp only [hc, Bool.false_eq_true, if_false, List.nil_append]
    rw [hcl p' rest' hag.1]
    exact .keep ih

theorem emit_head_not_name (b : Bool) (prev : Option ETok) {t : TokV} (h : ∀ p l c, t ≠ .name p l c) :
    ∀ p l c r X, emit b prev t ++ X ≠ .name p l c :: r := by
  cases b
  · intro p l c r X e
    rw [emit_false] at e
    exact h p l c (List.cons.inj e).1
  · cases t
    case name p l c => exact absurd rfl (h p l c)
    case star =>
      intro p l c r X
      simp only [emit, expandWith, childPfx, List.append_assoc, List.cons_append, List.nil_append]
      generalize (if operatorPosition prev = true then ETok.mul else ETok.wild) = t'
      split <;> (intro e; cases e)
    all_goals
      intro p l c r X e
      cases e

/-- the written-out stream begins with a name token only if the original does (so a `$` is fused
with the token after it in the one exactly when it is in the other) -/
theorem expandWith_head_not_name (sel : Nat → Bool) (prev : Option ETok) (i : Nat) {rest : List TokV}
    (h : ∀ (p l : String) (b : Bool) (r : List TokV), rest = .name p l b :: r → False) :
    ∀ (p l : String) (b : Bool) (r : List TokV), expandWith sel prev i rest = .name p l b :: r → False := by
  intro p l b r e
  cases rest with
  | nil => cases e
  | cons t rest' =>
    by_cases ht : t = .dollar
    · subst ht
      cases rest' with
      | nil => cases e
      | cons t' r' => cases t' <;> cases e
    · rw [expandWith_cons ht] at e
      exact emit_head_not_name (sel i) prev (fun p l c e' => h p l c rest' (e' ▸ rfl)) _ _ _ _ _ e

/-- one token of `classify_expand`: `rs`, `R` are the classified and the written-out rest -/
theorem emit_EE (b : Bool) {p p' : Option ETok} (hag : Agree p p') {t : TokV} (ht : t ≠ .dollar)
    {rs : List ETok} {R : List TokV}
    (ih : ∀ q, Agree (some (cls p t)) q → EE (isAxTok (cls p t)) rs (classify q R)) :
    EE (isAx p) (cls p t :: rs) (classify p' (emit b p t ++ R)) := by
  cases t
  case dollar => exact absurd rfl ht
  case name q l c =>
    simp only [emit, expandWith, List.append_assoc, List.cons_append, List.nil_append]
    refine child_case hag (fun q' r hq => ?_) (fun hn r => ?_) (ih _ (Agree.rfl' _))
    · rw [classify_name_cons, classifyName_congr hq]; rfl
    · rw [classify_name_cons, classifyName_after_axis "child" hn]; rfl
  case star =>
    simp only [emit, expandWith, List.append_assoc, List.cons_append, List.nil_append]
    refine child_case hag (fun q' r hq => ?_) (fun hn r => ?_) (ih _ (Agree.rfl' _))
    · rw [classify_star_cons, hq]; rfl
    · rw [classify_star_cons, star_after_axis "child" hn]; rfl
  case «at» =>
    cases b
    · exact .keep (ih _ (Agree.rfl' _))
    · exact .at (ih _ ⟨rfl, rfl⟩)
  case dot =>
    cases b
    · exact .keep (ih _ (Agree.rfl' _))
    · simp only [emit, expandWith, if_true, List.append_nil]
      rw [classify_nodeT]
      exact .dot (ih _ ⟨rfl, rfl⟩)
  case dotdot =>
    cases b
    · exact .keep (ih _ (Agree.rfl' _))
    · simp only [emit, expandWith, if_true, List.append_nil]
      rw [classify_nodeT]
      exact .dotdot (ih _ ⟨rfl, rfl⟩)
  case slashslash =>
    cases b
    · exact .keep (ih _ (Agree.rfl' _))
    · simp only [emit, expandWith, if_true, List.append_nil]
      rw [classify_dosT]
      exact .slashslash (ih _ ⟨rfl, rfl⟩)
  all_goals exact .keep (ih _ (Agree.rfl' _))

/-- **Classification commutes with expansion.** -/
theorem classify_expand (sel : Nat → Bool) (p : Option ETok) (toks : List TokV) :
    ∀ (p' : Option ETok) (i : Nat), Agree p p' →
      EE (isAx p) (classify p toks) (classify p' (expandWith sel p i toks)) := by
  induction toks using tokInduction generalizing p with
  | nil => intro p' i _; exact .nil
  | dollarName q l b rest ih =>
    intro p' i _
    rw [expandWith.eq_2]
    by_cases hl : (l == "*") = true
    · simp only [classify, hl, if_true]
      exact .keep (.keep (ih (some .invalid) _ _ (Agree.rfl' _)))
    · simp only [classify, hl, Bool.false_eq_true, if_false]
      exact .keep (ih (some (.varRef q l)) _ _ (Agree.rfl' _))
  | dollar rest hne ih =>
    intro p' i _
    rw [expandWith.eq_3 _ _ _ _ hne, classify.eq_3 _ _ hne, classify.eq_3 _ _ (expandWith_head_not_name sel _ _ hne)]
    exact .keep (ih (some .invalid) _ _ (Agree.rfl' _))
  | cons t rest ht ih =>
    intro p' i hag
    rw [classify_cons ht, expandWith_cons ht]
    exact emit_EE (sel i) hag ht (fun q hq => ih _ q _ hq)

end XPathV.Lemmas.Abbrev
