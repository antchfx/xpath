import XPathV.Lemmas.FlatFiltered
import XPathV.Lemmas.StringFns.Basic
/-!
# C02, extension — truth of the additional predicate forms: model value vs oracle value

Agreement statements next to `PredSem.PathOK` / `PredSem.PredOK`:

* `SeqOK`    — plan and path agree as *sequences*: the engine's selected sequence, the node-set value
               `evalP` makes of it and the oracle's node list are one and the same list.  It follows
               from `PathOK` when both lists are strictly increasing in document order
               (`seqOK_of_pathOK`) — which is what `FlatFiltered` proves for flat paths.
* `StrValOK` — plan and expression evaluate to the same string.
* `StrArgOK` — plan and expression evaluate to the same string or node list (a first argument of
               `contains` / `starts-with` / `ends-with`).

Per-form truth lemmas: `strValOK_*` (literal, `local-name()`, `local-name(P)`), `pathOK_group`,
`predOK_strTest2` (`contains` / `starts-with` / `ends-with`, by `Agree.call2`); every comparison form —
`predOK_countR/L` (`count(P) op n`, `n op count(P)`), `predOK_strCmp` (string `=`/`!=` literal),
`predOK_cmpPath` (`P op Q` for two paths of any shape), `predOK_cmpStrR` / `predOK_cmpStrL`
(`P op 'lit'`, `'lit' op P`), all six operators — is `PredSem.predOK_cmp` applied to what is known of
the two operands (`PathOK.vrel`, `SeqOK.exact`, `StrValOK.exact`).
-/
namespace XPathV.PredSem2
open XPathV XPathV.Model XPathV.PathSem XPathV.PredSem XPathV.Sem NumAlg
open XPathV.Theorems.C08 (emb)
open XPathV.StringFns (StrLike)

variable {F : Type} [NumAlg F]

/-! ## sequences -/

/-- plan `pl` and path `p` agree at context `c` as sequences: the selected sequence, the node-set
value and the oracle's node list coincide -/
def SeqOK (d : Doc) (cfg : ECfg) (pl : Plan) (p : Ast) (c : Spec.Ctx) : Prop :=
  ∃ out ns g, sel (F := F) d cfg pl c.node = .ok out ∧ refs out = ns ∧
    evalP (F := F) d cfg pl c.node = .ok (.nodes ns) ∧
    Spec.eval (F := F) d p c = .ok (.val (.nodes ns) g)

theorem nodesVal_eq_of_sorted (d : Doc) (cfg : ECfg) (out : List Item) (ns : List Ref)
    (hm : ∀ x, x ∈ refs out ↔ x ∈ ns) (hv : ∀ x ∈ ns, validRef d x = true)
    (hs1 : (refs out).Pairwise (fun a b => Ref.lt a b = true))
    (hs2 : ns.Pairwise (fun a b => Ref.lt a b = true)) :
    refs out = ns ∧ nodesVal d cfg out = ns := by
  have e1 : refs out = ns := DocOrder.sorted_ext _ _ hs1 hs2 hm
  refine ⟨e1, ?_⟩
  unfold nodesVal
  split
  · refine DocOrder.sorted_ext _ _ (DocOrder.docOrder_sorted d _) hs2 (fun x => ?_)
    rw [mem_docOrder, hm]
    exact ⟨fun h => h.1, fun h => ⟨h, hv x h⟩⟩
  · exact e1

/-- set agreement + both sides strictly increasing in document order = sequence agreement -/
theorem seqOK_of_pathOK (d : Doc) (cfg : ECfg) (pl : Plan) (p : Ast) (c : Spec.Ctx)
    (h : PathOK (F := F) d cfg pl p c)
    (hs1 : ∀ out, sel (F := F) d cfg pl c.node = .ok out →
      (refs out).Pairwise (fun a b => Ref.lt a b = true))
    (hs2 : ∀ ns g, Spec.eval (F := F) d p c = .ok (.val (.nodes ns) g) →
      ns.Pairwise (fun a b => Ref.lt a b = true)) :
    SeqOK (F := F) d cfg pl p c := by
  obtain ⟨out, ns, g, hsel, hE, hS, hm, hv, _⟩ := h
  obtain ⟨e1, e2⟩ := nodesVal_eq_of_sorted d cfg out ns hm hv (hs1 out hsel) (hs2 ns g hS)
  exact ⟨out, ns, g, hsel, e1, by rw [hE, e2], hS⟩

/-- … which is exact agreement of the values -/
theorem SeqOK.exact {d : Doc} {cfg : ECfg} {pl : Plan} {p : Ast} {c : Spec.Ctx}
    (h : SeqOK (F := F) d cfg pl p c) : Agree (F := F) d cfg (ExactK .set) pl p c :=
  let ⟨_, ns, g, _, _, hE, hS⟩ := h; ⟨_, .nodes ns, g, hE, hS, rfl, rfl⟩

/-! ## parenthesised paths -/

theorem sel_group (d : Doc) (cfg : ECfg) (pl : Plan) (c : Ref) (ins : List Item)
    (h : sel (F := F) d cfg pl c = .ok ins) :
    sel (F := F) d cfg (.group pl) c = .ok (numbered (refs ins)) := by
  simp only [sel, h, bind, Except.bind, refs]

theorem pathOK_group (d : Doc) (cfg : ECfg) (pl : Plan) (p : Ast) (c : Spec.Ctx)
    (h : PathOK (F := F) d cfg pl p c) : PathOK (F := F) d cfg (.group pl) (.group p) c := by
  obtain ⟨out, ns, g, hsel, hE, hS, hm, hv, _⟩ := h
  refine ⟨numbered (refs out), ns, none, sel_group d cfg pl c.node out hsel, ?_, ?_, ?_, hv,
    by intro gs h; cases h⟩
  · rw [ArithSem.evalP_group, hE]
    simp only [nodesVal, numbered_refs]
  · exact ArithSem.eval_group d p c _ g hS
  · intro x; rw [numbered_refs]; exact hm x

/-! ## strings -/

/-- plan and expression evaluate to the same string -/
def StrValOK (d : Doc) (cfg : ECfg) (pl : Plan) (a : Ast) (c : Spec.Ctx) : Prop :=
  ∃ s g, evalP (F := F) d cfg pl c.node = .ok (.str s) ∧
    Spec.eval (F := F) d a c = .ok (.val (.str s) g)

/-- plan and expression evaluate to the same string or node list -/
def StrArgOK (d : Doc) (cfg : ECfg) (pl : Plan) (a : Ast) (c : Spec.Ctx) : Prop :=
  ∃ v g, StrLike v ∧ evalP (F := F) d cfg pl c.node = .ok (emb v) ∧
    Spec.eval (F := F) d a c = .ok (.val v g)

theorem StrValOK.strArgOK {d : Doc} {cfg : ECfg} {pl : Plan} {a : Ast} {c : Spec.Ctx}
    (h : StrValOK (F := F) d cfg pl a c) : StrArgOK (F := F) d cfg pl a c := by
  obtain ⟨s, g, hE, hS⟩ := h
  exact ⟨.str s, g, .str s, hE, hS⟩

theorem StrValOK.exact {d : Doc} {cfg : ECfg} {pl : Plan} {a : Ast} {c : Spec.Ctx}
    (h : StrValOK (F := F) d cfg pl a c) : Agree (F := F) d cfg (ExactK .str) pl a c :=
  let ⟨s, g, hE, hS⟩ := h; ⟨_, .str s, g, hE, hS, rfl, rfl⟩

theorem SeqOK.strArgOK {d : Doc} {cfg : ECfg} {pl : Plan} {p : Ast} {c : Spec.Ctx}
    (h : SeqOK (F := F) d cfg pl p c) : StrArgOK (F := F) d cfg pl p c := by
  obtain ⟨out, ns, g, _, _, hE, hS⟩ := h
  exact ⟨.nodes ns, g, .nodes ns, hE, hS⟩

theorem strValOK_lit (d : Doc) (cfg : ECfg) (s : String) (c : Spec.Ctx) :
    StrValOK (F := F) d cfg (.constStr s) (.str s) c :=
  ⟨s, none, evalP_constStr d cfg s c.node, eval_str d s c⟩

/-- `local-name()` without argument: the context node, on both sides -/
theorem evalP_localName0 (d : Doc) (cfg : ECfg) (c : Ref) :
    evalP (F := F) d cfg (.func "local-name" .nil .pnil) c = .ok (.str (localName d c)) := by
  rw [evalP_func0, callFn_localName]; rfl

theorem eval_localName0 (d : Doc) (pfx : String) (c : Spec.Ctx) :
    Spec.eval (F := F) d (.call "local-name" pfx .anil) c =
      .ok (.val (.str (localName d c.node)) none) := by
  simp only [Spec.eval, bind, Except.bind, Spec.Res.argList]
  rfl

theorem strValOK_localName0 (d : Doc) (cfg : ECfg) (pfx : String) (c : Spec.Ctx) :
    StrValOK (F := F) d cfg (.func "local-name" .nil .pnil) (.call "local-name" pfx .anil) c :=
  ⟨_, none, evalP_localName0 d cfg c.node, eval_localName0 d pfx c⟩

/-- the local name of the first node of a list, `""` for the empty list -/
def firstLocalName (d : Doc) : List Ref → String
  | [] => ""
  | r :: _ => localName d r

/-- `local-name(P)`: the engine reports the first node of the *selected sequence* -/
theorem evalP_localName1 (d : Doc) (cfg : ECfg) (pl : Plan) (c : Ref) (out : List Item)
    (h : sel (F := F) d cfg pl c = .ok out) :
    evalP (F := F) d cfg (.func "local-name" .nil (.pcons pl .pnil)) c =
      .ok (.str (firstLocalName d (refs out))) := by
  rw [evalP]
  simp only [argVals, h, bind, Except.bind, pure, Except.pure, beq_self_eq_true, Bool.or_true,
    Bool.true_or, ↓reduceIte, refs]
  cases hl : out.map (·.r) with
  | nil => rw [callFn_localName]; rfl
  | cons r t => rw [callFn_localName]; rfl

theorem spec_localName1 (d : Doc) (ctx : Spec.Ctx) (l : List Ref) :
    Spec.callFn (F := F) d ctx "local-name" [.nodes l] = .ok (.str (firstLocalName d l)) := by
  rw [Spec.callFn_localName1]
  cases l <;> rfl

theorem strValOK_localName1 (d : Doc) (cfg : ECfg) (pl : Plan) (p : Ast) (pfx : String)
    (c : Spec.Ctx) (h : SeqOK (F := F) d cfg pl p c) :
    StrValOK (F := F) d cfg (.func "local-name" .nil (.pcons pl .pnil))
      (.call "local-name" pfx (.acons p .anil)) c := by
  obtain ⟨out, ns, g, hsel, hr, _, hS⟩ := h
  refine ⟨firstLocalName d ns, none, ?_, ?_⟩
  · rw [evalP_localName1 d cfg pl c.node out hsel, hr]
  · rw [ArithSem.eval_call1 d "local-name" pfx p c _ g hS, spec_localName1]
    rfl

/-! ## string `=` / `!=` literal -/

/-- `=` and `!=` -/
def eqOps : List String := ["=", "!="]

theorem eqOps_cmpOps {op : String} (h : op ∈ eqOps) : op ∈ cmpOps := by
  simp only [eqOps, List.mem_cons, List.not_mem_nil, or_false] at h
  rcases h with rfl | rfl <;> simp [cmpOps]

theorem predOK_strCmp (d : Doc) (cfg : ECfg) (op : String) (hop : op ∈ eqOps) (pl : Plan) (a : Ast)
    (lit : String) (c : Spec.Ctx) (h : StrValOK (F := F) d cfg pl a c) :
    PredOK (F := F) d cfg (.logical op pl (.constStr lit)) (.oper op a (.str lit)) c :=
  predOK_cmp (eqOps_cmpOps hop) (h.exact.mono ExactK.vrel) (agree_str_lit lit)

/-! ## `contains` / `starts-with` / `ends-with` against a literal -/

/-- the string tests with a string-or-node-set first argument and a string second argument -/
def strTests : List String := ["contains", "starts-with", "ends-with"]

theorem strTests_not_nameFn {name : String} (hn : name ∈ strTests) :
    (name == "name" || name == "local-name" || name == "namespace-uri") = false := by
  simp only [strTests, List.mem_cons, List.not_mem_nil, or_false] at hn
  rcases hn with rfl | rfl | rfl <;> decide

theorem eval_call2 (d : Doc) (name pfx : String) (a b : Ast) (ctx : Spec.Ctx) (v w : Spec.Value F)
    (g g' : Option (List (List Ref))) (ha : Spec.eval (F := F) d a ctx = .ok (.val v g))
    (hb : Spec.eval (F := F) d b ctx = .ok (.val w g')) :
    Spec.eval (F := F) d (.call name pfx (.acons a (.acons b .anil))) ctx =
      (Spec.callFn d ctx name [v, w]).map (fun x => Spec.Res.val x none) := by
  refine (StringFns.eval_call d ctx name pfx [a, b] [v, w]
    (.cons ⟨g, ha⟩ (.cons ⟨g', hb⟩ .nil))).trans ?_
  cases Spec.callFn d ctx name [v, w] <;> rfl

/-- **`name(S, T)` for `name ∈ {contains, starts-with, ends-with}` with a string or a node list in
EITHER position** (after the repair of `containsFunc`/`startwithFunc`/`endwithFunc`: the second
argument is read like the first): a boolean on both sides, the same one — the test on the two
string-values — whenever each argument evaluates to the same string or node list on both sides -/
theorem predOK_strTest2 (d : Doc) (cfg : ECfg) (name : String) (hn : name ∈ strTests) (pfx : String)
    (pl1 pl2 : Plan) (a b : Ast) (c : Spec.Ctx) (h1 : StrArgOK (F := F) d cfg pl1 a c)
    (h2 : StrArgOK (F := F) d cfg pl2 b c) :
    PredOK (F := F) d cfg (.func name .nil (.pcons pl1 (.pcons pl2 .pnil)))
      (.call name pfx (.acons a (.acons b .anil))) c := by
  obtain ⟨v, g, hv, hE, hS⟩ := h1
  obtain ⟨w, g', hw, hE', hS'⟩ := h2
  refine (Agree.call2 (Ra := fun m x => StrLike x ∧ m = emb x) (Rb := fun m x => StrLike x ∧ m = emb x)
    pfx .nil (strTests_not_nameFn hn) ⟨_, v, g, hE, hS, hv, rfl⟩ ⟨_, w, g', hE', hS', hw, rfl⟩
    fun ma va mb vb ha hb => ?_).as ExactK.predR
  obtain ⟨hva, rfl⟩ := ha
  obtain ⟨hvb, rfl⟩ := hb
  obtain ⟨m1, m2⟩ :=
    StringFns.fn_strtest_strlike_spec (F := F) d cfg .nil c.node none c name hn va vb hva hvb
  exact ⟨.bool _, rfl, m1, m2⟩

/-- `name(S, 'lit')` for `name ∈ {contains, starts-with, ends-with}`: a boolean on both sides, the
same one, whenever the first argument evaluates to the same string or node list on both sides -/
theorem predOK_strTest (d : Doc) (cfg : ECfg) (name : String) (hn : name ∈ strTests) (pfx : String)
    (pl : Plan) (a : Ast) (lit : String) (c : Spec.Ctx) (h : StrArgOK (F := F) d cfg pl a c) :
    PredOK (F := F) d cfg (.func name .nil (.pcons pl (.pcons (.constStr lit) .pnil)))
      (.call name pfx (.acons a (.acons (.str lit) .anil))) c :=
  predOK_strTest2 d cfg name hn pfx pl (.constStr lit) a (.str lit) c h (strValOK_lit d cfg lit c).strArgOK

/-! ## `count(P) op n`, `n op count(P)` -/

theorem evalP_count (d : Doc) (cfg : ECfg) (pl : Plan) (c : Ref) (ns : List Ref)
    (h : evalP (F := F) d cfg pl c = .ok (.nodes ns)) :
    evalP (F := F) d cfg (.func "count" .nil (.pcons pl .pnil)) c =
      .ok (.num (ofNat ns.length)) := by
  rw [evalP_func1 d cfg "count" .nil pl c (by decide), h, callFn_count]; rfl

theorem eval_count (d : Doc) (pfx : String) (p : Ast) (c : Spec.Ctx) (ns : List Ref)
    (g : Option (List (List Ref))) (h : Spec.eval (F := F) d p c = .ok (.val (.nodes ns) g)) :
    Spec.eval (F := F) d (.call "count" pfx (.acons p .anil)) c =
      .ok (.val (.num (ofNat ns.length)) none) := by
  rw [ArithSem.eval_call1 d "count" pfx p c _ g h, Spec.callFn_count]
  rfl

/-- **`count(P)` for a general path `P`** (no flatness): both sides yield a number of the form
`ofNat m` / `ofNat n`; the engine's `m` is the length of the selected sequence (with its
repetitions), the oracle's `n` the size of the node-set — they need not be equal, but one is zero
exactly when the other is.  (Equality `m = n` is what `SeqOK` adds for flat paths.) -/
theorem count_general (d : Doc) (cfg : ECfg) (pfx : String) (pl : Plan) (p : Ast) (c : Spec.Ctx)
    (h : PathOK (F := F) d cfg pl p c) :
    ∃ m n : Nat,
      evalP (F := F) d cfg (.func "count" .nil (.pcons pl .pnil)) c.node = .ok (.num (ofNat m)) ∧
      Spec.eval (F := F) d (.call "count" pfx (.acons p .anil)) c = .ok (.val (.num (ofNat n)) none) ∧
      (m = 0 ↔ n = 0) := by
  obtain ⟨out, ns, g, _, hE, hS, hm, hv, _⟩ := h
  refine ⟨(nodesVal d cfg out).length, ns.length, evalP_count d cfg pl c.node _ hE,
    eval_count d pfx p c ns g hS, ?_⟩
  have := CmpSem.isEmpty_congr_mem _ _ (mem_nodesVal d cfg out ns hm hv)
  rw [List.length_eq_zero_iff, List.length_eq_zero_iff, ← List.isEmpty_iff, ← List.isEmpty_iff, this]

/-- `count(P) op n` -/
theorem predOK_countR (d : Doc) (cfg : ECfg) (op : String) (hop : op ∈ cmpOps) (pfx : String)
    (pl : Plan) (p : Ast) (lex : String) (c : Spec.Ctx) (h : SeqOK (F := F) d cfg pl p c) :
    PredOK (F := F) d cfg (.logical op (.func "count" .nil (.pcons pl .pnil)) (.constNum lex))
      (.oper op (.call "count" pfx (.acons p .anil)) (.num lex)) c :=
  predOK_cmp hop ((h.exact.count pfx .nil).as ExactK.vrel) (agree_num_lit lex)

/-- `n op count(P)` -/
theorem predOK_countL (d : Doc) (cfg : ECfg) (op : String) (hop : op ∈ cmpOps) (pfx : String)
    (pl : Plan) (p : Ast) (lex : String) (c : Spec.Ctx) (h : SeqOK (F := F) d cfg pl p c) :
    PredOK (F := F) d cfg (.logical op (.constNum lex) (.func "count" .nil (.pcons pl .pnil)))
      (.oper op (.num lex) (.call "count" pfx (.acons p .anil))) c :=
  predOK_cmp hop (agree_num_lit lex) ((h.exact.count pfx .nil).as ExactK.vrel)

/-- **`not(count(P))`** (since the repair of `notFunc`: `not` of a number is
`not(boolean(…))`): a boolean on both sides, the same one — `count(P) = 0` -/
theorem predOK_notCount (d : Doc) (cfg : ECfg) (pfx pfx' : String) (pl : Plan) (p : Ast)
    (c : Spec.Ctx) (h : SeqOK (F := F) d cfg pl p c) :
    PredOK (F := F) d cfg (.func "not" .nil (.pcons (.func "count" .nil (.pcons pl .pnil)) .pnil))
      (.call "not" pfx (.acons (.call "count" pfx' (.acons p .anil)) .anil)) c :=
  (((h.exact.count pfx' .nil).as fun m v h => VRel.truth m v (h.vrel m v)).not pfx .nil).as
    ExactK.predR

/-! ## a path compared with a path (`P op Q`) or with a string literal (`P op 'lit'`, `'lit' op P`)

XPath 1.0 §3.4: `P op Q` on two node-sets is true iff *some* node of `P` and *some* node of `Q`
compare — on their string-values for `=` and `!=`, on the numbers of their string-values for
`<`, `<=`, `>`, `>=`; `P op 'lit'` iff some node of `P` compares with the literal in the same way.
The truth is existential, so it depends on the node *sets* only: neither the order nor the
repetitions of the engine's result sequences matter, and no flatness requirement is needed
(`compare_nodes_congr`).

The engine's cells (`cmpNodeSetNodeSet`, `cmpNodeSetString`, `cmpStringNodeSet`, all through
`cmpStringStringF`) are XPath's for **all six** operators since the repair of `cmpStringStringF`
(relational operators on `stringToNumber` of the operands, not byte-wise on the strings, under which
`<b>10</b>` against `<c>9</c>` satisfied `b < c`) and of `cmpNodeSetString` (operands in
order): `Theorems.C07.cell_setSet`, `cell_setStr`, `cell_strSet`.  So `predOK_cmpPath` covers `cmpOps`. -/

/-- the oracle's comparison of two node lists depends on their members only -/
theorem compare_nodes_congr (d : Doc) (cop : Spec.CmpOp) (la la' lb lb' : List Ref)
    (ha : ∀ x, x ∈ la ↔ x ∈ la') (hb : ∀ x, x ∈ lb ↔ x ∈ lb') :
    Spec.compare (F := F) d cop (.nodes la) (.nodes lb) =
      Spec.compare (F := F) d cop (.nodes la') (.nodes lb') := by
  simp only [Spec.compare]
  rw [CmpSem.any_congr_mem la la' _ ha]
  congr 1; funext x
  exact CmpSem.any_congr_mem lb lb' _ hb

/-- what the engine's node-set/node-set cell computes, for every operator: some pair of
string-values is related by the string comparator `cmpStrF` (`=`/`!=` on the strings, the relational
operators on their numbers) -/
theorem cmpM_setSet_is_cmpStrF (d : Doc) (cop : Spec.CmpOp) (la lb : List Ref) :
    cmpM (F := F) d cop (.nodes la) (.nodes lb) =
      .ok (la.any (fun x => lb.any (fun y =>
        cmpStrF (F := F) cop (stringValue d x) (stringValue d y)))) := by
  simp [cmpM, xtypeOf, bind, Except.bind, pure, Except.pure]

/-- the engine's node-set/node-set cell is XPath's for `=` and `!=` (kept; `cmpM_setSet_cmpOps`
is the statement for all six operators) -/
theorem cmpM_setSet_eqOps (d : Doc) (op : String) (hop : op ∈ eqOps) (la lb : List Ref) :
    ∃ cop, Spec.CmpOp.ofString op = some cop ∧
      cmpM (F := F) d cop (.nodes la) (.nodes lb) =
        .ok (Spec.compare (F := F) d cop (.nodes la) (.nodes lb)) := by
  obtain ⟨cop, hcop⟩ := cmpOps_ofString op (eqOps_cmpOps hop)
  exact ⟨cop, hcop, Theorems.C07.cell_setSet d cop la lb⟩

/-- the engine's node-set/node-set cell is XPath's for all six operators -/
theorem cmpM_setSet_cmpOps (d : Doc) (op : String) (hop : op ∈ cmpOps) (la lb : List Ref) :
    ∃ cop, Spec.CmpOp.ofString op = some cop ∧
      cmpM (F := F) d cop (.nodes la) (.nodes lb) =
        .ok (Spec.compare (F := F) d cop (.nodes la) (.nodes lb)) := by
  obtain ⟨cop, hcop⟩ := cmpOps_ofString op hop
  exact ⟨cop, hcop, Theorems.C07.cell_setSet d cop la lb⟩

/-- **`P op Q` for two paths of any shape, all six operators** (generalised from `eqOps` after the
repair of `cmpStringStringF`): a boolean on both sides, the same one — only *set* agreement (`PathOK`)
of the operands is needed -/
theorem predOK_cmpPath (d : Doc) (cfg : ECfg) (op : String) (hop : op ∈ cmpOps) (pl ql : Plan)
    (p q : Ast) (c : Spec.Ctx)
    (hp : PathOK (F := F) d cfg pl p c) (hq : PathOK (F := F) d cfg ql q c) :
    PredOK (F := F) d cfg (.logical op pl ql) (.oper op p q) c :=
  predOK_cmp hop hp.vrel hq.vrel

/-- **path `op` string literal, all six operators** (the relational ones compare the number of a
node's string-value with the number of the literal) -/
theorem predOK_cmpStrR (d : Doc) (cfg : ECfg) (op : String) (hop : op ∈ cmpOps) (pl : Plan) (p : Ast)
    (s : String) (c : Spec.Ctx) (h : PathOK (F := F) d cfg pl p c) :
    PredOK (F := F) d cfg (.logical op pl (.constStr s)) (.oper op p (.str s)) c :=
  predOK_cmp hop h.vrel (agree_str_lit s)

/-- **string literal `op` path, all six operators** -/
theorem predOK_cmpStrL (d : Doc) (cfg : ECfg) (op : String) (hop : op ∈ cmpOps) (pl : Plan) (p : Ast)
    (s : String) (c : Spec.Ctx) (h : PathOK (F := F) d cfg pl p c) :
    PredOK (F := F) d cfg (.logical op (.constStr s) pl) (.oper op (.str s) p) c :=
  predOK_cmp hop (agree_str_lit s) h.vrel

end XPathV.PredSem2
