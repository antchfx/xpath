import XPathV.Lemmas.PredSem2.Frag
/-!
# C02, extension — `build` on the extended fragment `Frag2`

The plan `build` makes of a path of the fragment (with `smartDescThroughFilter = false` and the
`//name` shortcut guarded by the node test) selects the node set of the naive plan `predPlan2`; a
predicate of the fragment is built into a plan with the oracle's truth.  All rewrites are covered:
`cachedChild`, the `//name` shortcut, descendant-over-descendant (also inside predicates and around
filtered steps) and the merge rewrite of `processFilter` (it fires for `not(…)` and for the function
calls, whose static type is "any": `processFilter` marks the filter as positional — `merge_sem`
covers it because the values are never numbers).  The semantic steps (`axis_core`, `rel_filter`,
`merge_sem`, …) are in `PredSem/BuildSem.lean`; function calls are built through the `.call` branch
of `build`; `(P)[b]` is the parenthesised filter input.
-/
namespace XPathV.PredSem2
open XPathV XPathV.Model XPathV.PathSem XPathV.PredSem
open XPathV.FlatFiltered (FlatAny)

variable {F : Type} [NumAlg F]

/-! ## statements of the induction -/

/-- a path: props without position/last, a path-shaped plan, related to the naive plan -/
def BuildP2 (d : Doc) (cfg : ECfg) (regexOk : RegexOk) (limit : Nat) (p : Ast) : Prop :=
  ∀ fl st o, build regexOk limit true false p fl st = .ok o →
    PropsOK o.props ∧ PathShape o.q ∧
      ∀ c, validRef d c = true → Rel (F := F) d cfg fl.smartDesc o.q (predPlan2 p) c

/-- a step built as the input of a filter (no `smartDesc`) is the step constructor over the plan of its
input (`StepOver`): what the merge rewrite takes apart -/
def AxisDecomp2 (d : Doc) (cfg : ECfg) (regexOk : RegexOk) (limit : Nat) (p : Ast) : Prop :=
  ∀ a inp', p = .axis a inp' → ∀ fl st o, fl.filter = true → fl.smartDesc = false →
    build regexOk limit true false p fl st = .ok o → StepOver (F := F) d cfg a o.q

/-- a predicate: props without position/last, a plan with the oracle's truth -/
def BuildB2 (d : Doc) (cfg : ECfg) (regexOk : RegexOk) (limit : Nat) (b : Ast) : Prop :=
  ∀ fl st o, build regexOk limit true false b fl st = .ok o →
    PropsOK o.props ∧ ∀ c : Spec.Ctx, validRef d c.node = true → PredOK (F := F) d cfg o.q b c

/-- a string-valued expression: a plan with the oracle's string -/
def BuildStr (d : Doc) (cfg : ECfg) (regexOk : RegexOk) (limit : Nat) (a : Ast) : Prop :=
  ∀ fl st o, build regexOk limit true false a fl st = .ok o →
    PropsOK o.props ∧ ∀ c : Spec.Ctx, validRef d c.node = true → StrValOK (F := F) d cfg o.q a c

/-- a first argument of a string test: a plan with the oracle's string or node list -/
def BuildArg (d : Doc) (cfg : ECfg) (regexOk : RegexOk) (limit : Nat) (a : Ast) : Prop :=
  ∀ fl st o, build regexOk limit true false a fl st = .ok o →
    ∀ c : Spec.Ctx, validRef d c.node = true → StrArgOK (F := F) d cfg o.q a c

/-- an operand of a comparison, built with empty flags: props without position/last, and `L` holds of
its plan -/
def Operand (d : Doc) (regexOk : RegexOk) (limit : Nat) (a : Ast) (L : Plan → Spec.Ctx → Prop) : Prop :=
  ∀ st o, build regexOk limit true false a {} st = .ok o →
    PropsOK o.props ∧ ∀ c : Spec.Ctx, validRef d c.node = true → L o.q c

/-! ## inversion of `build` on a string test -/

/-- `name(S, T)` for a string test: both arguments are built with empty flags (the second one from
the state the first one leaves), the plan is the function over both arguments, the props are those
of the *last* argument -/
theorem build_strTest2_inv (regexOk : RegexOk) (limit : Nat) (snt sdf : Bool) (name : String)
    (hn : name ∈ strTests) (pfx : String) (a b : Ast) (fl : Flags) (st : BState) (o : BOut)
    (h : build regexOk limit snt sdf (.call name pfx (.acons a (.acons b .anil))) fl st = .ok o) :
    ∃ st1 ho ho2, build regexOk limit snt sdf a {} st1 = .ok ho ∧
      build regexOk limit snt sdf b {} ho.st = .ok ho2 ∧
      o.q = .func name .nil (.pcons ho.q (.pcons ho2.q .pnil)) ∧ o.props = ho2.props := by
  have hU : fnUsed name 2 = 2 := by
    simp only [strTests, List.mem_cons, List.not_mem_nil, or_false] at hn
    rcases hn with rfl | rfl | rfl <;> rfl
  have hne : ∀ s, s ∉ strTests → name ≠ s := fun s hs e => hs (e ▸ hn)
  obtain ⟨ho, ho2, hho, hho2, hq, hp, _⟩ :=
    build_call2_ok hU (hne _ (by decide)) (hne _ (by decide)) (hne _ (by decide)) h
  exact ⟨_, ho, ho2, hho, hho2, hq, hp⟩

/-! ## `Rel` through parentheses -/

theorem rel_group (d : Doc) (cfg : ECfg) (q n : Plan) (c : Ref)
    (h : Rel (F := F) d cfg false q n c) : Rel (F := F) d cfg false (.group q) (.group n) c := by
  obtain ⟨out, nv, h1, h2, hv, heq, _⟩ := h
  have hm : ∀ x, x ∈ refs (numbered (refs out)) ↔ x ∈ refs (numbered (refs nv)) := by
    intro x; rw [numbered_refs, numbered_refs]; exact heq rfl x
  refine ⟨_, _, sel_group d cfg q c out h1, sel_group d cfg n c nv h2, ?_, fun _ => hm,
    Covers.of_seteq d _ _ hm⟩
  intro o ho
  rw [numbered_refs] at ho
  exact hv o ho

section
variable {d : Doc} (wf : WF d) (cfg : ECfg) (hns : cfg.nsIface = true) (hinj : HashInj d cfg)
  (regexOk : RegexOk) (limit : Nat)
include wf hinj

/-! ## steps -/

/-- a step over any input that is built as the induction says (`ihp`; for the `//name` shortcut the
input of the input, `ihg`): the shortcut, or `axisPlan` over the built input -/
theorem build2_axis (a : AxisInfo) (ha : a.axis ∈ axes12) (inp : Ast)
    (ihp : inp ≠ .none → BuildP2 (F := F) d cfg regexOk limit inp)
    (ihg : ∀ b g, inp = .axis b g → g ≠ .none → BuildP2 (F := F) d cfg regexOk limit g) :
    BuildP2 (F := F) d cfg regexOk limit (.axis a inp) ∧
    AxisDecomp2 (F := F) d cfg regexOk limit (.axis a inp) := by
  have key : ∀ fl st o, build regexOk limit true false (.axis a inp) fl st = .ok o →
      PropsOK o.props ∧ PathShape o.q ∧
      (∀ c, validRef d c = true →
        Rel (F := F) d cfg fl.smartDesc o.q (stepPlan a (predPlan2 inp)) c) ∧
      (fl.filter = true → fl.smartDesc = false → StepOver (F := F) d cfg a o.q) := by
    intro fl st o h
    rcases build_axis_ok h with
      ⟨b, grand, gq, gprops, st', rfl, hflt, hax, hb, hg, hfin⟩ | ⟨qin, pin, q, props, st', hin, hq, hfin⟩
    · -- the shortcut: descendant over the grand-input
      simp only [isPlainDos, Bool.and_eq_true, beq_iff_eq, Bool.not_true, Bool.false_or] at hb
      obtain ⟨hbx, ⟨h1, h2⟩, h3⟩ := hb
      have hgr : PropsOK gprops ∧
          ∀ c, validRef d c = true → Rel (F := F) d cfg true gq (predPlan2 grand) c := by
        rcases hg with ⟨rfl, rfl, rfl, _⟩ | ⟨hn, go, hgo, rfl, rfl, _⟩
        · exact ⟨propsOK_empty, fun c hc => Rel.context d cfg true c hc⟩
        · obtain ⟨hp1, _, hr1⟩ := ihg b grand rfl hn _ _ go hgo
          exact ⟨hp1, hr1⟩
      rw [finAxis_q _ _ _ _ hfin, finAxis_props _ _ _ _ hfin]
      refine ⟨⟨hgr.1.1, hgr.1.2⟩, trivial, fun c hc => ?_, fun hf => ?_⟩
      · exact shortcut_combine wf cfg hinj a b hax hbx h1 h2 h3 gq _ c _ (hgr.2 c hc)
      · rw [hf] at hflt; cases hflt
    · have hin' : PropsOK pin ∧ ∃ smartIn, (¬ IsDescAxis a → smartIn = false) ∧
          ∀ c, validRef d c = true → Rel (F := F) d cfg smartIn qin (predPlan2 inp) c := by
        rcases hin with ⟨rfl, rfl, rfl, _⟩ | ⟨hn, io, hio, rfl, rfl, _⟩
        · exact ⟨propsOK_empty, false, fun _ => rfl, fun c hc => Rel.context d cfg false c hc⟩
        · obtain ⟨hp1, _, hr1⟩ := ihp hn _ _ io hio
          exact ⟨hp1, _, inFlagsOf_smart a fl, hr1⟩
      obtain ⟨hpin, smartIn, hsm, hrel⟩ := hin'
      obtain ⟨k1, k2, k3, k4⟩ := axis_core (F := F) wf cfg hinj a ha fl qin (predPlan2 inp) pin smartIn
        hpin hrel hsm q props _ o hq hfin
      exact ⟨k1, k2, k3, fun _ hsd => k4 hsd⟩
  refine ⟨fun fl st o h => ?_, fun a' inp' he fl st o hf hsd h => ?_⟩
  · obtain ⟨h1, h2, h3, _⟩ := key fl st o h
    exact ⟨h1, h2, h3⟩
  · cases he
    exact (key fl st o h).2.2.2 hf hsd

/-! ## the filter -/

include hns in
/-- a filter over an input whose plan (built without `smartDesc`) is related to `predPlan2 inp`: the
plain filter, or — over a step of the fragment — the merge rewrite -/
theorem build2_filter_case (inp b : Ast) (hb : Frag2 false b)
    (haxis : ∀ a inp', inp = .axis a inp' → a.axis ∈ axes12)
    (ihp : ∀ fl st o, fl.smartDesc = false → build regexOk limit true false inp fl st = .ok o →
      PropsOK o.props ∧ ∀ c, validRef d c = true → Rel (F := F) d cfg false o.q (predPlan2 inp) c)
    (ihd : AxisDecomp2 (F := F) d cfg regexOk limit inp)
    (ihb : BuildB2 (F := F) d cfg regexOk limit b) :
    BuildP2 (F := F) d cfg regexOk limit (.filter inp b) := by
  intro fl st o h
  obtain ⟨st1, io, co, hio, hco, hres⟩ := build_filter_inv regexOk limit true false inp b fl st o h
  obtain ⟨hiop, hior⟩ := ihp _ _ io (Bool.and_false _) hio
  obtain ⟨hcop, hcor⟩ := ihb _ _ co hco
  obtain ⟨hq, hp1, hp2⟩ := hres hcop.2
  have htq : PredTr (F := F) d cfg co.q (holds (F := F) d b) := predTr_of_predOK d cfg co.q b hcor
  have htn : PredTr (F := F) d cfg (predPlan2 b) (holds (F := F) d b) :=
    predTr_of_predOK d cfg (predPlan2 b) b
      (fun c hc => frag_ok2 (F := F) wf cfg hns hinj false b hb c hc)
  have hA : ∀ c, validRef d c = true →
      Rel (F := F) d cfg fl.smartDesc (.filter io.q co.q) (predPlan2 (.filter inp b)) c :=
    fun c hc => rel_filter d cfg _ io.q (predPlan2 inp) co.q (predPlan2 b) c _ (hior c hc) htq htn
  refine ⟨⟨hp1 ▸ hiop.1, hp2 ▸ hiop.2⟩, ?_, ?_⟩
  · rcases hq with hq | ⟨_, parent, _, hq⟩ <;> rw [hq] <;> trivial
  · intro c hc
    rcases hq with hq | ⟨hax, parent, hpar, hq⟩
    · rw [hq]; exact hA c hc
    · -- the merge rewrite: the input is a step
      cases inp with
      | axis a inp' =>
        obtain ⟨qi, hi1, hi2, hi3, hi4⟩ := ihd a inp' rfl _ _ io rfl (by simp) hio
        have hqp : qi = parent := Option.some.inj (hi1.symm.trans hpar)
        subst hqp
        obtain ⟨ins, hins, hinsv⟩ := hi4 c hc
        obtain ⟨o1, o2, ho1, ho2, hm⟩ := merge_sem (F := F) wf cfg hinj a (haxis a inp' rfl) io.q qi co.q
          hi2 hi3 c ins hins hinsv (holds (F := F) d b) htq
        rw [hq]
        exact rel_of_seteq d cfg _ _ _ _ c o1 o2 ho1 ho2 hm (hA c hc)
      | _ => cases hax

/-! ## existence tests; operands -/

include hns in
theorem buildB2_exist (p : Ast) (hp : Frag2 true p) (ih : BuildP2 (F := F) d cfg regexOk limit p) :
    BuildB2 (F := F) d cfg regexOk limit p := by
  intro fl st o h
  obtain ⟨hpr, hs, hr⟩ := ih fl st o h
  exact ⟨hpr, fun c hc => predOK_of_rel d cfg _ o.q (predPlan2 p) p c (hr c.node hc) hs
    (frag_ok2 (F := F) wf cfg hns hinj true p hp c hc)⟩

include hns in
/-- an operand built with empty flags agrees with the oracle as a node set -/
theorem operand_pathOK2 (p : Ast) (hp : Frag2 true p) (ih : BuildP2 (F := F) d cfg regexOk limit p)
    (st : BState) (lo : BOut) (h : build regexOk limit true false p {} st = .ok lo)
    (c : Spec.Ctx) (hc : validRef d c.node = true) :
    PropsOK lo.props ∧ PathOK (F := F) d cfg lo.q p c := by
  obtain ⟨hpr, hs, hr⟩ := ih {} st lo h
  exact ⟨hpr, pathOK_of_rel d cfg lo.q (predPlan2 p) p c (hr c.node hc) hs
    (frag_ok2 (F := F) wf cfg hns hinj true p hp c hc)⟩

include hns in
/-- a *flat* operand built with empty flags agrees with the oracle as a sequence: the engine's
sequence is the oracle's node list -/
theorem operand_seqOK (p : Ast) (hp : Frag2 true p) (hflat : FlatAny p)
    (ih : BuildP2 (F := F) d cfg regexOk limit p)
    (st : BState) (lo : BOut) (h : build regexOk limit true false p {} st = .ok lo)
    (c : Spec.Ctx) (hc : validRef d c.node = true) :
    PropsOK lo.props ∧ SeqOK (F := F) d cfg lo.q p c := by
  obtain ⟨hpr, hpo⟩ := operand_pathOK2 (F := F) wf cfg hns hinj regexOk limit p hp ih st lo h c hc
  refine ⟨hpr, seqOK_of_pathOK d cfg lo.q p c hpo (fun out ho => ?_) (fun ns g hS => ?_)⟩
  · exact (FlatFiltered.flatAny_sorted (F := F) wf cfg regexOk limit true false p hflat {} st lo h
      c.node out ho).1
  · exact FlatFiltered.flatAny_spec_sorted (F := F) d p hflat c ns g hS

include hns in
/-- a path as an operand (`operand_pathOK2` in the form `buildB2_cmp` takes) -/
theorem operand_path (p : Ast) (hp : Frag2 true p) (ih : BuildP2 (F := F) d cfg regexOk limit p) :
    Operand d regexOk limit p (fun q c => PathOK (F := F) d cfg q p c) :=
  fun st o h => ⟨(ih {} st o h).1,
    fun c hc => (operand_pathOK2 (F := F) wf cfg hns hinj regexOk limit p hp ih st o h c hc).2⟩

/-! ## comparisons

`processOperator` builds both operands with empty flags, the right one from the builder state the
left one leaves.  What an operand's plan is known to do is a predicate `L`/`R` on the plan; the truth
lemma of the comparison form (`predOK_…`) combines the two. -/

omit wf hinj in
theorem buildB2_cmp (op : String) (hop : op ∈ cmpOps) {l r : Ast} {L R : Plan → Spec.Ctx → Prop}
    (hl : Operand d regexOk limit l L) (hr : Operand d regexOk limit r R)
    (hsem : ∀ ql qr c, L ql c → R qr c → PredOK (F := F) d cfg (.logical op ql qr) (.oper op l r) c) :
    BuildB2 (F := F) d cfg regexOk limit (.oper op l r) := by
  intro fl st o h
  obtain ⟨st1, lo, ro, hlo, hro, hq, hpr⟩ := build_cmp_inv regexOk limit true false op hop l r fl st o h
  obtain ⟨hlp, hls⟩ := hl st1 lo hlo
  obtain ⟨hrp, hrs⟩ := hr lo.st ro hro
  refine ⟨hpr ▸ propsOK_or _ _ hlp hrp, fun c hc => ?_⟩
  rw [hq]
  exact hsem lo.q ro.q c (hls c hc) (hrs c hc)

omit wf hinj in
/-- a number literal as an operand -/
theorem operand_num (lex : String) : Operand d regexOk limit (.num lex) (fun q _ => q = .constNum lex) := by
  intro st o h
  cases build_num_ok h
  exact ⟨propsOK_empty, fun _ _ => rfl⟩

omit wf hinj in
/-- a string literal as an operand -/
theorem operand_str (s : String) : Operand d regexOk limit (.str s) (fun q _ => q = .constStr s) := by
  intro st o h
  cases build_str_ok h
  exact ⟨propsOK_empty, fun _ _ => rfl⟩

include hns in
/-- `count(P)`, `P` flat, as an operand -/
theorem operand_count (pfx : String) (p : Ast) (hp : Frag2 true p) (hflat : FlatAny p)
    (ih : BuildP2 (F := F) d cfg regexOk limit p) :
    Operand d regexOk limit (.call "count" pfx (.acons p .anil))
      (fun q c => ∃ pl, q = .func "count" .nil (.pcons pl .pnil) ∧ SeqOK (F := F) d cfg pl p c) := by
  intro st o h
  obtain ⟨ho, hho, hq, hpr, _⟩ := build_call1_ok rfl (by decide) (by decide) (by decide) h
  have hs := operand_seqOK (F := F) wf cfg hns hinj regexOk limit p hp hflat ih _ ho hho
  exact ⟨hpr ▸ (ih {} _ ho hho).1, fun c hc => ⟨ho.q, hq, (hs c hc).2⟩⟩

omit wf hinj in
theorem buildB2_not (pfx : String) (b : Ast) (ih : BuildB2 (F := F) d cfg regexOk limit b) :
    BuildB2 (F := F) d cfg regexOk limit (.call "not" pfx (.acons b .anil)) := by
  intro fl st o h
  obtain ⟨st1, ho, hho, hq, hpr⟩ := build_not_inv regexOk limit true false pfx b fl st o h
  obtain ⟨hp, hr⟩ := ih {} st1 ho hho
  refine ⟨hpr ▸ hp, fun c hc => ?_⟩
  rw [hq]
  exact predOK_not d cfg ho.q b pfx c (hr c hc)

omit wf hinj in
/-- `b1 and b2` (`isOr = false`), `b1 or b2` -/
theorem buildB2_bool (isOr : Bool) (b1 b2 : Ast) (ih1 : BuildB2 (F := F) d cfg regexOk limit b1)
    (ih2 : BuildB2 (F := F) d cfg regexOk limit b2) :
    BuildB2 (F := F) d cfg regexOk limit (.oper (if isOr then "or" else "and") b1 b2) := by
  intro fl st o h
  obtain ⟨lo, ro, hlo, hro, rfl⟩ := build_oper_ok h
  obtain ⟨hp1, hr1⟩ := ih1 {} _ lo hlo
  obtain ⟨hp2, hr2⟩ := ih2 {} lo.st ro hro
  cases isOr
  · exact ⟨propsOK_or _ _ hp1 hp2, fun c hc => predOK_and d cfg lo.q ro.q b1 b2 c (hr1 c hc) (hr2 c hc)⟩
  · exact ⟨propsOK_or _ _ hp1 hp2, fun c hc => predOK_or d cfg lo.q ro.q b1 b2 c (hr1 c hc) (hr2 c hc)⟩

/-! ## `not(count(P))`, string-valued expressions, the string tests -/

include hns in
/-- `not(count(P))` -/
theorem buildB2_notCount (pfx pfx' : String) (p : Ast)
    (hp : Frag2 true p) (hflat : FlatAny p) (ih : BuildP2 (F := F) d cfg regexOk limit p) :
    BuildB2 (F := F) d cfg regexOk limit
      (.call "not" pfx (.acons (.call "count" pfx' (.acons p .anil)) .anil)) := by
  intro fl st o h
  obtain ⟨st1, co, hco, hq, hpr⟩ := build_not_inv regexOk limit true false pfx _ fl st o h
  obtain ⟨ho, hho, hcq, hcp, _⟩ := build_call1_ok rfl (by decide) (by decide) (by decide) hco
  have hop' : PropsOK ho.props := (ih {} _ ho hho).1
  refine ⟨by rw [hpr, hcp]; exact hop', fun c hc => ?_⟩
  rw [hq, hcq]
  exact predOK_notCount d cfg pfx pfx' ho.q p c
    (operand_seqOK (F := F) wf cfg hns hinj regexOk limit p hp hflat ih _ ho hho c hc).2

omit wf hinj in
/-- a string literal -/
theorem buildStr_lit (s : String) : BuildStr (F := F) d cfg regexOk limit (.str s) := by
  intro fl st o h
  cases build_str_ok h
  exact ⟨propsOK_empty, fun c _ => strValOK_lit d cfg s c⟩

omit wf hinj in
/-- `local-name()` -/
theorem buildStr_localName0 (pfx : String) :
    BuildStr (F := F) d cfg regexOk limit (.call "local-name" pfx .anil) := by
  intro fl st o h
  obtain ⟨hq, _, hp⟩ := build_call0_plain (by decide) (by decide) (by decide) (by decide) h
  refine ⟨hp ▸ propsOK_empty, fun c _ => ?_⟩
  rw [hq]
  exact strValOK_localName0 d cfg pfx c

include hns in
/-- `local-name(P)`, `P` flat -/
theorem buildStr_localName1 (pfx : String) (p : Ast) (hp : Frag2 true p) (hflat : FlatAny p)
    (ih : BuildP2 (F := F) d cfg regexOk limit p) :
    BuildStr (F := F) d cfg regexOk limit (.call "local-name" pfx (.acons p .anil)) := by
  intro fl st o h
  obtain ⟨ho, hho, hq, hpr, _⟩ := build_call1_ok rfl (by decide) (by decide) (by decide) h
  refine ⟨hpr ▸ (ih {} _ ho hho).1, fun c hc => ?_⟩
  rw [hq]
  exact strValOK_localName1 d cfg ho.q p pfx c
    (operand_seqOK (F := F) wf cfg hns hinj regexOk limit p hp hflat ih _ ho hho c hc).2

omit wf hinj in
theorem BuildStr.operand {a : Ast} (h : BuildStr (F := F) d cfg regexOk limit a) :
    Operand d regexOk limit a (fun q c => StrValOK (F := F) d cfg q a c) :=
  fun st o hb => h {} st o hb

omit wf hinj in
theorem BuildStr.buildArg {a : Ast} (h : BuildStr (F := F) d cfg regexOk limit a) :
    BuildArg (F := F) d cfg regexOk limit a :=
  fun fl st o hb c hc => ((h fl st o hb).2 c hc).strArgOK

include hns in
/-- a flat path as the first argument of a string test -/
theorem buildArg_path (p : Ast) (hp : Frag2 true p) (hflat : FlatAny p)
    (ih : BuildP2 (F := F) d cfg regexOk limit p) :
    ∀ st o, build regexOk limit true false p {} st = .ok o →
      ∀ c : Spec.Ctx, validRef d c.node = true → StrArgOK (F := F) d cfg o.q p c :=
  fun st o hb c hc =>
    (operand_seqOK (F := F) wf cfg hns hinj regexOk limit p hp hflat ih st o hb c hc).2.strArgOK

omit wf hinj in
/-- `contains(S, 'lit')`, `starts-with(S, 'lit')`, `ends-with(S, 'lit')` -/
theorem buildB2_strTest (name : String) (hn : name ∈ strTests) (pfx : String) (a : Ast)
    (lit : String)
    (ha : ∀ st o, build regexOk limit true false a {} st = .ok o →
      ∀ c : Spec.Ctx, validRef d c.node = true → StrArgOK (F := F) d cfg o.q a c) :
    BuildB2 (F := F) d cfg regexOk limit (.call name pfx (.acons a (.acons (.str lit) .anil))) := by
  intro fl st o h
  obtain ⟨st1, ho, ho2, hho, hho2, hq, hpr⟩ :=
    build_strTest2_inv regexOk limit true false name hn pfx a (.str lit) fl st o h
  cases build_str_ok hho2
  refine ⟨hpr ▸ propsOK_empty, fun c hc => ?_⟩
  rw [hq]
  exact predOK_strTest d cfg name hn pfx ho.q a lit c (ha st1 ho hho c hc)

omit wf hinj in
/-- `contains(S, T)`, `starts-with(S, T)`, `ends-with(S, T)`: string-or-node-list arguments in both
positions (the props of the call are those of its last argument) -/
theorem buildB2_strTest2 (name : String) (hn : name ∈ strTests) (pfx : String) (a b : Ast)
    (ha : ∀ st o, build regexOk limit true false a {} st = .ok o →
      ∀ c : Spec.Ctx, validRef d c.node = true → StrArgOK (F := F) d cfg o.q a c)
    (hb : ∀ st o, build regexOk limit true false b {} st = .ok o →
      PropsOK o.props ∧ ∀ c : Spec.Ctx, validRef d c.node = true → StrArgOK (F := F) d cfg o.q b c) :
    BuildB2 (F := F) d cfg regexOk limit (.call name pfx (.acons a (.acons b .anil))) := by
  intro fl st o h
  obtain ⟨st1, ho, ho2, hho, hho2, hq, hpr⟩ :=
    build_strTest2_inv regexOk limit true false name hn pfx a b fl st o h
  refine ⟨hpr ▸ (hb _ ho2 hho2).1, fun c hc => ?_⟩
  rw [hq]
  exact predOK_strTest2 d cfg name hn pfx ho.q ho2.q a b c (ha st1 ho hho c hc) ((hb _ ho2 hho2).2 c hc)

/-! ## the induction -/

/-- what the induction says of an expression of kind `k`: a path is built into a plan related to its
naive plan (together with the decomposition used by the merge rewrite and the statement for the input
of its last step), a predicate into a plan with the oracle's truth -/
def BuildOK2 (d : Doc) (cfg : ECfg) (F : Type) [NumAlg F] (regexOk : RegexOk) (limit : Nat) (k : Bool)
    (e : Ast) : Prop :=
  match k with
  | true => BuildP2 (F := F) d cfg regexOk limit e ∧ AxisDecomp2 (F := F) d cfg regexOk limit e ∧
      ∀ b g, e = .axis b g → BuildP2 (F := F) d cfg regexOk limit g
  | false => BuildB2 (F := F) d cfg regexOk limit e

include hns in
theorem build_ok2 (k : Bool) (e : Ast) (he : Frag2 k e) : BuildOK2 d cfg F regexOk limit k e := by
  induction he with
  | none =>
    refine ⟨?_, ?_, fun b g h => by cases h⟩
    · intro fl st o h; rw [build] at h; cases h
    · intro a inp' h; cases h
  | root s =>
    refine ⟨?_, ?_, fun b g h => by cases h⟩
    · intro fl st o h
      cases build_root_ok h
      refine ⟨propsOK_empty, trivial, fun c hc => ?_⟩
      exact Rel.refl_of_ok d cfg _ .absolute c [⟨.node 0, 1, 0⟩] (by simp [sel, Nav.root]) (by
        intro x hx; simp only [refs, List.map_cons, List.map_nil, List.mem_cons, List.not_mem_nil,
          or_false] at hx; rw [hx]; exact (validRef_node d 0).2 wf.pos)
    · intro a inp' h; cases h
  | axis a inp hinp ha ih =>
    obtain ⟨ihp, _, ihg⟩ := ih
    have := build2_axis wf cfg hinj regexOk limit a ha inp (fun _ => ihp) (fun b g e _ => ihg b g e)
    exact ⟨this.1, this.2, fun b g h => by cases h; exact ihp⟩
  | filter inp b hinp hb ihp ihb =>
    refine ⟨?_, ?_, fun b g h => by cases h⟩
    · obtain ⟨ihp1, ihp2, _⟩ := ihp
      refine build2_filter_case wf cfg hns hinj regexOk limit inp b hb (fun a inp' e => ?_)
        (fun fl st o hfl h => ?_) ihp2 ihb
      · subst e; cases hinp with | axis _ _ _ ha => exact ha
      · obtain ⟨hp, _, hr⟩ := ihp1 fl st o h
        exact ⟨hp, fun c hc => hfl ▸ hr c hc⟩
    · intro a inp' h; cases h
  | gfilter p b hp hb ihp ihb =>
    refine ⟨?_, ?_, fun b g h => by cases h⟩
    · -- `(P)`: the group of the built inner path; not a step, so no merge rewrite
      refine build2_filter_case wf cfg hns hinj regexOk limit (.group p) b hb (fun a inp' e => by cases e)
        (fun fl st o _ h => ?_) (fun a inp' e => by cases e) ihb
      obtain ⟨o1, ho1, hgq, hgp, _⟩ := build_group_ok h
      obtain ⟨ho1p, _, ho1r⟩ := ihp.1 _ _ o1 ho1
      exact ⟨hgp ▸ ho1p, fun c hc => hgq ▸ rel_group d cfg o1.q (predPlan2 p) c (ho1r c hc)⟩
    · intro a inp' h; cases h
  | exist p hp ih =>
    exact buildB2_exist wf cfg hns hinj regexOk limit p hp ih.1
  | eqStr p s hp ih =>
    exact buildB2_cmp cfg regexOk limit "=" (by simp [cmpOps])
      (operand_path wf cfg hns hinj regexOk limit p hp ih.1) (operand_str regexOk limit s)
      (fun ql qr c hl hr => hr ▸ predOK_cmpStrR d cfg "=" (by simp [cmpOps]) ql p s c hl)
  | neStr p s hp ih =>
    exact buildB2_cmp cfg regexOk limit "!=" (by simp [cmpOps])
      (operand_path wf cfg hns hinj regexOk limit p hp ih.1) (operand_str regexOk limit s)
      (fun ql qr c hl hr => hr ▸ predOK_cmpStrR d cfg "!=" (by simp [cmpOps]) ql p s c hl)
  | cmpNumR op p lex hop hp ih =>
    exact buildB2_cmp cfg regexOk limit op hop
      (operand_path wf cfg hns hinj regexOk limit p hp ih.1) (operand_num regexOk limit lex)
      (fun ql qr c hl hr => hr ▸ predOK_cmpNumR d cfg op hop ql p lex c hl)
  | cmpNumL op lex p hop hp ih =>
    exact buildB2_cmp cfg regexOk limit op hop
      (operand_num regexOk limit lex) (operand_path wf cfg hns hinj regexOk limit p hp ih.1)
      (fun ql qr c hl hr => hl ▸ predOK_cmpNumL d cfg op hop qr p lex c hr)
  | not pfx b _ ih =>
    exact buildB2_not cfg regexOk limit pfx b ih
  | and b1 b2 _ _ ih1 ih2 =>
    exact buildB2_bool cfg regexOk limit false b1 b2 ih1 ih2
  | or b1 b2 _ _ ih1 ih2 =>
    exact buildB2_bool cfg regexOk limit true b1 b2 ih1 ih2
  | countR op pfx p lex hop hp hflat ih =>
    exact buildB2_cmp cfg regexOk limit op hop
      (operand_count wf cfg hns hinj regexOk limit pfx p hp hflat ih.1)
      (operand_num regexOk limit lex)
      (fun ql qr c hl hr => by
        obtain ⟨pl, rfl, hs⟩ := hl
        exact hr ▸ predOK_countR d cfg op hop pfx pl p lex c hs)
  | countL op lex pfx p hop hp hflat ih =>
    exact buildB2_cmp cfg regexOk limit op hop
      (operand_num regexOk limit lex)
      (operand_count wf cfg hns hinj regexOk limit pfx p hp hflat ih.1)
      (fun ql qr c hl hr => by
        obtain ⟨pl, rfl, hs⟩ := hr
        exact hl ▸ predOK_countL d cfg op hop pfx pl p lex c hs)
  | notCount pfx pfx' p hp hflat ih =>
    exact buildB2_notCount wf cfg hns hinj regexOk limit pfx pfx' p hp hflat ih.1
  | lnCmp op pfx lit hop =>
    exact buildB2_cmp cfg regexOk limit op (eqOps_cmpOps hop)
      (buildStr_localName0 cfg regexOk limit pfx).operand (operand_str regexOk limit lit)
      (fun ql qr c hl hr => hr ▸ predOK_strCmp d cfg op hop ql _ lit c hl)
  | lnPathCmp op pfx p lit hop hp hflat ih =>
    exact buildB2_cmp cfg regexOk limit op (eqOps_cmpOps hop)
      (buildStr_localName1 wf cfg hns hinj regexOk limit pfx p hp hflat ih.1).operand
      (operand_str regexOk limit lit)
      (fun ql qr c hl hr => hr ▸ predOK_strCmp d cfg op hop ql _ lit c hl)
  | strLit name pfx s lit hn =>
    exact buildB2_strTest cfg regexOk limit name hn pfx _ lit
      (fun st o hb => (buildStr_lit cfg regexOk limit s).buildArg cfg regexOk limit {} st o hb)
  | strLn name pfx pfx' lit hn =>
    exact buildB2_strTest cfg regexOk limit name hn pfx _ lit
      (fun st o hb => (buildStr_localName0 cfg regexOk limit pfx').buildArg cfg regexOk limit {} st o hb)
  | strLnPath name pfx pfx' p lit hn hp hflat ih =>
    exact buildB2_strTest cfg regexOk limit name hn pfx _ lit
      (fun st o hb => (buildStr_localName1 wf cfg hns hinj regexOk limit pfx' p hp hflat
        ih.1).buildArg cfg regexOk limit {} st o hb)
  | strPath name pfx p lit hn hp hflat ih =>
    exact buildB2_strTest cfg regexOk limit name hn pfx p lit
      (buildArg_path wf cfg hns hinj regexOk limit p hp hflat ih.1)
  | strPath2 name pfx p q hn hp hflat hq hflatq ihp ihq =>
    exact buildB2_strTest2 cfg regexOk limit name hn pfx p q
      (buildArg_path wf cfg hns hinj regexOk limit p hp hflat ihp.1)
      (fun st o hb => ⟨(ihq.1 {} st o hb).1,
        buildArg_path wf cfg hns hinj regexOk limit q hq hflatq ihq.1 st o hb⟩)
  | strLitPath name pfx s q hn hq hflatq ihq =>
    exact buildB2_strTest2 cfg regexOk limit name hn pfx (.str s) q
      (fun st o hb => (buildStr_lit cfg regexOk limit s).buildArg cfg regexOk limit {} st o hb)
      (fun st o hb => ⟨(ihq.1 {} st o hb).1,
        buildArg_path wf cfg hns hinj regexOk limit q hq hflatq ihq.1 st o hb⟩)
  | cmpPath op p q hop hp hq ihp ihq =>
    exact buildB2_cmp cfg regexOk limit op hop
      (operand_path wf cfg hns hinj regexOk limit p hp ihp.1)
      (operand_path wf cfg hns hinj regexOk limit q hq ihq.1)
      (fun ql qr c hl hr => predOK_cmpPath d cfg op hop ql qr p q c hl hr)
  | cmpStrR op p s hop hp ih =>
    exact buildB2_cmp cfg regexOk limit op hop
      (operand_path wf cfg hns hinj regexOk limit p hp ih.1) (operand_str regexOk limit s)
      (fun ql qr c hl hr => hr ▸ predOK_cmpStrR d cfg op hop ql p s c hl)
  | cmpStrL op s p hop hp ih =>
    exact buildB2_cmp cfg regexOk limit op hop
      (operand_str regexOk limit s) (operand_path wf cfg hns hinj regexOk limit p hp ih.1)
      (fun ql qr c hl hr => hl ▸ predOK_cmpStrL d cfg op hop qr p s c hr)

include hns in
/-- every path of the extended fragment is built into a plan related to its naive plan (together
with the decomposition used by the merge rewrite and the statement for the input of its last step),
every predicate into a plan with the oracle's truth -/
theorem build_frag2 (k : Bool) (e : Ast) (he : Frag2 k e) :
    (k = true → BuildP2 (F := F) d cfg regexOk limit e ∧ AxisDecomp2 (F := F) d cfg regexOk limit e ∧
      ∀ b g, e = .axis b g → BuildP2 (F := F) d cfg regexOk limit g) ∧
    (k = false → BuildB2 (F := F) d cfg regexOk limit e) := by
  have h := build_ok2 (F := F) wf cfg hns hinj regexOk limit k e he
  cases k
  · exact ⟨(fun h' => nomatch h'), fun _ => h⟩
  · exact ⟨fun _ => h, fun h' => nomatch h'⟩

end

end XPathV.PredSem2
