import XPathV.Lemmas.PredSem2.Truth
/-!
# C02, extension — the fragment `Frag2`, the naive plan `predPlan2`, model = oracle on naive plans

`Frag2` extends `PredSem.Frag` by

* `count(P) op n` and `n op count(P)` (the six comparison operators, `n` a number literal),
* `not(count(P))` (after the repair of `notFunc`: `not` of a number is `not(boolean(…))`),
* `contains(S, 'lit')`, `starts-with(S, 'lit')`, `ends-with(S, 'lit')` with
  `S ∈ { 'literal', local-name(), local-name(P), P }`,
* (since the repair of `containsFunc`/`startwithFunc`/`endwithFunc`: they read their second
  argument like the first) `contains(P, Q)`, `contains('lit', Q)` … with a flat path `Q` in *second*
  position,
* `local-name() = 'lit'`, `local-name() != 'lit'`, `local-name(P) = 'lit'`, `local-name(P) != 'lit'`,
* the path form `(P)[b]` (a parenthesised path filtered by a boolean-valued predicate),
* a path compared with a path, `P op Q` for all six operators (`//a[b = c]`, `//a[@x != ../@y]`,
  `//a[b < c/d]`): `P` and `Q` are *arbitrary* paths of the fragment (all twelve axes, any
  predicates, **no** flatness requirement — the truth is existential over the two node sets,
  `compare_nodes_congr`).  (The relational operators are XPath's since the repair of
  `cmpStringStringF`, which compared string-values byte-wise: `<b>10</b>` against `<c>9</c>`
  satisfied `b < c`.)
* a path compared with a string literal for all six operators, either side: `P op 'lit'`,
  `'lit' op P` (`eqStr`/`neStr` are the `=`/`!=` instances with the literal on the right; the
  relational ones became XPath's with the repairs of `cmpStringStringF` and `cmpNodeSetString`).

**Restriction on `P` as a function argument** (`count(P)`, `local-name(P)`, `contains(P, …)`): `P`
is a *flat* path — steps over `child` / `attribute` / `self` from the context node or the root,
carrying any predicates of the fragment (`FlatFiltered.FlatAny P ∧ Frag2 true P`).  The engine hands
a function the *sequence* it selected (`count` = its length, the string functions and `local-name`
= its first element), the oracle the node-set in document order; for flat paths the sequence *is*
the document-ordered duplicate-free node list (`FlatFiltered.flatAny_sorted`), for other paths it
need not be (duplicates, other order) and the two sides may differ.  A bare `count(P)` as a
predicate is a number, hence positional, and is not part of the fragment.
-/
namespace XPathV.PredSem2
open XPathV XPathV.Model XPathV.PathSem XPathV.PredSem
open XPathV.FlatFiltered (FlatAny)

variable {F : Type} [NumAlg F]

/-! ## the naive plan -/

/-- the plan without any builder rewrite: steps as `stepPlan`, predicates as `.filter`, comparisons
as `.logical`, `and`/`or` as `.boolean`, calls as `.func` over their arguments, `(P)` as `.group` -/
def predPlan2 : Ast → Plan
  | .none => .context
  | .root _ => .absolute
  | .axis a inp => stepPlan a (predPlan2 inp)
  | .filter inp b => .filter (predPlan2 inp) (predPlan2 b)
  | .oper op l r =>
    if op = "and" then .boolean false (predPlan2 l) (predPlan2 r)
    else if op = "or" then .boolean true (predPlan2 l) (predPlan2 r)
    else .logical op (predPlan2 l) (predPlan2 r)
  | .str s => .constStr s
  | .num l => .constNum l
  | .call name _ args => .func name .nil (predPlan2 args)
  | .anil => .pnil
  | .acons h t => .pcons (predPlan2 h) (predPlan2 t)
  | .group x => .group (predPlan2 x)
  | .var _ _ => .nil

theorem predPlan2_cmp (op : String) (hop : op ∈ cmpOps) (l r : Ast) :
    predPlan2 (.oper op l r) = .logical op (predPlan2 l) (predPlan2 r) := by
  simp only [cmpOps, List.mem_cons, List.not_mem_nil, or_false] at hop
  rcases hop with rfl | rfl | rfl | rfl | rfl | rfl <;> simp [predPlan2]

/-! ## the fragment -/

/-- `Frag2 true e`: `e` is a location path over the twelve axes whose steps (and the path start) may
carry any number of boolean-valued predicates, or such a path in parentheses followed by
predicates; `Frag2 false e`: `e` is a boolean-valued predicate over such paths -/
inductive Frag2 : Bool → Ast → Prop
  | none : Frag2 true .none
  | root (s : String) : Frag2 true (.root s)
  | axis (a : AxisInfo) (inp : Ast) : Frag2 true inp → a.axis ∈ axes12 → Frag2 true (.axis a inp)
  | filter (inp b : Ast) : Frag2 true inp → Frag2 false b → Frag2 true (.filter inp b)
  /-- `(P)[b]` -/
  | gfilter (p b : Ast) : Frag2 true p → Frag2 false b → Frag2 true (.filter (.group p) b)
  | exist (p : Ast) : Frag2 true p → Frag2 false p
  | eqStr (p : Ast) (s : String) : Frag2 true p → Frag2 false (.oper "=" p (.str s))
  | neStr (p : Ast) (s : String) : Frag2 true p → Frag2 false (.oper "!=" p (.str s))
  | cmpNumR (op : String) (p : Ast) (lex : String) : op ∈ cmpOps → Frag2 true p →
      Frag2 false (.oper op p (.num lex))
  | cmpNumL (op : String) (lex : String) (p : Ast) : op ∈ cmpOps → Frag2 true p →
      Frag2 false (.oper op (.num lex) p)
  | not (pfx : String) (b : Ast) : Frag2 false b → Frag2 false (.call "not" pfx (.acons b .anil))
  | and (b1 b2 : Ast) : Frag2 false b1 → Frag2 false b2 → Frag2 false (.oper "and" b1 b2)
  | or (b1 b2 : Ast) : Frag2 false b1 → Frag2 false b2 → Frag2 false (.oper "or" b1 b2)
  /-- `count(P) op n` -/
  | countR (op pfx : String) (p : Ast) (lex : String) : op ∈ cmpOps → Frag2 true p → FlatAny p →
      Frag2 false (.oper op (.call "count" pfx (.acons p .anil)) (.num lex))
  /-- `n op count(P)` -/
  | countL (op lex pfx : String) (p : Ast) : op ∈ cmpOps → Frag2 true p → FlatAny p →
      Frag2 false (.oper op (.num lex) (.call "count" pfx (.acons p .anil)))
  /-- `not(count(P))` (`count(P) = 0`; since the repair of `notFunc`: `not` of a number is `not(boolean(…))`) -/
  | notCount (pfx pfx' : String) (p : Ast) : Frag2 true p → FlatAny p →
      Frag2 false (.call "not" pfx (.acons (.call "count" pfx' (.acons p .anil)) .anil))
  /-- `local-name() = 'lit'`, `local-name() != 'lit'` -/
  | lnCmp (op pfx lit : String) : op ∈ eqOps →
      Frag2 false (.oper op (.call "local-name" pfx .anil) (.str lit))
  /-- `local-name(P) = 'lit'`, `local-name(P) != 'lit'` -/
  | lnPathCmp (op pfx : String) (p : Ast) (lit : String) : op ∈ eqOps → Frag2 true p → FlatAny p →
      Frag2 false (.oper op (.call "local-name" pfx (.acons p .anil)) (.str lit))
  /-- `contains('s', 'lit')` … -/
  | strLit (name pfx s lit : String) : name ∈ strTests →
      Frag2 false (.call name pfx (.acons (.str s) (.acons (.str lit) .anil)))
  /-- `contains(local-name(), 'lit')` … -/
  | strLn (name pfx pfx' lit : String) : name ∈ strTests →
      Frag2 false (.call name pfx (.acons (.call "local-name" pfx' .anil) (.acons (.str lit) .anil)))
  /-- `contains(local-name(P), 'lit')` … -/
  | strLnPath (name pfx pfx' : String) (p : Ast) (lit : String) : name ∈ strTests → Frag2 true p →
      FlatAny p →
      Frag2 false (.call name pfx
        (.acons (.call "local-name" pfx' (.acons p .anil)) (.acons (.str lit) .anil)))
  /-- `contains(P, 'lit')` … -/
  | strPath (name pfx : String) (p : Ast) (lit : String) : name ∈ strTests → Frag2 true p →
      FlatAny p → Frag2 false (.call name pfx (.acons p (.acons (.str lit) .anil)))
  /-- `contains(P, Q)` …: flat paths in both positions -/
  | strPath2 (name pfx : String) (p q : Ast) : name ∈ strTests → Frag2 true p → FlatAny p →
      Frag2 true q → FlatAny q → Frag2 false (.call name pfx (.acons p (.acons q .anil)))
  /-- `contains('lit', Q)` …: a flat path in second position -/
  | strLitPath (name pfx s : String) (q : Ast) : name ∈ strTests → Frag2 true q → FlatAny q →
      Frag2 false (.call name pfx (.acons (.str s) (.acons q .anil)))
  /-- `P op Q`, all six operators: two paths of any shape -/
  | cmpPath (op : String) (p q : Ast) : op ∈ cmpOps → Frag2 true p → Frag2 true q →
      Frag2 false (.oper op p q)
  /-- `P op 'lit'`, all six operators -/
  | cmpStrR (op : String) (p : Ast) (s : String) : op ∈ cmpOps → Frag2 true p →
      Frag2 false (.oper op p (.str s))
  /-- `'lit' op P`, all six operators -/
  | cmpStrL (op : String) (s : String) (p : Ast) : op ∈ cmpOps → Frag2 true p →
      Frag2 false (.oper op (.str s) p)

/-- the extension contains the fragment of `PredSem` -/
theorem frag2_of_frag (k : Bool) (e : Ast) (h : Frag k e) : Frag2 k e := by
  induction h with
  | none => exact .none
  | root s => exact .root s
  | axis a inp _ ha ih => exact .axis a inp ih ha
  | filter inp b _ _ ih1 ih2 => exact .filter inp b ih1 ih2
  | exist p _ ih => exact .exist p ih
  | eqStr p s _ ih => exact .eqStr p s ih
  | neStr p s _ ih => exact .neStr p s ih
  | cmpNumR op p lex hop _ ih => exact .cmpNumR op p lex hop ih
  | cmpNumL op lex p hop _ ih => exact .cmpNumL op lex p hop ih
  | not pfx b _ ih => exact .not pfx b ih
  | and b1 b2 _ _ ih1 ih2 => exact .and b1 b2 ih1 ih2
  | or b1 b2 _ _ ih1 ih2 => exact .or b1 b2 ih1 ih2

/-- on the fragment of `PredSem` the naive plans coincide -/
theorem predPlan2_frag (k : Bool) (e : Ast) (h : Frag k e) : predPlan2 e = predPlan e := by
  induction h with
  | none => rfl
  | root s => rfl
  | axis a inp _ _ ih => simp only [predPlan2, predPlan, ih]
  | filter inp b _ _ ih1 ih2 => simp only [predPlan2, predPlan, ih1, ih2]
  | exist p _ ih => exact ih
  | eqStr p s _ ih => simp [predPlan2, predPlan, ih]
  | neStr p s _ ih => simp [predPlan2, predPlan, ih]
  | cmpNumR op p lex hop _ ih => rw [predPlan2_cmp op hop, predPlan_cmp op hop, ih]; rfl
  | cmpNumL op lex p hop _ ih => rw [predPlan2_cmp op hop, predPlan_cmp op hop, ih]; rfl
  | not pfx b _ ih => simp only [predPlan2, predPlan, ih]
  | and b1 b2 _ _ ih1 ih2 => simp [predPlan2, predPlan, ih1, ih2]
  | or b1 b2 _ _ ih1 ih2 => simp [predPlan2, predPlan, ih1, ih2]

/-! ## naive plans of flat paths yield separated sequences -/

/-- the naive plan of a flat path (any predicates) yields, from any context reference, a sequence
that is strictly increasing in document order -/
theorem naive_flat {d : Doc} (wf : WF d) (cfg : ECfg) (p : Ast) (hp : FlatAny p) :
    FlatFiltered.OutFlat d cfg F (predPlan2 p) := by
  induction hp with
  | none => exact FlatFiltered.outFlat_context cfg
  | root s => exact FlatFiltered.outFlat_absolute cfg
  | axis a inp ha _ ih =>
    intro c l h
    exact FlatFiltered.flat_stepPlan wf cfg a ha (predPlan2 inp) c l h (fun ins hins => ih c ins hins)
  | filter inp b _ ih =>
    intro c l h
    obtain ⟨ins, hins, hsub⟩ := FlatFiltered.sel_filter_sublist (F := F) d cfg _ _ c l h
    exact (ih c ins hins).sublist hsub

/-- for a flat path, set agreement of the naive plan is sequence agreement -/
theorem naive_seqOK {d : Doc} (wf : WF d) (cfg : ECfg) (p : Ast) (hp : FlatAny p) (c : Spec.Ctx)
    (h : PathOK (F := F) d cfg (predPlan2 p) p c) : SeqOK (F := F) d cfg (predPlan2 p) p c :=
  seqOK_of_pathOK d cfg _ p c h
    (fun out ho => (naive_flat (F := F) wf cfg p hp c.node out ho).sorted)
    (fun ns g hS => FlatFiltered.flatAny_spec_sorted (F := F) d p hp c ns g hS)

/-! ## the main induction -/

/-- what the induction says of an expression of kind `k`: a path (`k = true`) yields the same node
set on both sides, a predicate the same truth and never a number -/
def FragOK (d : Doc) (cfg : ECfg) (F : Type) [NumAlg F] (k : Bool) (pl : Plan) (e : Ast) (c : Spec.Ctx) :
    Prop :=
  match k with
  | true => PathOK (F := F) d cfg pl e c
  | false => PredOK (F := F) d cfg pl e c

theorem frag_ok2 {d : Doc} (wf : WF d) (cfg : ECfg) (hns : cfg.nsIface = true) (hinj : HashInj d cfg)
    (k : Bool) (e : Ast) (he : Frag2 k e) :
    ∀ c : Spec.Ctx, validRef d c.node = true → FragOK d cfg F k (predPlan2 e) e c := by
  induction he with
  | none => exact fun c hc => pathOK_none d cfg c hc
  | root s => exact fun c _ => pathOK_root wf cfg s c
  | axis a inp _ ha ih =>
    exact fun c hc => pathOK_axis wf cfg hns hinj a ha _ inp c (ih c hc)
  | filter inp b _ _ ihp ihb =>
    exact fun c hc => pathOK_filter d cfg _ _ inp b c (ihp c hc)
      (fun x hx pos size => ihb ⟨x, pos, size⟩ hx)
  | gfilter p b _ _ ihp ihb =>
    exact fun c hc => pathOK_filter d cfg _ _ (.group p) b c
      (pathOK_group d cfg _ p c (ihp c hc))
      (fun x hx pos size => ihb ⟨x, pos, size⟩ hx)
  | exist p _ ih =>
    exact fun c hc => predOK_path d cfg _ p c (ih c hc)
  | eqStr p s _ ih =>
    exact fun c hc => predOK_cmpStrR d cfg "=" (by simp [cmpOps]) _ p s c (ih c hc)
  | neStr p s _ ih =>
    exact fun c hc => predOK_cmpStrR d cfg "!=" (by simp [cmpOps]) _ p s c (ih c hc)
  | cmpNumR op p lex hop _ ih =>
    intro c hc
    rw [predPlan2_cmp op hop]
    exact predOK_cmpNumR d cfg op hop _ p lex c (ih c hc)
  | cmpNumL op lex p hop _ ih =>
    intro c hc
    rw [predPlan2_cmp op hop]
    exact predOK_cmpNumL d cfg op hop _ p lex c (ih c hc)
  | not pfx b _ ih =>
    exact fun c hc => predOK_not d cfg _ b pfx c (ih c hc)
  | and b1 b2 _ _ ih1 ih2 =>
    exact fun c hc => predOK_and d cfg _ _ b1 b2 c (ih1 c hc) (ih2 c hc)
  | or b1 b2 _ _ ih1 ih2 =>
    exact fun c hc => predOK_or d cfg _ _ b1 b2 c (ih1 c hc) (ih2 c hc)
  | countR op pfx p lex hop _ hflat ih =>
    intro c hc
    rw [predPlan2_cmp op hop]
    exact predOK_countR d cfg op hop pfx _ p lex c (naive_seqOK wf cfg p hflat c (ih c hc))
  | countL op lex pfx p hop _ hflat ih =>
    intro c hc
    rw [predPlan2_cmp op hop]
    exact predOK_countL d cfg op hop pfx _ p lex c (naive_seqOK wf cfg p hflat c (ih c hc))
  | notCount pfx pfx' p _ hflat ih =>
    exact fun c hc => predOK_notCount d cfg pfx pfx' _ p c (naive_seqOK wf cfg p hflat c (ih c hc))
  | lnCmp op pfx lit hop =>
    intro c _
    rw [predPlan2_cmp op (eqOps_cmpOps hop)]
    exact predOK_strCmp d cfg op hop _ _ lit c (strValOK_localName0 d cfg pfx c)
  | lnPathCmp op pfx p lit hop _ hflat ih =>
    intro c hc
    rw [predPlan2_cmp op (eqOps_cmpOps hop)]
    exact predOK_strCmp d cfg op hop _ _ lit c
      (strValOK_localName1 d cfg _ p pfx c (naive_seqOK wf cfg p hflat c (ih c hc)))
  | strLit name pfx s lit hn =>
    exact fun c _ => predOK_strTest d cfg name hn pfx _ (.str s) lit c (strValOK_lit d cfg s c).strArgOK
  | strLn name pfx pfx' lit hn =>
    exact fun c _ => predOK_strTest d cfg name hn pfx _ _ lit c (strValOK_localName0 d cfg pfx' c).strArgOK
  | strLnPath name pfx pfx' p lit hn _ hflat ih =>
    exact fun c hc => predOK_strTest d cfg name hn pfx _ _ lit c
      (strValOK_localName1 d cfg _ p pfx' c (naive_seqOK wf cfg p hflat c (ih c hc))).strArgOK
  | strPath name pfx p lit hn _ hflat ih =>
    exact fun c hc => predOK_strTest d cfg name hn pfx _ p lit c
      (naive_seqOK wf cfg p hflat c (ih c hc)).strArgOK
  | strPath2 name pfx p q hn _ hflat _ hflatq ihp ihq =>
    exact fun c hc => predOK_strTest2 d cfg name hn pfx _ _ p q c
      (naive_seqOK wf cfg p hflat c (ihp c hc)).strArgOK (naive_seqOK wf cfg q hflatq c (ihq c hc)).strArgOK
  | strLitPath name pfx s q hn _ hflatq ihq =>
    exact fun c hc => predOK_strTest2 d cfg name hn pfx _ _ (.str s) q c (strValOK_lit d cfg s c).strArgOK
      (naive_seqOK wf cfg q hflatq c (ihq c hc)).strArgOK
  | cmpPath op p q hop _ _ ihp ihq =>
    intro c hc
    rw [predPlan2_cmp op hop]
    exact predOK_cmpPath d cfg op hop _ _ p q c (ihp c hc) (ihq c hc)
  | cmpStrR op p s hop _ ih =>
    intro c hc
    rw [predPlan2_cmp op hop]
    exact predOK_cmpStrR d cfg op hop _ p s c (ih c hc)
  | cmpStrL op s p hop _ ih =>
    intro c hc
    rw [predPlan2_cmp op hop]
    exact predOK_cmpStrL d cfg op hop _ p s c (ih c hc)

/-- **model = oracle on the whole extended fragment** (naive plans): at every valid context node and
any context position/size, a path of the fragment yields the same node set on both sides
(`PathOK`), a predicate of the fragment the same truth, and never a number (`PredOK`) -/
theorem frag_sem2 {d : Doc} (wf : WF d) (cfg : ECfg) (hns : cfg.nsIface = true) (hinj : HashInj d cfg)
    (k : Bool) (e : Ast) (he : Frag2 k e) :
    ∀ c : Spec.Ctx, validRef d c.node = true →
      (k = true → PathOK (F := F) d cfg (predPlan2 e) e c) ∧
      (k = false → PredOK (F := F) d cfg (predPlan2 e) e c) := by
  intro c hc
  have h := frag_ok2 (F := F) wf cfg hns hinj k e he c hc
  cases k
  · exact ⟨(fun h' => nomatch h'), fun _ => h⟩
  · exact ⟨fun _ => h, fun h' => nomatch h'⟩

/-! ## the statements for naive plans -/

/-- **truth of a predicate of the extended fragment** (naive plans): the predicate plan evaluates,
at every valid node and whatever the context position/size, to a boolean or a node-set — never a
number — whose truth is `boolean()` of the oracle's value, which is not a number either -/
theorem pred_truth2 {d : Doc} (wf : WF d) (cfg : ECfg) (hns : cfg.nsIface = true)
    (hinj : HashInj d cfg) (b : Ast) (hb : Frag2 false b) (c : Ref) (hc : validRef d c = true)
    (pos size : Nat) :
    ∃ v sv g, evalP (F := F) d cfg (predPlan2 b) c = .ok v ∧
      Spec.eval (F := F) d b ⟨c, pos, size⟩ = .ok (.val sv g) ∧
      truthM v = Spec.toBool sv ∧ IsBN v ∧ NotNum sv := by
  obtain ⟨v, sv, g, hE, hS, hbn, hnn, htr⟩ :=
    frag_ok2 (F := F) wf cfg hns hinj false b hb ⟨c, pos, size⟩ hc
  exact ⟨v, sv, g, hE, hS, htr, hbn, hnn⟩

/-- **C02, naive plans, extended fragment** -/
theorem C02_naive2 {d : Doc} (wf : WF d) (cfg : ECfg) (hns : cfg.nsIface = true)
    (hinj : HashInj d cfg) (p : Ast) (hp : Frag2 true p) (c : Ref) (hc : validRef d c = true) :
    ∃ out ns g, sel (F := F) d cfg (predPlan2 p) c = .ok out ∧
      Spec.eval (F := F) d p ⟨c, 1, 1⟩ = .ok (.val (.nodes ns) g) ∧
      (∀ x, x ∈ refs out ↔ x ∈ ns) ∧ (∀ x ∈ ns, validRef d x = true) := by
  obtain ⟨out, ns, g, hsel, _, hev, hm, hv, _⟩ :=
    frag_ok2 (F := F) wf cfg hns hinj true p hp ⟨c, 1, 1⟩ hc
  exact ⟨out, ns, g, hsel, hev, hm, hv⟩

/-- **C02, the property itself** (naive plans, extended fragment): a predicate `b` on top of any
path `p` keeps exactly the nodes of `p` at which `b` is true -/
theorem C02_filter_keeps_true2 {d : Doc} (wf : WF d) (cfg : ECfg) (hns : cfg.nsIface = true)
    (hinj : HashInj d cfg) (p b : Ast) (hp : Frag2 true p) (hb : Frag2 false b)
    (c : Ref) (hc : validRef d c = true) :
    ∃ out0 ns0 g0 out ns g,
      sel (F := F) d cfg (predPlan2 p) c = .ok out0 ∧
      Spec.eval (F := F) d p ⟨c, 1, 1⟩ = .ok (.val (.nodes ns0) g0) ∧
      (∀ x, x ∈ refs out0 ↔ x ∈ ns0) ∧
      sel (F := F) d cfg (predPlan2 (.filter p b)) c = .ok out ∧
      Spec.eval (F := F) d (.filter p b) ⟨c, 1, 1⟩ = .ok (.val (.nodes ns) g) ∧
      refs out = (refs out0).filter (holds (F := F) d b) ∧
      (∀ x, x ∈ ns ↔ x ∈ ns0 ∧ holds (F := F) d b x = true) ∧
      (∀ x, x ∈ refs out ↔ x ∈ ns) := by
  obtain ⟨out0, ns0, g0, hsel, _, hev, hm0, hv0, hg0⟩ :=
    frag_ok2 (F := F) wf cfg hns hinj true p hp ⟨c, 1, 1⟩ hc
  obtain ⟨out, ns, g, hout, hev', hrefs, hnsm, _⟩ :=
    filter_sem (F := F) d cfg (predPlan2 p) (predPlan2 b) p b ⟨c, 1, 1⟩
      out0 ns0 g0 hsel hev hm0 hv0 hg0
      (fun x hx pos size => frag_ok2 (F := F) wf cfg hns hinj false b hb ⟨x, pos, size⟩ hx)
  refine ⟨out0, ns0, g0, out, ns, g, hsel, hev, hm0, hout, hev', hrefs, hnsm, fun x => ?_⟩
  rw [hrefs, List.mem_filter, hm0, hnsm]

/-- the same for a parenthesised path: `(p)[b]` keeps exactly the nodes of `p` at which `b` holds -/
theorem C02_gfilter_keeps_true2 {d : Doc} (wf : WF d) (cfg : ECfg) (hns : cfg.nsIface = true)
    (hinj : HashInj d cfg) (p b : Ast) (hp : Frag2 true p) (hb : Frag2 false b)
    (c : Ref) (hc : validRef d c = true) :
    ∃ out0 ns0 g0 out ns g,
      sel (F := F) d cfg (predPlan2 p) c = .ok out0 ∧
      Spec.eval (F := F) d p ⟨c, 1, 1⟩ = .ok (.val (.nodes ns0) g0) ∧
      (∀ x, x ∈ refs out0 ↔ x ∈ ns0) ∧
      sel (F := F) d cfg (predPlan2 (.filter (.group p) b)) c = .ok out ∧
      Spec.eval (F := F) d (.filter (.group p) b) ⟨c, 1, 1⟩ = .ok (.val (.nodes ns) g) ∧
      refs out = (refs out0).filter (holds (F := F) d b) ∧
      (∀ x, x ∈ ns ↔ x ∈ ns0 ∧ holds (F := F) d b x = true) ∧
      (∀ x, x ∈ refs out ↔ x ∈ ns) := by
  have hP := frag_ok2 (F := F) wf cfg hns hinj true p hp ⟨c, 1, 1⟩ hc
  have hG := pathOK_group d cfg (predPlan2 p) p ⟨c, 1, 1⟩ hP
  obtain ⟨out0, ns0, g0, hsel, _, hev, hm0, hv0, _⟩ := hP
  obtain ⟨outg, nsg, gg, hselg, _, hevg, hmg, hvg, hgg⟩ := hG
  have e1 : outg = numbered (refs out0) := by
    have := sel_group (F := F) d cfg (predPlan2 p) c out0 hsel
    have h2 : sel (F := F) d cfg (.group (predPlan2 p)) c = .ok outg := hselg
    rw [this] at h2; cases h2; rfl
  have e2 : nsg = ns0 := by
    have := ArithSem.eval_group (F := F) d p ⟨c, 1, 1⟩ _ g0 hev
    rw [this] at hevg; cases hevg; rfl
  subst e2
  obtain ⟨out, ns, g, hout, hev', hrefs, hnsm, _⟩ :=
    filter_sem (F := F) d cfg (.group (predPlan2 p)) (predPlan2 b) (.group p) b ⟨c, 1, 1⟩
      outg nsg gg hselg hevg hmg hvg hgg
      (fun x hx pos size => frag_ok2 (F := F) wf cfg hns hinj false b hb ⟨x, pos, size⟩ hx)
  rw [e1, numbered_refs] at hrefs
  refine ⟨out0, nsg, g0, out, ns, g, hsel, hev, hm0, hout, hev', hrefs, hnsm, fun x => ?_⟩
  rw [hrefs, List.mem_filter, hm0, hnsm]

/-- the truth `holds` used above is the model's own verdict -/
theorem holds_is_model_truth2 {d : Doc} (wf : WF d) (cfg : ECfg) (hns : cfg.nsIface = true)
    (hinj : HashInj d cfg) (b : Ast) (hb : Frag2 false b) (x : Ref) (hx : validRef d x = true) :
    ∃ v, evalP (F := F) d cfg (predPlan2 b) x = .ok v ∧ IsBN v ∧ truthM v = holds (F := F) d b x := by
  obtain ⟨v, _, hE, _, hbn, _, htr, _⟩ := predOK_holds (F := F) d cfg (predPlan2 b) b x
    (fun pos size => frag_ok2 (F := F) wf cfg hns hinj false b hb ⟨x, pos, size⟩ hx) 1 1
  exact ⟨v, hE, hbn, htr⟩

/-- **what `P op Q` means at a node** (the oracle's `boolean(P op Q)`, spelled out, all six
operators): both paths evaluate to node-sets there, and the comparison holds iff some node of `P`
and some node of `Q` have equal (for `=`) / different (for `!=`) string-values, or — for `<`, `<=`,
`>`, `>=` — string-values whose numbers compare -/
theorem holds_cmpPath {d : Doc} (wf : WF d) (cfg : ECfg) (hns : cfg.nsIface = true)
    (hinj : HashInj d cfg) (op : String) (hop : op ∈ cmpOps) (P Q : Ast) (hP : Frag2 true P)
    (hQ : Frag2 true Q) (x : Ref) (hx : validRef d x = true) :
    ∃ nsP gP nsQ gQ, Spec.eval (F := F) d P ⟨x, 1, 1⟩ = .ok (.val (.nodes nsP) gP) ∧
      Spec.eval (F := F) d Q ⟨x, 1, 1⟩ = .ok (.val (.nodes nsQ) gQ) ∧
      (holds (F := F) d (.oper op P Q) x = true ↔
        ∃ u ∈ nsP, ∃ v ∈ nsQ, (op = "=" ∧ stringValue d u = stringValue d v) ∨
          (op = "!=" ∧ stringValue d u ≠ stringValue d v) ∨
          (∃ cop, Spec.CmpOp.ofString op = some cop ∧ cop.isRel = true ∧
            Spec.cmpNum cop (Spec.strToNum (F := F) (stringValue d u))
              (Spec.strToNum (F := F) (stringValue d v)) = true)) := by
  obtain ⟨_, nsP, gP, _, hSP, _, _⟩ := C02_naive2 (F := F) wf cfg hns hinj P hP x hx
  obtain ⟨_, nsQ, gQ, _, hSQ, _, _⟩ := C02_naive2 (F := F) wf cfg hns hinj Q hQ x hx
  refine ⟨nsP, gP, nsQ, gQ, hSP, hSQ, ?_⟩
  simp only [cmpOps, List.mem_cons, List.not_mem_nil, or_false] at hop
  rcases hop with rfl | rfl | rfl | rfl | rfl | rfl
  · simp only [holds, eval_cmp d "=" .eq rfl P Q ⟨x, 1, 1⟩ _ _ hSP hSQ, Spec.Res.value, Spec.toBool,
      Spec.compare, Spec.CmpOp.isRel]
    simp [Spec.CmpOp.ofString]
  · simp only [holds, eval_cmp d "!=" .ne rfl P Q ⟨x, 1, 1⟩ _ _ hSP hSQ, Spec.Res.value, Spec.toBool,
      Spec.compare, Spec.CmpOp.isRel]
    simp [Spec.CmpOp.ofString]
  · simp only [holds, eval_cmp d "<" .lt rfl P Q ⟨x, 1, 1⟩ _ _ hSP hSQ, Spec.Res.value, Spec.toBool,
      Spec.compare, Spec.CmpOp.isRel]
    simp [Spec.CmpOp.ofString]
  · simp only [holds, eval_cmp d "<=" .le rfl P Q ⟨x, 1, 1⟩ _ _ hSP hSQ, Spec.Res.value, Spec.toBool,
      Spec.compare, Spec.CmpOp.isRel]
    simp [Spec.CmpOp.ofString]
  · simp only [holds, eval_cmp d ">" .gt rfl P Q ⟨x, 1, 1⟩ _ _ hSP hSQ, Spec.Res.value, Spec.toBool,
      Spec.compare, Spec.CmpOp.isRel]
    simp [Spec.CmpOp.ofString]
  · simp only [holds, eval_cmp d ">=" .ge rfl P Q ⟨x, 1, 1⟩ _ _ hSP hSQ, Spec.Res.value, Spec.toBool,
      Spec.compare, Spec.CmpOp.isRel]
    simp [Spec.CmpOp.ofString]

end XPathV.PredSem2
