import XPathV.Ast
import XPathV.Doc
import XPathV.FloatNum
import XPathV.GenTypes
import XPathV.Generated.ApiFacts
import XPathV.Generated.BuilderFacts
import XPathV.Generated.CacheFacts
import XPathV.Generated.CallGraph
import XPathV.Generated.ClosureFacts
import XPathV.Generated.CmpTable
import XPathV.Generated.Constants
import XPathV.Generated.ConvFacts
import XPathV.Generated.ExtraFacts
import XPathV.Generated.NameTables
import XPathV.Generated.PanicSites
import XPathV.Generated.PrecChain
import XPathV.Generated.ScannerFacts
import XPathV.Generated.StructFacts
import XPathV.Lemmas.Abbrev
import XPathV.Lemmas.Abbrev.Classify
import XPathV.Lemmas.Abbrev.Defs
import XPathV.Lemmas.Abbrev.Full
import XPathV.Lemmas.Abbrev.Grammar
import XPathV.Lemmas.ApiSem
import XPathV.Lemmas.ApiSem2
import XPathV.Lemmas.ApiSem3
import XPathV.Lemmas.ApiSem4
import XPathV.Lemmas.ArithSem
import XPathV.Lemmas.ArithSem2
import XPathV.Lemmas.AxesLemmas
import XPathV.Lemmas.BuildInv
import XPathV.Lemmas.BuildRejects
import XPathV.Lemmas.BuildRejects.FuelMono
import XPathV.Lemmas.BuildRejects.Records
import XPathV.Lemmas.BuildRejects.Rename
import XPathV.Lemmas.BuildRejects.RenameFirst
import XPathV.Lemmas.BuildRejects.RenameText
import XPathV.Lemmas.BuildRejects.Scan
import XPathV.Lemmas.BuildRejects.ScanName
import XPathV.Lemmas.BuildRejects.Text
import XPathV.Lemmas.BuildRejects.Tree
import XPathV.Lemmas.C07Base
import XPathV.Lemmas.C08Base
import XPathV.Lemmas.C09Base
import XPathV.Lemmas.C11Base
import XPathV.Lemmas.C17Base
import XPathV.Lemmas.CacheProofs
import XPathV.Lemmas.CallFn
import XPathV.Lemmas.Chain
import XPathV.Lemmas.CmpSem
import XPathV.Lemmas.CmpSem2
import XPathV.Lemmas.CompileInv
import XPathV.Lemmas.Compose
import XPathV.Lemmas.Compose2
import XPathV.Lemmas.Compose3
import XPathV.Lemmas.DocLemmas
import XPathV.Lemmas.Facts
import XPathV.Lemmas.FactsT0
import XPathV.Lemmas.FlatFiltered
import XPathV.Lemmas.FlatFiltered2
import XPathV.Lemmas.FlatOrder
import XPathV.Lemmas.Fuel
import XPathV.Lemmas.FullGrammarComplete
import XPathV.Lemmas.FullGrammarComplete.Defs
import XPathV.Lemmas.FullGrammarComplete.First
import XPathV.Lemmas.FullGrammarComplete.Heads
import XPathV.Lemmas.FullGrammarComplete.Loops
import XPathV.Lemmas.FullGrammarComplete.Main
import XPathV.Lemmas.FullGrammarComplete.Unique
import XPathV.Lemmas.Guarded
import XPathV.Lemmas.KeyInj
import XPathV.Lemmas.KeyRender
import XPathV.Lemmas.Lex
import XPathV.Lemmas.Lexeme
import XPathV.Lemmas.NameSem
import XPathV.Lemmas.NameSem.RePrefix
import XPathV.Lemmas.NameSem.ScanKeep
import XPathV.Lemmas.NoCrash
import XPathV.Lemmas.NoCrashCompile
import XPathV.Lemmas.ParserFuel
import XPathV.Lemmas.ParserFull
import XPathV.Lemmas.ParserFull.Depth
import XPathV.Lemmas.ParserFull.NodeTest
import XPathV.Lemmas.ParserFull.Norm
import XPathV.Lemmas.ParserFull.RefFacts
import XPathV.Lemmas.ParserFull.Sim
import XPathV.Lemmas.ParserFull.SimBase
import XPathV.Lemmas.ParserFull.Stream
import XPathV.Lemmas.ParserFull.Tokens
import XPathV.Lemmas.ParserGrammar
import XPathV.Lemmas.ParserRun
import XPathV.Lemmas.ParserShape
import XPathV.Lemmas.ParserTokens
import XPathV.Lemmas.PathSem
import XPathV.Lemmas.PathSem.Agree
import XPathV.Lemmas.PathSem.Basic
import XPathV.Lemmas.PathSem.Build
import XPathV.Lemmas.PathSem.Naive
import XPathV.Lemmas.PathSem.Rewrites
import XPathV.Lemmas.PathSem.Walks
import XPathV.Lemmas.PlanOf
import XPathV.Lemmas.PosSem
import XPathV.Lemmas.PosSem.Build
import XPathV.Lemmas.PosSem.Cond
import XPathV.Lemmas.PosSem.CondBuild
import XPathV.Lemmas.PosSem.Filter
import XPathV.Lemmas.PosSem.Forms
import XPathV.Lemmas.PosSem.Group
import XPathV.Lemmas.PosSem.Position
import XPathV.Lemmas.PosSem.PredInput
import XPathV.Lemmas.PosSem.Stack
import XPathV.Lemmas.PosSem.Step
import XPathV.Lemmas.PosSem.Toy
import XPathV.Lemmas.PosSem2
import XPathV.Lemmas.PredSem
import XPathV.Lemmas.PredSem.BuildSem
import XPathV.Lemmas.PredSem.Filter
import XPathV.Lemmas.PredSem.Frag
import XPathV.Lemmas.PredSem.Path
import XPathV.Lemmas.PredSem.Truth
import XPathV.Lemmas.PredSem2
import XPathV.Lemmas.PredSem2.Build
import XPathV.Lemmas.PredSem2.Frag
import XPathV.Lemmas.PredSem2.Truth
import XPathV.Lemmas.Pull2.Context
import XPathV.Lemmas.Pull2.DodWalk
import XPathV.Lemmas.Pull2.FolWalk
import XPathV.Lemmas.Pull2.Generic
import XPathV.Lemmas.Pull2.Laws
import XPathV.Lemmas.Pull2.Mono
import XPathV.Lemmas.Pull2.SelFull
import XPathV.Lemmas.Pull2.SelectArms
import XPathV.Lemmas.Pull2.Spec
import XPathV.Lemmas.Pull2.StepAll
import XPathV.Lemmas.Pull2.Steps
import XPathV.Lemmas.Pull2.Walks
import XPathV.Lemmas.Pull2Gen
import XPathV.Lemmas.Pull2Gen.DecOK
import XPathV.Lemmas.Pull2Gen.NonVacuity
import XPathV.Lemmas.Pull2Gen.SelFull
import XPathV.Lemmas.Pull2Proofs
import XPathV.Lemmas.PullProofs
import XPathV.Lemmas.RegexPrecheck
import XPathV.Lemmas.RootedPlans
import XPathV.Lemmas.ScanCases
import XPathV.Lemmas.ScanProgress
import XPathV.Lemmas.ScanTail
import XPathV.Lemmas.Sem.Agree
import XPathV.Lemmas.Sem.Built
import XPathV.Lemmas.Sem.Cells
import XPathV.Lemmas.Sem.PredInput
import XPathV.Lemmas.SourceConfig
import XPathV.Lemmas.StringFns
import XPathV.Lemmas.StringFns.Basic
import XPathV.Lemmas.StringFns.Nested
import XPathV.Lemmas.StringFns2
import XPathV.Lemmas.TemplateSem
import XPathV.Lemmas.TemplateSem.Basic
import XPathV.Lemmas.TemplateSem.Digits
import XPathV.Lemmas.TemplateSem.FuelFree
import XPathV.Lemmas.UnionSem
import XPathV.Lemmas.UnionSem2
import XPathV.Lemmas.Walks
import XPathV.Lemmas.Whitespace
import XPathV.Lemmas.Whitespace.Basic
import XPathV.Lemmas.Whitespace.Boundary
import XPathV.Lemmas.Whitespace.Complete
import XPathV.Lemmas.Whitespace.Examples
import XPathV.Lemmas.Whitespace.FuelStable
import XPathV.Lemmas.Whitespace.Lexeme
import XPathV.Lemmas.Whitespace.Parse
import XPathV.Model.Api
import XPathV.Model.Builder
import XPathV.Model.Cache
import XPathV.Model.Chain
import XPathV.Model.Conc
import XPathV.Model.Engine
import XPathV.Model.Parser
import XPathV.Model.Pull
import XPathV.Model.Pull2
import XPathV.Model.Scanner
import XPathV.Model.Template
import XPathV.Num
import XPathV.Spec.Axes
import XPathV.Spec.Eval
import XPathV.Spec.FullBridge
import XPathV.Spec.FullGrammar
import XPathV.Spec.Grammar
import XPathV.Spec.Template
import XPathV.Spec.Values
import XPathV.Theorems.C01
import XPathV.Theorems.C02
import XPathV.Theorems.C03
import XPathV.Theorems.C04
import XPathV.Theorems.C05
import XPathV.Theorems.C06
import XPathV.Theorems.C07
import XPathV.Theorems.C08
import XPathV.Theorems.C09
import XPathV.Theorems.C10
import XPathV.Theorems.C11
import XPathV.Theorems.C12
import XPathV.Theorems.C13
import XPathV.Theorems.C14
import XPathV.Theorems.C15
import XPathV.Theorems.C16
import XPathV.Theorems.C17
import XPathV.Theorems.NonVacuity
import XPathV.Theorems.NonVacuity.C01
import XPathV.Theorems.NonVacuity.C02
import XPathV.Theorems.NonVacuity.C03
import XPathV.Theorems.NonVacuity.C04
import XPathV.Theorems.NonVacuity.C05
import XPathV.Theorems.NonVacuity.C06
import XPathV.Theorems.NonVacuity.C07
import XPathV.Theorems.NonVacuity.C08
import XPathV.Theorems.NonVacuity.C09
import XPathV.Theorems.NonVacuity.C10
import XPathV.Theorems.NonVacuity.C10PathShape
import XPathV.Theorems.NonVacuity.C11
import XPathV.Theorems.NonVacuity.C12
import XPathV.Theorems.NonVacuity.C13
import XPathV.Theorems.NonVacuity.C14
import XPathV.Theorems.NonVacuity.C15
import XPathV.Theorems.NonVacuity.C16
import XPathV.Theorems.NonVacuity.C17
import XPathV.Theorems.NonVacuity.Common
